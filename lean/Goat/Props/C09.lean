/-
Property C09 — the in-memory filespace stays consistent under concurrent use.

The theorems are about the LOCK-GRANULAR model `Goat/Model/MemFSConc.lean`: a heap of `Dir`/`File`
objects, one atomic action per critical section of the Go code, any number of threads running any
programs, scheduled by an arbitrary `List Tid` (`(sys v progs).run sched`).  `Variant.fixed` is the lock
order of the repaired code; the three flags re-create the lock orders of the code before the commits
9a06d6d (`Writer`), c2706af (`WriteFile`) and a4ab55a (`copyDir`).

The link to the SEQUENTIAL model of C01 (`Goat.MemFS.step`, `memfs_refines`) is `distinct_paths_commute`:
operations on independent paths, in every interleaving of their critical sections, leave the heap that
represents the tree the sequential model reaches in any order (`concurrent_mkdir_shared_parent`: the
shared-ancestor creation race; `interleaving_refines_some_order_false`: on RELATED paths the operations
are not linearisable).

`dir_lock_holder_inside` / `quiescent_locks_free`: the model carries the lock state (`DirObj.outer`, `muR`,
`FileObj.lock`); a directory's writer lock is held only by a thread inside a critical section on that directory,
so after any schedule in which every thread finished no directory lock is held (and with closed handles no lock
at all).

PARTIAL (DESIGN 3, C09): that the Go critical sections really are atomic (Go memory model; nothing
outside the modelled sections races) is an assumption supported by the lock facts (`Goat/Tie/C09.lean`)
and the `-race` stress of the check, not a theorem.  Stream handles are not among the operations of
`distinct_paths_commute`.
-/
import Goat.Proofs.MemFSConcFile
import Goat.Proofs.MemFSConcDeadlock
import Goat.Proofs.MemFSConcFinal

namespace Goat.C09
open Goat.MemFSConc Goat.LTS

/-- Every critical section keeps every directory object consistent (names unique, `index` = `nodes`);
the only side condition is the one of `NewDir(nodes)`: the given node list has unique names. -/
theorem dir_inv_action {h h' : Heap} {t : Tid} {a : Act} {r : Ret} (hi : HeapInv h) (hok : ActOK a)
    (hs : applyAct h t a = some (h', r)) : HeapInv h' :=
  applyAct_heapInv hi hok hs

/-- …hence in every interleaving, for any number of threads running any programs, in every lock-order
variant: every directory object of every reachable heap is consistent. -/
theorem dir_inv (v : Variant) (progs : List (List Op)) (sched : List Tid) :
    HeapInv ((sys v progs).run sched).heap :=
  (inv_run v progs sched).heap

-- a run with three threads creating, copying and removing in the root; the root ends with 3 nodes
set_option maxRecDepth 8000 in
example : (getDir ((sys .fixed [[.writeFile [[97]] [1], .copy [[97]] [[99]]], [.mkdirAll [[98], [120]]],
      [.writeFile [[97]] [2], .remove [[122, 122]]]]).run
      ([0,1,2,0,1,2,0,1,2,0,1,2,0,1,2,0,1,2,0,1,2,0,0,0,0,0,0,0,0,0,0,2,2,2,2])).heap 0).map (·.nodes.length)
    = some 3 := by decide +kernel

/-- Any sequence of critical sections on one directory (that is: the actions of any number of threads
in any interleaving) that starts without the name `n`, never removes `n` and contains at least one
creating call for `n`: exactly one call made the node (`winners = 1`), afterwards the directory
contains `n` exactly once, no call before the winner touched `n`, and every creating call after the
winner answered with the winner's node (`mkdir`) or with an error (`addNode`). -/
theorem create_once {n : Name} (tr : List DAct) {d : DirObj} (hinv : DirInv d)
    (hnew : d.index n = none) (hno : ∀ a ∈ tr, a.removes n = false)
    (hany : tr.any (DAct.creates n) = true) :
    winners n tr (d.runTrace tr).2 = 1 ∧ countName (d.runTrace tr).1 n = 1 ∧
    ∃ o, (d.runTrace tr).1.index n = some o ∧
      ∃ pre post rpre rpost a, tr = pre ++ a :: post ∧ (d.runTrace tr).2 = rpre ++ DRet.created o :: rpost
        ∧ rpre.length = pre.length ∧ a.creates n = true
        ∧ (∀ b ∈ pre, b.creates n = false) ∧ AllLosers n o post rpost := by
  induction tr generalizing d with
  | nil => simp at hany
  | cons a rest ih =>
    have hra := hno a (by simp)
    have hrest : ∀ b ∈ rest, b.removes n = false := fun b hb => hno b (by simp [hb])
    obtain ⟨hA, hB⟩ := act_first_create hnew a hra
    cases hc : a.creates n with
    | true =>
      obtain ⟨o, hro, hio⟩ := hB hc
      obtain ⟨s1, s2, s3⟩ := stable_trace (n := n) (o := o) rest hio hrest
      have hinv' := runTrace_inv hinv (a :: rest)
      simp only [DirObj.runTrace] at hinv' ⊢
      refine ⟨?_, ?_, o, s1, [], rest, [], ((d.act a).1.runTrace rest).2, a, rfl, ?_, rfl, hc, by simp, s3⟩
      · simp [winners, hc, hro, DRet.isCreated, s2]
      · rw [countName_eq_one_iff hinv', s1]; rfl
      · simp [hro]
    | false =>
      have hany' : rest.any (DAct.creates n) = true := by
        simpa [List.any_cons, hc] using hany
      obtain ⟨w, c, o, hio, pre, post, rpre, rpost, b, e1, e2, e3, e4, e5, e6⟩ :=
        ih (act_inv hinv a) (hA hc) hrest hany'
      simp only [DirObj.runTrace]
      refine ⟨?_, c, o, hio, a :: pre, post, (d.act a).2 :: rpre, rpost, b, by simp [e1], by simp [e2],
        by simp [e3], e4, ?_, e6⟩
      · simp [winners, hc, w]
      · intro x hx
        rcases List.mem_cons.1 hx with h | h
        · subst h; exact hc
        · exact e5 x h

-- two `mkdir x` and one `addNode x` race (with unrelated actions around them): one winner
example : ((({} : DirObj).runTrace [.lookup [120], .mkdir [120] 5, .add [121] 6, .add [120] 7, .mkdir [120] 9, .remove [121]]).2
    = [.found none, .created 5, .created 6, .refused, .existing 5, .removed]) := by decide +kernel

/-- the same at the level of the thread system: two threads racing `MkdirAll("x")` through the gap
between the optimistic lookup and the locked re-check (schedule 0,0,1,1 parks both in the gap) end
with one node and both succeed -/
example : let s := (sys .fixed [[.mkdirAll [[120]]], [.mkdirAll [[120]]]]).run [0,0,1,1,0,1,0,1,0,1]
    ((getDir s.heap 0).map (·.nodes.length) = some 1 ∧ s.log.map (·.2) = [.ok, .ok]) := by decide +kernel

/-- A file that no stream handle holds contains a complete value: its initial value, a value passed to
`setData`, or the content at the moment a handle was closed — in every interleaving. -/
theorem file_values (v : Variant) (progs : List (List Op)) (sched : List Tid) :
    FilesInv ((sys v progs).run sched).heap :=
  (inv_run v progs sched).files

/-- A reader never observes a state between a handle's open and its Close: whenever `ReadFile`'s
critical section returns data, the file was not held by a handle and the data is one of its complete
values. -/
theorem file_values_read (v : Variant) (progs : List (List Op)) (sched : List Tid) (t : Tid)
    {th th' : Thread} {f : Oid} {x : Data} {s' : State}
    (hth : ((sys v progs).run sched).threads[t]? = some th) (hpc : th.pc = .rData f)
    (hs : step v ((sys v progs).run sched) t = some s')
    (hth' : s'.threads[t]? = some th') (hres : th'.pc = .fin (.data x)) :
    ∃ ff, getFile ((sys v progs).run sched).heap f = some ff ∧ ff.lock = none ∧ x ∈ ff.committed :=
  read_complete_step (inv_run v progs sched) hth hpc hs hth' hres

/-- Along every continuation of every run the successive states of one file object are linked by the
changes of `FileChange` (`setData`, open, `hwrite`, Close) — nothing else ever modifies a file. -/
theorem file_values_history (v : Variant) (progs : List (List Op)) (sched sched' : List Tid) (o : Oid)
    {f : FileObj} (hg : getFile ((sys v progs).run sched).heap o = some f) :
    ∃ f' run, getFile ((sys v progs).runFrom ((sys v progs).run sched) sched').heap o = some f' ∧
      FileRun f run f' :=
  file_history_from sched' hg

/-- …and while thread `t` holds a handle on the file, such a chain up to the first Close consists of
`t`'s own acts only, and the value that Close commits is the content at open (empty for a `Writer`,
`open_change`) followed by `t`'s chunks in order: a complete written value, never a mixture. -/
theorem file_values_writer {t : Tid} {f f' : FileObj} {run : List (Tid × Act × Oid)} {last : Tid × Act × Oid}
    (hl : f.lock = some t) (hr : FileRun f (run ++ [last]) f')
    (hno : ∀ s ∈ run, isClose s.2.1 = false) (hlast : isClose last.2.1 = true) :
    (∀ s ∈ run ++ [last], s.1 = t) ∧ f'.lock = none ∧
      f'.committed = f.committed ++ [f.data ++ chunksOf run] ∧ f'.data = f.data ++ chunksOf run := by
  induction run generalizing f with
  | nil =>
    simp only [List.nil_append] at hr
    cases hr with
    | cons hc hrest =>
      cases hrest
      obtain ⟨ht, hx⟩ := held_change hl hc
      rcases hx with ⟨x, c, ha, _⟩ | ⟨x, w, ha, h1, h2, h3⟩
      · rw [ha] at hlast; cases hlast
      · refine ⟨?_, h1, by simpa [chunksOf] using h2, by simpa [chunksOf] using h3⟩
        intro s hs
        simp only [List.nil_append, List.mem_singleton] at hs
        subst hs; exact ht
  | cons s rest ih =>
    obtain ⟨t', a, o⟩ := s
    simp only [List.cons_append] at hr
    cases hr with
    | cons hc hrest =>
      obtain ⟨ht, hx⟩ := held_change hl hc
      have hnc : isClose a = false := hno (t', a, o) (by simp)
      rcases hx with ⟨x, c, ha, hd, hl1, hcm⟩ | ⟨x, w, ha, _⟩
      · obtain ⟨i1, i2, i3, i4⟩ := ih hl1 hrest (fun s hs => hno s (by simp [hs]))
        subst ha
        refine ⟨?_, i2, ?_, ?_⟩
        · intro s hs
          simp only [List.cons_append, List.mem_cons] at hs
          rcases hs with rfl | hs
          · exact ht
          · exact i1 s hs
        · rw [i3, hcm, hd]; simp [chunksOf, List.append_assoc]
        · rw [i4, hd]; simp [chunksOf, List.append_assoc]
      · rw [ha] at hnc; cases hnc

-- a held file, two chunks, Close: the hypotheses of file_values_writer are satisfiable
example : FileRun { data := [], lock := some 3, committed := [[9]] }
    ([(3, .hwrite 5 [1], 5), (3, .hwrite 5 [2], 5)] ++ [(3, .closeH 5 true, 5)])
    { data := [1, 2], lock := none, committed := [[9], [1, 2]] } :=
  .cons (f1 := { data := [1], lock := some 3, committed := [[9]] }) (by simp [FileChange])
    (.cons (f1 := { data := [1, 2], lock := some 3, committed := [[9]] }) (by simp [FileChange])
      (.cons (by simp [FileChange]) (.nil _)))

-- a writer streams "ab" in two chunks while a reader polls: the reader sees the old or the new value,
-- never the truncated or half-written one (here: blocked until Close, then the new value)
set_option maxRecDepth 8000 in
example : let s := (sys .fixed [[.writeFile [[102]] [9], .openW 1 [[102]], .hwrite 1 [1], .hwrite 1 [2], .close 1],
      [.readFile [[102]]]]).run (List.replicate 18 0 ++ [1,1,1,1] ++ List.replicate 12 0 ++ [1,1,1])
    resultsOf s 1 = [.data [1, 2]] := by decide +kernel

/-- The repaired lock order has no deadlock: in every reachable state in which some thread still has
work to do, some thread can take a step — provided the discipline holds in that state: a thread that
requests a file's data lock holds only handles on files with a smaller object id (`Ordered`; "a thread
holding a handle closes it before opening another on the same file" is the part `g ≠ f` of it), and
finished threads have closed their handles (`NoLeak`). -/
theorem no_deadlock (progs : List (List Op)) (sched : List Tid)
    (hord : Ordered .fixed ((sys .fixed progs).run sched)) (hleak : NoLeak ((sys .fixed progs).run sched))
    (hun : ∃ t, unfinished ((sys .fixed progs).run sched) t = true) :
    ∃ t, (step .fixed ((sys .fixed progs).run sched) t).isSome = true := by
  obtain ⟨t0, ht0⟩ := hun
  exact no_deadlock_core (linv_run .fixed progs sched) rfl rfl rfl
    hord hleak ht0

-- the hypotheses are satisfiable in a state where a handle is held and the other thread waits for it
set_option maxRecDepth 8000 in
example : let s := (sys .fixed (wit_progs (.openW 1 [[100], [102]]))).run (List.replicate 9 0 ++ List.replicate 10 1)
    (orderedB .fixed s && noLeakB s && unfinished s 0 && unfinished s 1 && lockedBy s.heap 0 2) = true := by
  decide +kernel

/-- The discipline as literally stated ("closes it before opening another on the same file") is not
enough for any design with exclusive handles: two threads streaming a→b and b→a deadlock although
nobody ever waits for a file he holds himself. -/
theorem no_deadlock_samefile_discipline_false :
    ∃ progs sched, let s := (sys .fixed progs).run sched
      (∀ t, step .fixed s t = none) ∧ (∃ t, unfinished s t = true) ∧ NoLeak s ∧ selfFreeB .fixed s = true := by
  refine ⟨cross_progs, cross_sched, ?_⟩
  have h : (let s := (sys .fixed cross_progs).run cross_sched
      stuckB .fixed s && unfinished s 0 && noLeakB s && selfFreeB .fixed s) = true := by decide +kernel
  simp only [Bool.and_eq_true] at h
  exact ⟨stuck_of_stuckB h.1.1.1, ⟨0, h.1.1.2⟩, noLeak_of_noLeakB h.1.2, h.2⟩

/-- A DIRECTORY'S WRITER LOCK IS HELD ONLY FROM INSIDE.  In every reachable state - any number of threads
running any programs, every schedule, every lock-order variant - the holder of a directory's outer lock
(`Dir.Lock`) is a thread in the middle of a `WriteFile`/`Writer` critical section on that very directory;
a thread between two operations (`pc = idle`), and a thread that has run to its end, holds none: no
operation RETURNS with the lock held, whichever branch it took (also the one where `addNode` fails
because a `Copy`/`MkdirAll`, which do not take this lock, inserted the name in `memfs.write.gap`). -/
theorem dir_lock_holder_inside (v : Variant) (progs : List (List Op)) (sched : List Tid)
    (d : Oid) (dd : DirObj) (t : Tid)
    (hg : getDir ((sys v progs).run sched).heap d = some dd) (ho : dd.outer = some t) :
    ∃ th, ((sys v progs).run sched).threads[t]? = some th ∧ th.pc ≠ .idle ∧ holdsOuter th.pc = some d ∧
      unfinished ((sys v progs).run sched) t = true :=
  outer_holder (linv_run v progs sched) hg ho

/-- QUIESCENT ⇒ ALL LOCKS FREE.  After any schedule that lets every thread finish, every directory lock
is free (every variant); in the repaired lock order, if the finished threads have closed their stream
handles (`NoLeak`: a handle is the one lock the interface lets a caller keep), NO lock of the heap is held
(`NoLocks`) - the heap is again a legal starting point of `distinct_paths_commute` /
`distinct_paths_progress`, and a later operation on any name of any directory is not blocked. -/
theorem quiescent_dir_locks_free (v : Variant) (progs : List (List Op)) (sched : List Tid)
    (hq : ∀ t, unfinished ((sys v progs).run sched) t = false) (d : Oid) (dd : DirObj)
    (hg : getDir ((sys v progs).run sched).heap d = some dd) : dd.outer = none :=
  outer_free_of_quiescent (linv_run v progs sched) hq hg

theorem quiescent_locks_free (progs : List (List Op)) (sched : List Tid)
    (hq : ∀ t, unfinished ((sys .fixed progs).run sched) t = false)
    (hleak : NoLeak ((sys .fixed progs).run sched)) : NoLocks ((sys .fixed progs).run sched).heap :=
  quiescent_noLocks (linv_run .fixed progs sched) rfl hq hleak

-- the race of seeded change C09-8 in the model: thread 0 makes s and d and is held in `memfs.write.gap` of
-- Writer(d/p) with d's lock (14 steps), thread 1 copies s onto d/p (the WriteFile of thread 2 on ANOTHER name of
-- d is blocked meanwhile), thread 0 is released: its Writer fails, it unlocks, everybody finishes, no lock is left
set_option maxRecDepth 16000 in
example : let progs : List (List Op) := [[.writeFile [[115]] [7], .mkdirAll [[100]], .openW 1 [[100], [112]], .close 1],
      [.copy [[115]] [[100], [112]]], [.writeFile [[100], [113]] [9]]]
    let run := fun (n m k j : Nat) => (sys .fixed progs).run
      (List.replicate n 0 ++ List.replicate m 1 ++ List.replicate k 0 ++ List.replicate j 2)
    (getDir (run 14 10 0 0).heap 2).map (·.outer) = some (some 0)
      ∧ (step .fixed (run 14 10 0 0) 2).isSome = true ∧ (step .fixed (run 14 10 0 3) 2).isSome = false
      ∧ (∀ t ∈ [0, 1, 2, 3], unfinished (run 14 10 10 10) t = false) ∧ noLeakB (run 14 10 10 10) = true
      ∧ resultsOf (run 14 10 10 10) 0 = [.ok, .ok, .err, .err] ∧ resultsOf (run 14 10 10 10) 1 = [.ok]
      ∧ resultsOf (run 14 10 10 10) 2 = [.ok]
      ∧ (getDir (run 14 10 10 10).heap 2).map (·.outer) = some none := by decide +kernel

/-- pre-9a06d6d: `Writer` waits for the file's data lock while holding the directory lock.  Thread 0
holds a writer on d/f and calls `WriteFile("d/g")`, thread 1 opens a writer on d/f: stuck, although the
discipline is respected. -/
theorem writer_under_dirlock_deadlocks :
    ∃ progs sched, Deadlock { writerUnderDir := true } progs sched :=
  ⟨wit_progs (.openW 1 [[100], [102]]), wit_sched, deadlock_of_deadlockB (by decide +kernel)⟩

/-- pre-c2706af: `WriteFile` on an existing file calls `setData` while holding the directory lock. -/
theorem writefile_under_dirlock_deadlocks :
    ∃ progs sched, Deadlock { writeFileUnderDir := true } progs sched :=
  ⟨wit_progs (.writeFile [[100], [102]] [2]), wit_sched, deadlock_of_deadlockB (by decide +kernel)⟩

/-- pre-a4ab55a: `copyDir` keeps the source directory's `mu.RLock` while it waits for a child file. -/
theorem copydir_holds_mu_deadlocks :
    ∃ progs sched, Deadlock { copyDirHoldsMu := true } progs sched :=
  ⟨wit_progs (.copy [[100]] [[101]]), wit_sched, deadlock_of_deadlockB (by decide +kernel)⟩

-- the same three schedules are harmless in the repaired lock order
example : (deadlockB .fixed (wit_progs (.openW 1 [[100], [102]])) wit_sched ||
    deadlockB .fixed (wit_progs (.writeFile [[100], [102]] [2])) wit_sched ||
    deadlockB .fixed (wit_progs (.copy [[100]] [[101]])) wit_sched) = false := by decide +kernel

/-
Vocabulary (`Goat/Proofs/MemFSConc{Shape,Ops,Sys,Seq,Final}.lean`):
  `Shape h`          the heap is a forest: every directory object consistent, the root a directory, every
                     child allocated, every object has at most one parent entry
  `absT h`           the abstract tree of the heap: `Path → Option Entry` (the `FS.State` of the specification)
  `startState h0 progs`   the threads, none of them started, on the heap `h0` (`init progs` for `[Obj.dir {}]`, the heap of a new filespace)
  `seqRun t0 σ`      the SEQUENTIAL MODEL `Goat.MemFS.step` (property C01) run over the operations `σ`, one
                     call after the other (`toFS`: the operation as a call with `/`-joined path strings)
  `abs t`            C01's abstraction of the sequential model's tree
  `Op.fine`          a supported operation (MkdirAll, WriteFile, ReadFile, ReadDir, IsExist/IsFile/IsDir,
                     Remove, RemoveAll, Copy of a file or of a whole directory tree) on non-empty reduced
                     paths; a copy's source and destination unrelated.  Stream handles (`Writer`/`Reader`)
                     hold a file's lock ACROSS operations: they are the subject of `file_values` and
                     `no_deadlock`, not of this theorem
  `IndepOp a b`      nothing of `b` lies at or below a path `a` replaces (`WriteFile`/`Remove`/`RemoveAll`
                     target, `Copy` destination), `a` replaces nothing at or above a path `b` reads (a read's
                     path, a copy's source) or replaces, `a` reads
                     nothing on the way `b` creates directories along; creating operations may share
                     ancestors (`indepOp_of_unrelated`: operations on pairwise unrelated paths are independent)
-/

/-- DISTINCT PATHS COMMUTE, at the level of the heap.  Any number of threads, each running any program
of supported operations, all operations pairwise independent (in particular: on pairwise unrelated
paths), started on any forest-shaped heap `h0` that represents a tree `t0` of the sequential model.
After EVERY schedule of their lock-granular actions that lets all threads finish, and for EVERY order `σ`
of all the operations:
 (1) the abstract tree of the final heap is the tree of the sequential model after `σ` — so it does not
     depend on the interleaving, nor on the order;
 (2) every thread has one result per operation, and it is the result the same operation has in the
     sequential run (for `ReadDir`: a listing with the same entries);
 (3) through C01: the final abstract tree and the results are a run of the specification `FS.Step`,
     call by call, in the order `σ`;
 (4) the final heap is again a forest and the sequential tree well formed: the next batch can start there. -/
theorem distinct_paths_commute
    {h0 : Heap} (hsh : Shape h0) {t0 : Node} (ht0 : MemFS.Inv t0) (habs : absT h0 = abs t0)
    {progs : List (List Op)} (hok : ∀ P ∈ progs, ∀ op ∈ P, op.fine)
    (hind : progs.flatten.Pairwise IndepOp) (sched : List Tid)
    (hfin : ∀ t, unfinished ((sys .fixed progs).runFrom (startState h0 progs) sched) t = false)
    (σ : List Op) (hσ : σ.Perm progs.flatten) :
    abs (seqRun t0 σ).1 = absT ((sys .fixed progs).runFrom (startState h0 progs) sched).heap ∧
    (∀ τ P, progs[τ]? = some P →
      (resultsOf ((sys .fixed progs).runFrom (startState h0 progs) sched) τ).length = P.length ∧
      ∀ (k : Nat) op r, P[k]? = some op →
        (resultsOf ((sys .fixed progs).runFrom (startState h0 progs) sched) τ)[k]? = some r →
        ∀ (j : Nat) r', σ[j]? = some op → (seqRun t0 σ).2[j]? = some r' →
          ((∀ p, op ≠ .readDir p) → r' = resFS r) ∧
          (∀ p, op = .readDir p → ∃ r'', r' = resFS r'' ∧ ((r = .err ∧ r'' = .err) ∨
            ∃ l l', r = .list l ∧ r'' = .list l' ∧ FS.IsListing (absT h0) p l ∧ FS.IsListing (absT h0) p l' ∧
              ∀ x, x ∈ l ↔ x ∈ l'))) ∧
    FS.Run [[]] (abs t0) (σ.map fun op => (0, toFS op)) (seqRun t0 σ).2
      (absT ((sys .fixed progs).runFrom (startState h0 progs) sched).heap) ∧
    Shape ((sys .fixed progs).runFrom (startState h0 progs) sched).heap ∧ MemFS.Inv (seqRun t0 σ).1 := by
  obtain ⟨hA, h2, hshape⟩ := batch_final hsh (fun P hP op hop => (hok P hP op hop).1) hind sched hfin
  have hσind : σ.Pairwise IndepOp := (hσ.pairwise_iff (fun h => IndepOp.symm h)).2 hind
  have hσfine : ∀ j ∈ σ, j.ok ∧ j.reduced := by
    intro j hj
    have := hσ.subset hj
    rw [List.mem_flatten] at this
    obtain ⟨P, hP, hjP⟩ := this
    exact hok P hP j hjP
  obtain ⟨h5, hS, _, h4⟩ := seqRun_closed (T0 := absT h0) (treeWF_absT hsh) σ [] t0 ht0 (by rw [← habs]; rfl)
    (by simpa using hσfine) (by simpa using hσind)
  have h1 : abs (seqRun t0 σ).1 = absT ((sys .fixed progs).runFrom (startState h0 progs) sched).heap := by
    rw [hS, hA]
    exact SD_perm hσ (fun op hop => (hσfine op hop).1) hσind
  refine ⟨h1, ?_, ?_, hshape, h5⟩
  · intro τ P hP
    refine ⟨(h2 τ P hP).1, ?_⟩
    intro k op r hk hr j r' hj hr'
    have hc := (h2 τ P hP).2 k op r hk hr
    obtain ⟨r'', he, hs⟩ := h4 j op r' hj hr'
    constructor
    · intro hnl; rw [he, resOK_det hs hc hnl]
    · rintro p rfl
      exact ⟨r'', he, resOK_listing hc hs⟩
  · rw [← h1]; exact seqRun_run σ (fun op hop => (hσfine op hop).1) t0 ht0

/-- The same for operations on pairwise UNRELATED paths (none an ancestor of another; a `Copy` names two). -/
theorem distinct_paths_commute_unrelated
    {h0 : Heap} (hsh : Shape h0) {t0 : Node} (ht0 : MemFS.Inv t0) (habs : absT h0 = abs t0)
    {progs : List (List Op)} (hok : ∀ P ∈ progs, ∀ op ∈ P, op.fine)
    (hun : progs.flatten.Pairwise fun a b => ∀ x ∈ a.mains, ∀ y ∈ b.mains, ¬ x <+: y ∧ ¬ y <+: x)
    (sched : List Tid)
    (hfin : ∀ t, unfinished ((sys .fixed progs).runFrom (startState h0 progs) sched) t = false)
    (σ : List Op) (hσ : σ.Perm progs.flatten) :
    abs (seqRun t0 σ).1 = absT ((sys .fixed progs).runFrom (startState h0 progs) sched).heap :=
  (distinct_paths_commute hsh ht0 habs hok (hun.imp (fun h => indepOp_of_unrelated h)) sched hfin σ hσ).1

/-- …and such a batch NEVER GETS STUCK: started on a heap without held locks (`NoLocks`), in every state
of every schedule, if some thread has not finished then some thread can take a step.  (No handle
discipline is needed here: the operations of a batch hold no stream handle, every file stays unlocked.) -/
theorem distinct_paths_progress {h0 : Heap} (hsh : Shape h0) (hq : NoLocks h0) {progs : List (List Op)}
    (hok : ∀ P ∈ progs, ∀ op ∈ P, op.ok) (hind : progs.flatten.Pairwise IndepOp) (sched : List Tid)
    (hun : ∃ t, unfinished ((sys .fixed progs).runFrom (startState h0 progs) sched) t = true) :
    ∃ t, (step .fixed ((sys .fixed progs).runFrom (startState h0 progs) sched) t).isSome = true := by
  have hyp : Hyp (absT h0) progs := { wf := treeWF_absT hsh, ok := hok, indep := hind }
  obtain ⟨_, hl, hu⟩ := LTS.runFrom_induction (sys .fixed progs)
    (fun s => Sim (absT h0) progs s ∧ LInv .fixed s ∧ ∀ f ff, getFile s.heap f = some ff → ff.lock = none)
    (fun _ _ _ ⟨h1, h2, h3⟩ hst => ⟨sim_step hyp h1 hst, linv_step h2 hst, unlocked_step h1 h3 hst⟩)
    ⟨sim_start_state hsh progs, linv_startState .fixed hq progs, fun f ff hg => hq.2 f ff hg⟩ sched
  obtain ⟨t0, ht0⟩ := hun
  refine no_deadlock_core hl rfl rfl rfl ?_ ?_ ht0
  · intro t th f _ _ g gg hg hlock
    rw [hu g gg hg] at hlock; cases hlock
  · intro g gg t hg hlock
    rw [hu g gg hg] at hlock; cases hlock

example : NoLocks [Obj.dir {}] := noLocks_init
-- two writers of sibling files in one directory: 1 waits for the directory's outer lock that 0 holds
set_option maxRecDepth 8000 in
example : let progs : List (List Op) := [[.writeFile [[100], [120]] [1]], [.writeFile [[100], [121]] [2]]]
    let s := (sys .fixed progs).runFrom (startState [Obj.dir {}] progs) ([0, 0, 0, 0, 0] ++ [1, 1, 1, 1])
    unfinished s 1 = true ∧ (step .fixed s 1).isSome = false ∧ (step .fixed s 0).isSome = true := by decide +kernel

-- WriteFile(a/b/x), MkdirAll(a/c), WriteFile(d) then ReadFile(e): three threads from the empty filespace.
-- The hypotheses hold (shape, representation, supported operations, unrelated paths, a finishing schedule):
example : Shape [Obj.dir {}] ∧ MemFS.Inv Node.empty ∧ absT [Obj.dir {}] = abs Node.empty :=
  ⟨shape_init, MemFS.inv_empty, absT_init⟩
example : let progs : List (List Op) := [[.writeFile [[97], [98], [120]] [1]], [.mkdirAll [[97], [99]]],
      [.writeFile [[100]] [2], .readFile [[101]]]]
    (∀ P ∈ progs, ∀ op ∈ P, op.fine) ∧
    (progs.flatten.Pairwise fun a b => ∀ x ∈ a.mains, ∀ y ∈ b.mains, ¬ x <+: y ∧ ¬ y <+: x) := by
  constructor
  · decide +kernel
  · decide +kernel
set_option maxRecDepth 8000 in
example : ∀ t, unfinished ((sys .fixed [[.writeFile [[97], [98], [120]] [1]], [.mkdirAll [[97], [99]]],
      [.writeFile [[100]] [2], .readFile [[101]]]]).runFrom (startState [Obj.dir {}]
        [[.writeFile [[97], [98], [120]] [1]], [.mkdirAll [[97], [99]]], [.writeFile [[100]] [2], .readFile [[101]]]])
      (List.replicate 5 0 ++ List.replicate 8 1 ++ List.replicate 12 2 ++ List.replicate 7 0)) t = false := by
  exact all_finished_iff.2 (by decide +kernel)
-- and a second batch started on the heap the first one left (conclusion (4) are the hypotheses again):
-- Remove(d) ‖ ReadDir(a) on a non-empty initial tree
set_option maxRecDepth 8000 in
example : let progs1 : List (List Op) := [[.writeFile [[97], [98]] [1]], [.writeFile [[100]] [2]]]
    let s1 := (sys .fixed progs1).runFrom (startState [Obj.dir {}] progs1) (List.replicate 10 0 ++ List.replicate 8 1)
    let progs2 : List (List Op) := [[.remove [[100]]], [.readDir [[97]]]]
    let s2 := (sys .fixed progs2).runFrom (startState s1.heap progs2) (List.replicate 8 0 ++ List.replicate 8 1)
    (∀ t, unfinished s2 t = false) ∧ resultsOf s2 0 = [.ok] ∧ resultsOf s2 1 = [.list [([98], false)]] := by
  refine ⟨?_, by decide +kernel⟩
  exact all_finished_iff.2 (by decide +kernel)

-- a directory copy next to a writer and a remover: batch 1 builds a/x, a/s/y, d; batch 2 runs
-- Copy(a → c) ‖ WriteFile(e/f) ‖ Remove(d), interleaved one critical section at a time
set_option maxRecDepth 16000 in
example : let progs1 : List (List Op) := [[.writeFile [[97], [120]] [1], .writeFile [[97], [115], [121]] [2]],
      [.writeFile [[100]] [3]]]
    let s1 := (sys .fixed progs1).runFrom (startState [Obj.dir {}] progs1) (List.replicate 24 0 ++ List.replicate 8 1)
    let progs2 : List (List Op) := [[.copy [[97]] [[99]]], [.writeFile [[101], [102]] [4]], [.remove [[100]]]]
    let s2 := (sys .fixed progs2).runFrom (startState s1.heap progs2)
      ((List.replicate 14 [0, 1, 2]).flatten ++ List.replicate 10 0)
    (∀ P ∈ progs2, ∀ op ∈ P, op.fine) ∧
    (progs2.flatten.Pairwise fun a b => ∀ x ∈ a.mains, ∀ y ∈ b.mains, ¬ x <+: y ∧ ¬ y <+: x) ∧
    (∀ t, unfinished s2 t = false) ∧ resultsOf s2 0 = [.ok] ∧
    absT s2.heap [[99], [115], [121]] = some (.file [2]) ∧ absT s2.heap [[100]] = none := by
  refine ⟨?_, ?_, ?_, by decide +kernel⟩
  · decide +kernel
  · decide +kernel
  · exact all_finished_iff.2 (by decide +kernel)

/-- THE SHARED-ANCESTOR CREATION RACE.  Any number of threads, each running `MkdirAll` / `WriteFile`
operations below a common ancestor path `a` that is missing (with no file on the way to it), pairwise
independent (leaves unrelated; several `MkdirAll` of the same path allowed).  After every schedule that
lets all threads finish: NOBODY FAILS, the ancestor chain exists (every prefix of `a` is a directory),
every leaf exists (every prefix of a `MkdirAll` path is a directory, every written file holds its value),
and the heap is a forest with consistent directories — each name of the chain was created exactly once
(`create_once` is the statement for one directory object). -/
theorem concurrent_mkdir_shared_parent {h0 : Heap} (hsh : Shape h0) {a : Path} {progs : List (List Op)}
    (hops : ∀ P ∈ progs, ∀ op ∈ P, op.below a) (hsome : ∃ P ∈ progs, P ≠ [])
    (hmiss : absT h0 a = none) (hnf : FS.mkdirOk (absT h0) a)
    (hind : progs.flatten.Pairwise IndepOp) (sched : List Tid)
    (hfin : ∀ t, unfinished ((sys .fixed progs).runFrom (startState h0 progs) sched) t = false) :
    (∀ τ P, progs[τ]? = some P →
      resultsOf ((sys .fixed progs).runFrom (startState h0 progs) sched) τ = P.map fun _ => Res.ok) ∧
    (∀ q, q <+: a → absT ((sys .fixed progs).runFrom (startState h0 progs) sched).heap q = some .dir) ∧
    (∀ P ∈ progs, ∀ op ∈ P,
      (∀ p, op = .mkdirAll p → ∀ q, q <+: p →
        absT ((sys .fixed progs).runFrom (startState h0 progs) sched).heap q = some .dir) ∧
      (∀ p v, op = .writeFile p v →
        absT ((sys .fixed progs).runFrom (startState h0 progs) sched).heap p = some (.file v))) ∧
    Shape ((sys .fixed progs).runFrom (startState h0 progs) sched).heap := by
  have hwf := treeWF_absT hsh
  have hok : ∀ P ∈ progs, ∀ op ∈ P, op.ok := fun P hP op hop => Op.below_ok (hops P hP op hop)
  obtain ⟨hA, hR, hshape⟩ := batch_final hsh hok hind sched hfin
  have hsucc : ∀ P ∈ progs, ∀ op ∈ P, succ (absT h0) op :=
    fun P hP op hop => Op.below_succ hwf hmiss hnf (hops P hP op hop)
  -- the tree at the places a given operation has been
  have hcreated := fun P hP op hop => SD_created hwf (fun j hj => let ⟨P, hP, hjP⟩ := List.mem_flatten.1 hj; hok P hP j hjP)
    hind (List.mem_flatten.2 ⟨P, hP, hop⟩) (hsucc P hP op hop)
  rw [hA]
  refine ⟨?_, ?_, ?_, hshape⟩
  · intro τ P hP
    exact (hR τ P hP).eq_map_ok fun op hop r =>
      Op.below_res_ok (hsucc P (List.mem_of_getElem? hP) op hop) (hops P (List.mem_of_getElem? hP) op hop)
  · intro q hq
    obtain ⟨P, hP, hne⟩ := hsome
    obtain ⟨op, hop⟩ := List.exists_mem_of_ne_nil P hne
    rcases hops P hP op hop with ⟨r, hr, he⟩ | ⟨r, v, hr, he⟩
    · exact (hcreated P hP op hop).1 _ he q (hq.trans (List.prefix_append _ _))
    · refine ((hcreated P hP op hop).2 _ v he).2 q (hq.trans (List.prefix_append _ _)) ?_
      intro e
      have := hq.length_le
      rw [e] at this
      have h0 : 0 < r.length := List.length_pos_iff.2 hr
      simp at this; omega
  · intro P hP op hop
    exact ⟨(hcreated P hP op hop).1, fun p v he => ((hcreated P hP op hop).2 p v he).1⟩

-- three threads below the missing ancestor a/b: MkdirAll(a/b/x), MkdirAll(a/b/x) again, WriteFile(a/b/y/f);
-- all three parked in the gap of `mkdir a` (schedule 0,0 1,1 2,2), then released in the order 2,1,0
example : let a : Path := [[97], [98]]
    let progs : List (List Op) := [[.mkdirAll (a ++ [[120]])], [.mkdirAll (a ++ [[120]])], [.writeFile (a ++ [[121], [102]]) [7]]]
    (∀ P ∈ progs, ∀ op ∈ P, op.below a) ∧ progs.flatten.Pairwise IndepOp ∧ absT [Obj.dir {}] a = none ∧
    FS.mkdirOk (absT [Obj.dir {}]) a := by
  refine ⟨?_, ?_, by decide +kernel, ?_⟩
  · simp only [List.mem_cons, List.not_mem_nil, or_false, forall_eq_or_imp, forall_eq]
    exact ⟨Or.inl ⟨[[120]], by simp, rfl⟩, Or.inl ⟨[[120]], by simp, rfl⟩, Or.inr ⟨[[121], [102]], [7], by simp, rfl⟩⟩
  · decide +kernel
  · intro q hq d
    rw [absT_init]
    have : q = [] ∨ q = [[97]] ∨ q = [[97], [98]] := by
      obtain ⟨r, hr⟩ := hq
      match q, hr with
      | [], _ => exact Or.inl rfl
      | [x], h => simp at h; exact Or.inr (Or.inl (by rw [h.1]))
      | [x, y], h => simp at h; exact Or.inr (Or.inr (by rw [h.1, h.2.1]))
      | x :: y :: z :: w, h => simp at h
    rcases this with rfl | rfl | rfl <;> simp [abs, Node.lookup, Node.empty, Kids.find, Node.entry]
set_option maxRecDepth 8000 in
example : let progs : List (List Op) := [[.mkdirAll [[97], [98], [120]]], [.mkdirAll [[97], [98], [120]]],
      [.writeFile [[97], [98], [121], [102]] [7]]]
    let s := (sys .fixed progs).runFrom (startState [Obj.dir {}] progs)
      ([0, 0, 1, 1, 2, 2] ++ List.replicate 20 2 ++ List.replicate 12 1 ++ List.replicate 12 0)
    (∀ t, unfinished s t = false) ∧ (getDir s.heap 0).map (·.nodes.length) = some 1 := by
  refine ⟨?_, by decide +kernel⟩
  exact all_finished_iff.2 (by decide +kernel)

/-
The stronger property would be: for operations on related paths, every interleaving's results and final tree
are those of SOME sequential order of the operations (linearisability at operation granularity).
It is FALSE for the code, already for two threads with one operation each:
    thread 0: WriteFile("a/b/f", v)        thread 1: Remove("a/b")        (empty filespace)
  schedule: 0 creates a and a/b and parks before taking a/b's outer lock; 1 looks a/b up (a directory),
  reads its length (0), and parks before `removeNodeByName`; 0 adds f to a/b and returns ok; 1 removes a/b
  and returns ok.  Both calls succeed, the final tree is {a}: the file just written is gone and `Remove`
  has removed a non-empty directory.  Sequentially one of the two calls fails in either order
  (`Remove` of a missing path / of a non-empty directory).
The atomicity that is missing: `Remove`'s emptiness test (`lastDir.Size()`, under the lock of a/b) and its
`removeNodeByName` (under the lock of a) are two critical sections of two different directories, and
`WriteFile`'s `mkdirAllNodes` and `addNode` are separate critical sections as well; no lock covers the path.
The property only claims operations on DISTINCT paths (`distinct_paths_commute`).
-/
theorem interleaving_refines_some_order_false :
    ∃ (progs : List (List Op)) (sched : List Tid),
      (∀ t, unfinished ((sys .fixed progs).run sched) t = false) ∧
      (∀ τ P, progs[τ]? = some P → resultsOf ((sys .fixed progs).run sched) τ = P.map fun _ => Res.ok) ∧
      (∃ p v, Op.writeFile p v ∈ progs.flatten ∧ absT ((sys .fixed progs).run sched).heap p = none) ∧
      ∀ σ : List Op, σ.Perm progs.flatten → (seqRun Node.empty σ).2 ≠ σ.map fun _ => FS.Result.ok := by
  refine ⟨[[.writeFile [[97], [98], [102]] [1]], [.remove [[97], [98]]]],
    [0, 0, 0, 0, 0, 1, 1, 1, 1, 0, 0, 0, 0, 0, 1, 1], ?_, ?_, ⟨[[97], [98], [102]], [1], by simp, by decide +kernel⟩, ?_⟩
  · exact all_finished_iff.2 (by decide +kernel)
  · intro τ P hP
    match τ, hP with
    | 0, h => simp at h; subst h; decide +kernel
    | 1, h => simp at h; subst h; decide +kernel
    | n + 2, h => simp at h
  · intro σ hσ
    have hlen := hσ.length_eq
    simp only [List.flatten_cons, List.flatten_nil, List.append_nil, List.singleton_append, List.length_cons,
      List.length_nil] at hlen hσ
    match σ, hlen with
    | [x, y], _ =>
      have hx : x ∈ [Op.writeFile [[97], [98], [102]] [1], Op.remove [[97], [98]]] := hσ.subset (by simp)
      have hy : y ∈ [Op.writeFile [[97], [98], [102]] [1], Op.remove [[97], [98]]] := hσ.subset (by simp)
      have hnd : [x, y].Nodup := hσ.nodup_iff.2 (by simp)
      simp only [List.mem_cons, List.not_mem_nil, or_false] at hx hy
      rcases hx with rfl | rfl <;> rcases hy with rfl | rfl
      · simp at hnd
      · decide +kernel
      · decide +kernel
      · simp at hnd

/-! ## the micro-effect form, for abstract `AOp`s (`runEffs_perm` is what it shares with `distinct_paths_commute`) -/

/-- Seen from the root every heap-mutating critical section is one micro effect on the path map
(`ensureDir p` = locked part of `mkdir`, `graft p sub` = `addNode` / `setData` / handle close /
`removeNodeByName` at `p`); an operation with target `p` is `ensureDir` on the proper prefixes of `p`
followed by its effect at `p`; the effects of operations on pairwise unrelated targets give the same tree in
every order.  (The refinement of the heap to these effects is `HeapStep.mkdir`, `HeapStep.addLeaf`,
`HeapStep.setData`, `HeapStep.remEdge`, `HeapStep.addTree` of `Proofs/MemFSConcHeapStep.lean`;
`distinct_paths_commute` above is proved through it.) -/
theorem micro_effects_commute (ops : List AOp)
    (hun : ops.Pairwise (fun a b => Unrelated a.target b.target))
    (l : List Eff1) (hl : l.Perm (ops.flatMap AOp.effects))
    (ops' : List AOp) (hp : ops'.Perm ops) (T : Tree) :
    runEffs T l = runEffs T (ops'.flatMap AOp.effects) := by
  have hind : (ops.flatMap AOp.effects).Pairwise Indep := indep_all hun
  have h1 : runEffs T l = runEffs T (ops.flatMap AOp.effects) :=
    runEffs_perm hl ((hl.pairwise_iff (fun h => And.symm h)).2 hind) T
  have h2 : runEffs T (ops.flatMap AOp.effects) = runEffs T (ops'.flatMap AOp.effects) :=
    runEffs_perm (hp.symm.flatMap_right _) hind T
  rw [h1, h2]

-- WriteFile(a/b/x), MkdirAll(a/c), Remove(d) are pairwise unrelated; an interleaving of their effects
example : let ops : List AOp := [⟨[[97], [98], [120]], some (fun q => if q = [] then some (.file [1]) else none)⟩,
      ⟨[[97], [99]], none⟩, ⟨[[100]], some (fun _ => none)⟩]
    ops.Pairwise (fun a b => Unrelated a.target b.target) := by
  simp [Unrelated, List.isPrefixOf]

end Goat.C09
