/-
Property C06 — write-back cache: nothing reaches the remote before Commit, everything after.

  "While operations are applied to a cache, the remote filespace is not modified at all; after a successful
   Commit the remote tree equals the tree obtained by applying the same successful operations directly to the
   remote's initial state.  If the remote fails during Commit the failure is reported, and a later successful
   Commit still brings the remote to that same tree."

Stated over the executable model `Goat/Model/Cache.lean` (every method of `fscache.Cache` with the Go control
flow, `fshelper.Copier` / `Copy` / `SubFS`, `Commit` with the four Go map iteration orders as parameters and an
injected remote failure `failAt = some k`: the k-th error-capable remote call of that Commit fails — `Remove`,
`RemoveAll`, `MkdirAll`, `Writer`, and the `Write` / `Close` calls on the remote's writers).
"Applying an operation directly" is the point-wise specification `Goat/Spec/FS.lean` (`FS.Step`); its executable
twin is `MemFS.step` on a second tree (`directStep`, `directRun`, `Sim`), which refines it (`direct_is_spec`,
from `Goat.C01.memfs_refines`).

Vocabulary (Model/Cache.lean, Proofs/Cache*.lean):
  `State`              buffer tree, remote tree, the four journals (key strings exactly as the Go maps hold them)
  `Handle`             the cache itself or a child view `SubFS` with its base path;  `h.ok`: the base ends in `/` and
                       does not climb (every view opened with a non-climbing path: `Goat.C07.view_of_view`)
  `step h s op`        one of the 16 methods through a handle;   `run s ops` a history (no Commit)
  `commitWith rm rma mk wr failAt s`   Commit replaying the journals in the given orders: (state, calls made, ok)
  `commit failAt s`    … in the canonical order
  `Sim`                cache and direct application side by side: a mutating call is applied directly exactly when
                       it succeeded through the cache ("the same successful operations")
  `directRun r ops`    every call applied directly;  `allDirectOk r ops`: each of them succeeds
  `writeClass`         the calls of the class of the `_partial` theorems: WriteFile / Writer / MkdirAll / CopyFile
                       through an ok handle (a CopyFile that succeeds directly copies a file to an absent destination)
  `Defect`, `defectsOf`  the decidable defect predicates of the known findings, see `findings_witnessed`

WHAT IS PROVED
  full strength      remote_untouched (clause 1), commit_fail_reported ("the failure is reported"),
                     commit_changes_only_remote, commit_order_irrelevant (the Go map iteration order never matters:
                     every reachable state, also outside the class), failed_call_journals_nothing and
                     overlapping_copy_refused (the repairs of KF-C06-5/8 and KF-C06-7 as theorems)
  DISPROVED          commit_equiv (clause 2 for the code as it is): `commit_equiv_false`; one evaluated witness per
                     remaining finding class KF-C06-1, 2, 4, 6, 9, 10, 11, 12 in `findings_witnessed`
                     (known_findings.d/C06.json).  KF-C06-3, 5, 7, 8 are REPAIRED (fix: commits of fscache/cache.go):
                     `repaired_findings` evaluates their witnesses, which are in no defect class and satisfy the statement.
  `_partial`         commit_equiv_partial, commit_retry_partial, second_commit_unchanged_partial — on the class
                     `writeClass` ∧ `allDirectOk`, i.e. under the negation of every defect predicate (that the class
                     contains no defect event is checked by the campaign `genclean`, not proved);
                     commit_order_irrelevant_partial (on the class every order SUCCEEDS with the direct tree)

NOT PROVED / outside the class:
  Copy and CopyDirectory (directory sources are KF-C06-4; file sources through `Copy` were not carried), and all
    removes: there is no class with removes in which clause 2 holds (KF-C06-1/2/6).
  A failing Commit leaves a remote that depends on the iteration order (the loops stop at the failing call):
    commit_order_irrelevant speaks about unfailed Commits, commit_retry_partial about what a later Commit makes of it.
-/
import Goat.Proofs.CacheMore
import Goat.Proofs.CacheClass
import Goat.Proofs.CacheCommit
import Goat.Proofs.CacheOrder
import Goat.Proofs.CacheWitness

namespace Goat.C06

open Goat Goat.FS Goat.Cache Goat.MemFS

/-- CLAUSE (i), full strength.  No sequence of cache operations — any of the 16 methods, any path spellings,
through the cache or any child view, succeeding or failing, on any state — changes the remote tree. -/
theorem remote_untouched (s : Cache.State) (ops : List (Handle × Op)) : (run s ops).remote = s.remote := by
  induction ops generalizing s with
  | nil => rfl
  | cons x rest ih => exact (ih _).trans (step_remote x.1 s x.2)

-- a history that writes, copies, removes and fails: the remote (file a = "1") is what it was
example :
    (run (State.new (Witness.mkRemote Witness.r12 Node.empty))
      [(.cache, .writeFile [120, 47, 121] [1]), (.cache, .copy [120] [122]), (.cache, .removeAll [97]),
       (.sub [120, 47], .remove [121]), (.cache, .mkdirAll [97, 47, 98])]).remote
      = Witness.mkRemote Witness.r12 Node.empty := by rfl

/-- Commit, in any order, with or without an injected failure, changes nothing but the remote: buffer and
journals stay (Commit clears nothing — a later Commit replays everything). -/
theorem commit_changes_only_remote (rm rma mk wr : List Bytes) (fa : Option Nat) (s : Cache.State) :
    (commitWith rm rma mk wr fa s).1.buffer = s.buffer ∧ (commitWith rm rma mk wr fa s).1.remove = s.remove
    ∧ (commitWith rm rma mk wr fa s).1.removeAll = s.removeAll
    ∧ (commitWith rm rma mk wr fa s).1.mkdirAll = s.mkdirAll ∧ (commitWith rm rma mk wr fa s).1.write = s.write :=
  commitWith_frame rm rma mk wr fa s

/-- "If the remote fails during Commit the failure is reported", full strength: for every state, every
iteration order and every position `k`, if the k-th error-capable remote call of the Commit was made (so it
failed), Commit did not return nil.  The calls are `Remove`, `RemoveAll`, `MkdirAll`, `Writer`, and every `Write` and
the `Close` on a writer the remote handed out (a failure in the middle of a transfer). -/
theorem commit_fail_reported (rm rma mk wr : List Bytes) (k : Nat) (s : Cache.State)
    (hfired : k < (commitWith rm rma mk wr (some k) s).2.1) :
    (commitWith rm rma mk wr (some k) s).2.2 = false :=
  Cache.commit_fail_reported rm rma mk wr k s hfired

-- two writes = eight remote calls (MkdirAll, Writer, Write, Close each); a failing Write (call 2), a failing Close
-- (call 7) are reported; a tenth call does not happen
example :
    (commit (some 2) (run (State.new Node.empty) [(.cache, .writeFile [97] [1]), (.cache, .writeFile [98] [2])])).2
      = (3, false) := by decide +kernel
example :
    (commit (some 7) (run (State.new Node.empty) [(.cache, .writeFile [97] [1]), (.cache, .writeFile [98] [2])])).2
      = (8, false) := by decide +kernel
example :
    (commit (some 9) (run (State.new Node.empty) [(.cache, .writeFile [97] [1]), (.cache, .writeFile [98] [2])])).2
      = (8, true) := by decide +kernel
-- a failing Write leaves the remote file created but empty; the retry completes it
example :
    abs (commit (some 2) (run (State.new Node.empty) [(.cache, .writeFile [97] [1])])).1.remote [[97]] = some (.file [])
    ∧ abs (commit none (commit (some 2) (run (State.new Node.empty) [(.cache, .writeFile [97] [1])])).1).1.remote [[97]]
        = some (.file [1]) := by decide +kernel

/-- (ii) ORDER IRRELEVANCE, full strength.  In every reachable state — after any history of calls and Commits
(any failure positions) on any well-formed initial remote, inside or outside the defect classes — a Commit without
injected failure answers the same verdict whatever permutation of each of the four journals it replays, and when
it succeeds the remote tree is the same.  (The four loops are folds of pairwise commuting steps on abstract trees:
`Goat/Proofs/CacheOrder.lean`.) -/
theorem commit_order_irrelevant (r0 : Node) (hr : Inv r0) (hist : List HOp)
    (rm rma mk wr rm' rma' mk' wr' : List Bytes)
    (hrm : rm.Perm rm') (hrma : rma.Perm rma') (hmk : mk.Perm mk') (hwr : wr.Perm wr') :
    (commitWith rm rma mk wr none ((Sim.new r0).run hist).cache).2.2
        = (commitWith rm' rma' mk' wr' none ((Sim.new r0).run hist).cache).2.2
    ∧ ((commitWith rm rma mk wr none ((Sim.new r0).run hist).cache).2.2 = true →
        abs (commitWith rm rma mk wr none ((Sim.new r0).run hist).cache).1.remote
          = abs (commitWith rm' rma' mk' wr' none ((Sim.new r0).run hist).cache).1.remote) :=
  commit_order_irrelevant_winv _ (sim_run_winv (Sim.new r0) (winv_new r0 hr) hist) rm rma mk wr rm' rma' mk' wr'
    hrm hrma hmk hwr

/-- the same for any state whose two trees are well formed -/
theorem commit_order_irrelevant_state (s : Cache.State) (W : WInv s) (rm rma mk wr rm' rma' mk' wr' : List Bytes)
    (hrm : rm.Perm rm') (hrma : rma.Perm rma') (hmk : mk.Perm mk') (hwr : wr.Perm wr') :
    (commitWith rm rma mk wr none s).2.2 = (commitWith rm' rma' mk' wr' none s).2.2
    ∧ ((commitWith rm rma mk wr none s).2.2 = true →
        abs (commitWith rm rma mk wr none s).1.remote = abs (commitWith rm' rma' mk' wr' none s).1.remote) :=
  commit_order_irrelevant_winv s W rm rma mk wr rm' rma' mk' wr' hrm hrma hmk hwr

-- a state outside the class (nested recursive removes, a removed and rewritten file): both orders, same tree
example :
    [[97], [97, 47, 98]].Perm [[97, 47, 98], [97]] ∧ [[99], [100, 47, 101]].Perm [[100, 47, 101], [99]] := by
  exact ⟨List.Perm.swap _ _ _, List.Perm.swap _ _ _⟩
example :
    (commitWith [[99]] [[97], [97, 47, 98]] [] [[99], [100, 47, 101]] none
      ((Sim.new (Witness.mkRemote [([97, 47, 98, 47, 120], some [1]), ([99], some [2])] Node.empty)).run
        [.call .cache (.removeAll [97, 47, 98]), .call .cache (.removeAll [97]), .call .cache (.remove [99]),
         .call .cache (.writeFile [99] [3]), .call .cache (.writeFile [100, 47, 101] [4])]).cache).2.2 = true
    ∧ (commitWith [[99]] [[97, 47, 98], [97]] [] [[100, 47, 101], [99]] none
      ((Sim.new (Witness.mkRemote [([97, 47, 98, 47, 120], some [1]), ([99], some [2])] Node.empty)).run
        [.call .cache (.removeAll [97, 47, 98]), .call .cache (.removeAll [97]), .call .cache (.remove [99]),
         .call .cache (.writeFile [99] [3]), .call .cache (.writeFile [100, 47, 101] [4])]).cache).2.2 = true := by
  decide +kernel

/-- THE FULL STATEMENT of the second sentence: for every initial remote tree and every history through ok handles,
Commit (no injected failure) succeeds and leaves exactly the tree obtained by applying the same successful
operations directly. -/
def commit_equiv : Prop :=
  ∀ (r0 : Node), Inv r0 → ∀ (ops : List (Handle × Op)), (∀ x ∈ ops, x.1.ok = true) →
    (commit none ((Sim.new r0).run (ops.map fun x => HOp.call x.1 x.2)).cache).2.2 = true
    ∧ abs (commit none ((Sim.new r0).run (ops.map fun x => HOp.call x.1 x.2)).cache).1.remote
        = abs ((Sim.new r0).run (ops.map fun x => HOp.call x.1 x.2)).direct

/-- … is false (witness: KF-C06-2, `write b/c/b; removeAll b; commit` on an empty remote leaves `b/` and `b/c/`). -/
theorem commit_equiv_false : ¬ commit_equiv := by
  intro H
  have := (H Node.empty inv_empty [(.cache, .writeFile [98, 47, 99, 47, 98] [120]), (.cache, .removeAll [98])]
    (by decide +kernel)).2
  exact absurd (congrFun this [[98]]) (by decide +kernel)

/-- ONE WITNESS PER REMAINING FINDING CLASS (known_findings.d/C06.json; the same histories are replayed on the Go
code by every run of the check).  For each: the history is in the class named by its defect predicate, and Commit
either fails or leaves a tree that differs from direct application at the given path. -/
theorem findings_witnessed :
    -- KF-C06-1  Remove of a remote empty directory is never replayed
    (Defect.removeRemoteDir ∈ defectsOf (Sim.new (Witness.mkRemote Witness.r1 Node.empty)) (Witness.calls Witness.h1)
      ∧ abs (Witness.committed Witness.r1 Witness.h1).1.remote [[97]] ≠ abs (Witness.sim Witness.r1 Witness.h1).direct [[97]])
    -- KF-C06-2  write, then RemoveAll of a parent: Commit re-creates the parents
    ∧ (Defect.removeAboveWrite ∈ defectsOf (Sim.new Node.empty) (Witness.calls Witness.h2)
      ∧ abs (Witness.committed [] Witness.h2).1.remote [[98]] ≠ abs (Witness.sim [] Witness.h2).direct [[98]])
    -- KF-C06-4  a copied directory never reaches the remote
    ∧ (Defect.dirCopy ∈ defectsOf (Sim.new (Witness.mkRemote Witness.r4 Node.empty)) (Witness.calls Witness.h4)
      ∧ abs (Witness.committed Witness.r4 Witness.h4).1.remote [[99]] ≠ abs (Witness.sim Witness.r4 Witness.h4).direct [[99]])
    -- KF-C06-6  mkdir a/b; remove a/b forgets a
    ∧ (Defect.removeBufferDir ∈ defectsOf (Sim.new Node.empty) (Witness.calls Witness.h6)
      ∧ abs (Witness.committed [] Witness.h6).1.remote [[97]] ≠ abs (Witness.sim [] Witness.h6).direct [[97]])
    -- KF-C06-9 (= KF-C07-3)  write beneath a remote file is accepted: Commit fails
    ∧ (Defect.typeConflict ∈ defectsOf (Sim.new (Witness.mkRemote Witness.r9 Node.empty)) (Witness.calls Witness.h9)
      ∧ (Witness.committed Witness.r9 Witness.h9).2.2 = false)
    -- KF-C06-10 (= KF-C07-5)  CopyFile onto an existing destination overwrites
    ∧ (Defect.copyOntoExisting ∈ defectsOf (Sim.new (Witness.mkRemote Witness.r10 Node.empty)) (Witness.calls Witness.h10)
      ∧ abs (Witness.committed Witness.r10 Witness.h10).1.remote [[99]]
          ≠ abs (Witness.sim Witness.r10 Witness.h10).direct [[99]])
    -- KF-C06-11 (= KF-C07-6)  a rooted climbing path is cleaned into the cache
    ∧ (Defect.rootedClimb ∈ defectsOf (Sim.new Node.empty) (Witness.calls Witness.h11)
      ∧ abs (Witness.committed [] Witness.h11).1.remote [[97]] ≠ abs (Witness.sim [] Witness.h11).direct [[97]])
    -- KF-C06-12  a removed remote file is still a copy source
    ∧ (Defect.staleCopySource ∈ defectsOf (Sim.new (Witness.mkRemote Witness.r12 Node.empty)) (Witness.calls Witness.h12)
      ∧ abs (Witness.committed Witness.r12 Witness.h12).1.remote [[98]]
          ≠ abs (Witness.sim Witness.r12 Witness.h12).direct [[98]]) := by
  decide +kernel

/-- THE REPAIRED FINDINGS (fix: commits of /repo/filesystem/fscache/cache.go; witnesses kept in corpus/C06).  Their
witnesses are in no defect class and satisfy the statement:
KF-C06-3 `WriteFile("a/b/")`: Commit succeeds and the remote holds the file a/b;
KF-C06-5 a failed `Copy("c", "a/b")` leaves nothing for Commit: the remote stays empty;
KF-C06-7 `Copy("a", "a")` answers an error and changes nothing;
KF-C06-8 a refused `RemoveAll("")` does not poison Commit. -/
theorem repaired_findings :
    (defectsOf (Sim.new Node.empty) (Witness.calls Witness.h3 ++ [.commit none]) = []
      ∧ (Witness.committed [] Witness.h3).2.2 = true
      ∧ abs (Witness.committed [] Witness.h3).1.remote [[97], [98]] = some (.file [120]))
    ∧ (defectsOf (Sim.new Node.empty) (Witness.calls Witness.h5 ++ [.commit none]) = []
      ∧ (Witness.committed [] Witness.h5).2.2 = true
      ∧ abs (Witness.committed [] Witness.h5).1.remote [[97]] = none)
    ∧ (defectsOf (Sim.new Node.empty) (Witness.calls Witness.h7) = []
      ∧ (step .cache (run (State.new Node.empty) [(.cache, .writeFile [97] [120])]) (.copy [97] [97])).2 = .err
      ∧ (Witness.committed [] Witness.h7).2.2 = true
      ∧ abs (Witness.committed [] Witness.h7).1.remote = abs (Witness.sim [] Witness.h7).direct)
    ∧ (defectsOf (Sim.new Node.empty) (Witness.calls Witness.h8 ++ [.commit none]) = []
      ∧ (Witness.committed [] Witness.h8).2.2 = true
      ∧ abs (Witness.committed [] Witness.h8).1.remote [[97]] = some (.file [120])) := by
  refine ⟨by decide +kernel, by decide +kernel, ⟨by decide +kernel, by decide +kernel, by decide +kernel, ?_⟩,
    by decide +kernel⟩
  -- KF-C06-7: `commit_equiv_partial` would need the class; here the two trees are evaluated and are the same tree
  exact congrArg abs (by rfl)

/-- A CALL THAT FAILS JOURNALS NOTHING (the repair of KF-C06-5 and KF-C06-8 at full strength): whatever the state,
the handle and the method, a call that does not answer `ok` leaves the write, remove and removeAll journals as they
were — nothing of it is replayed by Commit.  (`MkdirAll` journals in any case; Commit replays such an entry only
while the buffer has that directory.) -/
theorem failed_call_journals_nothing (h : Handle) (s : Cache.State) (op : Op) (hr : (step h s op).2 ≠ .ok) :
    (step h s op).1.write = s.write ∧ (step h s op).1.remove = s.remove ∧ (step h s op).1.removeAll = s.removeAll :=
  step_induct s (fun x => x.2 ≠ .ok → x.1.write = s.write ∧ x.1.remove = s.remove ∧ x.1.removeAll = s.removeAll)
    (fun _ _ => ⟨rfl, rfl, rfl⟩) (copy_failed s) (fun _ _ => ⟨rfl, rfl, rfl⟩)
    (fun _ _ h => ⟨jaddIf_of_ne _ _ _ h, rfl, rfl⟩) (fun _ _ h => ⟨jaddIf_of_ne _ _ _ h, rfl, rfl⟩)
    (fun _ h => ⟨rfl, jaddIf_of_ne _ _ _ h, rfl⟩) (fun _ h => ⟨rfl, rfl, jaddIf_of_ne _ _ _ h⟩) h op hr

example :
    (step .cache (State.new Node.empty) (.copy [99] [97, 47, 98])).2 = .err
    ∧ (step .cache (State.new Node.empty) (.removeAll [])).2 = .err
    ∧ (step .cache (State.new Node.empty) (.writeFile [46, 46, 47, 120] [1])).2 = .err := by decide +kernel

/-- OVERLAPPING COPIES ARE REFUSED (the repair of KF-C06-7 at full strength): `Copy` whose cleaned source and
destination are the same node or contain one another (the root contains every node) answers an error and changes
nothing. -/
theorem overlapping_copy_refused (s : Cache.State) (a b : Bytes)
    (h : overlaps (Path.cleanPath a) (Path.cleanPath b) = true) : Cache.copy s a b = (s, .err) := by
  unfold Cache.copy
  simp only [srcFS, h, if_true]

example : overlaps (Path.cleanPath [97, 47, 46, 47, 98]) (Path.cleanPath [47, 97]) = true
    ∧ overlaps (Path.cleanPath [97, 47, 46, 46]) (Path.cleanPath [47, 46, 46]) = true
    ∧ overlaps (Path.cleanPath [97, 98]) (Path.cleanPath [97]) = false := by decide +kernel

/-- `commit_equiv` ON THE CLASS (the same conclusion as the full statement): histories of WriteFile / Writer /
MkdirAll / CopyFile through the cache or ok child views, any spellings, any length, on any well-formed initial remote, in
which every operation also succeeds when applied directly.  Every call succeeds through the cache, Commit succeeds,
and the remote is exactly the direct tree. -/
theorem commit_equiv_partial (r0 : Node) (hr : Inv r0) (ops : List (Handle × Op))
    (hclass : ops.all writeClass = true) (hdirect : allDirectOk r0 ops = true) :
    (∀ r ∈ runResults (State.new r0) ops, r = .ok)
    ∧ (commit none ((Sim.new r0).run (ops.map fun x => HOp.call x.1 x.2)).cache).2.2 = true
    ∧ abs (commit none ((Sim.new r0).run (ops.map fun x => HOp.call x.1 x.2)).cache).1.remote
        = abs ((Sim.new r0).run (ops.map fun x => HOp.call x.1 x.2)).direct := by
  obtain ⟨V, J, hres⟩ := writeClass_run (vinv_new r0 hr) (jinv_new r0) ops hclass hdirect
  have hs := sim_run_calls (Sim.new r0) ops (fun x hx => writeClass_mutating x (List.all_eq_true.mp hclass x hx)) hres
  rw [hs.1, hs.2]
  have hc := commit_class_canon V J none
  exact ⟨hres, hc.2.2.2 rfl, hc.2.2.1 (hc.2.2.2 rfl)⟩

-- a history of the class: two views, odd spellings, an overwrite, directories, file copies from the remote and
-- from the buffer; the remote holds file a/x
example :
    ([(Handle.cache, Op.writeFile [47, 97, 47, 46, 47, 121] [1]), (.sub [97, 47], .writer [122, 47, 46, 46, 47, 121] [[2], [3]]),
      (.sub [98, 47, 99, 47], .mkdirAll [100]), (.cache, .mkdirAll [97]), (.sub [98, 47], .writeFile [99, 47, 101] []),
      (.cache, .copyFile [97, 47, 120] [102, 47, 103]), (.sub [97, 47], .copyFile [121] [46, 47, 122])]).all
        writeClass = true
    ∧ allDirectOk (Witness.mkRemote [([97, 47, 120], some [9])] Node.empty)
        [(Handle.cache, Op.writeFile [47, 97, 47, 46, 47, 121] [1]), (.sub [97, 47], .writer [122, 47, 46, 46, 47, 121] [[2], [3]]),
         (.sub [98, 47, 99, 47], .mkdirAll [100]), (.cache, .mkdirAll [97]), (.sub [98, 47], .writeFile [99, 47, 101] []),
         (.cache, .copyFile [97, 47, 120] [102, 47, 103]), (.sub [97, 47], .copyFile [121] [46, 47, 122])] = true := by
  decide +kernel
example : Inv (Witness.mkRemote [([97, 47, 120], some [9])] Node.empty) := Witness.inv_mkRemote _ _ inv_empty

/-- On the class every iteration order SUCCEEDS, with the direct tree. -/
theorem commit_order_irrelevant_partial (r0 : Node) (hr : Inv r0) (ops : List (Handle × Op))
    (hclass : ops.all writeClass = true) (hdirect : allDirectOk r0 ops = true)
    (rm rma mk wr : List Bytes)
    (hrm : rm.Perm (run (State.new r0) ops).remove) (hrma : rma.Perm (run (State.new r0) ops).removeAll)
    (hmk : mk.Perm (run (State.new r0) ops).mkdirAll) (hwr : wr.Perm (run (State.new r0) ops).write) :
    (commitWith rm rma mk wr none (run (State.new r0) ops)).2.2 = true
    ∧ abs (commitWith rm rma mk wr none (run (State.new r0) ops)).1.remote = abs (directRun r0 ops) := by
  obtain ⟨V, J, _⟩ := writeClass_run (vinv_new r0 hr) (jinv_new r0) ops hclass hdirect
  have hc := commit_class V J rm rma mk wr (fun _ => hrm.mem_iff) (fun _ => hrma.mem_iff) (fun _ => hmk.mem_iff)
    (fun _ => hwr.mem_iff) none
  exact ⟨hc.2.2.2 rfl, hc.2.2.1 (hc.2.2.2 rfl)⟩

-- the journals of a small history replayed backwards
example :
    (commitWith [] [] [[98, 47, 99]] [[100], [97]] none
      (run (State.new Node.empty) [(.cache, .writeFile [97] [1]), (.cache, .mkdirAll [98, 47, 99]), (.cache, .writeFile [100] [2])])).2.2
      = true := by decide +kernel

/-- FAILED, THEN SUCCESSFUL COMMIT on the class: a Commit with a remote failure injected at ANY position `k`, in any
order, followed by a Commit without failure, in any order, ends with the direct tree — the tree of an unfailed
Commit. -/
theorem commit_retry_partial (r0 : Node) (hr : Inv r0) (ops : List (Handle × Op))
    (hclass : ops.all writeClass = true) (hdirect : allDirectOk r0 ops = true) (k : Nat)
    (rm rma mk wr rm' rma' mk' wr' : List Bytes)
    (hrm : rm.Perm (run (State.new r0) ops).remove) (hrma : rma.Perm (run (State.new r0) ops).removeAll)
    (hmk : mk.Perm (run (State.new r0) ops).mkdirAll) (hwr : wr.Perm (run (State.new r0) ops).write)
    (hrm' : rm'.Perm (run (State.new r0) ops).remove) (hrma' : rma'.Perm (run (State.new r0) ops).removeAll)
    (hmk' : mk'.Perm (run (State.new r0) ops).mkdirAll) (hwr' : wr'.Perm (run (State.new r0) ops).write) :
    (commitWith rm' rma' mk' wr' none (commitWith rm rma mk wr (some k) (run (State.new r0) ops)).1).2.2 = true
    ∧ abs (commitWith rm' rma' mk' wr' none (commitWith rm rma mk wr (some k) (run (State.new r0) ops)).1).1.remote
        = abs (directRun r0 ops) := by
  obtain ⟨V, J, _⟩ := writeClass_run (vinv_new r0 hr) (jinv_new r0) ops hclass hdirect
  have hc := commit_class V J rm rma mk wr (fun _ => hrm.mem_iff) (fun _ => hrma.mem_iff) (fun _ => hmk.mem_iff)
    (fun _ => hwr.mem_iff) (some k)
  have hf := commitWith_frame rm rma mk wr (some k) (run (State.new r0) ops)
  have hc2 := commit_class hc.1 hc.2.1 rm' rma' mk' wr'
    (fun _ => by rw [hf.2.1]; exact hrm'.mem_iff) (fun _ => by rw [hf.2.2.1]; exact hrma'.mem_iff)
    (fun _ => by rw [hf.2.2.2.1]; exact hmk'.mem_iff) (fun _ => by rw [hf.2.2.2.2]; exact hwr'.mem_iff) none
  exact ⟨hc2.2.2.2 rfl, hc2.2.2.1 (hc2.2.2.2 rfl)⟩

-- the injected failure does fire in the class (so the theorem is not about unfailed commits only)
example :
    (commit (some 1) (run (State.new Node.empty) [(.cache, .writeFile [97, 47, 98] [1]), (.cache, .mkdirAll [99])])).2.2 = false
    ∧ (commit none (commit (some 1)
        (run (State.new Node.empty) [(.cache, .writeFile [97, 47, 98] [1]), (.cache, .mkdirAll [99])])).1).2.2 = true := by
  decide +kernel

/-- A SECOND COMMIT on the class changes nothing. -/
theorem second_commit_unchanged_partial (r0 : Node) (hr : Inv r0) (ops : List (Handle × Op))
    (hclass : ops.all writeClass = true) (hdirect : allDirectOk r0 ops = true) :
    (commit none (commit none (run (State.new r0) ops)).1).2.2 = true
    ∧ abs (commit none (commit none (run (State.new r0) ops)).1).1.remote
        = abs (commit none (run (State.new r0) ops)).1.remote := by
  obtain ⟨V, J, _⟩ := writeClass_run (vinv_new r0 hr) (jinv_new r0) ops hclass hdirect
  have hc := commit_class_canon V J none
  have hc2 := commit_class_canon hc.1 hc.2.1 none
  exact ⟨hc2.2.2.2 rfl, (hc2.2.2.1 (hc2.2.2.2 rfl)).trans (hc.2.2.1 (hc.2.2.2 rfl)).symm⟩

example :
    abs (commit none (commit none (run (State.new Node.empty) [(.cache, .writeFile [97, 47, 98] [1])])).1).1.remote [[97], [98]]
      = some (.file [1]) := by decide +kernel

/-- Direct application — the executable twin used above — IS a run of the specification `FS.Step`
(`Goat.C01.memfs_refines`): through an ok handle rooted at `b`, one call applied directly answers and changes
the abstract tree as `FS.Step b` prescribes. -/
theorem direct_is_spec (h : Handle) (hok : h.ok = true) (D : Node) (hD : Inv D) (op : Op) :
    ∃ b, handleBase h = some b ∧ FS.Step b (abs D) op (directStep D h op).2 (abs (directStep D h op).1) :=
  Cache.direct_is_spec h hok D hD op

example : Handle.ok (.sub [97, 47, 98, 47]) = true := by decide +kernel

end Goat.C06
