/-
Property C12 — scope failure signalling is safe from any number of goroutines.

  "Errors may be appended to a scope, and the scope may be killed or stopped, from any number of
   goroutines at once and repeatedly: no call panics, every appended error is retained and
   reported by the scope's error accessors and by waiting on or closing it, and the done signal
   fires exactly once.  Creating and closing a child of a scope that is already done is equally
   safe."

Stated over the transition system `sys v cfg` of `Goat/Model/ScopeSignal.lean`:
`cfg.n` caller goroutines (any `n`), a forest `cfg.kinds` of plain and isolated contexts (any
size; one propagation goroutine per isolated context), child scopes created and closed
dynamically; a schedule is any `List Label`, each label lets one goroutine start an operation
(`AppendError` with any batch, `Kill`, `Stop`, `IsDone`, `Err`, `NewChild`, `Close`, on any scope)
or perform its next shared-memory access; disabled labels (goroutine blocked on `errorsMU` or on
the `sync.Once`, nothing to do) are skipped.  `(sys v cfg).run sched` is the state after the
schedule.  Theorems of sections 1–6 are about `Variant.fixed` (the code in /repo) and hold for every
configuration and every schedule; section 7 exhibits the defects of the older code / of mutants;
section 8 states the publication order (error recorded before the done signal) on the full system and on the
two-step system of `Goat/Model/ScopePublish.lean`, where the swapped order is refuted.

Vocabulary:
  `x.closes`     how many times `close(done)` was executed on context `x` (≥ 2 = run-time panic)
  `x.done`       `1 ≤ x.closes`: a receive on `Done()` succeeds, `IsDone()` answers true
  `x.errors`     the slice `Errors()` / `Err()` / `Wait()` / `Close()` report from
  `x.requested`  ghost: every non-nil error handed to `AppendError`/`Kill` on `x`, by anybody
  `x.stopCalls`, `x.propStops`, `x.propKills`  ghost: Stop calls by callers / by the propagation
                 goroutine, Kill calls by the propagation goroutine
  `s.quiet c`    no goroutine is inside an operation on context `c`
  `sc.wg`        the `sync.WaitGroup` counter of scope `sc` (an `Int`; `< 0` = run-time panic)
  `wsum f l`     the sum of `f` over the list `l`;  `inflQ q c pc`  the errors of class `q` that the goroutine at `pc`
                 has been handed for context `c` and not stored yet (`Goat/Proofs/ScopeSignal.lean`, `ScopeSignalCtx.lean`)
  `histOf s x`, `conforms`  what the stress harness records about context `x`, and what it accepts (the model file)
-/
import Goat.Proofs.ScopeSignalMain
import Goat.Proofs.ScopePublish

namespace Goat.C12

open Goat.LTS Goat.ScopeSignal

/-! ### 1. The done channel is closed at most once -/

/-- In every schedule `close(done)` is executed at most once per context, so the panic
"close of closed channel" cannot occur. -/
theorem done_closed_once (cfg : Config) (sched : List Label) (c : Nat) (x : Ctx)
    (hx : ((sys Variant.fixed cfg).run sched).ctxs[c]? = some x) : x.closes ≤ 1 := by
  rw [(run_allInv cfg sched).once c x hx]
  split <;> omega

theorem no_double_close_panic (cfg : Config) (sched : List Label) :
    ((sys Variant.fixed cfg).run sched).doubleClose = false := by
  simp only [State.doubleClose, List.any_eq_false]
  intro x hx
  obtain ⟨c, hc⟩ := List.mem_iff_getElem?.1 hx
  have := done_closed_once cfg sched c x hc
  simp [Ctx.doubleClose]; omega

-- three goroutines: Stop, Kill and AppendError race on one context (goroutine 1 finds the Once
-- occupied and waits); the channel is closed exactly once and all three errors are held
example : (((sys Variant.fixed ⟨3, [.plain]⟩).run
    [.call 0 (.op .stop 0), .call 1 (.op .kill 0), .run 1, .run 1, .call 2 (.op (.append [5, 6]) 0),
     .run 1, .run 2, .run 2, .run 0, .run 1, .run 2]).ctxs[0]?.map
      (fun x => (x.closes, x.errors))) = some (1, [canceled, 5, 6]) := by decide +kernel

/-! ### 2. Every appended error is retained -/

/-- When no goroutine is inside an operation on context `c`, the errors it holds are exactly
(as a multiset) the non-nil errors ever handed to `AppendError`/`Kill` on it. -/
theorem all_errors_kept (cfg : Config) (sched : List Label) (c : Nat) (x : Ctx)
    (hx : ((sys Variant.fixed cfg).run sched).ctxs[c]? = some x)
    (hq : ((sys Variant.fixed cfg).run sched).quiet c) : x.errors.Perm x.requested := by
  rw [List.perm_iff_count]
  intro a
  have := (run_allInv cfg sched).err (· == a) c x hx
  rwa [inflQ_quiet hq, Nat.add_zero] at this

/-- `|errors| = number of non-nil errors appended`. -/
theorem all_errors_kept_count (cfg : Config) (sched : List Label) (c : Nat) (x : Ctx)
    (hx : ((sys Variant.fixed cfg).run sched).ctxs[c]? = some x)
    (hq : ((sys Variant.fixed cfg).run sched).quiet c) : x.errors.length = x.requested.length :=
  (all_errors_kept cfg sched c x hx hq).length_eq

/-- At any moment, quiet or not: stored + still in the hands of goroutines inside `AppendError` =
handed in (for every class `q` of errors; `inflQ q c pc` is what goroutine `pc` still carries). -/
theorem errors_stored_or_in_flight (cfg : Config) (sched : List Label) (q : Nat → Bool) (c : Nat) (x : Ctx)
    (hx : ((sys Variant.fixed cfg).run sched).ctxs[c]? = some x) :
    x.errors.countP q + wsum (inflQ q c) ((sys Variant.fixed cfg).run sched).threads = x.requested.countP q :=
  (run_allInv cfg sched).err q c x hx

example : ((sys Variant.fixed ⟨3, [.plain]⟩).run
    [.call 0 (.op .stop 0), .call 1 (.op .kill 0), .run 1, .run 1, .call 2 (.op (.append [5, 6]) 0),
     .run 1, .run 2, .run 2, .run 0, .run 1, .run 2]).quiet 0 := by decide +kernel

/-! ### 3. The done signal fires exactly when the scope was stopped or holds an error -/

/-- The direction that needs no quiescence: `done` never fires spuriously. -/
theorem done_only_if_stopped_or_error (cfg : Config) (sched : List Label) (c : Nat) (x : Ctx)
    (hx : ((sys Variant.fixed cfg).run sched).ctxs[c]? = some x) (hd : x.done = true) :
    0 < x.stopCalls ∨ 0 < x.propStops ∨ x.errors ≠ [] :=
  (run_allInv cfg sched).done.sound c x hx (by simpa [Ctx.done] using hd)

/-- With nobody inside an operation on the context: it is done iff `Stop` was called on it (by a
caller or, for an isolated context, by its propagation goroutine) or it holds an error. -/
theorem done_iff_stopped_or_error (cfg : Config) (sched : List Label) (c : Nat) (x : Ctx)
    (hx : ((sys Variant.fixed cfg).run sched).ctxs[c]? = some x)
    (hq : ((sys Variant.fixed cfg).run sched).quiet c) :
    x.done = true ↔ (0 < x.stopCalls ∨ 0 < x.propStops ∨ x.errors ≠ []) :=
  ⟨done_only_if_stopped_or_error cfg sched c x hx, fun h => by
    have := (run_allInv cfg sched).done.complete c x hx h
    rw [onway_quiet hq] at this
    simpa [Ctx.done] using this⟩

-- an untouched context next to a killed one stays open
example : (((sys Variant.fixed ⟨1, [.plain, .plain]⟩).run
    [.call 0 (.op .kill 0), .run 0, .run 0, .run 0, .run 0]).ctxs.map Ctx.done) = [true, false] := by decide +kernel

/-! ### 4. Children of a finished parent -/

/-- No wait-group counter is ever negative, whatever the interleaving of `NewChild` (whose
`AddTasks` tests `IsDone` and then adds), of the parent's end, and of the children's `Close`. -/
theorem parent_counter_nonneg (cfg : Config) (sched : List Label) (p : Nat) (sc : Scope)
    (hp : ((sys Variant.fixed cfg).run sched).scopes[p]? = some sc) : 0 ≤ sc.wg := by
  have := (run_allInv cfg sched).wg p
  rw [pending, wgOf_some hp] at this
  omega

theorem no_negative_counter_panic (cfg : Config) (sched : List Label) :
    ((sys Variant.fixed cfg).run sched).negativeCounter = false := by
  simp only [State.negativeCounter, List.any_eq_false]
  intro sc hsc
  obtain ⟨p, hp⟩ := List.mem_iff_getElem?.1 hsc
  have := parent_counter_nonneg cfg sched p sc hp
  simp; omega

-- the parent ends between the IsDone test and wg.Add(1) of a racing NewChild; a second child is
-- created after the end; both are closed: the counter returns to 0
example : (((sys Variant.fixed ⟨3, [.plain]⟩).run
    [.call 0 (.newChild 0 none), .call 1 (.op .stop 0), .run 1, .run 0, .run 0,
     .call 2 (.newChild 0 none), .run 2, .call 0 (.close 1), .call 2 (.close 2)]).scopes.map
      (fun sc => (sc.wg, sc.parent))) = [(0, none), (0, some 0), (0, none)] := by decide +kernel

/-! ### 5. Isolated contexts: what the propagation goroutine may do -/

/-- A `Kill` by the propagation goroutine happened only if the context is isolated and its parent
is done and holds an error (so an isolated context never gains a `Canceled` otherwise). -/
theorem propagated_kill_justified (cfg : Config) (sched : List Label) (c : Nat) (x : Ctx)
    (hx : ((sys Variant.fixed cfg).run sched).ctxs[c]? = some x) (hk : 0 < x.propKills) :
    ∃ p px, x.kind = .isolated p ∧ ((sys Variant.fixed cfg).run sched).ctxs[p]? = some px ∧
      px.done = true ∧ px.errors ≠ [] := by
  obtain ⟨p, hkind, hcl, herr⟩ := (run_allInv cfg sched).prop.killJust c x hx hk
  obtain ⟨px, hp, hd⟩ := done_of_closesOf hcl
  exact ⟨p, px, hkind, hp, hd, (hasErr_some hp).1 herr⟩

/-- A `Stop` by the propagation goroutine happened only if the parent is done. -/
theorem propagated_stop_justified (cfg : Config) (sched : List Label) (c : Nat) (x : Ctx)
    (hx : ((sys Variant.fixed cfg).run sched).ctxs[c]? = some x) (hk : 0 < x.propStops) :
    ∃ p px, x.kind = .isolated p ∧ ((sys Variant.fixed cfg).run sched).ctxs[p]? = some px ∧ px.done = true := by
  obtain ⟨p, hkind, hcl⟩ := (run_allInv cfg sched).prop.stopJust c x hx hk
  obtain ⟨px, hp, hd⟩ := done_of_closesOf hcl
  exact ⟨p, px, hkind, hp, hd⟩

/-- The propagation goroutine acts at most once (one `Kill` or one `Stop`, never both). -/
theorem propagation_acts_once (cfg : Config) (sched : List Label) (c : Nat) (x : Ctx)
    (hx : ((sys Variant.fixed cfg).run sched).ctxs[c]? = some x) : x.propKills + x.propStops ≤ 1 := by
  have := (run_allInv cfg sched).prop.once c x hx
  omega

-- parent 0 fails, isolated child 1 is killed by propagation (gains Canceled), the parent is untouched
example : (((sys Variant.fixed ⟨1, [.plain, .isolated 0]⟩).run
    [.call 0 (.op (.append [9]) 0), .run 0, .run 0, .run 0, .run 0,
     .run 1, .run 1, .run 1, .run 1, .run 1, .run 1, .run 1]).ctxs.map
      (fun x => (x.errors, x.closes, x.propKills))) = [([9], 1, 0), ([canceled], 1, 1)] := by decide +kernel

/-! ### 6. The history monitor used by the stress harness is sound -/

/-- For every reachable state and every context nobody is operating on, the history the harness
records (how many tagged errors were appended, how many Kill and Stop calls were made, what the
accessors answer, what the parent looks like) is accepted by `conforms`: a rejected history
contradicts theorems 1–5. -/
theorem monitor_sound (cfg : Config) (sched : List Label) (c : Nat) (x : Ctx)
    (hx : ((sys Variant.fixed cfg).run sched).ctxs[c]? = some x)
    (hq : ((sys Variant.fixed cfg).run sched).quiet c) :
    conforms (histOf ((sys Variant.fixed cfg).run sched) x) = true := by
  have f := fun q => (all_errors_kept cfg sched c x hx hq).countP_eq q
  have f1 := f (fun e => !isCanceled e)
  have f2 := f isCanceled
  have hk := (run_allInv cfg sched).pk c x hx
  have h1 := propagation_acts_once cfg sched c x hx
  have hne : x.errors ≠ [] ↔ 0 < x.errors.countP (fun e => !isCanceled e) + x.errors.countP isCanceled := by
    have := List.length_eq_countP_add_countP isCanceled (l := x.errors)
    simp only [Bool.not_eq_true, Bool.decide_eq_false] at this
    rw [Nat.add_comm, ← this]; cases x.errors <;> simp
  have hdone := done_iff_stopped_or_error cfg sched c x hx hq
  simp only [hne, Ctx.done, decide_eq_true_eq] at hdone
  rw [conforms_iff]
  simp only [histOf, Ctx.done, decide_eq_true_eq]
  refine ⟨trivial, f1, ?_, ?_, fun hp => hdone.2 (by omega), fun hd => ?_⟩
  · -- Canceled entries: the callers' Kills, plus at most one justified propagated Kill
    by_cases hz : x.propKills = 0
    · left; omega
    · right
      obtain ⟨p, px, hkind, hp, hpd, hpe⟩ := propagated_kill_justified cfg sched c x hx (by omega)
      simp only [hkind, hp]
      exact ⟨trivial, by simpa [Ctx.done] using hpd, by cases hl : px.errors <;> simp_all, by omega⟩
  · rw [← hne]; cases x.errors <;> simp
  · rcases hdone.1 hd with h' | h' | h'
    · left; omega
    · right
      obtain ⟨p, px, hkind, hp, hpd⟩ := propagated_stop_justified cfg sched c x hx h'
      simp only [hkind, hp]
      exact ⟨trivial, by simpa [Ctx.done] using hpd⟩
    · left; omega

-- the monitor is not trivially true: a lost error, an unexplained Canceled, a spurious done are rejected
example : conforms
    { isolated := false, appended := 5, kills := 2, stops := 1, parentDone := false, parentErr := false,
      lenTagged := 4, lenCancel := 2, errNonNil := true, done := true, panics := 0 } = false := by decide +kernel
example : conforms
    { isolated := false, appended := 0, kills := 0, stops := 0, parentDone := true, parentErr := true,
      lenTagged := 0, lenCancel := 1, errNonNil := true, done := true, panics := 0 } = false := by decide +kernel
example : conforms
    { isolated := true, appended := 0, kills := 0, stops := 0, parentDone := false, parentErr := false,
      lenTagged := 0, lenCancel := 0, errNonNil := false, done := true, panics := 0 } = false := by decide +kernel

/-! ### 7. The tree before the fix commits, and two mutants -/

/-- `Stop` as check-then-close (`if !IsDone() { close(done) }`): two goroutines, four steps, and
the channel is closed twice. -/
theorem stop_race_reachable :
    ∃ sched : List Label, sched.length = 4 ∧
      ((sys Variant.pinned ⟨2, [.plain]⟩).run sched).doubleClose = true :=
  ⟨[.call 0 (.op .stop 0), .call 1 (.op .stop 0), .run 0, .run 1], rfl, by decide +kernel⟩

/-- The same schedule on the repaired system closes once. -/
theorem stop_race_repaired :
    ((sys Variant.fixed ⟨2, [.plain]⟩).run
      [.call 0 (.op .stop 0), .call 1 (.op .stop 0), .run 0, .run 1]).ctxs.map Ctx.closes = [1] := by decide +kernel

/-- `NewChild` that ignores the refusal of `AddTasks`: one goroutine, stop the parent, create a
child, close it — the parent's counter is −1. -/
theorem child_of_done_parent_negative_reachable :
    ∃ sched : List Label,
      ((sys Variant.pinned ⟨1, [.plain]⟩).run sched).negativeCounter = true :=
  ⟨[.call 0 (.op .stop 0), .run 0, .call 0 (.newChild 0 none), .run 0, .call 0 (.close 1)], by decide +kernel⟩

/-- Mutant: `AppendError` without `errorsMU` loses an error (two appends have returned to the
point of calling Stop, one error is held). -/
theorem unlocked_append_loses_error :
    ∃ sched : List Label,
      (((sys Variant.unlockedAppend ⟨2, [.plain]⟩).run sched).ctxs.map
        (fun x => (x.requested.length, x.errors.length))) = [(2, 1)] ∧
      ((sys Variant.unlockedAppend ⟨2, [.plain]⟩).run sched).threads = [.stopEnter 0, .stopEnter 0] :=
  ⟨[.call 0 (.op (.append [7]) 0), .call 1 (.op (.append [8]) 0), .run 0, .run 1, .run 0, .run 1], by decide +kernel⟩

/-- Mutant: a propagation goroutine that acts on the parent instead of its own context gives a
plain context a `Canceled` that no caller asked for (`propagated_kill_justified` fails), and the
isolated context never learns of its parent's end. -/
theorem prop_to_parent_breaks_containment :
    ∃ sched : List Label,
      (((sys Variant.propToParent ⟨1, [.plain, .isolated 0]⟩).run sched).ctxs.map
        (fun x => (x.kind, x.errors, x.propKills, x.done))) =
        [(.plain, [9, canceled], 1, true), (.isolated 0, [], 0, false)] :=
  ⟨[.call 0 (.op (.append [9]) 0), .run 0, .run 0, .run 0, .run 0,
    .run 1, .run 1, .run 1, .run 1, .run 1], by decide +kernel⟩

/-! ### 8. Publication order: the error is recorded before the done signal fires

"Every appended error is … reported by the scope's error accessors", read at the moment the done signal is
observed: whoever learns from `Done()` / `IsDone()` that a scope nobody stopped has ended finds the error, and the
watcher goroutine of an isolated child — which is such an observer — therefore kills the child, never stops it. -/

/-- In the full system, at any moment (quiet or not): a done context on which nobody called `Stop` holds an error. -/
theorem done_by_error_shows_error (cfg : Config) (sched : List Label) (c : Nat) (x : Ctx)
    (hx : ((sys Variant.fixed cfg).run sched).ctxs[c]? = some x) (hd : x.done = true)
    (h1 : x.stopCalls = 0) (h2 : x.propStops = 0) : x.errors ≠ [] := by
  rcases done_only_if_stopped_or_error cfg sched c x hx hd with h | h | h
  · omega
  · omega
  · exact h

example : (((sys Variant.fixed ⟨1, [.plain]⟩).run
    [.call 0 (.op .kill 0), .run 0, .run 0, .run 0, .run 0]).ctxs[0]?.map
      (fun x => (x.done, x.stopCalls, x.propStops, x.errors))) = some (true, 0, 0, [canceled]) := by decide +kernel

/-- The same clause in the two-step system `Goat/Model/ScopePublish.lean` (`AppendError` = record; close), where
the swapped order can be stated too.  Any number of goroutines — appenders, observers blocked on `Done()`,
watchers of isolated children of any depth — any schedule: an observer that was woken by `Done()` and then read
`Err()` has read a non-nil error. -/
theorem error_published_before_done (pcs : Nat → ScopePublish.PC) (h : ∀ t, (pcs t).initial)
    (sched : List Nat) (t c : Nat) (b : Bool)
    (hsaw : ((ScopePublish.sys .recordThenClose pcs).run sched).pcs t = .obsSaw c b) : b = true := by
  simpa [hsaw, ScopePublish.Knows] using (ScopePublish.inv_run pcs h sched).knows t

/-- Every closed context holds an error — the isolated children too: one that has ended, has ended killed. -/
theorem done_context_holds_error (pcs : Nat → ScopePublish.PC) (h : ∀ t, (pcs t).initial)
    (sched : List Nat) (c : Nat)
    (hc : ((ScopePublish.sys .recordThenClose pcs).run sched).closed c = true) :
    0 < ((ScopePublish.sys .recordThenClose pcs).run sched).errs c :=
  (ScopePublish.inv_run pcs h sched).pub c hc

/-- No watcher of an isolated child ever chooses `Stop()`: when it wakes up the parent's error is there. -/
theorem isolated_child_never_stopped (pcs : Nat → ScopePublish.PC) (h : ∀ t, (pcs t).initial)
    (sched : List Nat) (t c : Nat) :
    ((ScopePublish.sys .recordThenClose pcs).run sched).pcs t ≠ .stopStart c := fun ht => by
  simpa [ht, ScopePublish.Knows] using (ScopePublish.inv_run pcs h sched).knows t

-- goroutine 0 appends to context 0, 1 waits on it, 2 is the watcher of the isolated child 1, 3 waits on the child:
-- the hypotheses are satisfiable, both observers read an error, the child holds its Canceled
example : ∀ t, ((ScopePublish.ofList [.appStart 0, .obsWait 0, .watchWait 0 1, .obsWait 1]) t).initial := by
  intro t
  match t with
  | 0 | 1 | 2 | 3 => trivial
  | _ + 4 => trivial

example :
    let s := (ScopePublish.sys .recordThenClose
      (ScopePublish.ofList [.appStart 0, .obsWait 0, .watchWait 0 1, .obsWait 1])).run [0, 0, 1, 1, 2, 2, 2, 2, 3, 3]
    s.pcs 1 = .obsSaw 0 true ∧ s.pcs 3 = .obsSaw 1 true ∧ s.closed 1 = true ∧ s.errs 1 = 1 := by decide +kernel

/-- The swapped order (close, then record) is refuted by a schedule of nine steps: the observer of the failed
context reads `Err() == nil`, the watcher stops the isolated child instead of killing it, and the child stays done
without an error although its parent holds one. -/
theorem close_first_hides_error :
    ∃ sched : List Nat,
      let s := (ScopePublish.sys .closeThenRecord
        (ScopePublish.ofList [.appStart 0, .obsWait 0, .watchWait 0 1, .obsWait 1])).run sched
      s.pcs 1 = .obsSaw 0 false ∧ s.pcs 3 = .obsSaw 1 false ∧
      s.closed 1 = true ∧ s.errs 1 = 0 ∧ s.errs 0 = 1 ∧ s.pcs 0 = .idle ∧ s.pcs 2 = .idle :=
  ⟨[0, 1, 1, 2, 2, 2, 0, 3, 3], by decide +kernel⟩

end Goat.C12
