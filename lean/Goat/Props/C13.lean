/-
Property C13 — "Data scope: child overlays parent, locked sections are atomic", stated over the
executable model `Goat/Model/DataScope.lean` of `/repo/app/scope/datascope/{data,child,locker}.go`.

  "A child data scope returns its own value for a key when it has one and otherwise the parent's
   current value, and setting a value in the child never changes the parent.  Between taking a
   scope's data lock and committing it the holder has exclusive access: no other goroutine's read,
   write or lock on that scope takes effect in between, so read-modify-write sequences done under
   the lock are never lost."

Vocabulary (model):
  `Scopes`            heap of scopes; a child names its parent by index, `WF`: parents are older
  `value ss s k`      `scope.Value(k)`: the walk up the chain;  `dataSet ss s k v`: `SetValue`
  `chain ss s`        the maps consulted, child first (any length);  `firstHit`: first entry found
  `anc ss j`          `j` and its ancestors
  `run st (.req r)`   the request interpreter the model driver executes (differentially tested)
  `sys init`          the transition system: one step = one critical section of the Go code;
                      a schedule is any `List Nat` of thread indices (disabled choices are skipped)
  `holds st t s`      thread `t` is between its `LockData` on scope `s` and the matching `Commit`
  `touches st i`      the scope the next action of thread `i` reads, writes or locks
  `initSt ss n p others f`  `n` threads running `p` next to threads running the programs `others`
  `incProg s c k`     `k` times: lock s; v := locker.Value c; locker.SetValue c (v+1); Commit
  `getOrCreate s c`   lock s; v := locker.Value c; if v == nil { v = new; locker.SetValue c v }; Commit
  `isNoise s c p`     p consists of plain SetValue (not of key c on scope s) / Value / Keys calls
  `isKeyNoise c p`    p consists of plain SetValue of keys other than c / Value / Keys calls
  `AllFree ss`        no scope's mutex is write-held (`Proofs/DataScope`)
  `pendTotal ths`     `linc` instructions the threads' programs still hold (`Proofs/DataScopeCounter`)
  `stMeasure len st`  work left: per thread, instructions × (len+1) + levels of the walk in progress
                      (`Proofs/DataScopeTerm`)
  `Svc`, `SvcOp`, `svcRun`   the service units on a tree (Model/DataScopeSvc): get-or-create `goc n k`, `bind n k m`
                      (BindScope), `clear n k` (Clear), plain `set`/`get`, locked sections `sect n ws`; instances are
                      numbered by `fresh`;  `resolve σ n k`: the instance a lookup on node `n` gives;
                      `ownSlot σ n k`: absent / cleared (`some none`) / `some (some inst)`;
                      `op.touches n k`: the op may write the own slot `(n, k)`
-/
import Goat.Proofs.DataScopeCreate
import Goat.Proofs.DataScopeProgress
import Goat.Proofs.DataScopeSvc
import Goat.Tie.C13.Idiom
import Goat.Tie.C13.Expected

namespace Goat.C13

open Goat Goat.DataScope Goat.LTS

/-! ### 1. The overlay (sequential) -/

/-- A scope answers with its own entry when it has one (a stored nil counts) and otherwise with
whatever its parent answers *now*; a root answers nil. -/
theorem overlay_get (ss : Scopes) (hwf : WF ss) (c : Nat) (sc : Scope) (hc : ss[c]? = some sc) (k : Key) :
    value ss c k =
      match mget sc.data k with
      | some v => v
      | none =>
        match sc.parent with
        | some p => value ss p k
        | none => none := by
  rw [value_unfold hwf, readLevel_of_scope hc]
  cases mget sc.data k <;> cases sc.parent <;> rfl

/-- The same for chains of any depth at once: the answer is the first entry found along the chain
of maps from the scope up to its root (induction on the chain). -/
theorem overlay_get_chain (ss : Scopes) (s : Nat) (k : Key) : value ss s k = firstHit (chain ss s) k :=
  valueF_eq_firstHit _ _ _

/-- "the parent's CURRENT value": a child without an own entry follows a later write to its parent. -/
theorem overlay_tracks_parent (ss : Scopes) (hwf : WF ss) (c p : Nat) (sc : Scope) (hc : ss[c]? = some sc)
    (hp : sc.parent = some p) (k : Key) (hown : mget sc.data k = none) (v : Val) :
    value (dataSet ss p k v) c k = v := by
  have hlt : p < c := hwf c sc hc p hp
  rw [overlay_get _ (WF_dataSet hwf p k v) c sc ((dataSet_getElem?_ne k v (by omega)).trans hc) k, hown, hp]
  exact value_dataSet_same p k v (Nat.lt_trans hlt (lt_of_getElem? hc))

example :
    let ss : Scopes := [⟨none, [(1, some 5)], false⟩, ⟨some 0, [], false⟩, ⟨some 1, [(2, none)], false⟩]
    value ss 2 1 = some 5 ∧ value ss 2 2 = none ∧ value (dataSet ss 0 1 (some 7)) 2 1 = some 7 ∧
      value (dataSet ss 0 2 (some 7)) 2 2 = none := by decide +kernel

/-- Setting a value in a scope changes that scope only: every other scope record is the same, and
every scope whose chain does not pass through it — its parent, all its ancestors, its siblings —
answers every `Value` as before.  (A locker writes through `dataSet` on its own scope as well.) -/
theorem child_set_frames_parent (ss : Scopes) (s : Nat) (k : Key) (v : Val) :
    (∀ j, j ≠ s → (dataSet ss s k v)[j]? = ss[j]?) ∧
    (∀ j k', s ∉ anc ss j → value (dataSet ss s k v) j k' = value ss j k') :=
  ⟨fun _ h => dataSet_getElem?_ne k v h, fun j k' h => value_dataSet_frame ss s j k k' v h⟩

/-- in particular the parent (and every older scope) is unaffected: same answers, same keys -/
theorem child_set_frames_parent_lt (ss : Scopes) (hwf : WF ss) (s j : Nat) (hj : j < s) (k k' : Key) (v : Val) :
    value (dataSet ss s k v) j k' = value ss j k' ∧ dataKeys (dataSet ss s k v) j = dataKeys ss j := by
  refine ⟨value_dataSet_lt hwf s j k k' v hj, ?_⟩
  simp [dataKeys, dataSet_getElem?_ne k v (Nat.ne_of_lt hj)]

/-- and the child itself shows the new value for that key and its old answers for the others -/
theorem child_set_get (ss : Scopes) (hwf : WF ss) (s : Nat) (hs : s < ss.length) (k : Key) (v : Val) :
    value (dataSet ss s k v) s k = v ∧ ∀ k', k' ≠ k → value (dataSet ss s k v) s k' = value ss s k' :=
  ⟨value_dataSet_same s k v hs, fun k' h => value_dataSet_other_key ss s s k k' v h⟩

example :
    let ss : Scopes := [⟨none, [(1, some 5)], false⟩, ⟨some 0, [], false⟩, ⟨some 0, [], false⟩]
    1 ∉ anc ss 0 ∧ 1 ∉ anc ss 2 ∧ value (dataSet ss 1 1 (some 9)) 1 1 = some 9 ∧
      value (dataSet ss 1 1 (some 9)) 0 1 = some 5 ∧ value (dataSet ss 1 1 (some 9)) 2 1 = some 5 := by decide +kernel

/-- The functions above are what the request interpreter (the code the model driver runs against
the Go implementation) computes when no lock is held. -/
theorem seq_interpreter (st : Store) (hwf : WF st.scopes) (hfree : AllFree st.scopes) (s : Nat)
    (hs : s < st.scopes.length) (k : Key) (v : Val) :
    run st (.req (.get s k)) = (st, .inl (.val (value st.scopes s k))) ∧
    run st (.req (.set s k v)) = ({ st with scopes := dataSet st.scopes s k v }, .inl .ok) :=
  ⟨run_get hwf hfree s k hs, run_set hfree s k v hs⟩

/-- ... and through a locker: `LockData` on a free scope hands out a locker on that scope's own map;
inside the section the locker's `Value` is the same overlay (own entry, else the parent's current
value), its `SetValue` is a write to that scope alone (so `child_set_frames_parent` applies), and
`Commit` releases the scope. -/
theorem locked_section_sequential (st : Store) (hwf : WF st.scopes) (s l : Nat) (sc : Scope)
    (hsc : st.scopes[s]? = some sc)
    (hlk : st.lockers[l]? = some { target := some s, parent := sc.parent, unlock := .scope s, held := false })
    (hheld : sc.held = true)
    (hothers : ∀ (i : Nat) (x : Scope), i ≠ s → st.scopes[i]? = some x → x.held = false) (k : Key) (v : Val) :
    run st (.req (.lget l k)) = (st, .inl (.val (value st.scopes s k))) ∧
    run st (.req (.lset l k v)) = ({ st with scopes := dataSet st.scopes s k v }, .inl .ok) ∧
    (run st (.req (.commit l))).2 = .inl .ok ∧
    (run st (.req (.commit l))).1.scopes = setHeld st.scopes s false := by
  have h : Locked st s l sc := ⟨hsc, hheld, hlk, hothers⟩
  obtain ⟨st', hc, hs'⟩ := run_commit h
  exact ⟨run_lget hwf h k, run_lset h k v, by rw [hc], by rw [hc]; exact hs'⟩

-- such a store is what `LockData` produces from an unlocked one
example :
    let st : Store := { scopes := [⟨none, [(1, some 5)], false⟩, ⟨some 0, [], false⟩], lockers := [] }
    run st (.req (.lock 1)) =
      ({ scopes := [⟨none, [(1, some 5)], false⟩, ⟨some 0, [], true⟩],
         lockers := [{ target := some 1, parent := some 0, unlock := .scope 1, held := false }] }, .inl (.locker 0)) := by
  decide +kernel

/-! ### 2. Locked sections (all schedules, any number of threads, any programs) -/

/-- Between the `LockData` of thread `o` on scope `s` and its `Commit`, no action of another
thread that reads, writes, lists or locks `s` occurs — in every schedule of every set of thread
programs (threads start without lockers; scopes, chains, programs are arbitrary). -/
theorem lock_exclusive (init : St) (h0 : ∀ th ∈ init.threads, th.lks = []) (sched : List Nat) :
    ∀ p ∈ (sys init).fired sched, ∀ (o s : Nat), holds p.1 o s = true → o ≠ p.2 → touches p.1 p.2 ≠ some s := by
  intro p hp o s hold hne
  obtain ⟨hinv, t, hstep⟩ := LockInv_fired h0 sched hp
  exact (no_touch_while_held hinv hstep hold hne).1

/-- consequently the held scope — its map and its mutex — is exactly as the holder left it after
every step of every other thread, and there is never a second holder. -/
theorem lock_exclusive_frame (init : St) (h0 : ∀ th ∈ init.threads, th.lks = []) (sched : List Nat) :
    ∀ p ∈ (sys init).fired sched, ∀ (o s : Nat), holds p.1 o s = true →
      (∀ o', holds p.1 o' s = true → o' = o) ∧ isHeld p.1.scopes s = true ∧
      (o ≠ p.2 → ∀ t, step p.1 p.2 = some t → t.scopes[s]? = p.1.scopes[s]?) := by
  intro p hp o s hold
  have hinv := (LockInv_fired h0 sched hp).1
  have hmem := holds_iff.mp hold
  exact ⟨fun o' hold' => hinv.uniq o' o s (holds_iff.mp hold') hmem, hinv.held o s hmem,
    fun hne t hstep => (no_touch_while_held hinv hstep hold hne).2⟩

-- two threads contend for scope 1 (a child); thread 2 issues plain traffic on it
example :
    let init := initSt [⟨none, [], false⟩, ⟨some 0, [], false⟩] 2 [.lock 1, .lset 7 (some 1), .lget 7, .commit]
      [[.set 1 7 (some 9), .get 1 7]] 0
    (∀ th ∈ init.threads, th.lks = []) ∧
      ((sys init).fired [0, 1, 2, 0, 0, 2, 0, 2, 1, 2]).map (·.2) = [0, 0, 0, 0, 2, 1] := by decide +kernel

-- the lock is per scope (a child's `LockData` takes the child's mutex only): while thread 0 holds the
-- child (scope 1), the plain write of thread 1 to the parent (scope 0) goes through, and the holder's
-- fall-back read then sees the parent's current value
example :
    let init := initSt [⟨none, [(7, some 5)], false⟩, ⟨some 0, [], false⟩] 1 [.lock 1, .lget 7, .commit]
      [[.set 0 7 (some 6)]] 0
    ((sys init).fired [0, 1, 0, 0]).map (·.2) = [0, 1, 0, 0] ∧
      ((sys init).run [0, 1, 0, 0]).threads.map (·.reg) = [some 6, none] := by decide +kernel

/-! ### 3. No lost update -/

/-- `n` threads each perform `k` locked read-modify-write increments of key `c` on scope `s` (any
scope of any heap: root or child at any depth), interleaved in any way with any number of threads
issuing plain `SetValue` (not of that very entry) / `Value` / `Keys` on any scopes.  Whenever the
incrementing threads have finished, the counter has grown by exactly `n * k`. -/
theorem no_lost_update (ss : Scopes) (s : Nat) (c : Key) (v0 n k fresh : Nat) (others : List (List Instr))
    (hv : dataGet ss s c = some (some v0)) (hn : ∀ p ∈ others, isNoise s c p = true) (sched : List Nat) :
    let fin := (sys (initSt ss n (incProg s c k) others fresh)).run sched
    (∀ (i : Nat) (th : Thread), i < n → fin.threads[i]? = some th → th.prog = []) →
      dataGet fin.scopes s c = some (some (v0 + n * k)) := by
  intro fin hdone
  exact CInv_final (CInv_run hv hn sched) fun i th hi => hdone i th (of_decide_eq_true hi)

/-- and at every moment of every schedule: counter + increments still to be performed = `v0 + n*k`
(no increment is ever lost or duplicated on the way). -/
theorem no_lost_update_invariant (ss : Scopes) (s : Nat) (c : Key) (v0 n k fresh : Nat) (others : List (List Instr))
    (hv : dataGet ss s c = some (some v0)) (hn : ∀ p ∈ others, isNoise s c p = true) (sched : List Nat) :
    let st := (sys (initSt ss n (incProg s c k) others fresh)).run sched
    ∃ v, dataGet st.scopes s c = some (some v) ∧ v + pendTotal st.threads = v0 + n * k :=
  (CInv_run hv hn sched).count

/-- "final" is always reached: in the same scenario (well-formed heap, no lock taken at the start,
the plain traffic names existing scopes) the locked sections never deadlock — while some thread has
work left some thread can move — and no schedule performs more than `stMeasure` actions, so every
execution that keeps scheduling enabled threads ends with all threads finished and the count above. -/
theorem no_lost_update_progress (ss : Scopes) (hwf : WF ss) (hfree : AllFree ss) (s : Nat) (c : Key)
    (v0 n k fresh : Nat) (others : List (List Instr))
    (hv : dataGet ss s c = some (some v0)) (hn : ∀ p ∈ others, isNoise s c p = true)
    (hvalid : ∀ p ∈ others, progValid ss.length p = true) (sched : List Nat) :
    let init := initSt ss n (incProg s c k) others fresh
    (allDone ((sys init).run sched) = false → ∃ i t, step ((sys init).run sched) i = some t) ∧
    ((sys init).fired sched).length ≤ stMeasure ss.length init := by
  intro init
  refine ⟨counter_enabled (PInv_run hwf hfree hv hn hvalid sched), ?_⟩
  exact fired_bounded sched init (PInv_init hwf hfree hv hn hvalid).tinv

example :
    let ss : Scopes := [⟨none, [(3, some 0)], false⟩, ⟨some 0, [(3, some 0)], false⟩]
    WF ss ∧ AllFree ss ∧ progValid ss.length [.set 1 4 (some 1), .set 0 3 (some 8), .get 1 3] = true ∧
      stMeasure ss.length (initSt ss 2 (incProg 1 3 2) [[.set 1 4 (some 1), .set 0 3 (some 8), .get 1 3]] 0) = 57 := by
  refine ⟨WF_newChild (WF_newRoot WF_nil _) 0 (by decide) _, ?_, by decide, by decide⟩
  intro i sc hi
  have := List.mem_of_getElem? hi
  simp only [List.mem_cons, List.not_mem_nil, or_false] at this
  rcases this with rfl | rfl <;> rfl

-- 2 threads × 2 increments on a child scope, a third thread writing another key of the same scope
-- and the same key of the parent: one complete schedule, final value 4
example :
    let init := initSt [⟨none, [(3, some 0)], false⟩, ⟨some 0, [(3, some 0)], false⟩] 2 (incProg 1 3 2)
      [[.set 1 4 (some 1), .set 0 3 (some 8), .get 1 3]] 0
    let fin := (sys init).run [0, 1, 2, 0, 2, 0, 1, 0, 1, 1, 2, 1, 1, 0, 0, 0, 0, 1, 1, 1, 1, 2, 2, 2]
    allDone fin = true ∧ dataGet fin.scopes 1 3 = some (some 4) ∧ dataGet fin.scopes 0 3 = some (some 8) := by
  decide +kernel

/-! ### 4. Get-or-create -/

/-- The idiom of `tasks.Unit.FromScope`, `envs.Unit.Envs`, `waits.WaitManager.ForScope`: `n` callers
on scope `s` (root or child at any depth of any well-formed heap), interleaved in any way with plain
traffic that does not write the service's key.  Every caller that has returned holds the same,
non-nil instance — the one the scope answers with —, and at most one instance was ever created. -/
theorem get_or_create_once (ss : Scopes) (hwf : WF ss) (s : Nat) (hs : s < ss.length) (c : Key) (n fresh : Nat)
    (others : List (List Instr)) (hn : ∀ p ∈ others, isKeyNoise c p = true) (sched : List Nat) :
    let fin := (sys (initSt ss n (getOrCreate s c) others fresh)).run sched
    (∀ (i j : Nat) (a b : Thread), i < n → j < n → fin.threads[i]? = some a → fin.threads[j]? = some b →
        a.prog = [] → b.prog = [] → a.reg = b.reg ∧ a.reg ≠ none ∧ a.reg = value fin.scopes s c) ∧
    fin.fresh ≤ fresh + 1 := by
  intro fin
  have hinv : GInv s c (fun i => decide (i < n)) fresh fin := GInv_run hwf hs hn sched
  refine ⟨?_, ?_⟩
  · intro i j a b hi hj ha hb hpa hpb
    have h1 := GInv_done hinv (decide_eq_true hi) ha hpa
    have h2 := GInv_done hinv (decide_eq_true hj) hb hpb
    exact ⟨by rw [h1.1, h2.1], h1.2, h1.1⟩
  · rcases hinv.once with h | ⟨h, _⟩ <;> omega

-- the hypotheses are satisfiable: a chain root → child → grandchild as built by `New`/`NewChild`
example :
    let ss := newChild (newChild (newRoot [] []) 0 []) 1 []
    WF ss ∧ 2 < ss.length ∧ isKeyNoise 5 [.set 1 6 (some 1), .get 2 5] = true ∧
      ss = [⟨none, [], false⟩, ⟨some 0, [], false⟩, ⟨some 1, [], false⟩] :=
  ⟨WF_newChild (WF_newChild (WF_newRoot WF_nil []) 0 (by decide) []) 1 (by decide) [], by decide, by decide, by decide⟩

-- three callers on a grandchild scope whose chain has no instance yet, one thread of plain traffic
example :
    let init := initSt [⟨none, [], false⟩, ⟨some 0, [], false⟩, ⟨some 1, [], false⟩] 3 (getOrCreate 2 5)
      [[.set 1 6 (some 1), .get 2 5]] 100
    let fin := (sys init).run [1, 0, 1, 1, 2, 1, 3, 1, 1, 0, 3, 0, 0, 0, 0, 3, 2, 2, 2, 2, 2, 2]
    allDone fin = true ∧ fin.threads.map (·.reg) = [some 100, some 100, some 100, some 100] ∧ fin.fresh = 101 := by
  decide +kernel

-- the parent already has an instance: the child's callers reuse it, nothing is created
example :
    let init := initSt [⟨none, [(5, some 42)], false⟩, ⟨some 0, [], false⟩] 2 (getOrCreate 1 5) [] 100
    let fin := (sys init).run [0, 0, 0, 1, 0, 0, 1, 1, 1, 1, 1]
    allDone fin = true ∧ fin.threads.map (·.reg) = [some 42, some 42] ∧ fin.fresh = 100 := by
  decide +kernel

/-! ### 5. Get-or-create, for the code shape of the services

Vocabulary (`Goat/Tie/C13/{Tok,Idiom,Expected,Check}.lean`):
  `ITok`                    the events of a function that takes a data locker, as `datascope facts` extracts
                            them from the Go source on every run (lock, value, nil test, create, setValue,
                            commit / defer commit, every return with its operands, any use of the scope itself)
  `runSkeleton s c sk`      the model program such a skeleton denotes on scope `s` with service key `c`;
                            `none` unless the key is read under the lock, that read is what is tested, the
                            created instance is what is stored under the same key and returned, the lock is
                            released exactly once on every path and the scope itself is not used
  `skeletonProgs s c sks`   the programs of a list of skeletons, one goroutine each
  `initStOf ss ps others f` goroutines running the programs `ps` next to goroutines running `others`
  `Expected.idiomShapes`    the three spellings found in /repo; `Goat.Tie.C13.tie_*_get_or_create` say that
                            the skeletons extracted from `tasks.Unit.FromScope`, `envs.Unit.Envs`,
                            `waits.WaitManager.ForScope` are these, `tie_idiom_users` that no other function
                            takes a data locker, `tie_services_run` that the extracted skeletons are read by
                            `runSkeleton` (the hypothesis `hsk` below for the repository's code) -/

open Goat.Tie.C13 in
/-- Any number of goroutines, each running ANY skeleton the interpreter reads (in particular any mix of
the three services' code shapes), on the same scope `s` (root or child at any depth of any well-formed
heap) with the same key, interleaved in any way with plain traffic that does not write that key: every
caller that has returned holds the same, non-nil instance — the one the scope answers with —, and
`create` ran at most once. -/
theorem get_or_create_once_services (ss : Scopes) (hwf : WF ss) (s : Nat) (hs : s < ss.length) (c : Key) (fresh : Nat)
    (sks : List (List ITok)) (hsk : ∀ sk ∈ sks, runSkeleton s c sk ≠ none)
    (others : List (List Instr)) (hn : ∀ p ∈ others, isKeyNoise c p = true) (sched : List Nat) :
    let fin := (sys (initStOf ss (skeletonProgs s c sks) others fresh)).run sched
    (∀ (i j : Nat) (a b : Thread), i < sks.length → j < sks.length → fin.threads[i]? = some a → fin.threads[j]? = some b →
        a.prog = [] → b.prog = [] → a.reg = b.reg ∧ a.reg ≠ none ∧ a.reg = value fin.scopes s c) ∧
    fin.fresh ≤ fresh + 1 := by
  intro fin
  have e : initStOf ss (skeletonProgs s c sks) others fresh = initSt ss sks.length (getOrCreate s c) others fresh := by
    rw [skeletonProgs_eq s c sks hsk, initStOf_replicate]
  simp only [fin, e]
  exact get_or_create_once ss hwf s hs c sks.length fresh others hn sched

-- the hypothesis holds for the spellings of the three services (any scope, any key: `tie_idiom_shapes_run`)
example : ∀ sk ∈ Goat.Tie.C13.Expected.idiomShapes, Goat.Tie.C13.runSkeleton 2 5 sk ≠ none := by decide +kernel

-- four callers on a grandchild scope, one per spelling and a second `FromScope`-shaped one, one thread of
-- plain traffic: one complete schedule, one instance
example :
    let sks := Goat.Tie.C13.Expected.idiomShapes ++ [Goat.Tie.C13.Expected.getOrCreateDeferred]
    let init := Goat.Tie.C13.initStOf [⟨none, [], false⟩, ⟨some 0, [], false⟩, ⟨some 1, [], false⟩]
      (Goat.Tie.C13.skeletonProgs 2 5 sks) [[.set 1 6 (some 1), .get 2 5]] 100
    let fin := (sys init).run [1, 0, 1, 1, 2, 1, 4, 1, 1, 0, 4, 0, 0, 0, 0, 4, 2, 2, 2, 2, 2, 2, 3, 3, 3, 3, 3, 3]
    allDone fin = true ∧ fin.threads.map (·.reg) = [some 100, some 100, some 100, some 100, some 100] ∧
      fin.fresh = 101 := by
  decide +kernel

-- why the skeleton matters: a caller that reads the key on the scope itself, BEFORE taking the lock, and
-- creates under the lock without reading again (`scp.Value(k)` as a fast path in front of `LockData`) is
-- refused by `runSkeleton` (`tie_idiom_refused`), and rightly: two such callers that both saw nil create
-- two instances
example :
    let init := initSt [⟨none, [], false⟩] 2 [.get 0 5, .lock 0, .lcreate 5, .commit] [] 100
    let fin := (sys init).run [0, 1, 0, 0, 0, 1, 1, 1]
    allDone fin = true ∧ fin.threads.map (·.reg) = [some 100, some 101] ∧ fin.fresh = 102 := by
  decide +kernel

/-! ### 6. The service units on a scope tree (tasks.Unit FromScope/BindScope/Clear, envs.Unit.Envs, waits ForScope)

Every service operation is a composition of the overlay operations of section 1 (Model/DataScopeSvc):
`bind`/`clear` are one `SetValue` of an instance / of nil on the node itself, get-or-create is the locked
section `getOrCreate` of section 4 read sequentially.  The model driver `m_dssvc`, which is compared with the
real services on random operation sequences, runs get-or-create through the request interpreter (`gocRun`). -/

/-- get-or-create through the request interpreter (LockData; locker.Value; if nil: new instance,
locker.SetValue; Commit) never waits on a heap where nobody holds a lock, and is `svcGoc`: it returns what
the node resolves to when that is an instance, and otherwise makes instance `fresh` and stores it in the
node's own slot. -/
theorem gocRun_is_svcGoc (st : Store) (hwf : WF st.scopes) (hfree : AllFree st.scopes) (fresh n : Nat) (k : Key)
    (hn : n < st.scopes.length) :
    ∃ st', gocRun st fresh n k = some (st', (svcGoc ⟨st.scopes, fresh⟩ n k).1.fresh, (svcGoc ⟨st.scopes, fresh⟩ n k).2) ∧
      st'.scopes = (svcGoc ⟨st.scopes, fresh⟩ n k).1.ss := by
  have hsc := List.getElem?_eq_getElem hn
  have hheld := hfree n _ hsc
  obtain ⟨st1, hlock, hss1, hL1⟩ := run_lock hfree hsc
  have hwf1 : WF st1.scopes := hss1 ▸ WF_setHeld hwf n true
  have hval1 : value st1.scopes n k = value st.scopes n k := hss1 ▸ value_setHeld st.scopes n n true k
  unfold gocRun
  rw [hlock]
  simp only
  rw [run_lget hwf1 hL1 k, hval1]
  unfold svcGoc
  cases hv : value st.scopes n k with
  | some v =>
    obtain ⟨st3, hc, h3⟩ := run_commit hL1
    simp only [hc]
    exact ⟨st3, rfl, by rw [h3, hss1, setHeld_setHeld_self hsc hheld]⟩
  | none =>
    obtain ⟨st3, hc, h3⟩ := run_commit (hL1.dataSet k (some fresh))
    simp only [run_lset hL1 k (some fresh), hc]
    exact ⟨st3, rfl, by rw [h3, hss1, setHeld_dataSet_comm, setHeld_setHeld_self hsc hheld]⟩

example :
    let st : Store := { scopes := [⟨none, [(101, some 4)], false⟩, ⟨some 0, [(101, none)], false⟩, ⟨some 0, [], false⟩], lockers := [] }
    (gocRun st 7 2 101).map (fun r => (r.1.scopes, r.2)) = some (st.scopes, 7, 4) ∧          -- follows the parent
    (gocRun st 7 1 101).map (fun r => (r.1.scopes, r.2)) =                                   -- cleared child: a new one
      some ([⟨none, [(101, some 4)], false⟩, ⟨some 0, [(101, some 7)], false⟩, ⟨some 0, [], false⟩], 8, 7) := by
  decide +kernel

/-- `BindScope(n, m)` is sticky: after it, whatever the other nodes do — for EVERY later sequence of service
operations (get-or-create, bind, clear, plain writes, locked sections, on the parent, on siblings, on
descendants, with any instances) that does not write the own slot of `n` for that key — node `n` resolves
to `m`.  In particular binding a child to the very instance its parent holds at that moment gives the child
its own value: re-binding or clearing the parent later does not move the child. -/
theorem bind_is_sticky (σ : Svc) (hwf : WF σ.ss) (n : Nat) (hn : n < σ.ss.length) (k : Key) (m : Nat)
    (ops : List SvcOp) (h : ∀ op ∈ ops, op.touches n k = false) :
    resolve (svcRun (svcBind σ n k m) ops) n k = some m :=
  svcRun_sticky (σ := svcBind σ n k m) (dataGet_dataSet_same k (some m) hn) ops h

/-- `Clear(n)` is sticky in the same sense: the stored nil shadows the ancestors, so `n` resolves to nil
(and the next get-or-create on `n` makes a fresh instance) whatever the ancestors are given later. -/
theorem clear_is_sticky (σ : Svc) (hwf : WF σ.ss) (n : Nat) (hn : n < σ.ss.length) (k : Key)
    (ops : List SvcOp) (h : ∀ op ∈ ops, op.touches n k = false) :
    resolve (svcRun (svcClear σ n k) ops) n k = none :=
  svcRun_sticky (σ := svcClear σ n k) (dataGet_dataSet_same k none hn) ops h

/-- more generally the own slot decides: a node that has one (instance or stored nil) answers with it for as
long as nothing writes that slot. -/
theorem own_slot_is_sticky (σ : Svc) (hwf : WF σ.ss) (n : Nat) (k : Key) (v : Val) (hown : ownSlot σ n k = some v)
    (ops : List SvcOp) (h : ∀ op ∈ ops, op.touches n k = false) :
    resolve (svcRun σ ops) n k = v :=
  svcRun_sticky hown ops h

/-- get-or-create gives the node an own slot exactly when it made the instance; the instance is then `fresh` -/
theorem goc_creates_own (σ : Svc) (hwf : WF σ.ss) (n : Nat) (hn : n < σ.ss.length) (k : Key)
    (hnil : resolve σ n k = none) :
    (svcGoc σ n k).2 = σ.fresh ∧ (svcGoc σ n k).1.fresh = σ.fresh + 1 ∧
      ownSlot (svcGoc σ n k).1 n k = some (some σ.fresh) ∧ resolve (svcGoc σ n k).1 n k = some σ.fresh := by
  unfold resolve at hnil
  simp only [svcGoc, hnil, ownSlot, resolve]
  exact ⟨trivial, trivial, dataGet_dataSet_same k _ hn, value_dataSet_same n k _ hn⟩

/-- … and stores nothing when the node already resolves to an instance (its own or an ancestor's) -/
theorem goc_finds (σ : Svc) (n : Nat) (k : Key) (i : Nat) (h : resolve σ n k = some i) : svcGoc σ n k = (σ, i) := by
  unfold resolve at h
  simp [svcGoc, h]

-- non-vacuity of the hypotheses of bind_is_sticky / clear_is_sticky, and the scenario they decide:
-- root 0 holds instance 0, child 1 is bound to that SAME instance, grandchild 2 and sibling 3 have nothing.
-- Then the root is re-bound to instance 5, cleared, a sibling gets-or-creates, a locked section rewrites
-- the root: none of these touches slot (1, 101), child 1 (and the grandchild that follows it) stay on 0.
example :
    let σ : Svc := { ss := [⟨none, [(101, some 0)], false⟩, ⟨some 0, [], false⟩, ⟨some 1, [], false⟩, ⟨some 0, [], false⟩], fresh := 1 }
    let ops : List SvcOp := [.bind 0 101 5, .goc 3 101, .clear 0 101, .goc 3 101, .sect 0 [(101, some 9), (102, none)], .goc 2 101, .set 2 102 (some 3)]
    WF σ.ss ∧ (∀ op ∈ ops, op.touches 1 101 = false) ∧
      resolve σ 1 101 = some 0 ∧ ownSlot σ 1 101 = none ∧                      -- before: follows the parent
      ownSlot (svcBind σ 1 101 0) 1 101 = some (some 0) ∧                       -- bind stores although the parent has the same
      (List.range 4).map (fun n => resolve (svcRun (svcBind σ 1 101 0) ops) n 101) = [some 9, some 0, some 0, some 1] ∧
      -- without the bind the child would have followed the root
      (List.range 4).map (fun n => resolve (svcRun σ ops) n 101) = [some 9, some 9, some 9, some 1] := by
  exact ⟨WF_newChild (WF_newChild (WF_newChild (WF_newRoot WF_nil _) 0 (by decide) _) 1 (by decide) _) 0 (by decide) _,
    by decide, by decide, by decide, by decide, by decide, by decide⟩

-- clear on a child while no ancestor holds anything stores a nil: the child does not pick up what the parent gets later
example :
    let σ : Svc := { ss := [⟨none, [], false⟩, ⟨some 0, [], false⟩], fresh := 0 }
    let τ := svcRun (svcClear σ 1 101) [.goc 0 101]
    resolve τ 0 101 = some 0 ∧ resolve τ 1 101 = none ∧ (svcGoc τ 1 101).2 = 1 := by decide +kernel

end Goat.C13
