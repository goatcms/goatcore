/-
Property C07 — the cache view reflects its own pending operations (read-your-writes).

  "Before Commit, every read-type operation issued through the cache (exists/is-file/is-dir, read, list, stat,
   copy source) answers as if the pending operations had already been applied on top of the remote: written data
   is returned, created directories are listed once, and removed files and directories are no longer visible."

Stated over the executable model `Goat/Model/Cache.lean` and the point-wise specification `Goat/Spec/FS.lean`
(`FS.Step`); vocabulary as in `Goat/Props/C06.lean`.  "As if the pending operations had already been applied on
top of the remote" = the answer of `FS.Step` on the direct tree: the remote's initial tree to which the same
successful operations were applied directly (`Sim`, `directRun`; `Goat.C06.direct_is_spec`).

WHAT IS PROVED
  full strength   pending_writes_view (a sequence of pending writes to one path, after any history: every intermediate
                  state's view of the path is the value written last - never the remote's; the sequential backbone of
                  the concurrent family `cache conc` of the check),
                  readDir_nodup ("created directories are listed once": for every history, Commits and injected
                  failures included, through every handle), read_after_write ("written data is returned": whatever
                  the remote holds), view_is_subpath / view_of_view (child views, to any depth)
  DISPROVED       ryw for the code as it is: `ryw_false`; one evaluated witness per finding class KF-C07-1 … 6 in
                  `findings_witnessed` (known_findings.d/C07.json)
  `_partial`      ryw_partial: all seven read-type operations, through the cache or any ok child view, after any
                  history of WriteFile / Writer / MkdirAll / CopyFile and of Remove / RemoveAll of nodes that exist only
                  in the buffer, in which every operation also succeeds when applied directly — i.e. under the negation of the
                  defect predicates KF-C07-1…5; the remaining hypothesis `hnc` is the negation of KF-C07-6.

"Copy source": on the class a CopyFile through the cache copies exactly the data the direct tree holds at the source
(it is inside `ryw_partial`'s histories: `isWrite_copyFile`); Copy / CopyDirectory of directories are not (KF-C07-4,
KF-C06-4) and are covered by the correspondence only.
-/
import Goat.Proofs.CacheMore
import Goat.Proofs.CacheWitness

namespace Goat.C07

open Goat Goat.FS Goat.Cache Goat.MemFS

/-- THE FULL STATEMENT: after any history through ok handles on any well-formed remote, every read-type call
through any ok handle answers what the same call answers on the direct tree (listings as sets). -/
def ryw : Prop :=
  ∀ (r0 : Node), Inv r0 → ∀ (ops : List (Handle × Op)), (∀ x ∈ ops, x.1.ok = true) →
    ∀ (h : Handle), h.ok = true → ∀ (op : Op), isRead op = true →
      canon (step h ((Sim.new r0).run (ops.map fun x => HOp.call x.1 x.2)).cache op).2
        = canon (directStep ((Sim.new r0).run (ops.map fun x => HOp.call x.1 x.2)).direct h op).2

/-- … is false (witness: KF-C07-1, remote file `b`, `Remove b` through the cache, `IsExist b` still answers true). -/
theorem ryw_false : ¬ ryw := by
  intro H
  have := H (Witness.mkRemote Witness.r71 Node.empty) (Witness.inv_mkRemote _ _ inv_empty) [(.cache, .remove [98])]
    (by decide +kernel) .cache rfl (.isExist [98]) rfl
  exact absurd this (by decide +kernel)

/-- ONE WITNESS PER FINDING CLASS (known_findings.d/C07.json; replayed on the Go code by every run of the check):
the history is in the class named by its defect predicate, and a read through the cache differs from the read
of the direct tree. -/
theorem findings_witnessed :
    -- KF-C07-1  a removed remote file stays visible
    (Defect.removeRemote ∈ defectsOf (Sim.new (Witness.mkRemote Witness.r71 Node.empty)) (Witness.calls Witness.h71)
      ∧ (step .cache (Witness.sim Witness.r71 Witness.h71).cache (.isExist [98])).2 = .bool true
      ∧ (directStep (Witness.sim Witness.r71 Witness.h71).direct .cache (.isExist [98])).2 = .bool false)
    -- KF-C07-2  RemoveAll of a remote directory leaves it and its children visible
    ∧ (Defect.removeAllRemote ∈ defectsOf (Sim.new (Witness.mkRemote Witness.r72 Node.empty)) (Witness.calls Witness.h72)
      ∧ (step .cache (Witness.sim Witness.r72 Witness.h72).cache (.isExist [97, 47, 98])).2 = .bool true
      ∧ (directStep (Witness.sim Witness.r72 Witness.h72).direct .cache (.isExist [97, 47, 98])).2 = .bool false)
    -- KF-C07-3  a write beneath a remote file is accepted: the path is file and directory
    ∧ (Defect.typeConflict ∈ defectsOf (Sim.new (Witness.mkRemote Witness.r9 Node.empty)) (Witness.calls Witness.h9)
      ∧ (step .cache (Witness.sim Witness.r9 Witness.h9).cache (.isFile [97])).2 = .bool true
      ∧ (step .cache (Witness.sim Witness.r9 Witness.h9).cache (.isDir [97])).2 = .bool true
      ∧ (directStep (Witness.sim Witness.r9 Witness.h9).direct .cache (.isDir [97])).2 = .bool false)
    -- KF-C07-4  copy of a directory present in buffer and remote copies only the buffer part
    ∧ (Defect.copyMergedDir ∈ defectsOf (Sim.new (Witness.mkRemote Witness.r74 Node.empty)) (Witness.calls Witness.h74)
      ∧ (step .cache (Witness.sim Witness.r74 Witness.h74).cache (.isExist [99, 47, 120])).2 = .bool false
      ∧ (directStep (Witness.sim Witness.r74 Witness.h74).direct .cache (.isExist [99, 47, 120])).2 = .bool true)
    -- KF-C07-5  CopyFile onto an existing destination overwrites
    ∧ (Defect.copyOntoExisting ∈ defectsOf (Sim.new (Witness.mkRemote Witness.r10 Node.empty)) (Witness.calls Witness.h10)
      ∧ (step .cache (Witness.sim Witness.r10 Witness.h10).cache (.readFile [99])).2 = .data [49]
      ∧ (directStep (Witness.sim Witness.r10 Witness.h10).direct .cache (.readFile [99])).2 = .data [50])
    -- KF-C07-6  the rooted climbing path `/..` is the root for the cache
    ∧ (Defect.rootedClimb ∈ defectsOf (Sim.new (Witness.mkRemote Witness.r9 Node.empty)) (Witness.calls [.isExist [47, 46, 46]])
      ∧ (step .cache (Witness.sim Witness.r9 []).cache (.isExist [47, 46, 46])).2 = .bool true
      ∧ (directStep (Witness.sim Witness.r9 []).direct .cache (.isExist [47, 46, 46])).2 = .bool false) := by
  decide +kernel

/-- READ-YOUR-WRITES ON THE CLASS.  On any well-formed initial remote, after any history (any length, any
spellings, through the cache or ok child views) of WriteFile / Writer / MkdirAll / CopyFile and of Remove / RemoveAll of nodes
that do not exist on the remote, in which every operation also succeeds when applied directly: every operation
succeeded through the cache too, and EVERY read-type operation (IsExist, IsFile, IsDir, ReadFile, Reader, ReadDir,
Lstat; any spelling) through the cache or any ok child view rooted at `b` answers exactly what the specification
`FS.Step b` answers on the direct tree — written data is returned, directories are listed with exactly their
children, each once, removed nodes are gone.  `hnc` (only for reads on the cache itself): a path that climbs
above the root must still climb after `CleanPath` — the negation of KF-C07-6. -/
theorem ryw_partial (r0 : Node) (hr : Inv r0) (ops : List (Handle × Op))
    (hclass : ops.all rywClass = true) (hdirect : allDirectOk r0 ops = true)
    (honly : removesBufferOnly r0 ops = true)
    (h : Handle) (hok : h.ok = true) (op : Op) (hread : isRead op = true)
    (hnc : h = .cache → ∀ raw ∈ opArgs op, Path.norm raw = none → Path.norm (Path.cleanPath raw) = none) :
    (∀ r ∈ runResults (State.new r0) ops, r = .ok)
    ∧ ∃ b, handleBase h = some b
        ∧ FS.Step b (abs (directRun r0 ops)) op (step h (run (State.new r0) ops) op).2 (abs (directRun r0 ops)) := by
  obtain ⟨V, hres, _⟩ := class_run (vinv_new r0 hr) ops hclass hdirect honly
  exact ⟨hres, ryw_step V h hok op hread hnc⟩

-- a history of the class with removes of buffer-only nodes; the remote holds file a/x and directory d
example :
    ([(Handle.cache, Op.writeFile [97, 47, 121] [1]), (.sub [98, 47], .mkdirAll [99, 47, 100]), (.cache, .remove [97, 47, 121]),
      (.cache, .removeAll [98, 47, 99]), (.sub [98, 47], .writer [47, 101] [[2]])]).all rywClass = true
    ∧ allDirectOk (Witness.mkRemote [([97, 47, 120], some [9]), ([100], none)] Node.empty)
        [(Handle.cache, Op.writeFile [97, 47, 121] [1]), (.sub [98, 47], .mkdirAll [99, 47, 100]), (.cache, .remove [97, 47, 121]),
         (.cache, .removeAll [98, 47, 99]), (.sub [98, 47], .writer [47, 101] [[2]])] = true
    ∧ removesBufferOnly (Witness.mkRemote [([97, 47, 120], some [9]), ([100], none)] Node.empty)
        [(Handle.cache, Op.writeFile [97, 47, 121] [1]), (.sub [98, 47], .mkdirAll [99, 47, 100]), (.cache, .remove [97, 47, 121]),
         (.cache, .removeAll [98, 47, 99]), (.sub [98, 47], .writer [47, 101] [[2]])] = true := by
  decide +kernel
-- … after which the listing of the root through the cache is a, d (remote) and b (buffer), each once
example :
    (step .cache (run (State.new (Witness.mkRemote [([97, 47, 120], some [9]), ([100], none)] Node.empty))
        [(Handle.cache, Op.writeFile [97, 47, 121] [1]), (.sub [98, 47], .mkdirAll [99, 47, 100]), (.cache, .remove [97, 47, 121]),
         (.cache, .removeAll [98, 47, 99]), (.sub [98, 47], .writer [47, 101] [[2]])]) (.readDir [])).2
      = .list [([97], true), ([100], true), ([98], true)] := by decide +kernel
-- the hypothesis `hnc` holds for ordinary climbing paths (`../a`) and fails exactly for rooted ones (`/..`)
example : Path.norm [46, 46, 47, 97] = none ∧ Path.norm (Path.cleanPath [46, 46, 47, 97]) = none := by decide +kernel
example : Path.norm [47, 46, 46] = none ∧ Path.norm (Path.cleanPath [47, 46, 46]) = some [] := by decide +kernel

/-! "created directories are listed once" -/

/-- Full strength: after ANY history — all 16 methods incl. copies, Commits in the canonical
order with or without injected failures, on any well-formed initial remote — the merged listing of the cache,
through the cache or any child view, never lists a name twice. -/
theorem readDir_nodup (r0 : Node) (hr : Inv r0) (hist : List HOp) (h : Handle) (raw : Bytes)
    (l : List (Path.Name × Bool))
    (hl : (step h ((Sim.new r0).run hist).cache (.readDir raw)).2 = .list l) : (l.map Prod.fst).Nodup :=
  step_readDir_nodup h _ (sim_run_winv (Sim.new r0) (winv_new r0 hr) hist) raw l hl

/-- the same for any state whose two trees are well formed, and for Commit in any iteration order -/
theorem readDir_nodup_state (s : Cache.State) (W : WInv s) (h : Handle) (raw : Bytes) (l : List (Path.Name × Bool))
    (hl : (step h s (.readDir raw)).2 = .list l) : (l.map Prod.fst).Nodup :=
  step_readDir_nodup h s W raw l hl

-- remote has a and b; the cache re-creates b and creates c: the listing is a, b, c
example :
    (step .cache ((Sim.new (Witness.mkRemote [([97], some [1]), ([98, 47, 120], some [2])] Node.empty)).run
        [.call .cache (.mkdirAll [98]), .call .cache (.writeFile [99] [3]), .commit none, .call .cache (.mkdirAll [98, 47, 121])]).cache
      (.readDir [])).2 = .list [([97], false), ([98], true), ([99], false)] := by decide +kernel

/-! "written data is returned" -/

/-- Full strength: for every state with a well-formed buffer (whatever the remote holds —
also a file or a directory at that very path — and whatever is journalled), data written successfully with
`WriteFile` or `Writer` through any ok handle and any spelling is what `ReadFile` and `Reader` (any buffer sizes)
return through any ok handle and any spelling that reaches the same path. -/
theorem read_after_write (s : Cache.State) (hb : Inv s.buffer) (h h' : Handle) (hok : h.ok = true)
    (hok' : h'.ok = true) (b b' : List Path.Name) (hbase : handleBase h = some b) (hbase' : handleBase h' = some b')
    (raw raw' : Bytes) (p p' : List Path.Name) (hn : Path.norm raw = some p) (hn' : Path.norm raw' = some p')
    (hsame : b ++ p = b' ++ p') :
    (∀ data, (step h s (.writeFile raw data)).2 = .ok →
      (step h' (step h s (.writeFile raw data)).1 (.readFile raw')).2 = .data data
      ∧ ∀ sizes, (step h' (step h s (.writeFile raw data)).1 (.reader raw' sizes)).2
          = .chunks (FS.readChunks data sizes))
    ∧ (∀ cs, (step h s (.writer raw cs)).2 = .ok →
      (step h' (step h s (.writer raw cs)).1 (.readFile raw')).2 = .data cs.flatten
      ∧ ∀ sizes, (step h' (step h s (.writer raw cs)).1 (.reader raw' sizes)).2
          = .chunks (FS.readChunks cs.flatten sizes)) :=
  read_after_write_gen s hb h h' hok hok' b b' hbase hbase' raw raw' p p' hn hn' hsame

-- written through the view a/ as "./x", read through the cache as "/a//x"; the remote holds another a/x
example :
    handleBase (.sub [97, 47]) = some [[97]] ∧ handleBase .cache = some []
    ∧ Path.norm [46, 47, 120] = some [[120]] ∧ Path.norm [47, 97, 47, 47, 120] = some [[97], [120]] := by decide +kernel
example :
    (step .cache (step (.sub [97, 47]) (State.new (Witness.mkRemote [([97, 47, 120], some [9])] Node.empty))
        (.writeFile [46, 47, 120] [7])).1 (.readFile [47, 97, 47, 47, 120])).2 = .data [7] := by decide +kernel

/-- Full strength: on ANY well-formed initial remote (whatever it holds at the path), after ANY
earlier history `hist` (all methods, through any handles), for ANY sequence `ws` of WriteFile calls
`(handle, spelling, data)` that all reach one path `q` (each through its own ok handle and spelling): in the
intermediate state after the first `k+1` of them, if the `k`-th was accepted, `ReadFile` and `Reader` of the path -
through every ok handle and spelling reaching `q` - return the `k`-th value: one of the written values, never the
remote's content and never "absent".  (The concurrent family of the check linearises a writer goroutine into such a
sequence: a reader overlapping the writes `lo+1 … hi` must see the view of one of the states `lo … hi`.) -/
theorem pending_writes_view (r0 : Node) (hr : Inv r0) (hist : List (Handle × Op)) (q : List Path.Name)
    (ws : List (Handle × Bytes × Bytes))
    (hall : ∀ w ∈ ws, w.1.ok = true ∧ ∃ b p, handleBase w.1 = some b ∧ Path.norm w.2.1 = some p ∧ b ++ p = q)
    (h' : Handle) (hok' : h'.ok = true) (b' : List Path.Name) (hbase' : handleBase h' = some b')
    (raw' : Bytes) (p' : List Path.Name) (hn' : Path.norm raw' = some p') (hq : b' ++ p' = q)
    (k : Nat) (hk : k < ws.length)
    (hw : (step ws[k].1 (run (State.new r0) (hist ++ writeOps (ws.take k))) (.writeFile ws[k].2.1 ws[k].2.2)).2 = .ok) :
    (step h' (run (State.new r0) (hist ++ writeOps (ws.take (k + 1)))) (.readFile raw')).2 = .data ws[k].2.2
    ∧ (∀ sizes, (step h' (run (State.new r0) (hist ++ writeOps (ws.take (k + 1)))) (.reader raw' sizes)).2
        = .chunks (FS.readChunks ws[k].2.2 sizes))
    ∧ ws[k].2.2 ∈ ws.map (fun w => w.2.2) :=
  (pending_writes_seq (State.new r0) (winv_new r0 hr) hist q ws hall h' hok' b' hbase' raw' p' hn' hq k hk hw).elim
    fun h1 h2 => ⟨h1, h2, List.mem_map.mpr ⟨ws[k], List.getElem_mem hk, rfl⟩⟩

-- the remote holds d/a = "9"; an earlier Remove of d/a; then v1 = [1] through the cache as "d/a", v2 = [2] through the
-- view d/ as "./a", v3 = [3] through the cache as "/d//a": the hypotheses hold for k = 1 …
example :
    (∀ w ∈ [((Handle.cache, [100, 47, 97], [1]) : Handle × Bytes × Bytes), (.sub [100, 47], [46, 47, 97], [2]),
              (.cache, [47, 100, 47, 47, 97], [3])],
        w.1.ok = true ∧ ∃ b p, handleBase w.1 = some b ∧ Path.norm w.2.1 = some p ∧ b ++ p = [[100], [97]])
    ∧ (step (.sub [100, 47]) (run (State.new (Witness.mkRemote [([100, 47, 97], some [9])] Node.empty))
          ([(Handle.cache, Op.remove [100, 47, 97])] ++ writeOps [(Handle.cache, [100, 47, 97], [1])]))
        (.writeFile [46, 47, 97] [2])).2 = .ok := by
  refine ⟨?_, by decide +kernel⟩
  intro w hw
  simp only [List.mem_cons, List.mem_nil_iff, or_false] at hw
  rcases hw with rfl | rfl | rfl
  · exact ⟨rfl, [], [[100], [97]], by decide +kernel, by decide +kernel, rfl⟩
  · exact ⟨rfl, [[100]], [[97]], by decide +kernel, by decide +kernel, rfl⟩
  · exact ⟨rfl, [], [[100], [97]], by decide +kernel, by decide +kernel, rfl⟩
-- … and the three intermediate states read 1, 2, 3 through the view (the remote's 9 never)
example :
    [1, 2, 3].map (fun k => (step (.sub [100, 47]) (run (State.new (Witness.mkRemote [([100, 47, 97], some [9])] Node.empty))
        ([(Handle.cache, Op.remove [100, 47, 97])] ++ writeOps ([((Handle.cache, [100, 47, 97], [1]) : Handle × Bytes × Bytes),
            (.sub [100, 47], [46, 47, 97], [2]), (.cache, [47, 100, 47, 47, 97], [3])].take k))) (.readFile [97])).2)
      = [.data [1], .data [2], .data [3]] := by decide +kernel

/-- A child view is the sub-path view: a call through `Filespace(p)` of the cache is the cache's call at
`clean(p)/` ++ reduced argument (and is refused without reaching the cache when an argument climbs above the
view's root, or `Remove`/`RemoveAll` address the view's root itself). -/
theorem view_is_subpath (base : Bytes) (s : Cache.State) (op : Op) :
    step (.sub base) s op =
      match subOp base op with
      | some op' => stepCache s op'
      | none => (s, failResult op) := rfl

/-- Views of views, to any depth: `Filespace(raw)` through an ok handle rooted at `b`, with a path that does not
climb, is an ok handle rooted at `b ++ norm raw` — so `ryw_partial`, `read_after_write` and `readDir_nodup` hold
through every view that can be opened this way. -/
theorem view_of_view (h : Handle) (hok : h.ok = true) (raw : Bytes) (q : List Path.Name)
    (hn : Path.norm raw = some q) :
    ∃ h' b, openView h raw = some h' ∧ h'.ok = true ∧ handleBase h = some b ∧ handleBase h' = some (b ++ q) := by
  obtain ⟨b, R⟩ := handle_ok hok
  rcases R.shape with ⟨rfl, rfl⟩ | ⟨base0, rfl, hb0⟩
  · refine ⟨.sub (Path.clean raw ++ [Path.slash]), [], rfl, ?_, rfl, ?_⟩
    · have hl : (Path.clean raw ++ [Path.slash]).getLast? = some Path.slash := List.getLast?_concat ..
      simp only [Handle.ok, nf, Path.norm_append_slash, Path.norm_clean raw q hn, hl]
      simp
    · simp only [handleBase, Path.norm_append_slash, Path.norm_clean raw q hn]; rfl
  · have e : Path.norm (base0 ++ [Path.slash] ++ Path.join q ++ [Path.slash]) = some (b ++ q) := by
      rw [Path.norm_append_slash]; exact norm_sub base0 b q hb0 (Path.norm_reduced raw q hn)
    refine ⟨.sub (base0 ++ [Path.slash] ++ Path.join q ++ [Path.slash]), b, ?_, ?_, R.base, ?_⟩
    · simp [Cache.openView, reduceAbsPath_of_norm hn]
    · have hl : (base0 ++ [Path.slash] ++ Path.join q ++ [Path.slash]).getLast? = some Path.slash :=
        List.getLast?_concat ..
      simp only [Handle.ok, nf, e, hl]; simp
    · exact e

example : openView .cache [47, 97, 47, 46, 47, 98] = some (.sub [47, 97, 47, 98, 47]) := by decide +kernel
example : openView (.sub [47, 97, 47, 98, 47]) [99, 47, 46, 46, 47, 100] = some (.sub [47, 97, 47, 98, 47, 100, 47]) := by
  decide +kernel

end Goat.C07
