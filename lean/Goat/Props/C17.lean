/-
Property C17 — the command-line splitter `varutil.ReadArguments` and `argscope.InjectArgs` /
`SeparateArgs`, stated over the executable model `Goat/Model/Args.lean`.

  "Splitting any byte string never panics and always terminates with arguments or an error.
   Words separated by blanks come back unchanged byte-for-byte (including non-ASCII bytes), a
   double-quoted argument comes back as its content with blanks preserved and escaped quotes
   unescaped, a heredoc argument comes back as the text between the marker lines (trimmed of
   surrounding blanks), a backslash-newline continues the line, reading stops exactly at the
   command's newline so the next call returns the next command, and named arguments are mapped to
   keys and positional ones to $0,$1,... in order."

Termination is part of the model's definition (`mainLoop`/`quoteLoop` are total Lean functions,
accepted by well-founded recursion on the input length); every theorem below holds for byte
strings and argument lists of any length.

Vocabulary (defined in `Goat/Proofs/Args.lean` and `Goat/Proofs/ArgsInject.lean`, namespace `Goat.Args`):
  `PlainByte b`   : `b` is none of space, tab, newline, `"`, `\`
  `PlainBytes w`  : every byte of `w` is plain and `=<<` is not a contiguous infix of `w`
  `PlainWord w`   : `w ≠ []` and `PlainBytes w`
  `render a`      : `"` ++ body ++ `"`, where in the body `"` is written `\"` and `\` is written
                    `"\\"` (close the quote, an escaped backslash outside, reopen the quote)
  `renderLine as` : the `render`ed arguments joined by one space
  `MarkerFirstAtEnd t x` : no proper prefix of `x ++ "\n" ++ t` ends with `"\n" ++ t`
  `positionals as`: the arguments without `=`, in order;  `namedKey a` : key of a named argument
  `Dashes d`      : `d` is ``, `-` or `--`
-/
import Goat.Proofs.Args
import Goat.Proofs.ArgsInject

namespace Goat.C17

open Goat Goat.Args

/-- `args[len(args)-1]` is never evaluated on an empty slice: the splitter returns arguments or an
error on every input. -/
theorem total_no_panic : ∀ b : Bytes, readArgs b ≠ Outcome.panic := by
  intro b h
  have := fine_readArgs b
  rwa [h] at this

example : readArgs [bs, dq, lt, 0xFF, eq, lt, lt] ≠ Outcome.panic := total_no_panic _

/-- Words separated by one space, terminated by a newline, come back unchanged; the bytes after
the newline are left unread. -/
theorem words (ws : List Bytes) (hws : ∀ w ∈ ws, PlainWord w) (rest : Bytes) :
    readArgs (List.intercalate [sp] ws ++ nl :: rest) = .ok ws false rest := by
  simpa using readArgs_line id id ws (fun w hw => reads_word (hws w hw)) rest

/-- The same at end of input (no newline): the reader reports EOF. -/
theorem words_eof (ws : List Bytes) (hws : ∀ w ∈ ws, PlainWord w) :
    readArgs (List.intercalate [sp] ws) = .ok ws true [] := by
  simpa using readArgs_line_eof id id ws (fun w hw => reads_word (hws w hw))

-- bytes ≥ 0x80 are plain; `=<` and `<<` alone do not start a heredoc
example : PlainWord [0xC3, 0xA9, 97] := by decide +kernel
example : PlainWord [107, eq, lt, 120, lt, lt] := by decide +kernel
example : ¬ PlainWord [107, eq, lt, lt] := by decide +kernel
example :
    readArgs [0xC3, 0xA9, 32, 107, 61, 60, 120, 32, 0xFF, 10, 110, 120]
      = .ok [[0xC3, 0xA9], [107, 61, 60, 120], [0xFF]] false [110, 120] :=
  words [[0xC3, 0xA9], [107, 61, 60, 120], [0xFF]] (by decide +kernel) [110, 120]
example : readArgs [0xC3, 0xA9, 32, 97] = .ok [[0xC3, 0xA9], [97]] true [] :=
  words_eof [[0xC3, 0xA9], [97]] (by decide +kernel)

/-- Every list of byte strings (any byte values, empty arguments included) survives quoting:
blanks and newlines inside the quotes are preserved, `\"` is unescaped. -/
theorem quoted (args : List Bytes) (rest : Bytes) :
    readArgs (renderLine args ++ nl :: rest) = .ok args false rest := by
  simpa [renderLine_eq] using readArgs_line render id args (fun a _ => reads_render a) rest

-- the two arguments (empty) and (`a`, space, `"`, `\`) are rendered as  ""  "a \""\\""
-- (13 bytes); every one of the 256 byte values may occur in an argument
example :
    renderLine [[], [97, 32, dq, bs]]
      = [dq, dq, sp, dq, 97, 32, bs, dq, dq, bs, bs, dq, dq] := by
  decide +kernel
example :
    readArgs ([dq, dq, sp, dq, 97, 32, bs, dq, 10, 0xFF, dq, bs, bs, dq, dq] ++ nl :: [120])
      = .ok [[], [97, 32, dq, 10, 0xFF, bs]] false [120] :=
  quoted [[], [97, 32, dq, 10, 0xFF, bs]] [120]

/-- `key=<<TAG⏎ text ⏎TAG⏎` yields the single argument `key=` ++ text trimmed of surrounding
blanks, provided the marker line `⏎TAG` does not occur earlier in `text ++ ⏎TAG`. -/
theorem heredoc (k t x rest : Bytes)
    (hk : PlainBytes k) (ht : ∀ b ∈ t, isLetter b = true) (hne : t ≠ [])
    (hx : MarkerFirstAtEnd t x) :
    readArgs (k ++ [eq, lt, lt] ++ t ++ [nl] ++ x ++ [nl] ++ t ++ nl :: rest)
      = .ok [k ++ [eq] ++ trimBlank x] false rest := by
  rw [readArgs, reads_heredoc k t x hk ht hne hx [] none (nl :: rest), step_nl (by simp)]
  rfl

-- key `k`, tag `EOF`, text ` t⏎EOX l⇥ ` (two lines, the second starts almost like the tag)
example : PlainBytes [107] := by decide +kernel
example : ∀ b ∈ ([69, 79, 70] : Bytes), isLetter b = true := by decide +kernel
example : MarkerFirstAtEnd [69, 79, 70] [32, 116, 10, 69, 79, 88, 32, 108, 9, 32] := by decide +kernel
example : ¬ MarkerFirstAtEnd [69, 79, 70] [32, 116, 10, 69, 79, 70, 32, 108, 9, 32] := by decide +kernel
example :
    readArgs [107, 61, 60, 60, 69, 79, 70, 10, 32, 116, 10, 69, 79, 88, 32, 108, 9, 32, 10,
              69, 79, 70, 10, 110]
      = .ok [[107, 61, 116, 10, 69, 79, 88, 32, 108]] false [110] :=
  heredoc [107] [69, 79, 70] [32, 116, 10, 69, 79, 88, 32, 108, 9, 32] [110]
    (by decide +kernel) (by decide +kernel) (by decide +kernel) (by decide +kernel)

/-- Outside quotes, backslash-newline is skipped in every state of the splitter. -/
theorem continuation : ∀ (s : St) (rest : Bytes), s.esc = false →
    mainLoop s (bs :: nl :: rest) = mainLoop s rest := by
  intro s rest h
  rw [step_bs (by decide) (by decide) ⟨by simp [h], rfl⟩, step_nl_esc rfl]
  -- `esc := true` and then `esc := false` give back `s`, as `s.esc = false`
  cases s; cases h; rfl

/-- At the start of a command. -/
theorem continuation_readArgs (rest : Bytes) : readArgs (bs :: nl :: rest) = readArgs rest :=
  continuation _ rest rfl

/-- In the middle of a line: the words before and after the backslash-newline belong to the same
command. -/
theorem continuation_words (ws ws' : List Bytes) (hws : ∀ w ∈ ws, PlainWord w)
    (hws' : ∀ w ∈ ws', PlainWord w) (rest : Bytes) :
    readArgs (List.intercalate [sp] ws ++
        sp :: bs :: nl :: (List.intercalate [sp] ws' ++ nl :: rest))
      = .ok (ws ++ ws') false rest := by
  obtain ⟨s1, _, a1, r1⟩ := line_aux id id ws (fun w hw => reads_word (hws w hw)) [] none
    (sp :: bs :: nl :: (List.intercalate [sp] ws' ++ nl :: rest))
  -- after the blank and the skipped backslash-newline the second line starts in `s1`, separated
  have r2 := line_nl id id ws' (fun w hw => reads_word (hws' w hw)) s1.done s1.cur rest
  rw [List.map_id] at r1 r2
  rw [readArgs, r1, step_blank (by decide) (Or.inl rfl), continuation _ _ rfl, r2]
  have : St.args ⟨s1.done, s1.cur, false, true⟩ = s1.args := rfl
  rw [this, a1, List.map_id]; rfl

example :
    readArgs [97, 32, bs, nl, 98, nl, 99] = .ok [[97], [98]] false [99] :=
  continuation_words [[97]] [[98]] (by decide +kernel) (by decide +kernel) [99]

/-- Without EOF the unread remainder is the part of the input right after a newline, so the next
call starts at the next command. -/
theorem stops_at_newline {inp : Bytes} {args : List Bytes} {rest : Bytes} :
    readArgs inp = .ok args false rest → ∃ pre, inp = pre ++ nl :: rest := by
  intro h
  have := fine_readArgs inp
  rw [h] at this
  exact this.imp fun _ => Eq.symm

/-- With EOF nothing is left. -/
theorem stops_at_eof {inp : Bytes} {args : List Bytes} {rest : Bytes} :
    readArgs inp = .ok args true rest → rest = [] := by
  intro h
  have := fine_readArgs inp
  rwa [h] at this

-- two commands in one buffer: the first call leaves exactly the second command
example : ∃ pre, ([97, 32, 98, 10, 99, 10] : Bytes) = pre ++ nl :: [99, 10] :=
  stops_at_newline (words [[97], [98]] (by decide +kernel) [99, 10])
example : readArgs [99, 10] = .ok [[99]] false [] := words [[99]] (by decide +kernel) []

/-- `SeparateArgs` splits at the first `--`. -/
theorem separate_at_first_dashdash (a s : List Bytes) (h : dashdash ∉ a) :
    separateArgs (a ++ dashdash :: s) = (a, s) := by
  unfold separateArgs
  rw [span_first (fun x => decide (x ≠ dashdash)) a dashdash s
    (fun x hx => decide_eq_true (show x ≠ dashdash from fun e => h (e ▸ hx)))
    (decide_eq_false (fun h => h rfl))]

theorem separate_no_dashdash (all : List Bytes) (h : dashdash ∉ all) :
    separateArgs all = (all, []) := by
  unfold separateArgs
  rw [span_all (fun x => decide (x ≠ dashdash)) all
    (fun x hx => decide_eq_true (show x ≠ dashdash from fun e => h (e ▸ hx)))]

example : separateArgs [[97], dashdash, [98], dashdash] = ([[97]], [[98], dashdash]) :=
  separate_at_first_dashdash [[97]] [[98], dashdash] (by decide +kernel)

/-- The arguments after the first `--` are handed over untouched; only those before it are
injected. -/
theorem inject_after_dashdash (a s : List Bytes) (h : dashdash ∉ a) :
    inject (a ++ dashdash :: s) = (injectSets 0 a, s) := by
  rw [inject, separate_at_first_dashdash a s h]

/-- Positional arguments (no `=`) are stored under `$0, $1, …` in order: key `$i` holds the
`i`-th positional argument, and is unset when there are at most `i` of them — provided no named
argument is itself called `$i`. -/
theorem inject_positional (args : List Bytes) (i : Nat) (hdd : dashdash ∉ args)
    (hcol : ∀ a ∈ args, a.contains eq = true → namedKey a ≠ natKey i) :
    lookupLast (natKey i) (inject args).1 = (positionals args)[i]? := by
  rw [inject, separate_no_dashdash args hdd]
  simpa using lookup_natKey i args hcol 0

/-- If no named key starts with `$`, this holds for every index at once. -/
theorem inject_positional_all (args : List Bytes) (hdd : dashdash ∉ args)
    (hnamed : ∀ a ∈ args, a.contains eq = true → (namedKey a).head? ≠ some 36) (i : Nat) :
    lookupLast (natKey i) (inject args).1 = (positionals args)[i]? :=
  inject_positional args i hdd (fun a ha hc e => hnamed a ha hc (e ▸ natKey_head i))

/-- A named argument `k=v`, `-k=v` or `--k=v` (`k` without `=` and not starting with `-`) is the
`SetValue(k, v)` call at its position, and `k` maps to `v` at the end when no later call uses the
key `k` again. -/
theorem inject_named (pre post : List Bytes) (d k v : Bytes)
    (hdd : dashdash ∉ pre ++ (d ++ k ++ eq :: v) :: post)
    (hd : Dashes d) (hk : eq ∉ k) (h45 : k.head? ≠ some 45)
    (hlast : ∀ p ∈ (inject (pre ++ (d ++ k ++ eq :: v) :: post)).1.drop (pre.length + 1), p.1 ≠ k) :
    (inject (pre ++ (d ++ k ++ eq :: v) :: post)).1[pre.length]? = some (k, v) ∧
    lookupLast k (inject (pre ++ (d ++ k ++ eq :: v) :: post)).1 = some v := by
  have hsets : (inject (pre ++ (d ++ k ++ eq :: v) :: post)).1
      = injectSets 0 pre ++ (k, v) :: injectSets (0 + (positionals pre).length) post := by
    rw [inject, separate_no_dashdash _ hdd]
    show injectSets 0 _ = _
    rw [injectSets_append, injectSets_named _ _ _ (by simp),
      named_split d k v hd hk h45]
  rw [hsets, ← length_injectSets 0 pre] at hlast ⊢
  constructor
  · simp
  · rw [List.drop_length_add_append, List.drop_one, List.tail_cons] at hlast
    rw [lookupLast_append, lookupLast_cons, lookupLast_none k _ hlast, if_pos rfl]
    rfl

-- `a --k=v b k2= -k=w` : positionals `a`,`b` become `$0`,`$1`; the last `k` wins; `k2` is empty
example :
    let args : List Bytes := [[97], [45, 45, 107, 61, 118], [98], [107, 50, 61], [45, 107, 61, 119]]
    dashdash ∉ args ∧ (∀ a ∈ args, a.contains eq = true → (namedKey a).head? ≠ some 36) ∧
      positionals args = [[97], [98]] := by
  decide +kernel
example :
    lookupLast (natKey 1)
      (inject [[97], [45, 45, 107, 61, 118], [98], [107, 50, 61], [45, 107, 61, 119]]).1
      = some [98] :=
  inject_positional_all _ (by decide +kernel) (by decide +kernel) 1
example :
    lookupLast [107]
      (inject ([[97], [45, 45, 107, 61, 118], [98]] ++
        ([45] ++ [107] ++ eq :: [119]) :: [[107, 50, 61]])).1 = some [119] :=
  (inject_named [[97], [45, 45, 107, 61, 118], [98]] [[107, 50, 61]] [45] [107] [119]
    (by decide +kernel) (by decide +kernel) (by decide +kernel) (by decide +kernel) (by decide +kernel)).2

end Goat.C17
