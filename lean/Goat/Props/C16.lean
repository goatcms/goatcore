/-
Property C16 — `pip:try` runs exactly the matching handler and contains the body's failure.

Same model, same quantification as `Props/C14.lean`: ALL well-formed graphs (try blocks anywhere, to
any nesting depth, bodies that fail at any command or spawn nested tasks that succeed or fail, any
subset of defined handlers, handlers that fail themselves) and ALL schedules.
For try block `y`: `(g.tryd y).owner` is the task whose body contains the `pip:try` at command index
`(g.tryd y).idx`, `(g.tryd y).body` is the body task (its scope has its OWN context, `ctx = y+1`),
`(g.tryd y).succ / .fail / .fin` the handlers (they run in the owner's context).

The "if" directions (a handler that has to run does run) carry a TIMED excuse.  Handlers run in the
owner's shared context, so a handler may legitimately not start when that context (or the root
context, whose failure makes the task manager refuse submissions) has failed — but only a failure
recorded BEFORE the event that seals the handler's fate counts (`handlerFate`, `sealsFate`):
the handler's own close without a first command (`done h false`, whose clause demands a cause before
it) or a refused submission of the try (`hrej`, which demands a cause before it as well).  A failure
that comes later — e.g. of the fail handler, after `finally` could have started — excuses nothing
(`handler_starts_unless_prior_cause`, `finally_starts_unless_prior_cause`; the try goroutine submits
`finally` first: `finally_submitted_first`).  "Never starts while the other handler runs" cannot be
seen in one free-running trace; the harness steers the schedule (holds one handler of the try in its
first command until it has seen the fate of the other) and records a `stall` if nothing happens:
`stall_free` — under every steering policy and every schedule the model never stalls.

LEVEL: partial, as C14 (model + monitor proved; the implementation is tied by trace conformance,
free-running and steered).
-/
import Goat.Proofs.PipelineExamples
import Goat.Proofs.PipelineSteer

namespace Goat.C16
open Goat.Pipeline

/-- The success handler starts only if the body closed without error; and when the owner of the try
block closes, the success handler of a body that closed without error has been started — unless the
owner's (or the root) context has a cause of failure. -/
theorem success_iff_body_ok (g : Graph) (hw : wf g = true) (sched : List Label) (pre post : List Ev) :
    (∀ h y, (run g sched).tr = pre ++ Ev.cmd h 0 :: post → g.role h = .hsucc y →
      Ev.done (g.tryd y).body true ∈ pre) ∧
    (∀ p ok i y h, (run g sched).tr = pre ++ Ev.done p ok :: post → g.cmdAt p i = some (.try_ y) →
      Ev.ret p i true ∈ pre → Ev.done (g.tryd y).body true ∈ pre → (g.tryd y).succ = some h →
      Ev.cmd h 0 ∈ pre ∨ causeFor g pre p) := by
  have hW := (wf_iff g).mp hw
  have htr := run_traceOk hw sched
  refine ⟨fun h y hs hr => ?_, fun p ok i y h hs hc hret hb hsu =>
    started_or_cause hW htr hs hc hret (mem_selected_of_kind .succ hsu hb)⟩
  exact (((role_kind (k := .succ) hr).submitted_iff _).mp (htr.start hs).1).2

/-- The fail handler starts only if the body closed with an error; and when the owner closes, the fail
handler of a body that closed with an error has been started — unless the owner's (or the root)
context has a cause of failure. -/
theorem fail_iff_body_err (g : Graph) (hw : wf g = true) (sched : List Label) (pre post : List Ev) :
    (∀ h y, (run g sched).tr = pre ++ Ev.cmd h 0 :: post → g.role h = .hfail y →
      Ev.done (g.tryd y).body false ∈ pre) ∧
    (∀ p ok i y h, (run g sched).tr = pre ++ Ev.done p ok :: post → g.cmdAt p i = some (.try_ y) →
      Ev.ret p i true ∈ pre → Ev.done (g.tryd y).body false ∈ pre → (g.tryd y).fail = some h →
      Ev.cmd h 0 ∈ pre ∨ causeFor g pre p) := by
  have hW := (wf_iff g).mp hw
  have htr := run_traceOk hw sched
  refine ⟨fun h y hs hr => ?_, fun p ok i y h hs hc hret hb hsu =>
    started_or_cause hW htr hs hc hret (mem_selected_of_kind .fail hsu hb)⟩
  exact (((role_kind (k := .fail) hr).submitted_iff _).mp (htr.start hs).1).2

/-- The finally handler starts only after the body closed, whatever the outcome; and when the owner
closes, the body has closed and the finally handler has been started — unless the owner's (or the
root) context has a cause of failure. -/
theorem finally_always (g : Graph) (hw : wf g = true) (sched : List Label) (pre post : List Ev) :
    (∀ h y, (run g sched).tr = pre ++ Ev.cmd h 0 :: post → g.role h = .hfin y →
      hasDone pre (g.tryd y).body) ∧
    (∀ p ok i y h, (run g sched).tr = pre ++ Ev.done p ok :: post → g.cmdAt p i = some (.try_ y) →
      Ev.ret p i true ∈ pre → (g.tryd y).fin = some h →
      hasDone pre (g.tryd y).body ∧ (Ev.cmd h 0 ∈ pre ∨ causeFor g pre p)) := by
  have hW := (wf_iff g).mp hw
  have htr := run_traceOk hw sched
  refine ⟨fun h y hs hr => ?_, fun p ok i y h hs hc hret hsu => ?_⟩
  · exact (((role_kind (k := .fin) hr).submitted_iff _).mp (htr.start hs).1).1
  · have hbody := htr.closed hs (cmdAt_lt hc) hret
    rw [hc] at hbody
    exact ⟨hbody.1, started_or_cause hW htr hs hc hret (mem_selected_of_kind .fin hsu trivial)⟩

/-- Handlers start only after the body has closed, and a task — in particular the body of a try
block — closes only after everything it submitted has closed: nested `pip:run` tasks, the bodies of
nested try blocks and every handler of them that ran or was accepted by the task manager.  So a
handler never overlaps the body or anything the body spawned. -/
theorem handlers_after_body_and_spawned (g : Graph) (hw : wf g = true) (sched : List Label)
    (pre post : List Ev) :
    (∀ h y, (run g sched).tr = pre ++ Ev.cmd h 0 :: post → y < g.tries.length → h ∈ g.handlers y →
      hasDone pre (g.tryd y).body) ∧
    (∀ t ok i c, (run g sched).tr = pre ++ Ev.done t ok :: post → g.cmdAt t i = some (.spawn c) →
      Ev.ret t i true ∈ pre → hasDone pre c) ∧
    (∀ t ok i y, (run g sched).tr = pre ++ Ev.done t ok :: post → g.cmdAt t i = some (.try_ y) →
      Ev.ret t i true ∈ pre →
      hasDone pre (g.tryd y).body ∧ (∀ h ∈ g.handlers y, Ev.cmd h 0 ∈ pre → hasDone pre h) ∧
      (∀ h ∈ g.handlers y, Ev.hacc h ∈ pre → hasDone pre h)) := by
  have hW := (wf_iff g).mp hw
  have htr := run_traceOk hw sched
  refine ⟨fun h y hs hy hh => ?_, fun t ok i c hs hc hret => ?_, fun t ok i y hs hc hret => ?_⟩
  · obtain ⟨k, hk⟩ := mem_handlers_kind.mp hh
    exact (((role_kind (hW.ofKind hy k hk).2).submitted_iff _).mp (htr.start hs).1).1
  · have := htr.closed hs (cmdAt_lt hc) hret
    rwa [hc] at this
  · have := htr.closed hs (cmdAt_lt hc) hret
    rw [hc] at this
    exact ⟨this.1, this.2.1, this.2.2.1⟩

/-- A failing body does not mark the surrounding scope as failed: a task closes with an error only
if a command of a task of ITS OWN context (or of the root context) returned an error — and the body
of a try block has a context of its own, so its failing commands are no such cause; likewise a
task / the root scope reports an error at the end exactly when a task of that same context closed
with an error.  Only a failing handler (it runs in the owner's context) or a failing command of
the owner itself makes the owner fail. -/
theorem body_failure_contained (g : Graph) (hw : wf g = true) (sched : List Label) (pre post : List Ev) :
    (∀ p, (run g sched).tr = pre ++ Ev.done p false :: post →
      ∃ u i, Ev.ret u i false ∈ pre ∧ (g.ctx u = g.ctx p ∨ g.ctx u = 0)) ∧
    (∀ t, (run g sched).tr = pre ++ Ev.fin t false :: post →
      ∃ u, u < g.n ∧ Ev.done u false ∈ pre ∧ g.ctx u = g.ctx t) ∧
    ((run g sched).tr = pre ++ Ev.root false :: post →
      ∃ u, u < g.n ∧ Ev.done u false ∈ pre ∧ g.ctx u = 0) ∧
    (∀ t, (run g sched).tr = pre ++ Ev.fin t true :: post →
      ∀ u, u < g.n → Ev.done u false ∈ pre → g.ctx u ≠ g.ctx t) := by
  have htr := run_traceOk hw sched
  have htr2 := (runInv_run hw sched).ok2
  refine ⟨fun p hs => ?_, fun t hs => ?_, fun hs => ?_, fun t hs u hu hd => ?_⟩
  · rcases htr.doneFalse hs with h | h
    · obtain ⟨u, i, h1, h2⟩ := causeIn_iff.mp h; exact ⟨u, i, h1, Or.inl h2⟩
    · obtain ⟨u, i, h1, h2⟩ := causeIn_iff.mp h; exact ⟨u, i, h1, Or.inr h2⟩
  · obtain ⟨u, hu, hd, hc⟩ := htr2 pre _ post hs
    exact ⟨u, List.mem_range.mp hu, hd, hc⟩
  · obtain ⟨u, hu, hd, hc⟩ := htr2 pre _ post hs
    exact ⟨u, List.mem_range.mp hu, hd, hc⟩
  · exact (htr pre _ post hs).2 u (List.mem_range.mpr hu) hd

/-- The owner of a try block is blocked in the `pip:try` command until every handler that was accepted
by the task manager has closed: in every state of every run in which the owner is not (any more)
blocked there, an accepted handler has closed.  (The repaired `Create` — sign-on to the scope the task is
started in — refuses a handler whose context has failed; defect 22d of DESIGN §4 is the code without
it.) -/
theorem accepted_handlers_close_before_owner_leaves (g : Graph) (hw : wf g = true) (sched : List Label)
    (y h : Nat) (hy : y < g.tries.length) (hh : h ∈ g.handlers y)
    (hna : (run g sched).pc (g.tryd y).owner ≠ .afterCmd (g.tryd y).idx)
    (hacc : Ev.hacc h ∈ (run g sched).tr) : hasDone (run g sched).tr h :=
  accepted_closed_when_owner_leaves (runInv_run hw sched).wf (runInv_run hw sched).inv hy hh hna hacc

/-- How a body ENDS decides which handler runs.  A task closes without error (`done t true`: for the
body of a try block that selects the SUCCESS handler) only if every command of its script completed,
or a command that stops the scope (`Cmd.stop`: `Scope.Stop()`, done WITHOUT an error) had been entered
and every command that was entered completed — a clean stop is no failure, the rest of the script may
be skipped.  And a task in which some command FAILED — returned an error, unknown command name,
unreadable (truncated) text: `ret t j false` — never closes without error, and (`fail_iff_body_err`)
the fail handler is what runs. -/
theorem body_ok_iff_completed_or_stopped (g : Graph) (hw : wf g = true) (sched : List Label) (pre post : List Ev)
    (t : Nat) :
    ((run g sched).tr = pre ++ Ev.done t true :: post →
      (∀ i, i < (g.body t).length → cmdDoneOk g pre t i) ∨
      ((∃ i, i < (g.body t).length ∧ g.cmdAt t i = some .stop ∧ Ev.cmd t i ∈ pre) ∧
        ∀ i, i < (g.body t).length → Ev.cmd t i ∈ pre → cmdDoneOk g pre t i)) ∧
    (∀ j, Ev.ret t j false ∈ (run g sched).tr → Ev.done t true ∉ (run g sched).tr) := by
  have htr := run_traceOk hw sched
  refine ⟨fun hs => ?_, fun j hf => no_done_true_after_failure htr hf⟩
  rcases (htr.doneTrue hs).2 with h | ⟨⟨_, i, hi, hc, hm⟩, h⟩
  · exact Or.inl (fun i hi => h i (List.mem_range.mpr hi))
  · exact Or.inr ⟨⟨i, List.mem_range.mp hi, hc, hm⟩, fun i hi => h i (List.mem_range.mpr hi)⟩

/-- the stop in action: the body (task 1: `p, stop, p`) of `gStop` closes without error after its second
command, its third command is never entered, the success handler (3) runs, the fail handler (2) does
not, the owner and the root report no error -/
example :
    Ev.done 1 true ∈ (run gStop schedStop).tr ∧ Ev.cmd 1 1 ∈ (run gStop schedStop).tr ∧
    Ev.cmd 1 2 ∉ (run gStop schedStop).tr ∧ Ev.cmd 3 0 ∈ (run gStop schedStop).tr ∧
    Ev.cmd 2 0 ∉ (run gStop schedStop).tr ∧ Ev.done 0 true ∈ (run gStop schedStop).tr ∧
    Ev.root true ∈ (run gStop schedStop).tr ∧ gStop.cmdAt 1 1 = some .stop ∧ gStop.role 3 = .hsucc 0 := by
  rw [gStop_trace]; decide +kernel

/-- the monitor rejects a stopped body that is treated as failed (nothing failed in its context) … -/
example : accepts gStop [.sub 0, .acc 0, .cmd 0 0, .ret 0 0 true, .cmd 0 1, .ret 0 1 true, .cmd 1 0, .ret 1 0 true,
    .cmd 1 1, .ret 1 1 true, .done 1 false] = false :=
  accepts_false_of_last (List.cons_ne_nil _ _) (by decide +kernel)

/-- … and a body that closes ok although one of its commands failed (e.g. a truncated last command that
is taken for a clean end of input) -/
example : accepts gEx16 [.sub 0, .acc 0, .cmd 0 0, .ret 0 0 true, .cmd 0 1, .ret 0 1 true, .cmd 1 0,
    .ret 1 0 true, .cmd 1 1, .ret 1 1 false, .done 1 true] = false :=
  accepts_false_of_last (List.cons_ne_nil _ _) (by decide +kernel)

/-- Handlers are SUBMITTED only after the body has closed with the matching outcome: the acceptance
(`hacc`) or refusal (`hrej`) of a handler submission is preceded by the close of the body — any close
for `finally`, a close without error for the success handler, with an error for the fail handler —
and a refusal moreover by a cause of failure in the handler's (= the owner's) or the root context:
the task manager refuses a task only when the scope it is started in, or the root scope, is done. -/
theorem handlers_submitted_after_body (g : Graph) (hw : wf g = true) (sched : List Label) (pre post : List Ev)
    (h : Nat) :
    ((run g sched).tr = pre ++ Ev.hacc h :: post → isHandler g h = true ∧ submitted g pre h) ∧
    ((run g sched).tr = pre ++ Ev.hrej h :: post →
      isHandler g h = true ∧ submitted g pre h ∧ causeFor g pre h) := by
  have htr := run_traceOk hw sched
  exact ⟨fun hs => htr pre _ post hs, fun hs => htr pre _ post hs⟩

/-- In every run the try goroutine submits `finally` FIRST: when the submission of the fail or of the
success handler is decided (accepted or refused), the finally handler of the same try — if one is
defined — has already been accepted.  (A refused `finally` ends the try goroutine: nothing else is
submitted.)  This is a fact about the model, not a clause of the monitor: the property does not
prescribe an order of submission. -/
theorem finally_submitted_first (g : Graph) (hw : wf g = true) (sched : List Label) (pre post : List Ev)
    (h y f : Nat) (hr : g.role h = .hfail y ∨ g.role h = .hsucc y) (hf : (g.tryd y).fin = some f) :
    ((run g sched).tr = pre ++ Ev.hacc h :: post → Ev.hacc f ∈ pre) ∧
    ((run g sched).tr = pre ++ Ev.hrej h :: post → Ev.hacc f ∈ pre) := by
  have ho := (runInv_run hw sched).ord.ord
  exact ⟨fun hs => ho pre _ post hs y f hr hf, fun hs => (ho pre _ post hs).1 y f hr hf⟩

/-- Every handler that has to run — `finally`, and the one selected by the outcome of the body — has
STARTED when the owner of the try block closes, unless its fate was sealed by an event with a cause of
failure (in the owner's or the root context) strictly BEFORE that event: `pre = a ++ e :: b` where `e`
is the handler's own close without a first command (`done h false`; it had been accepted, `hacc`) or
a refused handler submission of this try (`hrej`), and the cause lies in `a`.  A failure recorded
after that event — in particular one produced by another handler of the same try — is no excuse. -/
theorem handler_starts_unless_prior_cause (g : Graph) (hw : wf g = true) (sched : List Label)
    (pre post : List Ev) (p i y h : Nat) (ok : Bool)
    (hs : (run g sched).tr = pre ++ Ev.done p ok :: post) (hc : g.cmdAt p i = some (.try_ y))
    (hret : Ev.ret p i true ∈ pre) (hsel : h ∈ selected g pre y) :
    handlerFate g pre y h ∧
    (Ev.cmd h 0 ∈ pre ∨ ∃ a e b, pre = a ++ e :: b ∧ sealsFate g y h e ∧ causeFor g a p) := by
  have hW := (wf_iff g).mp hw
  have htr := run_traceOk hw sched
  have hpre : TraceOk g pre := htr.pre hs
  obtain ⟨hy, ho, _⟩ := hW.tryc (t_lt_of_cmd hc) hc
  have hf := fate_at_close htr hs hc hret hsel
  exact ⟨hf, ho ▸ fate_timed hW hpre hy (selected_sub_handlers hsel) hf⟩

/-- `finally` in particular: whatever the outcome of the body, when the owner closes the finally
handler has started, or its fate was sealed by an event with a cause of failure strictly before it. -/
theorem finally_starts_unless_prior_cause (g : Graph) (hw : wf g = true) (sched : List Label)
    (pre post : List Ev) (p i y f : Nat) (ok : Bool)
    (hs : (run g sched).tr = pre ++ Ev.done p ok :: post) (hc : g.cmdAt p i = some (.try_ y))
    (hret : Ev.ret p i true ∈ pre) (hf : (g.tryd y).fin = some f) :
    Ev.cmd f 0 ∈ pre ∨ ∃ a e b, pre = a ++ e :: b ∧ sealsFate g y f e ∧ causeFor g a p :=
  (handler_starts_unless_prior_cause g hw sched pre post p i y f ok hs hc hret
    (mem_selected_of_kind .fin hf trivial)).2

/-- non-vacuity: on the example run the owner (0) closes after the try block at its command 1; the
fail handler (2) and `finally` (3) are selected, both started; `finally` was accepted before the fail
handler -/
example : ∃ pre post, (run gEx16 schedEx16).tr = pre ++ Ev.done 0 true :: post ∧
    gEx16.cmdAt 0 1 = some (.try_ 0) ∧ Ev.ret 0 1 true ∈ pre ∧ 2 ∈ selected gEx16 pre 0 ∧ 3 ∈ selected gEx16 pre 0 ∧
    Ev.cmd 2 0 ∈ pre ∧ Ev.cmd 3 0 ∈ pre :=
  ⟨[.sub 0, .acc 0, .cmd 0 0, .ret 0 0 true, .cmd 0 1, .ret 0 1 true, .cmd 1 0, .ret 1 0 true,
    .cmd 1 1, .ret 1 1 false, .done 1 false, .hacc 3, .hacc 2, .cmd 3 0, .ret 3 0 true, .done 3 true,
    .cmd 2 0, .ret 2 0 true, .done 2 true, .cmd 0 2, .ret 0 2 true],
   [.mwait false, .fin 0 true, .fin 1 false, .fin 2 true, .fin 3 true, .root true],
   by rw [gEx16_trace]; rfl, by decide +kernel⟩

example : ∃ pre post, (run gEx16 schedEx16).tr = pre ++ Ev.hacc 2 :: post ∧ gEx16.role 2 = .hfail 0 ∧
    (gEx16.tryd 0).fin = some 3 ∧ Ev.hacc 3 ∈ pre :=
  ⟨[.sub 0, .acc 0, .cmd 0 0, .ret 0 0 true, .cmd 0 1, .ret 0 1 true, .cmd 1 0, .ret 1 0 true,
    .cmd 1 1, .ret 1 1 false, .done 1 false, .hacc 3], _, by rw [gEx16_trace]; rfl, by decide +kernel⟩

/-- the excuse in action (a run of the model): the fail handler (2) of `gEx16f` fails before `finally`
(3) has entered its first command; `finally` closes without having started — its fate is sealed by
`done 3 false`, and the cause (`ret 2 0 false`, context 0 = the owner's) lies before that event -/
example : ∃ pre post a b, (run gEx16f schedEx16f).tr = pre ++ Ev.done 0 false :: post ∧
    3 ∈ selected gEx16f pre 0 ∧ Ev.cmd 3 0 ∉ pre ∧
    pre = a ++ Ev.done 3 false :: b ∧ sealsFate gEx16f 0 3 (.done 3 false) ∧ Ev.ret 2 0 false ∈ a ∧ gEx16f.ctx 2 = gEx16f.ctx 0 :=
  ⟨[.sub 0, .acc 0, .cmd 0 0, .ret 0 0 true, .cmd 0 1, .ret 0 1 true, .cmd 1 0, .ret 1 0 true,
    .cmd 1 1, .ret 1 1 false, .done 1 false, .hacc 3, .hacc 2, .cmd 2 0, .ret 2 0 false, .done 2 false, .done 3 false],
   [.mwait false, .fin 0 false, .fin 1 false, .fin 2 false, .fin 3 false, .root false],
   [.sub 0, .acc 0, .cmd 0 0, .ret 0 0 true, .cmd 0 1, .ret 0 1 true, .cmd 1 0, .ret 1 0 true,
    .cmd 1 1, .ret 1 1 false, .done 1 false, .hacc 3, .hacc 2, .cmd 2 0, .ret 2 0 false, .done 2 false],
   [], by rw [gEx16f_trace]; rfl, by decide +kernel, by decide +kernel, rfl, Or.inl rfl, by decide +kernel, rfl⟩

/-! `pol y` says how the harness's gate controller steers try block `y`: it holds the first command of
the selected handler until it has seen the fate of `finally` (`holdSel`), or the first command of
`finally` until it has seen the fate of the selected handler (`holdFin`); "fate" = first command
(or close, `untilDone`), close, or a refused submission of that try.  `sysS g pol` is the model with
the held steps disabled, `sysC g pol` adds the controller's time-out, which fires only when nothing
can move and then records `stall`. -/

/-- No stall, ever: under every steering policy and every schedule (of model steps and time-out
attempts) the controller's time-out never fires — no `stall` event is recorded and no handler is
ever let go by a time-out. -/
theorem stall_free (g : Graph) (hw : wf g = true) (pol : Nat → Steer) (sched : List CLabel) :
    (∀ t, Ev.stall t ∉ (runC g pol sched).st.tr) ∧ (runC g pol sched).rel = [] :=
  ⟨fun t => no_stall ((wf_iff g).mp hw) sched t, (cinv_run ((wf_iff g).mp hw) sched).rel⟩

/-- … because whenever the controller holds a handler `h`, the handler `w` it waits for belongs to the
same try, is itself not held, and is live: either the try goroutine can take its next step (it has
not submitted `w` yet), or `w` is an accepted task that has not closed — and (`steered_no_deadlock`)
something that is not held can always move. -/
theorem held_handler_awaits_live (g : Graph) (hw : wf g = true) (pol : Nat → Steer) (sched : List Label)
    (h : Nat) (hb : blocked g pol ((sysS g pol).run sched) (.task h) = true) :
    ∃ y w, y < g.tries.length ∧ w < g.n ∧ g.depth w = g.depth h ∧
      blocked g pol ((sysS g pol).run sched) (.task w) = false ∧
      ((step g ((sysS g pol).run sched) (.tryg y)).isSome = true ∨
       ((((sysS g pol).run sched).pc w).accepted = true ∧ ((sysS g pol).run sched).pc w ≠ .finished)) :=
  awaited (runInv_runS hw pol sched).wf (runInv_runS hw pol sched).inv hb

/-- deadlock freedom under steering: while the main thread has not finished, some step that the
controller does not hold back is enabled -/
theorem steered_no_deadlock (g : Graph) (hw : wf g = true) (pol : Nat → Steer) (sched : List Label)
    (h : ((sysS g pol).run sched).mp ≠ .finished) :
    ∃ l, (stepS g pol ((sysS g pol).run sched) l).isSome = true := by
  obtain ⟨l, hnb, hl⟩ := progressS (pol := pol) (runInv_runS hw pol sched).wf (runInv_runS hw pol sched).inv h
  exact ⟨l, by unfold stepS; rw [hnb]; exact hl⟩

/-- … and every steered run can be continued until the main thread has finished (every step
decreases the measure `mu`): every hold is released. -/
theorem steered_all_finish (g : Graph) (hw : wf g = true) (pol : Nat → Steer) (sched : List Label) :
    ∃ ext, ((sysS g pol).run (sched ++ ext)).mp = .finished := by
  obtain ⟨ext, hext⟩ := can_finishS (pol := pol) ((wf_iff g).mp hw) _ (LTS.run_reachable (sysS g pol) sched)
  exact ⟨ext, LTS.run_append _ sched ext ▸ hext⟩

/-- a steered run is a run of the model: the monitor accepts its trace -/
theorem steered_runs_accepted (g : Graph) (hw : wf g = true) (pol : Nat → Steer) (sched : List Label) :
    accepts g ((sysS g pol).run sched).tr = true :=
  (runInv_runS hw pol sched).accepted

set_option maxRecDepth 8000 in
/-- steering in action on the example graph: the fail handler (2) sits in its first command and is
held because `finally` (3) has not started — its step is enabled in the model but disabled under the
policy; after two steps of `finally` it is free; the whole steered run ends with both handlers run -/
example :
    blocked gEx16 polSel ((sysS gEx16 polSel).run schedHeld) (.task 2) = true ∧
    (step gEx16 ((sysS gEx16 polSel).run schedHeld) (.task 2)).isSome = true ∧
    (stepS gEx16 polSel ((sysS gEx16 polSel).run schedHeld) (.task 2)).isNone = true ∧
    blocked gEx16 polSel ((sysS gEx16 polSel).run (schedHeld ++ rep 2 (.task 3))) (.task 2) = false ∧
    Ev.cmd 3 0 ∈ ((sysS gEx16 polSel).run schedSteered).tr ∧ Ev.done 2 true ∈ ((sysS gEx16 polSel).run schedSteered).tr := by
  decide +kernel

set_option maxRecDepth 8000 in
/-- … and the time-out on behalf of the held handler is not enabled there -/
example : stepC gEx16 polSel ⟨(sysS gEx16 polSel).run schedHeld, []⟩ (.timeout 2) = none := by decide +kernel

/-- the example run: the body (task 1, context 1) fails at its second command; the fail handler (2)
and the finally handler (3) run after the body closed, the success handler (4) never does; the
owner (0) continues after the try block and closes without error, the root reports no error, and
only the body task itself reports one -/
example :
    Ev.done 1 false ∈ (run gEx16 schedEx16).tr ∧ Ev.cmd 2 0 ∈ (run gEx16 schedEx16).tr ∧
    Ev.cmd 3 0 ∈ (run gEx16 schedEx16).tr ∧ (∀ i, Ev.cmd 4 i ∉ (run gEx16 schedEx16).tr) ∧
    Ev.cmd 0 2 ∈ (run gEx16 schedEx16).tr ∧ Ev.done 0 true ∈ (run gEx16 schedEx16).tr ∧
    Ev.root true ∈ (run gEx16 schedEx16).tr ∧ Ev.fin 1 false ∈ (run gEx16 schedEx16).tr ∧
    gEx16.ctx 1 = 1 ∧ gEx16.ctx 0 = 0 := by
  rw [gEx16_trace]
  refine ⟨by decide +kernel, by decide +kernel, by decide +kernel, ?_, by decide +kernel⟩
  intro i h
  simp at h

example : gEx16.role 2 = .hfail 0 ∧ gEx16.role 3 = .hfin 0 ∧ gEx16.role 4 = .hsucc 0 ∧
    gEx16.cmdAt 0 1 = some (.try_ 0) ∧ (gEx16.tryd 0).body = 1 := by decide +kernel

/-- every model run is accepted (restated for a graph with try blocks in mind) -/
theorem model_runs_accepted (g : Graph) (hw : wf g = true) (sched : List Label) :
    accepts g (run g sched).tr = true :=
  (runInv_run hw sched).accepted

/-- the monitor accepts exactly the traces that satisfy the declarative clauses -/
theorem accepts_iff (g : Graph) (tr : List Ev) :
    accepts g tr = true ↔
      (∀ pre e post, tr = pre ++ e :: post → Ok g pre e) ∧ (∀ pre e post, tr = pre ++ e :: post → Ok2 g pre e) :=
  Goat.Pipeline.accepts_iff g tr

example : accepts gEx16 (run gEx16 schedEx16).tr = true := model_runs_accepted gEx16 gEx16_wf schedEx16

/-- the monitor rejects a success handler that starts although the body failed … -/
example : accepts gEx16 [.sub 0, .acc 0, .cmd 0 0, .ret 0 0 true, .cmd 0 1, .ret 0 1 true, .cmd 1 0,
    .ret 1 0 true, .cmd 1 1, .ret 1 1 false, .done 1 false, .cmd 4 0] = false :=
  accepts_false_of_last (List.cons_ne_nil _ _) (by decide +kernel)

/-- … a handler that starts before the body has closed … -/
example : accepts gEx16 [.sub 0, .acc 0, .cmd 0 0, .ret 0 0 true, .cmd 0 1, .ret 0 1 true, .cmd 1 0,
    .cmd 3 0] = false :=
  accepts_false_of_last (List.cons_ne_nil _ _) (by decide +kernel)

/-- … a `finally` that is never submitted: the later failure of the fail handler (2) is no excuse: it
comes after the point where `finally` had to be submitted … -/
example : accepts gEx16f [.sub 0, .acc 0, .cmd 0 0, .ret 0 0 true, .cmd 0 1, .ret 0 1 true, .cmd 1 0,
    .ret 1 0 true, .cmd 1 1, .ret 1 1 false, .done 1 false, .hacc 2, .cmd 2 0, .ret 2 0 false, .done 2 false,
    .done 0 false] = false :=
  accepts_false_of_last (List.cons_ne_nil _ _) (by decide +kernel)

/-- … whereas a `finally` that was accepted and closed without a first command AFTER the fail handler had
failed is excused (RunLoop took the `<-Done()` branch): the cause precedes the sealing event `done 3 false` -/
example : accepts gEx16f [.sub 0, .acc 0, .cmd 0 0, .ret 0 0 true, .cmd 0 1, .ret 0 1 true, .cmd 1 0,
    .ret 1 0 true, .cmd 1 1, .ret 1 1 false, .done 1 false, .hacc 3, .hacc 2, .cmd 2 0, .ret 2 0 false,
    .done 2 false, .done 3 false, .done 0 false] = true := by decide +kernel

/-- … a `finally` that closes without a first command with NO cause before its close is rejected … -/
example : accepts gEx16f [.sub 0, .acc 0, .cmd 0 0, .ret 0 0 true, .cmd 0 1, .ret 0 1 true, .cmd 1 0,
    .ret 1 0 true, .cmd 1 1, .ret 1 1 false, .done 1 false, .hacc 3, .hacc 2, .cmd 2 0, .done 3 false] = false :=
  accepts_false_of_last (List.cons_ne_nil _ _) (by decide +kernel)

/-- … a stall of `finally` while the held fail handler has not failed yet is rejected (the trace of an
implementation that queues `finally` behind the selected handler, under steering) … -/
example : accepts gEx16f [.sub 0, .acc 0, .cmd 0 0, .ret 0 0 true, .cmd 0 1, .ret 0 1 true, .cmd 1 0,
    .ret 1 0 true, .cmd 1 1, .ret 1 1 false, .done 1 false, .hacc 2, .hacc 3, .cmd 2 0, .stall 3] = false :=
  accepts_false_of_last (List.cons_ne_nil _ _) (by decide +kernel)

/-- … a stall after a cause of failure in the owner's context is tolerated … -/
example : accepts gEx16f [.sub 0, .acc 0, .cmd 0 0, .ret 0 0 true, .cmd 0 1, .ret 0 1 true, .cmd 1 0,
    .ret 1 0 true, .cmd 1 1, .ret 1 1 false, .done 1 false, .hacc 3, .hacc 2, .cmd 2 0, .ret 2 0 false, .stall 3] = true := by
  decide +kernel

/-- … a handler submission REFUSED right after the body failed, with no cause in the owner's or the root context (the
body's failure lives in the body's own context and is none; `handlers_submitted_after_body`): the trace of an
implementation whose handlers go to a task manager rooted at the body's separated scope — what seeded change C16-10
produces when the try block is the first pipeline command of a session scope of its own or follows a `pip:clear`
(harness family c16x: scope kinds) … -/
example : accepts gEx16 [.sub 0, .acc 0, .cmd 0 0, .ret 0 0 true, .cmd 0 1, .ret 0 1 true, .cmd 1 0,
    .ret 1 0 true, .cmd 1 1, .ret 1 1 false, .done 1 false, .hrej 3] = false :=
  accepts_false_of_last (List.cons_ne_nil _ _) (by decide +kernel)

/-- … and an owner that is marked failed by nothing but the failure of the body -/
example : accepts gEx16 [.sub 0, .acc 0, .cmd 0 0, .ret 0 0 true, .cmd 0 1, .ret 0 1 true, .cmd 1 0,
    .ret 1 0 true, .cmd 1 1, .ret 1 1 false, .done 1 false, .cmd 3 0, .ret 3 0 true, .done 3 true,
    .cmd 2 0, .ret 2 0 true, .done 2 true, .done 0 false] = false :=
  accepts_false_of_last (List.cons_ne_nil _ _) (by decide +kernel)

end Goat.C16
