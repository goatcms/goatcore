/-
C10 — dependency container: lazy singletons, fixed precedence, safe failure.

Theorems about `Goat/Model/DI.lean` (the mirror of `/repo/app/dependency/provider.go`, of the
injectors in `/repo/app/injector` and `/repo/app/scope/datascope/injector.go`, and of
`NewStaticProvider`).  A history is any `List Op` — `Set`/`SetDefault` (with an object or with
`nil`)/`AddFactory`/`AddDefaultFactory`/`AddInjectors`/`Get`/`InjectTo` (into a struct, or into
something that is not a pointer to a struct)/`Keys` in any order and number, over names that are any
texts (the empty one and those beginning with `?` included), factories with any dependency lists,
injectors with any data — run from `NewProvider` (`St.empty`); `exec` is the state after it,
`Get`/`InjectTo` are the calls from outside, `InjectOwn` is the part of `InjectTo` the provider does
itself (before the registered injectors), `toStatic` turns a provider into the one
`NewStaticProvider` builds from its tables.  Nothing is bounded.
-/
import Goat.Proofs.DIGood
import Goat.Proofs.DIStatic
import Goat.Proofs.DIPrec
import Goat.Proofs.DIBlock
import Goat.Proofs.DIInjectTo

namespace Goat.C10
open Goat.DI

/-! Example material: `0` needs `1` optionally and `2` by injection, `1` fails, `2` is a default
instance shadowed by nothing; `3 → 4 → 5 → 3` is a required cycle, `6` needs the cycle optionally. -/

def demoDefs : List Op :=
  [ .addFactory 0 ⟨[⟨1, true, false⟩, ⟨2, false, true⟩], .ok⟩,
    .addFactory 1 ⟨[], .fail⟩,
    .setDefault 2 7,
    .addDefaultFactory 2 ⟨[], .ok⟩,
    .addFactory 3 ⟨[⟨4, false, false⟩], .ok⟩,
    .addDefaultFactory 4 ⟨[⟨5, false, true⟩], .ok⟩,
    .addFactory 5 ⟨[⟨3, false, false⟩], .ok⟩,
    .addFactory 6 ⟨[⟨3, true, false⟩], .ok⟩ ]

def demoReqs : List Op :=
  [ .get 1, .get 3, .injectTo [.own 1 true, .own 0 false], .get 6, .set 9 1, .keys ]

/-- The recursion of `Get` through the factories never runs out of fuel: `get 0` (the only place
that sets `exhausted`) is never reached, after any history.  This is the termination proof of the
model — the fuel `|keys| + 1` given to a request is always enough. -/
theorem fuel_sufficient (h : List Op) : (exec St.empty h).exhausted = false :=
  (inv_exec Inv.empty h).notex

example : (exec St.empty (demoDefs ++ demoReqs)).exhausted = false := by decide +kernel

/-- After every history — whatever failed in it — the resolution stack is empty again. -/
theorem stack_clean (h : List Op) : (exec St.empty h).callstack = [] :=
  (inv_exec Inv.empty h).stack

example : (results St.empty (demoDefs ++ demoReqs)).getLast? = some (.keys [0, 1, 2, 3, 4, 5, 6]) ∧
    (exec St.empty (demoDefs ++ demoReqs)).callstack = [] := by decide +kernel

/-- No name's factory delivers an instance twice. -/
theorem at_most_one_success (h : List Op) : (successes (exec St.empty h).log).Nodup :=
  (inv_exec Inv.empty h).log.nodup

example : successes (exec St.empty (demoDefs ++ demoReqs)).log = [0, 6] := by decide +kernel

/-- Once the factory of `n` has delivered, it is never started again (position-wise in the log of
all factory invocations, nested ones included). -/
theorem never_rerun_after_instance (h : List Op) (pre post : List Ev) (n : Name) (i : Inst)
    (hl : (exec St.empty h).log = pre ++ Ev.done n i :: post) : Ev.start n ∉ post :=
  noRerun_split (inv_exec Inv.empty h).log.norerun hl

example : (exec St.empty (demoDefs ++ demoReqs)).log =
    [.start 1, .start 3, .start 4, .start 5, .start 1, .start 0, .start 1] ++ Ev.done 0 (.built 0) ::
      [.start 6, .start 3, .start 4, .start 5, .done 6 (.built 1)] := by decide +kernel

/-- A name that has an instance (set, promoted default, or built) never has its factory invoked
again, whatever happens afterwards. -/
theorem never_invoked_with_instance (h h' : List Op) (n : Name)
    (hi : (exec St.empty h).instances n ≠ none) :
    invocations n (exec St.empty (h ++ h')).log = invocations n (exec St.empty h).log := by
  rw [exec_append]
  exact (grow_exec (inv_exec Inv.empty h) h').invocations_eq hi

example : (exec St.empty (demoDefs ++ [.get 0])).instances 0 ≠ none ∧
    invocations 0 (exec St.empty (demoDefs ++ [.get 0] ++ demoReqs)).log = 1 := by decide +kernel

/-- Once a `Get n` has answered `i`, every later `Get n` answers `i`. -/
theorem singleton (h h' : List Op) (n : Name) (i : Inst)
    (hg : (Get (exec St.empty h) n).2 = .inst i) :
    (Get (exec St.empty (h ++ .get n :: h')) n).2 = .inst i :=
  Get_of_inst (inv_exec Inv.empty _) (exec_get_inst Inv.empty h hg h')

example : (Get (exec St.empty demoDefs) 0).2 = .inst (.built 0) := by decide +kernel

/-- … and every later injection stores `i` into each field tagged `n` or `?n` that the provider's
own loop reaches (an object; a `nil` is refused instead, see `nil_definition_inject_refused`). -/
theorem singleton_inject (h h' : List Op) (n : Name) (i : Inst)
    (hg : (Get (exec St.empty h) n).2 = .inst i) (hnil : i ≠ .nil)
    (fs : List Field) (k : Nat) (fld : Field) (opt : Bool) (v : Option Inst) (hk : fs[k]? = some fld)
    (hname : fld.dep = some (n, opt))
    (hv : (InjectOwn (exec St.empty (h ++ .get n :: h')) fs).2.1[k]? = some v) :
    v = some i :=
  InjectOwn_of_inst (inv_exec Inv.empty _) (exec_get_inst Inv.empty h hg h') hnil fs k fld opt v hk hname hv

example : (InjectOwn (exec St.empty (demoDefs ++ .get 0 :: demoReqs)) [.own 2 false, .own 0 true]).2.1 =
    [some (.given 7), some (.built 0)] := by decide +kernel

/-- The same when the first answer was an injected field: what a field received is what every later
`Get` of that name answers. -/
theorem singleton_from_inject (h h' : List Op) (fs : List Field) (k : Nat) (fld : Field) (i : Inst)
    (hk : fs[k]? = some fld) (hv : (InjectOwn (exec St.empty h) fs).2.1[k]? = some (some i)) :
    ∃ n opt, fld.dep = some (n, opt) ∧
      (Get (exec St.empty (h ++ .injectTo fs :: h')) n).2 = .inst i := by
  have hinv := inv_exec Inv.empty h
  obtain ⟨n, opt, hd, h1⟩ := InjectOwn_val_inst hinv fs k fld i hk hv
  refine ⟨n, opt, hd, ?_⟩
  rw [exec_append]
  have h2 : (step (exec St.empty h) (.injectTo fs)).1.instances n = some i := by
    show (InjectTo _ fs).1.instances n = some i
    rw [InjectTo_fst]; exact h1
  exact Get_of_inst (inv_exec (inv_step hinv _) h')
    ((grow_exec (inv_step hinv _) h').inst_mono _ i h2)

example : (InjectOwn (exec St.empty demoDefs) [.own 1 true, .own 0 false]).2.1[1]? = some (some (.built 0)) := by
  decide +kernel

/-- After any sequence of definition calls — any order, any duplicates, any mix of the four kinds,
for any names — the definition `Get` uses for `n` (instances, then factories, then default
factories, after `Block`) is the first explicit definition of `n` in the sequence if there is one,
and the first default definition of `n` otherwise. -/
theorem explicit_wins (defs : List Op) (n : Name) (hd : ∀ o, o ∈ defs → o.isDef = true) :
    source (block (exec St.empty defs)) n = orElse (firstExplicit n defs) (firstDefault n defs) := by
  simpa using (RelN.exec_defs defs St.empty none none hd ⟨rfl, rfl, fun _ => rfl⟩).source_eq

example : source (block (exec St.empty demoDefs)) 2 = some (.inst (.given 7)) := by decide +kernel

/-- In particular an explicit definition beats every default one wherever it stands. -/
theorem explicit_beats_default (defs : List Op) (n : Name) (src : Src)
    (hd : ∀ o, o ∈ defs → o.isDef = true) (he : firstExplicit n defs = some src) :
    source (block (exec St.empty defs)) n = some src := by
  rw [explicit_wins defs n hd, he]; rfl

example : firstExplicit 0 [.setDefault 0 1, .addDefaultFactory 0 ⟨[], .ok⟩, .addFactory 0 ⟨[], .fail⟩, .set 0 2]
    = some (.fac ⟨[], .fail⟩) := by decide

/-- An explicitly set object (or `nil`) is what `Get` returns, whatever defaults were registered before or after. -/
theorem explicit_instance_returned (defs : List Op) (n : Name) (i : Inst)
    (hd : ∀ o, o ∈ defs → o.isDef = true) (he : firstExplicit n defs = some (.inst i)) :
    (Get (exec St.empty defs) n).2 = .inst i :=
  Get_of_block_inst (inv_exec Inv.empty defs) (source_inst (explicit_beats_default defs n _ hd he))

example : (Get (exec St.empty [.setDefault 0 1, .addDefaultFactory 0 ⟨[], .ok⟩, .set 0 2, .addFactory 0 ⟨[], .fail⟩]) 0).2
    = .inst (.given 2) := by decide +kernel

/-- `Block` folds the default instances in with a `range` over a Go map, whose order is unspecified.
In whatever order the loop visits the keys (any list containing every key of `defaultInstances`),
the outcome is the same — the point-wise `block` of the model. -/
theorem block_order_irrelevant (s : St) (order : List Name)
    (hall : ∀ k, s.defaultInstances k ≠ none → k ∈ order) : blockLoop s order = block s := by
  unfold blockLoop
  cases hb : s.blocked with
  | true => simp [block_of_blocked hb]
  | false =>
    simp only [Bool.false_eq_true, if_false]
    have hent : ∀ x, entry (order.foldl blockBody s) x = entry (block s) x := by
      intro x
      rw [foldl_entry, block_entry s hb]
      by_cases hx : x ∈ order
      · rw [if_pos hx]
      · have : s.defaultInstances x = none := Classical.byContradiction fun hd => hx (hall x hd)
        rw [if_neg hx, this]
        rfl
    rw [(foldl_frame order s).eq_of_entry hent, block, if_neg (by simp [hb])]

example : source (blockLoop (exec St.empty demoDefs) [4, 2, 0]) 2 = some (.inst (.given 7)) ∧
    source (blockLoop (exec St.empty demoDefs) [2, 2, 9]) 2 = some (.inst (.given 7)) := by decide +kernel

/-- After the first resolution (a `Get`, or an `InjectTo` with at least one field that carries the
provider's tag — successful or not) every definition call — `AddInjectors` included — is refused and
changes nothing, for the rest of the history. -/
theorem frozen_after_first_use (h1 h2 : List Op) (r o : Op) (hr : r.isResolution = true)
    (ho : o.isDef = true) :
    step (exec St.empty (h1 ++ r :: h2)) o = (exec St.empty (h1 ++ r :: h2), .refused) := by
  have hinv := inv_exec Inv.empty h1
  rw [exec_append]
  exact step_def_blocked
    ((grow_exec (inv_step hinv r) h2).blocked_mono (blocked_of_resolution hinv hr)) ho

example : (results St.empty (demoDefs ++ demoReqs))[12]? = some .refused := by decide +kernel

/-- … and `Keys` no longer changes. -/
theorem keys_frozen (h1 h2 : List Op) (r : Op) (hr : r.isResolution = true) :
    Keys (exec St.empty (h1 ++ r :: h2)) = Keys (exec St.empty (h1 ++ [r])) := by
  have hinv := inv_exec Inv.empty h1
  rw [exec_append, exec_append]
  exact (grow_exec (inv_step hinv r) h2).keys_frozen (blocked_of_resolution hinv hr)

/-- The strongest statement.  Take any history `h` and let `s0` be its state after `Block` (the
definitions in force).  After any continuation `h'` that defines nothing new (it contains no
definition call, or `h` had already resolved something so that they are all refused), a `Get n` from
outside succeeds if and only if `n` is `Good` in `s0` — an inductive predicate on the definitions
alone: an instance, or a factory that returns an object and whose required dependencies are `Good`.
So no request in `h'` — failed, cyclic, optional-and-missing, or successful — changes the outcome
of any other or later request. -/
theorem outcome_history_independent (h h' : List Op) (n : Name)
    (hcond : (∀ o, o ∈ h' → o.isDef = false) ∨ (exec St.empty h).blocked = true) :
    (Get (exec St.empty (h ++ h')) n).2.isInst = true ↔ Good (block (exec St.empty h)) n := by
  have hinv := inv_exec Inv.empty h
  rw [exec_append]
  exact Get_iff_good (inv_exec hinv h')
    (rel_exec h' _ hinv (Rel.refl (block_blocked _) (by rw [block_callstack]; exact hinv.stack)) hcond) n

example : (Get (exec St.empty (demoDefs ++ [.get 1, .get 3, .injectTo [.own 1 true, .own 0 false], .get 6])) 0).2.isInst
    = true := by decide +kernel

/-- Spelled out: two request histories after the same definitions give every name the same outcome. -/
theorem answers_independent_of_requests (h r1 r2 : List Op) (n : Name)
    (h1 : ∀ o, o ∈ r1 → o.isDef = false) (h2 : ∀ o, o ∈ r2 → o.isDef = false) :
    (Get (exec St.empty (h ++ r1)) n).2.isInst = (Get (exec St.empty (h ++ r2)) n).2.isInst :=
  Bool.eq_iff_iff.2
    ((outcome_history_independent h r1 n (Or.inl h1)).trans (outcome_history_independent h r2 n (Or.inl h2)).symm)

/-- A set of names each of which is defined by a factory with a *required* dependency (`Dep.eff`: the
name an edge really asks for and whether it tolerates a failure) inside the set
(every required cycle is one, so is everything that requires its way into a cycle): a `Get` of any
member from outside returns an error — it does not recurse forever (`get` is total and
`fuel_sufficient` holds for the history extended by this request) and the error is a real answer,
not the fuel marker. -/
theorem cycle_is_error (h h' : List Op) (cyc : List Name)
    (hcond : (∀ o, o ∈ h' → o.isDef = false) ∨ (exec St.empty h).blocked = true)
    (hc : ∀ c, c ∈ cyc → ∃ f d m, source (block (exec St.empty h)) c = some (.fac f) ∧ d ∈ f.deps ∧
      d.eff = some (m, false) ∧ m ∈ cyc)
    (c : Name) (hmem : c ∈ cyc) :
    ∃ e, (Get (exec St.empty (h ++ h')) c).2 = .err e ∧ e ≠ .fuel := by
  have hng : ¬ Good (block (exec St.empty h)) c := fun hg => not_good_of_closed hc hg hmem
  have hiff := outcome_history_independent h h' c hcond
  cases hres : (Get (exec St.empty (h ++ h')) c).2 with
  | inst i => rw [hres] at hiff; exact absurd (hiff.1 rfl) hng
  | err e => exact ⟨e, rfl, fun he => Get_ne_fuel (inv_exec Inv.empty (h ++ h')) c (he ▸ hres)⟩

example : (Get (exec St.empty demoDefs) 4).2 = .err .failed ∧
    (∀ c, c ∈ ([3, 4, 5] : List Name) → ∃ f d m, source (block (exec St.empty demoDefs)) c = some (.fac f) ∧
      d ∈ f.deps ∧ d.eff = some (m, false) ∧ m ∈ ([3, 4, 5] : List Name)) := by
  refine ⟨by decide +kernel, ?_⟩
  intro c hc
  simp only [List.mem_cons, List.not_mem_nil, or_false] at hc
  rcases hc with rfl | rfl | rfl
  · exact ⟨⟨[⟨4, false, false⟩], .ok⟩, ⟨4, false, false⟩, 4, by decide +kernel, by decide, by decide, by decide⟩
  · exact ⟨⟨[⟨5, false, true⟩], .ok⟩, ⟨5, false, true⟩, 5, by decide +kernel, by decide, by decide, by decide⟩
  · exact ⟨⟨[⟨3, false, false⟩], .ok⟩, ⟨3, false, false⟩, 3, by decide +kernel, by decide, by decide, by decide⟩

/-- The literal form: `cyc[0] → cyc[1] → … → cyc[len-1] → cyc[0]` by required edges. -/
theorem required_cycle_is_error (h h' : List Op) (cyc : List Name)
    (hcond : (∀ o, o ∈ h' → o.isDef = false) ∨ (exec St.empty h).blocked = true)
    (hc : ∀ (k : Nat) (hk : k < cyc.length), ∃ f d,
      source (block (exec St.empty h)) cyc[k] = some (.fac f) ∧ d ∈ f.deps ∧
      d.eff = some (cyc[(k + 1) % cyc.length]'(Nat.mod_lt _ (Nat.zero_lt_of_lt hk)), false))
    (c : Name) (hmem : c ∈ cyc) :
    ∃ e, (Get (exec St.empty (h ++ h')) c).2 = .err e ∧ e ≠ .fuel := by
  refine cycle_is_error h h' cyc hcond ?_ c hmem
  intro x hx
  obtain ⟨k, hk, rfl⟩ := List.mem_iff_getElem.1 hx
  obtain ⟨f, d, h1, h2, h3⟩ := hc k hk
  exact ⟨f, d, _, h1, h2, h3, List.getElem_mem _⟩

/-! Example material: two `AddInjectors` calls (a map injector for the provider's own tag name `0`, a
multi injector holding a data-scope injector for tag name `1` and the nil injector; later a second
map injector for tag name `0`), a factory with an optional `InjectTo` edge, an object, a `nil`
definition, a definition whose name is `?1` and one whose name is empty. -/

def extDefs : List Op :=
  [ .addInjectors [.map 0 [(2, .given 50)], .multi [.scope 1 [(7, .given 51), (8, .nil)], .nop]],
    .addFactory 0 ⟨[⟨1, true, true⟩], .ok⟩,
    .set 2 5,
    .setNil 3,
    .addInjectors [.map 0 [(2, .given 52), (4, .nil)]],
    .set (Name.opt 1) 6,
    .set Name.empty 9 ]

/-- the struct `{ A `dependency:"?0"`; B `dependency:"2"`; C `dependency:"?9" t1:"7"`; D `t1:"?8"` }` -/
def extFields : List Field :=
  [ .own 0 true, .own 2 false, ⟨[(0, Name.opt 9), (1, 7)]⟩, ⟨[(1, Name.opt 8)]⟩ ]

/-- The registered injectors never touch the provider: the state after an `InjectTo` — tables, log of
factory invocations — is the state after the provider's own loop.  A field tagged `n` (or `?n`) of an
`InjectTo` that returned no error holds the field-wise reading of the injectors applied to the
singleton `i`: the singleton itself unless a registered injector has a value for that field
(`extra_injector_order` says which). -/
theorem injectors_do_not_break_singletons (h h' : List Op) (n : Name) (i : Inst)
    (hg : (Get (exec St.empty h) n).2 = .inst i) (hnil : i ≠ .nil)
    (fs : List Field) (k : Nat) (fld : Field) (opt : Bool) (hk : fs[k]? = some fld)
    (hname : fld.dep = some (n, opt)) :
    (InjectTo (exec St.empty (h ++ .get n :: h')) fs).1 = (InjectOwn (exec St.empty (h ++ .get n :: h')) fs).1 ∧
    ((InjectTo (exec St.empty (h ++ .get n :: h')) fs).2.2 = none →
      (InjectTo (exec St.empty (h ++ .get n :: h')) fs).2.1[k]? =
        some (pickAll (exec St.empty (h ++ .get n :: h')).injectors fld (some i))) ∧
    ((InjectTo (exec St.empty (h ++ .get n :: h')) fs).2.2 = none →
      pickAll (exec St.empty (h ++ .get n :: h')).injectors fld (some i) = some i →
      (InjectTo (exec St.empty (h ++ .get n :: h')) fs).2.1[k]? = some (some i)) := by
  have key := InjectTo_pick_inst (inv_exec Inv.empty (h ++ .get n :: h'))
    (exec_get_inst Inv.empty h hg h') hnil fs k fld opt hk hname
  exact ⟨InjectTo_fst _ fs, key, fun hok hp => by rw [key hok, hp]⟩

example : (results St.empty (extDefs ++ [.get 0, .injectTo extFields])).getLast? =
    some (.injected [some (.built 0), some (.given 52), some (.given 51), none] none) := by decide +kernel

/- an injector registered for the provider's own tag name must know every REQUIRED field of the struct:
here the first map injector has no value for `0` and stops the call (the provider's loop has run) -/
example : (results St.empty (extDefs ++ [.get 0, .injectTo [.own 0 false, .own 2 false]])).getLast? =
    some (.injected [some (.built 0), some (.given 5)] (some (.injector 0))) := by decide +kernel

/-- Which source wins.  After an `InjectTo` that returned no error every field holds: what the
provider's own loop stored, overwritten by each registered injector that has a value for the field
(under ITS tag name), in registration order — so the last registered injector with a value wins, and
any injector with a value beats the provider. -/
theorem extra_injector_order (h : List Op) (fs : List Field) (k : Nat) (fld : Field)
    (hk : fs[k]? = some fld) (hok : (InjectTo (exec St.empty h) fs).2.2 = none) :
    (InjectTo (exec St.empty h) fs).2.1[k]? =
      some (pickAll (exec St.empty h).injectors fld ((InjectOwn (exec St.empty h) fs).2.1[k]?.join)) :=
  InjectTo_pick (inv_exec Inv.empty h) fs hok k fld hk

example : (exec St.empty extDefs).injectors =
    [.map 0 [(2, .given 50)], .multi [.scope 1 [(7, .given 51), (8, .nil)], .nop], .map 0 [(2, .given 52), (4, .nil)]] ∧
    pickAll (exec St.empty extDefs).injectors (.own 2 false) (some (.given 5)) = some (.given 52) := by
  constructor <;> rfl

/-- … spelled out: the injector registered last is applied last, and a map injector that has an object
for the field's key stores it whatever the field held. -/
theorem extra_injector_last_wins (l : List Injector) (t : TagName) (data : List (Name × Inst)) (fld : Field)
    (cur : Option Inst) (key : Name) (o : Bool) (x : Inst) (hp : parseTag (fld.raw t) = some (key, o))
    (hl : lookupData data key = some x) (hx : x ≠ .nil) :
    pickAll (l ++ [.map t data]) fld cur = some x := by
  rw [pickAll_append]
  simp [pickAll, Injector.pick, leafPick, hp, hl, hx]

example : parseTag ((Field.own 2 false).raw 0) = some (2, false) ∧ lookupData [(2, Inst.given 52), (4, .nil)] 2 = some (.given 52) := by
  decide

/-- `AddInjectors` appends (before the first resolution; afterwards it is refused by `frozen_after_first_use`). -/
theorem add_injectors_appends (s : St) (l : List Injector) (hb : s.blocked = false) :
    step s (.addInjectors l) = ({ s with injectors := s.injectors ++ l }, .ok) := by
  simp [step, accepted, addInjectors, hb]

example : (step St.empty (.addInjectors [.nop, .map 0 []])).1.injectors = [.nop, .map 0 []] := rfl

/-- … and after the first resolution the list of injectors never changes. -/
theorem injectors_frozen (h1 h2 : List Op) (r : Op) (hr : r.isResolution = true) :
    (exec St.empty (h1 ++ r :: h2)).injectors = (exec St.empty (h1 ++ [r])).injectors := by
  have hinv := inv_exec Inv.empty h1
  rw [exec_append, exec_append]
  exact (grow_exec (inv_step hinv r) h2).inj_frozen (blocked_of_resolution hinv hr)

example : (results St.empty (extDefs ++ [.get 0, .addInjectors [.nop]])).getLast? = some .refused := by decide +kernel

/-- For every provider state reached by any history, every order in which `NewStaticProvider` may
range over the factory map (any list containing every key), and every further history `rs` without
`Keys`: the static provider answers exactly like the original after `Block` — the same results
(accepted/refused, instances, injected structs, errors), and the same log of factory invocations, so
no factory runs that the original would not run and none runs twice. -/
theorem static_provider_agrees (h : List Op) (order : List Name) (rs : List Op)
    (hord : ∀ n, mergedFactories (block (exec St.empty h)) n ≠ none → n ∈ order)
    (hk : ∀ o, o ∈ rs → o.isKeys = false) :
    results (toStatic (exec St.empty h) order) rs = results (block (exec St.empty h)) rs ∧
    (exec (toStatic (exec St.empty h) order) rs).log = (exec (block (exec St.empty h)) rs).log ∧
    (exec (toStatic (exec St.empty h) order) rs).instances = (exec (block (exec St.empty h)) rs).instances := by
  have hinv := inv_exec Inv.empty h
  obtain ⟨r1, r2⟩ := results_sim rs _ _ (sim_toStatic hinv order) hinv.block (inv_toStatic hinv order hord) hk
  exact ⟨r1.symm, r2.log, r2.instances⟩

example : results (toStatic (exec St.empty demoDefs) [6, 5, 4, 3, 2, 1, 0]) (demoReqs.filter fun o => !o.isKeys) =
    results (block (exec St.empty demoDefs)) (demoReqs.filter fun o => !o.isKeys) := by decide +kernel

/-- Where it differs: `Keys` of a static provider lists the names that have a factory (explicit or
default) in the order of the `range`, not the names defined by an instance only; it never changes. -/
theorem static_provider_keys (h : List Op) (order : List Name) (rs : List Op)
    (hord : ∀ n, mergedFactories (block (exec St.empty h)) n ≠ none → n ∈ order) :
    Keys (exec (toStatic (exec St.empty h) order) rs) =
      order.filter fun k => (mergedFactories (block (exec St.empty h)) k).isSome := by
  have hinv := inv_toStatic (inv_exec Inv.empty h) order hord
  exact (grow_exec hinv rs).keys_frozen rfl

example : Keys (toStatic (exec St.empty demoDefs) [6, 5, 4, 3, 2, 1, 0]) = [6, 5, 4, 3, 1, 0] ∧
    Keys (toStatic (exec St.empty extDefs) (Keys (exec St.empty extDefs))) = [0] ∧
    Keys (exec St.empty extDefs) = [0, 2, 3, Name.opt 1, Name.empty] := by decide +kernel

/-- A static provider refuses every definition call and `AddInjectors`, from the start and for ever. -/
theorem static_provider_frozen (h : List Op) (order : List Name) (rs : List Op) (o : Op)
    (hord : ∀ n, mergedFactories (block (exec St.empty h)) n ≠ none → n ∈ order) (ho : o.isDef = true) :
    step (exec (toStatic (exec St.empty h) order) rs) o =
      (exec (toStatic (exec St.empty h) order) rs, .refused) :=
  step_def_blocked ((grow_exec (inv_toStatic (inv_exec Inv.empty h) order hord) rs).blocked_mono rfl) ho

example : results (toStatic (exec St.empty demoDefs) [6, 5, 4, 3, 2, 1, 0]) [.set 9 1, .get 0, .addInjectors []] =
    [.refused, .got (.inst (.built 0)), .refused] := by decide +kernel

/-- … and keeps the guarantees of the original for any history run on it: the stack is empty after
every request, the fuel suffices, no name is built twice, nothing is re-run after it delivered. -/
theorem static_provider_safe (h : List Op) (order : List Name) (rs : List Op)
    (hord : ∀ n, mergedFactories (block (exec St.empty h)) n ≠ none → n ∈ order) :
    (exec (toStatic (exec St.empty h) order) rs).callstack = [] ∧
    (exec (toStatic (exec St.empty h) order) rs).exhausted = false ∧
    (successes (exec (toStatic (exec St.empty h) order) rs).log).Nodup ∧
    NoRerun (exec (toStatic (exec St.empty h) order) rs).log := by
  have hinv := inv_exec (inv_toStatic (inv_exec Inv.empty h) order hord) rs
  exact ⟨hinv.stack, hinv.notex, hinv.log.nodup, hinv.log.norerun⟩

example : (exec (toStatic (exec St.empty demoDefs) [6, 5, 4, 3, 2, 1, 0]) demoReqs).callstack = [] ∧
    successes (exec (toStatic (exec St.empty demoDefs) [6, 5, 4, 3, 2, 1, 0]) demoReqs).log = [0, 6] := by decide +kernel

/-- the order the driver uses (`Keys` of the original) lists every key of the factory map -/
theorem static_order_keys (h : List Op) (n : Name)
    (hn : mergedFactories (block (exec St.empty h)) n ≠ none) : n ∈ Keys (exec St.empty h) := by
  unfold Keys
  rw [← block_keys]
  cases hm : mergedFactories (block (exec St.empty h)) n with
  | none => exact absurd hm hn
  | some f => exact (inv_exec Inv.empty h).block.fuelOK.merged_keys hm

/- so the hypothesis `hord` of `static_provider_agrees`, `_keys`, `_frozen`, `_safe` is satisfiable for every history -/
example : ∀ n, mergedFactories (block (exec St.empty demoDefs)) n ≠ none → n ∈ Keys (exec St.empty demoDefs) :=
  static_order_keys demoDefs

/-- `Set(n, nil)` and `SetDefault(n, nil)` are accepted under exactly the conditions under which an
object is, and define the name (it is listed by `Keys`, it blocks later definitions of the same kind). -/
theorem nil_definition_accepted (s : St) (n : Name) (v : Nat) :
    (step s (.setNil n)).2 = (step s (.set n v)).2 ∧
    (step s (.setNil n)).1.keys = (step s (.set n v)).1.keys ∧
    (step s (.setDefaultNil n)).2 = (step s (.setDefault n v)).2 ∧
    (step s (.setDefaultNil n)).1.keys = (step s (.setDefault n v)).1.keys := by
  -- the guards of `Set` / `SetDefault` do not look at the value
  have hs : (step s (.setNil n)).2 = (step s (.set n v)).2 ∧
      (step s (.setNil n)).1.keys = (step s (.set n v)).1.keys := by
    cases h0 : s.blocked <;> cases h1 : (s.instances n).isSome <;> cases h2 : (s.factories n).isSome <;>
      simp [step, accepted, DI.set, h0, h1, h2]
  have hd : (step s (.setDefaultNil n)).2 = (step s (.setDefault n v)).2 ∧
      (step s (.setDefaultNil n)).1.keys = (step s (.setDefault n v)).1.keys := by
    cases h0 : s.blocked <;> cases h1 : (s.defaultInstances n).isSome <;>
      cases h2 : (s.defaultFactories n).isSome <;> simp [step, accepted, setDefault, h0, h1, h2]
  exact ⟨hs.1, hs.2, hd.1, hd.2⟩

example : results St.empty [.setNil 3, .setNil 3, .set 3 1, .setDefaultNil 3, .keys] =
    [.ok, .refused, .refused, .ok, .keys [3]] := by decide +kernel

/-- A name whose definition in force is `nil`: `Get` answers `nil` without an error, now and for ever. -/
theorem nil_definition_returned (defs h' : List Op) (n : Name)
    (hd : ∀ o, o ∈ defs → o.isDef = true) (he : firstExplicit n defs = some (.inst .nil)) :
    (Get (exec St.empty defs) n).2 = .inst .nil ∧
    (Get (exec St.empty (defs ++ .get n :: h')) n).2 = .inst .nil :=
  ⟨explicit_instance_returned defs n .nil hd he,
   singleton defs h' n .nil (explicit_instance_returned defs n .nil hd he)⟩

example : firstExplicit 3 extDefs = some (.inst .nil) ∧ (Get (exec St.empty extDefs) 3).2 = .inst .nil := by decide +kernel

/-- … but `InjectTo` refuses to store it: a field that names it — required or OPTIONAL — stops the
call with an error; that field and every later one stay untouched and no injector runs. -/
theorem nil_definition_inject_refused (h h' : List Op) (n : Name)
    (hg : (Get (exec St.empty h) n).2 = .inst .nil)
    (fld : Field) (opt : Bool) (hd : fld.dep = some (n, opt)) (rest : List Field) :
    (InjectTo (exec St.empty (h ++ .get n :: h')) (fld :: rest)).2 =
      (pad (rest.length + 1) [], some .nilDependency) :=
  InjectTo_nil_head (inv_exec Inv.empty _) hd (exec_get_inst Inv.empty h hg h') rest

example : (results St.empty (extDefs ++ [.get 3, .injectTo [.own 3 true, .own 2 false]])).getLast? =
    some (.injected [none, none] (some .nilDependency)) := by decide +kernel

/-- The tag handling, exactly: `?n` is the optional request for `n` (one `?` is stripped, not more),
the empty tag skips the field, any other tag is the required request for itself.  Hence a required
request is never for the empty name nor for a name beginning with `?`. -/
theorem optional_prefix_exact :
    (∀ n : Name, parseTag n.opt = some (n, true)) ∧
    parseTag Name.empty = none ∧
    (∀ (c : Nat) (cs : List Nat), c ≠ qmark → parseTag ⟨c :: cs⟩ = some (⟨c :: cs⟩, false)) ∧
    (∀ raw n : Name, parseTag raw = some (n, false) → raw = n ∧ ∃ c cs, n.chars = c :: cs ∧ c ≠ qmark) := by
  refine ⟨fun n => by simp [parseTag, Name.opt], rfl, fun c cs hc => by simp [parseTag, hc], ?_⟩
  intro raw n h
  obtain ⟨chars⟩ := raw
  cases chars with
  | nil => simp [parseTag] at h
  | cons c cs =>
    by_cases hc : c = qmark
    · simp [parseTag, hc] at h
    · simp only [parseTag, hc, if_false, Option.some.injEq, Prod.mk.injEq, and_true] at h
      subst h
      exact ⟨rfl, c, cs, rfl, hc⟩

example : parseTag (Name.opt (Name.opt 1)) = some (Name.opt 1, true) ∧ parseTag (Name.opt Name.empty) = some (Name.empty, true) := by
  decide

/-- A definition whose name is empty or begins with `?` is an ordinary definition for `Get` (which
uses its argument literally — `explicit_wins` and all the other theorems quantify over such names
too), but a struct field reaches it only as an OPTIONAL dependency, through the tag `?` + its name. -/
theorem question_names_reachable_only_optionally (fld : Field) (n : Name) (o : Bool)
    (h : fld.dep = some (n, o)) (hq : n = Name.empty ∨ ∃ m : Name, n = m.opt) :
    o = true ∧ fld.raw ownTag = n.opt := by
  unfold Field.dep at h
  generalize fld.raw ownTag = raw at h
  obtain ⟨chars⟩ := raw
  cases chars with
  | nil => simp [parseTag] at h
  | cons c cs =>
    by_cases hc : c = qmark
    · simp only [parseTag, hc, if_true, Option.some.injEq, Prod.mk.injEq] at h
      obtain ⟨h1, h2⟩ := h
      subst h1; subst h2
      exact ⟨rfl, by simp [Name.opt, hc]⟩
    · simp only [parseTag, hc, if_false, Option.some.injEq, Prod.mk.injEq] at h
      obtain ⟨h1, _⟩ := h
      subst h1
      rcases hq with hq | ⟨m, hq⟩
      · simp [Name.empty] at hq
      · simp only [Name.opt, Name.mk.injEq, List.cons.injEq] at hq
        exact absurd hq.1 hc

example : (Get (exec St.empty extDefs) (Name.opt 1)).2 = .inst (.given 6) ∧
    (Get (exec St.empty extDefs) Name.empty).2 = .inst (.given 9) ∧
    (InjectTo (exec St.empty extDefs) [.own (Name.opt 1) true, .own Name.empty true, .own (Name.opt 1) false]).2 =
      ([some (.given 6), some (.given 9), none], none) := by decide +kernel

/-- The only call that panics is an `InjectTo` whose argument is not a
pointer to a struct (the reflection calls panic before the provider is touched); it leaves the
provider as it was.  Everything else — `nil` definitions, empty and `?` names, any injector data, any
static provider — answers. -/
theorem no_panic (s : St) (o : Op) :
    ((step s o).2 = .panic ↔ o = .injectBad) ∧ (step s .injectBad).1 = s :=
  ⟨step_panic_iff s o, rfl⟩

example : (step (exec St.empty extDefs) .injectBad).2 = .panic := rfl

/-- … for whole histories, from any state (a static provider included). -/
theorem no_panic_history (s : St) (h : List Op) : .panic ∈ results s h ↔ .injectBad ∈ h := by
  induction h generalizing s with
  | nil => simp [results]
  | cons o rest ih => rw [results, List.mem_cons, List.mem_cons, ih, eq_comm, step_panic_iff, eq_comm]

example : results St.empty (extDefs ++ [.injectBad, .get 0]) =
    results St.empty extDefs ++ [.panic, .got (.inst (.built 0))] := by decide +kernel

end Goat.C10
