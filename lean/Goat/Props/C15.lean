/-
Property C15 — named resource locks (`commservices.SharedMutex`): writers exclude everyone,
readers share, no deadlock.

  "Two tasks (or any two holders of the shared mutex) whose lock maps name the same resource never
   hold it at the same time unless both asked for read access; holders of disjoint or
   read-only-overlapping maps are not serialised against each other by the lock.  Any set of
   holders with any lock maps always all get their turn: acquisition never deadlocks.
   Quantifier: for all numbers of holders, all lock maps over a resource pool (any mix of read and
   write, any size), all hold durations, and all interleavings."

Model: `Goat/Model/Mutex.lean`.  `sys v maps` is the transition system of `n = maps.length` holders,
holder `i` executing `h := SharedMutex.Lock(maps[i]); …critical section…; h.Unlock()`, one atomic
step per RWMutex operation; `v` selects the lock semantics: `.plain` (ideal readers/writer lock) or
`.pref` (Go's `sync.RWMutex`: a writer first announces itself, then waits for the readers inside to
leave; readers arriving after the announcement are parked until that writer unlocks).  EVERY theorem
below is proved for BOTH variants (`∀ v`), for every number of holders (`maps : List LockMap`, any
length), every lock map (any list of rows with distinct names — Go map keys — in any iteration
order), and every interleaving and all hold durations (`sched : List Nat`, any length: a schedule
names which holder moves next; a holder that stays in its critical section for a long time is one
that is not scheduled for a long time; choices of blocked holders are skipped).

Vocabulary (`Goat/Proofs/MutexMain.lean`, namespace `Goat.Mutex`):
  `NodupNames m`      : the names of the rows of `m` are pairwise distinct
  `InsideAt s i`      : holder `i` is in its critical section (`Lock` returned, `Unlock` not yet called)
  `HoldsAt s i r`     : holder `i` has acquired row `r = (name, write?)` and not yet released it
  `ActiveAt s i`      : holder `i` exists and has not finished
  `AllDone s`         : every holder has finished
  `MapsCompatible a b`: every name common to `a` and `b` is requested for reading on both sides
  `step v s i`        : `some s'` if holder `i` can move in `s`, `none` if it is blocked or finished

Sections 1–5 are about holders that acquire, hold and release.  Sections 6–8 are about the holders the
property names first — pipeline tasks, which wait for the tasks of their wait list BEFORE they take
their lock map (`Goat/Model/MutexTasks.lean`, tied to `Runner.runGo` by `Goat/Tie/C15.lean`).
-/
import Goat.Model.MutexNames
import Goat.Proofs.MutexTasksMain

namespace Goat.C15

open Goat Goat.Mutex Goat.LTS

/-! ### 1. Exclusion -/

/-- Two holders that are inside their critical sections at the same time have compatible lock
maps: a resource named by both is read-locked by both. -/
theorem exclusion (v : Variant) (maps : List LockMap) (hmaps : ∀ m ∈ maps, NodupNames m)
    (sched : List Nat) (i j : Nat) (hne : i ≠ j) (mi mj : LockMap)
    (hmi : maps[i]? = some mi) (hmj : maps[j]? = some mj)
    (in1 : InsideAt ((sys v maps).run sched) i) (in2 : InsideAt ((sys v maps).run sched) j) :
    ∀ m w1 w2, (m, w1) ∈ mi → (m, w2) ∈ mj → w1 = false ∧ w2 = false :=
  inside_compatible (linv_run hmaps sched).excl (reqsOf_run v maps sched) hne hmi hmj in1 in2

/-- The same at the level of single rows, also while holders are still acquiring or already
releasing: a resource held for writing is held by nobody else in any mode. -/
theorem exclusion_rows (v : Variant) (maps : List LockMap) (hmaps : ∀ m ∈ maps, NodupNames m)
    (sched : List Nat) (i j : Nat) (hne : i ≠ j) (m : Name) (w : Bool)
    (h1 : HoldsAt ((sys v maps).run sched) i (m, true)) :
    ¬ HoldsAt ((sys v maps).run sched) j (m, w) :=
  (linv_run hmaps sched).excl.rows hne h1

-- non-vacuity: two readers of resource 0 and a writer of resource 1 are inside together;
-- the hypotheses of `exclusion` hold for holders 0 and 1 (and its conclusion is about row (0,false))
example : InsideAt ((sys .pref [[(0, false), (1, true)], [(0, false)]]).run [0, 0, 0, 0, 1, 1]) 0 ∧
    InsideAt ((sys .pref [[(0, false), (1, true)], [(0, false)]]).run [0, 0, 0, 0, 1, 1]) 1 := by
  constructor <;> exact ⟨_, rfl, rfl⟩

example : ∀ m ∈ [[(0, false), (1, true)], [((0 : Name), false)]], NodupNames m := by
  decide

/-! ### 2. Compatible holders are never blocked -/

/-- A holder whose lock map is compatible with the map of every other holder (disjoint names, or
common names read on both sides) can move in every reachable state until it has finished: the
lock never makes it wait, whatever the other holders do. -/
theorem disjoint_never_blocked (v : Variant) (maps : List LockMap) (hmaps : ∀ m ∈ maps, NodupNames m)
    (sched : List Nat) (i : Nat)
    (hc : ∀ mi, maps[i]? = some mi → ∀ j mj, j ≠ i → maps[j]? = some mj → MapsCompatible mi mj)
    (hact : ActiveAt ((sys v maps).run sched) i) :
    (step v ((sys v maps).run sched) i).isSome = true :=
  compatible_enabled (linv_run hmaps sched) hact fun _ hi => compatible_of_maps (reqsOf_run v maps sched) hc hi

-- non-vacuity: holder 0 = {0:R, 1:W} is compatible with holder 1 = {0:R} and holder 2 = {2:W, 3:W}
example : ∀ mi, [[((0 : Name), false), (1, true)], [(0, false)], [(3, true), (2, true)]][0]? = some mi →
    ∀ j mj, j ≠ 0 → [[((0 : Name), false), (1, true)], [(0, false)], [(3, true), (2, true)]][j]? = some mj →
      MapsCompatible mi mj := by
  intro mi hmi j mj hj hmj
  cases hmi
  -- compatibility of two concrete maps is decided by `conflictRows`
  match j, hj, hmj with
  | 1, _, hmj => cases hmj; exact conflictRows_none_iff.mp rfl
  | 2, _, hmj => cases hmj; exact conflictRows_none_iff.mp rfl
  | (k + 3), _, hmj => cases hmj

theorem parties_last_compatible (a : LockMap) (bs : List LockMap) (c : LockMap)
    (hca : MapsCompatible c a) (hcb : ∀ b ∈ bs, MapsCompatible c b) :
    ∀ mi, (a :: bs ++ [c])[bs.length + 1]? = some mi → ∀ j mj, j ≠ bs.length + 1 →
      (a :: bs ++ [c])[j]? = some mj → MapsCompatible mi mj := by
  intro mi hmi j mj hj hmj
  obtain rfl : c = mi := by simpa using hmi
  have hlt : j < bs.length + 1 := by
    have := lt_of_getElem? hmj
    simp at this; omega
  rw [List.getElem?_append_left (by simpa using hlt)] at hmj
  rcases List.mem_cons.mp (List.mem_of_getElem? hmj) with rfl | hb
  · exact hca
  · exact hcb mj hb

/-- Three and more parties.  A holder `a`, ANY number of further holders `bs` with ANY maps — in the check's
`parties` cases: requests that conflict with `a` and are parked inside `Lock`, possibly holding part of their
maps — and a late-comer `c` (the last index, `bs.length + 1`) whose map is disjoint from, or only read-overlaps
with, the map of `a` and of every member of `bs`: in EVERY reachable state — in particular while `a` is inside
and every member of `bs` is blocked — `c` can make its next move until it has finished.  Nothing that the
others hold or wait for serialises `c` behind them. -/
theorem third_party_not_serialised (v : Variant) (a : LockMap) (bs : List LockMap) (c : LockMap)
    (hmaps : ∀ m ∈ a :: bs ++ [c], NodupNames m)
    (hca : MapsCompatible c a) (hcb : ∀ b ∈ bs, MapsCompatible c b) (sched : List Nat)
    (hact : ActiveAt ((sys v (a :: bs ++ [c])).run sched) (bs.length + 1)) :
    (step v ((sys v (a :: bs ++ [c])).run sched) (bs.length + 1)).isSome = true :=
  disjoint_never_blocked v (a :: bs ++ [c]) hmaps sched _ (parties_last_compatible a bs c hca hcb) hact

-- non-vacuity: A = {1:W} is inside; B = {0:W, 1:W} holds 0 and is blocked on 1 (no step); C = {2:W, 3:R}
-- (compatible with both) has not started and is active — and scheduled alone (5 moves) it is inside its
-- critical section while A is still inside and B still cannot move
example : InsideAt ((sys .pref [[(1, true)], [(0, true), (1, true)], [(2, true), (3, false)]]).run [0, 0, 0, 1, 1]) 0 ∧
    step .pref ((sys .pref [[(1, true)], [(0, true), (1, true)], [(2, true), (3, false)]]).run [0, 0, 0, 1, 1]) 1 = none ∧
    HoldsAt ((sys .pref [[(1, true)], [(0, true), (1, true)], [(2, true), (3, false)]]).run [0, 0, 0, 1, 1]) 1 (0, true) ∧
    ActiveAt ((sys .pref [[(1, true)], [(0, true), (1, true)], [(2, true), (3, false)]]).run [0, 0, 0, 1, 1]) 2 :=
  ⟨⟨_, rfl, rfl⟩, rfl, ⟨_, rfl, by decide⟩, ⟨_, rfl, by decide⟩⟩

example : InsideAt ((sys .pref [[(1, true)], [(0, true), (1, true)], [(2, true), (3, false)]]).run [0, 0, 0, 1, 1, 2, 2, 2, 2]) 0 ∧
    step .pref ((sys .pref [[(1, true)], [(0, true), (1, true)], [(2, true), (3, false)]]).run [0, 0, 0, 1, 1, 2, 2, 2, 2]) 1 = none ∧
    InsideAt ((sys .pref [[(1, true)], [(0, true), (1, true)], [(2, true), (3, false)]]).run [0, 0, 0, 1, 1, 2, 2, 2, 2]) 2 :=
  ⟨⟨_, rfl, rfl⟩, rfl, ⟨_, rfl, rfl⟩⟩

example : MapsCompatible [((2 : Name), true), (3, false)] [(1, true)] ∧
    ∀ b ∈ [[((0 : Name), true), (1, true)]], MapsCompatible [((2 : Name), true), (3, false)] b := by
  refine ⟨conflictRows_none_iff.mp rfl, fun b hb => ?_⟩
  obtain rfl : b = _ := by simpa using hb
  exact conflictRows_none_iff.mp rfl

/-! ### 3. Deadlock freedom and completion -/

/-- Whatever the number of holders, their lock maps and the interleaving so far: as long as
somebody has not finished, somebody can move. -/
theorem deadlock_free (v : Variant) (maps : List LockMap) (hmaps : ∀ m ∈ maps, NodupNames m)
    (sched : List Nat) (hact : ¬ AllDone ((sys v maps).run sched)) :
    ∃ i, (step v ((sys v maps).run sched) i).isSome = true :=
  deadlock_free_state (linv_run hmaps sched) hact

/-- Every step makes progress: no schedule, however long, contains more than `4·|map| + 4` moves
per holder.  Together with `deadlock_free`: every execution that keeps scheduling an enabled holder
ends, after at most that many moves, in the state where all holders have had their turn. -/
theorem steps_bounded (v : Variant) (maps : List LockMap) (sched : List Nat) :
    ((sys v maps).fired sched).length ≤ (maps.map fun m => 4 * m.length + 4).sum :=
  remaining_init maps ▸ fired_le_measure (sys v maps) (fun _ => True) remaining
    (fun _ _ _ _ hst => ⟨trivial, remaining_step hst⟩) sched _ trivial

/-- From every reachable state the holders can all be completed. -/
theorem all_get_their_turn (v : Variant) (maps : List LockMap) (hmaps : ∀ m ∈ maps, NodupNames m)
    (sched : List Nat) : ∃ more : List Nat, AllDone ((sys v maps).run (sched ++ more)) := by
  obtain ⟨more, h⟩ := can_finish (reqs := maps.map sortRows) (linv_run hmaps sched)
  exact ⟨more, run_append _ _ _ ▸ h⟩

-- non-vacuity: three holders with overlapping maps, given in different iteration orders, mid-run
example : ¬ AllDone ((sys .pref [[(2, true), (0, true)], [(0, true), (2, false)], [(2, false)]]).run [0, 0, 1, 2]) := by
  unfold AllDone; decide +kernel

/-! ### 4. The sort is what the theorem uses -/

/-- Without the sort (`sysRaw`: rows are acquired in map-iteration order) two holders whose maps
name the same two resources in opposite orders reach a state in which neither has finished and
no step is enabled — for both lock variants. -/
theorem unsorted_can_deadlock (v : Variant) :
    ∃ (reqs : List (List Row)) (sched : List Nat),
      (∀ r ∈ reqs, NodupNames r) ∧ reqs.length = 2 ∧
      ¬ AllDone ((sysRaw v reqs).run sched) ∧ Stuck (sysRaw v reqs) ((sysRaw v reqs).run sched) := by
  -- plain: 0 takes resource 0, 1 takes resource 1; each now needs what the other holds.
  -- pref: announce + acquire for each holder, then each finds the other's writer side taken
  refine ⟨[[(0, true), (1, true)], [(1, true), (0, true)]], if v = .plain then [0, 1] else [0, 0, 1, 1],
    by decide, rfl, ?_⟩
  -- what is left speaks of one concrete run; by `stuck_iff` only the two holders' choices have to be tried
  unfold AllDone
  rw [stuck_iff]
  cases v <;> decide +kernel

/-- `SharedMutex.Lock`'s sort turns every map into a strictly increasing acquisition order with the
same rows; with it the two maps of `unsorted_can_deadlock` are harmless (instance of `deadlock_free`). -/
theorem sort_orders (m : LockMap) (h : NodupNames m) :
    Sorted (sortRows m) ∧ ∀ r, r ∈ sortRows m ↔ r ∈ m :=
  ⟨sorted_sortRows h, fun _ => mem_sortRows⟩

example : sortRows [(1, true), (0, true)] = [(0, true), (1, true)] := by decide

/-! ### 5. The interval monitor used on traces of the real code -/

/-- The monitor accepts a list of recorded critical-section intervals exactly when any two of
them that were recorded by different holders and intersect in time belong to compatible lock maps. -/
theorem monitor_accepts_iff (ivs : List Interval) :
    monitor ivs = none ↔
      ∀ (i j : Nat) (x y : Interval), i ≠ j → ivs[i]? = some x → ivs[j]? = some y → x.holder ≠ y.holder →
        overlap x y = true → ∀ m w1 w2, (m, w1) ∈ x.rows → (m, w2) ∈ y.rows → w1 = false ∧ w2 = false := by
  unfold monitor
  simp only [monitorFrom_none_iff, List.pairwise_iff_getElem, bad_false_iff, conflictRows_none_iff, MapsCompatible]
  constructor
  · intro hp i j x y hne hi hj hd ho m w1 w2 r1 r2
    obtain ⟨hil, rfl⟩ := List.getElem?_eq_some_iff.mp hi
    obtain ⟨hjl, rfl⟩ := List.getElem?_eq_some_iff.mp hj
    rcases Nat.lt_or_gt_of_ne hne with hlt | hgt
    · exact hp i j hil hjl hlt hd ho m w1 w2 r1 r2
    · -- the pair was examined in the other order
      exact (hp j i hjl hil hgt hd.symm (overlap_symm .. ▸ ho) m w2 w1 r2 r1).symm
  · intro h i j hi hj hlt
    exact h i j _ _ (Nat.ne_of_lt hlt) (List.getElem?_eq_getElem hi) (List.getElem?_eq_getElem hj)

-- two writers of resource 7 with intersecting intervals are rejected; readers are accepted
example : monitor [⟨0, [(7, true)], 1, 4⟩, ⟨1, [(7, true)], 3, 6⟩] = some (0, 1, 7) := by decide
example : monitor [⟨0, [(7, false)], 1, 4⟩, ⟨1, [(7, false)], 3, 6⟩] = none := by decide

/-! ### 6. The holders are pipeline tasks: the wait list first, then the lock map

Model: `Goat/Model/MutexTasks.lean` (namespace `Goat.MutexTasks`).  `tsys v tasks` is the transition
system of `tasks.length` tasks run by `Runner.runGo`: task `i` first goes through `waitForTasks` (one
step per entry of its wait list, enabled only when that task has ended — its deferred `Unlock` and
then `task.Close()` have run; an entry that ended with an error ends the waiting task without any
lock), THEN calls `SharedMutex.Lock(tasks[i].map)`, runs its body, unlocks, ends.  The lock table is
the one of sections 1–5 (both variants), so the lock-level steps are literally `Goat.Mutex.step`.
Every theorem is for all numbers of tasks, all lock maps, all wait lists over earlier tasks
(`WellFormed`, what `validWaitList` guarantees at `Create`), all failing subsets, all schedules.

  `MutexTasks.Task`          : wait list (indices), lock map, whether the body fails
  `MutexTasks.WellFormed`    : every wait list names tasks with a smaller index
  `MutexTasks.AllFinished`   : every task has ended
  `MutexTasks.finishedAt ts j` / `failedAt tasks ts j` : task `j` has ended / ended with an error
  `ts.lock`                  : the lock table (`Goat.Mutex.State`), entry `i` belongs to task `i`
  `ts.stage[i]`              : `.waiting k` (in `waitForTasks`), `.running` (between `Lock` and the end
                               of `Unlock`), `.aborted` (returned from `waitForTasks` with the error)
-/

/-- Whatever the tasks, their maps, their wait lists and the interleaving so far: as long as some task
has not ended, some task can move.  (Tasks still in `waitForTasks` hold nothing, so among the tasks
that called `Lock` the greatest-awaited-name argument of `deadlock_free` applies unchanged; if the
lock table is idle, the waiting task with the least index finds its prerequisite ended.) -/
theorem tasks_deadlock_free (v : Variant) (tasks : List MutexTasks.Task) (hwf : MutexTasks.WellFormed tasks)
    (hmaps : ∀ t ∈ tasks, NodupNames t.map) (sched : List Nat)
    (hact : ¬ MutexTasks.AllFinished tasks ((MutexTasks.tsys v tasks).run sched)) :
    ∃ i, (MutexTasks.step v tasks ((MutexTasks.tsys v tasks).run sched) i).isSome = true :=
  MutexTasks.deadlock_free_state hwf (MutexTasks.tinv_run hmaps sched) hact

/-- No schedule contains more than `|wait list| + 4·|map| + 5` moves per task. -/
theorem tasks_steps_bounded (v : Variant) (tasks : List MutexTasks.Task) (sched : List Nat) :
    ((MutexTasks.tsys v tasks).fired sched).length ≤
      (tasks.map fun t => t.waits.length + 4 * t.map.length + 5).sum :=
  MutexTasks.remainingT_init tasks ▸ fired_le_measure (MutexTasks.tsys v tasks) (MutexTasks.TShape tasks)
    (MutexTasks.remainingT tasks) (fun _ _ _ hi hst => ⟨MutexTasks.tshape_step hi hst, MutexTasks.remainingT_step hi.reqs hst⟩)
    sched _ (MutexTasks.tshape_init tasks)

/-- From every reachable state all tasks can be brought to their end: every task gets its turn. -/
theorem tasks_all_finish (v : Variant) (tasks : List MutexTasks.Task) (hwf : MutexTasks.WellFormed tasks)
    (hmaps : ∀ t ∈ tasks, NodupNames t.map) (sched : List Nat) :
    ∃ more : List Nat, MutexTasks.AllFinished tasks ((MutexTasks.tsys v tasks).run (sched ++ more)) := by
  obtain ⟨more, h⟩ := MutexTasks.can_finish hwf (MutexTasks.tinv_run hmaps sched)
  exact ⟨more, run_append _ _ _ ▸ h⟩

/-- Exclusion is unaffected by the waiting phase: two tasks inside their bodies at the same time have
compatible lock maps. -/
theorem tasks_exclusion (v : Variant) (tasks : List MutexTasks.Task) (hmaps : ∀ t ∈ tasks, NodupNames t.map)
    (sched : List Nat) (i j : Nat) (hne : i ≠ j) (ti tj : MutexTasks.Task)
    (hti : tasks[i]? = some ti) (htj : tasks[j]? = some tj)
    (in1 : InsideAt ((MutexTasks.tsys v tasks).run sched).lock i)
    (in2 : InsideAt ((MutexTasks.tsys v tasks).run sched).lock j) :
    ∀ m w1 w2, (m, w1) ∈ ti.map → (m, w2) ∈ tj.map → w1 = false ∧ w2 = false :=
  (MutexTasks.tinv_run hmaps sched).exclusion hne hti htj in1 in2

/-- Row level, at every instant: a resource held for writing by one task is held by no other task. -/
theorem tasks_exclusion_rows (v : Variant) (tasks : List MutexTasks.Task) (hmaps : ∀ t ∈ tasks, NodupNames t.map)
    (sched : List Nat) (i j : Nat) (hne : i ≠ j) (m : Name) (w : Bool)
    (h1 : HoldsAt ((MutexTasks.tsys v tasks).run sched).lock i (m, true)) :
    ¬ HoldsAt ((MutexTasks.tsys v tasks).run sched).lock j (m, w) :=
  (MutexTasks.tinv_run hmaps sched).linv.excl.rows hne h1

/-- A task that is still waiting for its prerequisites (or gave up because one of them failed) holds
no resource — the fact the swapped order destroys. -/
theorem tasks_waiting_hold_nothing (v : Variant) (tasks : List MutexTasks.Task) (hmaps : ∀ t ∈ tasks, NodupNames t.map)
    (sched : List Nat) (i : Nat) (st : MutexTasks.Stage)
    (hs : ((MutexTasks.tsys v tasks).run sched).stage[i]? = some st) (hne : st ≠ .running) (r : Row) :
    ¬ HoldsAt ((MutexTasks.tsys v tasks).run sched).lock i r :=
  (MutexTasks.tshape_run v tasks sched).waiting_holds_nothing hs hne r

/-- A task is inside its body only when every task of its wait list has ended — has released all its
resources and closed — without error. -/
theorem tasks_body_after_prereqs (v : Variant) (tasks : List MutexTasks.Task) (hmaps : ∀ t ∈ tasks, NodupNames t.map)
    (sched : List Nat) (i : Nat) (t : MutexTasks.Task) (ht : tasks[i]? = some t)
    (hin : InsideAt ((MutexTasks.tsys v tasks).run sched).lock i) :
    ∀ j ∈ t.waits, MutexTasks.finishedAt ((MutexTasks.tsys v tasks).run sched) j = true ∧
      MutexTasks.failedAt tasks ((MutexTasks.tsys v tasks).run sched) j = false ∧
      ∀ r, ¬ HoldsAt ((MutexTasks.tsys v tasks).run sched).lock j r := by
  intro j hj
  have hinv := MutexTasks.tshape_run v tasks sched
  obtain ⟨h1, h2⟩ := hinv.body_after_prereqs ht hin j hj
  exact ⟨h1, h2, hinv.finished_holds_nothing h1⟩

/-- Tasks are serialised by wait lists and by conflicting maps only: once past `waitForTasks`, a task
whose map is compatible with every other task's map can always move. -/
theorem tasks_compatible_never_blocked (v : Variant) (tasks : List MutexTasks.Task)
    (hmaps : ∀ t ∈ tasks, NodupNames t.map) (sched : List Nat) (i : Nat)
    (hc : ∀ mi, (MutexTasks.mapsOf tasks)[i]? = some mi → ∀ j mj, j ≠ i →
      (MutexTasks.mapsOf tasks)[j]? = some mj → MapsCompatible mi mj)
    (hact : ActiveAt ((MutexTasks.tsys v tasks).run sched).lock i) :
    (MutexTasks.step v tasks ((MutexTasks.tsys v tasks).run sched) i).isSome = true :=
  (MutexTasks.tinv_run hmaps sched).never_blocked hc hact

-- non-vacuity.  A = {0:W}; B = {1:W, 0:W}; D waits for B and needs {1:W} (the adversarial family of the
-- check: D and its prerequisite B share resource 1, A delays B on the smaller resource 0).
example : MutexTasks.WellFormed
    [⟨[], [(0, true)], false⟩, ⟨[], [(1, true), (0, true)], false⟩, ⟨[1], [(1, true)], false⟩] :=
  MutexTasks.wellFormed_iff.mpr (by decide)

example : ∀ t ∈ ([⟨[], [(0, true)], false⟩, ⟨[], [(1, true), (0, true)], false⟩, ⟨[1], [(1, true)], false⟩] :
    List MutexTasks.Task), NodupNames t.map := by
  decide

-- D moves first as often as it likes: it stays in `waitForTasks`, holds nothing, and B (delayed by A) is not finished
example : ¬ MutexTasks.AllFinished
    [⟨[], [(0, true)], false⟩, ⟨[], [(1, true), (0, true)], false⟩, ⟨[1], [(1, true)], false⟩]
    ((MutexTasks.tsys .pref
      [⟨[], [(0, true)], false⟩, ⟨[], [(1, true), (0, true)], false⟩, ⟨[1], [(1, true)], false⟩]).run
      [2, 2, 0, 0, 0, 0, 1, 1, 2]) := by
  unfold MutexTasks.AllFinished; decide +kernel

-- … and after A and B have ended D is inside its body (hypothesis of `tasks_body_after_prereqs` for i = 2)
example : InsideAt ((MutexTasks.tsys .plain
      [⟨[], [(0, true)], false⟩, ⟨[], [(1, true), (0, true)], false⟩, ⟨[1], [(1, true)], false⟩]).run
      [0, 0, 0, 1, 0, 0, 0, 1, 1, 1, 1, 1, 1, 1, 2, 2, 2, 2]).lock 2 := ⟨_, rfl, rfl⟩

-- two readers of resource 0, the second waiting for a third task, are inside together (`tasks_exclusion`)
example : InsideAt ((MutexTasks.tsys .pref
      [⟨[], [(0, false)], false⟩, ⟨[], [], false⟩, ⟨[1], [(0, false)], false⟩]).run
      [0, 0, 0, 1, 1, 1, 1, 2, 2, 2, 2]).lock 0 ∧
    InsideAt ((MutexTasks.tsys .pref
      [⟨[], [(0, false)], false⟩, ⟨[], [], false⟩, ⟨[1], [(0, false)], false⟩]).run
      [0, 0, 0, 1, 1, 1, 1, 2, 2, 2, 2]).lock 2 := by
  constructor <;> exact ⟨_, rfl, rfl⟩

-- a prerequisite whose body fails: the dependant gives up in `waitForTasks` and never takes its lock map
example : ((MutexTasks.tsys .pref [⟨[], [(0, true)], true⟩, ⟨[0], [(0, true)], false⟩]).run
      [0, 0, 0, 0, 0, 0, 0, 1]).stage[1]? = some .aborted ∧
    MutexTasks.AllFinished [⟨[], [(0, true)], true⟩, ⟨[0], [(0, true)], false⟩]
      ((MutexTasks.tsys .pref [⟨[], [(0, true)], true⟩, ⟨[0], [(0, true)], false⟩]).run
        [0, 0, 0, 0, 0, 0, 0, 1]) := by
  refine ⟨rfl, ?_⟩
  unfold MutexTasks.AllFinished; decide +kernel

/-- A task whose body fails is no obstacle.  In every reachable state (1) a task that has ended — its body
succeeded, failed, or it gave up in `waitForTasks` — holds no resource; (2) a task gives up only because a
task of its own wait list has ended with an error (its body failed, or it had given up itself), and it
never held anything; (3) all tasks can still be brought to their end — in particular every task that
needs a resource the failed task held gets it. -/
theorem failed_task_releases (v : Variant) (tasks : List MutexTasks.Task) (hwf : MutexTasks.WellFormed tasks)
    (hmaps : ∀ t ∈ tasks, NodupNames t.map) (sched : List Nat) :
    (∀ j r, MutexTasks.finishedAt ((MutexTasks.tsys v tasks).run sched) j = true →
      ¬ HoldsAt ((MutexTasks.tsys v tasks).run sched).lock j r) ∧
    (∀ i t, tasks[i]? = some t → ((MutexTasks.tsys v tasks).run sched).stage[i]? = some .aborted →
      (∀ r, ¬ HoldsAt ((MutexTasks.tsys v tasks).run sched).lock i r) ∧
      ∃ j ∈ t.waits, MutexTasks.finishedAt ((MutexTasks.tsys v tasks).run sched) j = true ∧
        MutexTasks.failedAt tasks ((MutexTasks.tsys v tasks).run sched) j = true) ∧
    ∃ more : List Nat, MutexTasks.AllFinished tasks ((MutexTasks.tsys v tasks).run (sched ++ more)) :=
  have hinv := MutexTasks.tshape_run v tasks sched
  ⟨fun _ r hf => hinv.finished_holds_nothing hf r,
   fun i t ht hs =>
    ⟨fun r => hinv.waiting_holds_nothing hs (by simp) r,
     hinv.prereq i t .aborted ht hs⟩,
   tasks_all_finish v tasks hwf hmaps sched⟩

-- F = {0:W} fails; D waits for F and gives up; S = {0:W, 1:W} gets resource 0 afterwards and is inside its body
example : ((MutexTasks.tsys .pref
      [⟨[], [(0, true)], true⟩, ⟨[0], [(1, true)], false⟩, ⟨[], [(1, true), (0, true)], false⟩]).run
      [0, 0, 0, 0, 0, 0, 0, 1, 2, 2, 2, 2, 2, 2]).stage[1]? = some .aborted ∧
    InsideAt ((MutexTasks.tsys .pref
      [⟨[], [(0, true)], true⟩, ⟨[0], [(1, true)], false⟩, ⟨[], [(1, true), (0, true)], false⟩]).run
      [0, 0, 0, 0, 0, 0, 0, 1, 2, 2, 2, 2, 2, 2]).lock 2 := ⟨rfl, _, rfl, rfl⟩

/-! ### 7. The order is what the theorem uses -/

/-- With the two statements swapped (`tsysSwapped`: `SharedMutex.Lock(map)` first, `waitForTasks` while
holding the map) two tasks suffice for a state in which nobody has ended and no step is enabled — for
both lock variants: task 1 waits for task 0, both write resource 0, task 1 reaches `Lock` first.
(`tsys` on the same two tasks cannot get stuck: instance of `tasks_deadlock_free`.) -/
theorem lock_before_wait_can_deadlock (v : Variant) :
    ∃ (tasks : List MutexTasks.Task) (sched : List Nat),
      MutexTasks.WellFormed tasks ∧ (∀ t ∈ tasks, NodupNames t.map) ∧ tasks.length = 2 ∧
      ¬ AllDone ((MutexTasks.tsysSwapped v tasks).run sched).lock ∧
      Stuck (MutexTasks.tsysSwapped v tasks) ((MutexTasks.tsysSwapped v tasks).run sched) := by
  -- plain: task 1 acquires resource 0 and is inside `Lock … Unlock`; it now waits for task 0, which needs
  -- resource 0.  pref: the same after task 1's announcement
  refine ⟨[⟨[], [(0, true)], false⟩, ⟨[0], [(0, true)], false⟩], if v = .plain then [1, 1] else [1, 1, 1],
    MutexTasks.wellFormed_iff.mpr (by decide), by decide, rfl, ?_⟩
  unfold AllDone
  rw [MutexTasks.stuckSwapped_iff]
  cases v <;> decide +kernel

/-! ### 8. The order monitor used on traces of the real runner -/

/-- The order monitor accepts recorded body intervals exactly when every recorded body of a task was
entered after, for each task of its wait list, some recorded body of that task had been left. -/
theorem order_monitor_accepts_iff (waits : List (List Nat)) (ivs : List Interval) :
    MutexTasks.orderMonitor waits ivs = none ↔
      ∀ x ∈ ivs, ∀ j ∈ waits.getD x.holder [], ∃ y ∈ ivs, y.holder = j ∧ y.exit < x.enter := by
  simp [MutexTasks.orderMonitor, MutexTasks.earlyFor]

-- task 1 waits for task 0: entering its body before task 0 left is rejected, afterwards accepted
example : MutexTasks.orderMonitor [[], [0]] [⟨0, [(7, true)], 1, 4⟩, ⟨1, [], 3, 6⟩] = some (1, 0) := by decide
example : MutexTasks.orderMonitor [[], [0]] [⟨0, [(7, true)], 1, 4⟩, ⟨1, [], 5, 6⟩] = none := by decide

/-- The failure monitor accepts exactly when no task recorded a body although a task of its wait list is
one whose body fails. -/
theorem fail_monitor_accepts_iff (waits : List (List Nat)) (fails : List Bool) (ivs : List Interval) :
    MutexTasks.failMonitor waits fails ivs = none ↔
      ∀ x ∈ ivs, ∀ j ∈ waits.getD x.holder [], fails.getD j false = false := by
  simp only [MutexTasks.failMonitor, List.findSome?_eq_none_iff, Option.map_eq_none_iff, List.find?_eq_none,
    Bool.not_eq_true]

example : MutexTasks.failMonitor [[], [0]] [true, false] [⟨0, [(7, true)], 1, 4⟩, ⟨1, [], 5, 6⟩] = some (1, 0) := by decide
example : MutexTasks.failMonitor [[], [0]] [false, false] [⟨0, [(7, true)], 1, 4⟩, ⟨1, [], 5, 6⟩] = none := by decide

/-! ### 9. Which name a resource of `pip:run` is locked under (`Goat/Model/MutexNames.lean`) -/

/-- A `pip:run --rlock=… --wlock=…` in the body of a task names its resources in the LOCK namespace that task
was created with: the name of the parent task — and of any chain of parents, the TASK namespace — plays no
part.  Two nested tasks under different parents of one lock namespace therefore lock the same names (and
sections 1–8 make them exclude each other); `@name` is global by `parseLocks`. -/
theorem nested_lock_names_ignore_task_names (p : Namespaces) (parent rlock wlock : Bytes) :
    nestedLocks p parent rlock wlock = parseLocks p.lock rlock wlock ∧
    ∀ inner, (taskNamespaces (taskNamespaces p parent) inner).lock = p.lock := by
  have h : ∀ q : Namespaces, ∀ n, (taskNamespaces q n).lock = q.lock := by
    intro q n
    simp only [taskNamespaces, subNamespaces, subName]
    by_cases hq : q.lock = [] <;> simp [hq]
  exact ⟨by simp [nestedLocks, runLocks, h], fun inner => by rw [h, h]⟩

-- `--wlock=res` nested in task `first` and in task `second` (no lock namespace): both lock `res`; in lock
-- namespace `ns` both lock `nsres`; `@g` stays `@g`; the task namespaces differ
-- (bytes: first = [102, 105, 114, 115, 116], second = [115, 101, 99, 111, 110, 100], res = [114, 101, 115], ns = [110, 115], @g = [64, 103])
example : nestedLocks ⟨[], []⟩ [102, 105, 114, 115, 116] [] [114, 101, 115] = some [([114, 101, 115], true)] ∧
    nestedLocks ⟨[], []⟩ [115, 101, 99, 111, 110, 100] [] [114, 101, 115] = some [([114, 101, 115], true)] ∧
    nestedLocks ⟨[], [110, 115]⟩ [102, 105, 114, 115, 116] [64, 103] [114, 101, 115] = some [([64, 103], false), ([110, 115, 114, 101, 115], true)] ∧
    (taskNamespaces ⟨[], []⟩ [102, 105, 114, 115, 116]).task ≠ (taskNamespaces ⟨[], []⟩ [115, 101, 99, 111, 110, 100]).task := by decide +kernel

end Goat.C15
