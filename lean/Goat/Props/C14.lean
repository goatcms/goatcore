/-
Property C14 — pipeline tasks honour wait lists and never run after a failed prerequisite.

The theorems are about the executable model `Goat/Model/Pipeline.lean` (runner, task manager,
completion latch, manager `Wait`, nested submissions, try blocks) and quantify over ALL well-formed
graphs `g` (any number of tasks, any wait lists — also invalid ones —, any failing commands, nested
submissions and try blocks to any depth) and ALL schedules `sched : List Label` (every interleaving
of the main thread, the runner goroutines and the try goroutines, of any length).
`(run g sched).tr` is the trace of events of that run; a statement about `pre ++ e :: post` is a
statement about every occurrence of the event `e` and everything that happened before it.

LEVEL: partial.  That the running system (goroutines, scopes, terminal parsing) realises the model
is *sampled* by trace conformance: every trace recorded from the real code is run through the
monitor `accepts`, which decides exactly the declarative property every model run is proved to have
(`accepts_iff`, `model_runs_accepted`).  The clauses are one-directional where the implementation
is: task scopes share their parent's context, so a task may report an error although nothing of its
own failed; the converse implication is never demanded.
-/
import Goat.Proofs.PipelineLatch
import Goat.Proofs.PipelineExamples
import Goat.Proofs.PipelineSteer

namespace Goat.C14
open Goat.Pipeline

/-- A task starts its body (enters its first command) only after every task named in its wait list
has closed — and closed WITHOUT error. -/
theorem body_after_waits (g : Graph) (hw : wf g = true) (sched : List Label) (pre post : List Ev) (t : Nat)
    (h : (run g sched).tr = pre ++ Ev.cmd t 0 :: post) :
    ∀ w ∈ g.waits t, Ev.done w true ∈ pre :=
  ((run_traceOk hw sched).start h).2

example : ∃ pre post, (run gEx14 schedEx14).tr = pre ++ Ev.cmd 1 0 :: post ∧ gEx14.waits 1 = [0] ∧
    Ev.done 0 true ∈ pre :=
  ⟨[.sub 0, .acc 0, .sub 1, .acc 1, .sub 2, .acc 2, .cmd 0 0, .ret 0 0 true, .done 0 true],
   [.ret 1 0 true, .cmd 1 1, .ret 1 1 false, .done 1 false, .done 2 false, .mwait false, .fin 0 false,
    .fin 1 false, .fin 2 false, .root false], by rw [gEx14_trace]; rfl, rfl, by decide +kernel⟩

/-- If a task named in the wait list closed with an error, the body of the waiting task is never
executed (no command of it is ever entered) and the task itself cannot close without error. -/
theorem no_body_after_failed_prereq (g : Graph) (hw : wf g = true) (sched : List Label) (t w : Nat)
    (hwt : w ∈ g.waits t) (hf : Ev.done w false ∈ (run g sched).tr) :
    (∀ i, Ev.cmd t i ∉ (run g sched).tr) ∧ Ev.done t true ∉ (run g sched).tr :=
  failed_prereq (run_traceOk hw sched) hwt hf

example : (1 : Nat) ∈ gEx14.waits 2 ∧ Ev.done 1 false ∈ (run gEx14 schedEx14).tr ∧
    Ev.done 2 false ∈ (run gEx14 schedEx14).tr := by
  rw [gEx14_trace]; decide +kernel

/-- Within one body the commands are entered one at a time in script order: when command `i` is
entered it has not been entered before, and every earlier command has been entered and has returned
nil before; after a command FAILED — it returned an error, its name is unknown, or its text cannot be
read (ends inside a quoted argument / an unterminated multi-line value): `Cmd.fail`, the event
`ret t j false` marks the position — no later command of the task is entered, and the task does not
close without error (third part; with `all_finish`: it closes WITH an error). -/
theorem commands_in_order_stop_at_first_failure (g : Graph) (hw : wf g = true) (sched : List Label) :
    (∀ pre post t i, (run g sched).tr = pre ++ Ev.cmd t i :: post →
      i < (g.body t).length ∧ Ev.cmd t i ∉ pre ∧
      ∀ j, j < i → Ev.cmd t j ∈ pre ∧ Ev.ret t j true ∈ pre) ∧
    (∀ t j i, Ev.ret t j false ∈ (run g sched).tr → j < i → Ev.cmd t i ∉ (run g sched).tr) ∧
    (∀ t j, Ev.ret t j false ∈ (run g sched).tr → Ev.done t true ∉ (run g sched).tr) := by
  have htr := run_traceOk hw sched
  refine ⟨fun pre post t i h => ?_, fun t j i hf hji => no_cmd_after_failure htr hf hji,
    fun t j hf => no_done_true_after_failure htr hf⟩
  exact ⟨htr.cmd_lt h, htr.cmd_fresh h, cmd_prev i htr h⟩

/-- the position of a failing command is exactly a `Cmd.fail` of the script: a command returns an
error only where the script says so (or where a submission is refused) -/
theorem failure_only_where_scripted (g : Graph) (hw : wf g = true) (sched : List Label) (pre post : List Ev)
    (t i : Nat) (h : (run g sched).tr = pre ++ Ev.ret t i false :: post) :
    g.cmdAt t i = some .fail ∨ (∃ c, g.cmdAt t i = some (.spawn c)) ∨ (∃ y, g.cmdAt t i = some (.try_ y)) := by
  have := (run_traceOk hw sched).ret_ok h
  unfold retOk at this
  cases hc : g.cmdAt t i with
  | none => rw [hc] at this; exact this.elim
  | some c =>
    rw [hc] at this
    cases c with
    | probe => cases this
    | stop => cases this
    | fail => exact Or.inl rfl
    | spawn c => exact Or.inr (Or.inl ⟨c, rfl⟩)
    | try_ y => exact Or.inr (Or.inr ⟨y, rfl⟩)

example : Ev.ret 1 1 false ∈ (run gEx14 schedEx14).tr ∧ Ev.cmd 1 0 ∈ (run gEx14 schedEx14).tr ∧
    (gEx14.body 1).length = 2 := by
  rw [gEx14_trace]; decide +kernel

/-- A submission by name (top-level task or nested `pip:run`) is accepted only if every name in its
wait list was accepted strictly earlier: the wait relation of accepted tasks follows the order of
acceptance and is therefore acyclic. -/
theorem accepted_graph_acyclic (g : Graph) (hw : wf g = true) (sched : List Label) (pre post : List Ev) :
    (∀ t, (run g sched).tr = pre ++ Ev.acc t :: post → ∀ w ∈ g.waits t, acceptedEv g pre w) ∧
    (∀ p i c, (run g sched).tr = pre ++ Ev.ret p i true :: post → g.cmdAt p i = some (.spawn c) →
      ∀ w ∈ g.waits c, acceptedEv g pre w) := by
  have htr := run_traceOk hw sched
  exact ⟨fun t h => htr.acc_waits h, fun p i c h hc => htr.spawned h hc⟩

example : ∃ pre post, (run gEx14 schedEx14).tr = pre ++ Ev.acc 2 :: post ∧ acceptedEv gEx14 pre 1 :=
  ⟨[.sub 0, .acc 0, .sub 1, .acc 1, .sub 2], _, by rw [gEx14_trace]; rfl, by decide +kernel⟩

/-- Deadlock freedom and termination: whatever has happened so far, the run can be continued until the
main thread has finished — `TasksManager.Wait` has returned — and then every accepted task has
released its latch.  (`progress`: in every reachable state in which the main thread has not
finished some thread can move; `mu_step`: every step decreases a measure.) -/
theorem all_finish (g : Graph) (hw : wf g = true) (sched : List Label) :
    ∃ ext, (run g (sched ++ ext)).mp = .finished ∧
      ∀ u, ((run g (sched ++ ext)).pc u).accepted = true → (run g (sched ++ ext)).pc u = .finished := by
  obtain ⟨ext, hext⟩ := can_finish ((wf_iff g).mp hw) _ (LTS.run_reachable (sys g) sched)
  have hfin : (run g (sched ++ ext)).mp = .finished :=
    show ((sys g).run (sched ++ ext)).mp = _ from LTS.run_append _ sched ext ▸ hext
  exact ⟨ext, hfin, (runInv_run hw (sched ++ ext)).quiet (Or.inr hfin)⟩

example : (run gEx14 schedEx14).mp = .finished := gEx14_finished

/-- no reachable stuck state while the main thread is still waiting -/
theorem no_stuck_state (g : Graph) (hw : wf g = true) (sched : List Label)
    (h : (run g sched).mp ≠ .finished) : ∃ l, (step g (run g sched) l).isSome = true :=
  progress (runInv_run hw sched).wf (runInv_run hw sched).inv h

/-- When the manager's `Wait` returns, every task whose acceptance is visible in the trace (top-level
tasks, nested `pip:run` tasks, try bodies) has closed before; and it returns in every run that is
continued long enough (`all_finish`). -/
theorem manager_wait_returns (g : Graph) (hw : wf g = true) (sched : List Label) :
    (∀ pre post ok, (run g sched).tr = pre ++ Ev.mwait ok :: post →
      ∀ t, t < g.n → acceptedEv g pre t → hasDone pre t) ∧
    (∃ ext ok, Ev.mwait ok ∈ (run g (sched ++ ext)).tr) := by
  refine ⟨fun pre post ok h t ht ha => ?_, ?_⟩
  · exact (run_traceOk hw sched).mwait_closed h t (List.mem_range.mpr ht) ha
  · obtain ⟨ext, hfin, _⟩ := all_finish g hw sched
    have := (runInv_run hw (sched ++ ext)).inv.mi.mw (Or.inr hfin)
    rcases this with h | h
    · exact ⟨ext, true, h⟩
    · exact ⟨ext, false, h⟩

/-- `Wait` reports an error exactly when some task closed with an error. -/
theorem manager_error_iff_some_failed (g : Graph) (hw : wf g = true) (sched : List Label)
    (pre post : List Ev) (ok : Bool) (h : (run g sched).tr = pre ++ Ev.mwait ok :: post) :
    ok = false ↔ ∃ u, Ev.done u false ∈ pre := by
  have h1 := (run_traceOk hw sched).mwait_verdict h
  have h2 := (runInv_run hw sched).ok2 pre _ post h
  cases ok
  · simp only [true_iff]
    obtain ⟨e, he, hd⟩ := h2
    obtain ⟨u, rfl⟩ := isDoneFail_iff.mp hd
    exact ⟨u, he⟩
  · simp only [Bool.true_eq_false, false_iff, if_true] at h1 ⊢
    rintro ⟨u, hu⟩
    cases h1 _ hu

example : ∃ pre post, (run gEx14 schedEx14).tr = pre ++ Ev.mwait false :: post ∧ Ev.done 1 false ∈ pre :=
  ⟨[.sub 0, .acc 0, .sub 1, .acc 1, .sub 2, .acc 2, .cmd 0 0, .ret 0 0 true, .done 0 true, .cmd 1 0,
    .ret 1 0 true, .cmd 1 1, .ret 1 1 false, .done 1 false, .done 2 false],
   [.fin 0 false, .fin 1 false, .fin 2 false, .root false], by rw [gEx14_trace]; rfl, by decide +kernel⟩

/-- The monitor is sound and complete for the declarative trace property: it accepts a trace iff
every event of the trace satisfies its clause (`Ok`, `Ok2` in `Model/Pipeline.lean`) with respect to
the events before it. -/
theorem accepts_iff (g : Graph) (tr : List Ev) :
    accepts g tr = true ↔
      (∀ pre e post, tr = pre ++ e :: post → Ok g pre e) ∧ (∀ pre e post, tr = pre ++ e :: post → Ok2 g pre e) :=
  Goat.Pipeline.accepts_iff g tr

/-- Every run of the model, under every schedule, is accepted by the monitor. -/
theorem model_runs_accepted (g : Graph) (hw : wf g = true) (sched : List Label) :
    accepts g (run g sched).tr = true :=
  (runInv_run hw sched).accepted

example : accepts gEx14 (run gEx14 schedEx14).tr = true := model_runs_accepted gEx14 gEx14_wf schedEx14

/-- the monitor rejects a trace in which a body starts before its prerequisite has closed -/
example : accepts gEx14 [.sub 0, .acc 0, .sub 1, .acc 1, .cmd 1 0] = false :=
  accepts_false_of_last (List.cons_ne_nil _ _) (by decide +kernel)

/-- In the model of the code BEFORE the fix — a rejected submission stays in the manager's table
with its completion latch armed — one rejected submission is enough: no schedule whatsoever lets
`TasksManager.Wait` return. -/
theorem reject_leaves_latch (sched : List Label) (b : Bool) :
    wf gLatch = true ∧ Ev.mwait b ∉ ((sysOld gLatch).run sched).tr :=
  ⟨gLatch_wf, latch_never_returns sched b⟩

/-- … whereas in the model of the repaired code the same graph finishes -/
example : ∃ sched, (run gLatch sched).mp = .finished :=
  ⟨rep 3 .main ++ rep 4 .main, by decide +kernel⟩

end Goat.C14
