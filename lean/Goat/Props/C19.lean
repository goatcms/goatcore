/-
C19 — template providers: layered definitions, isolated views, cache-transparent.

Model: `Goat/Model/Templates.lean` (`run V k src cached reqs` = the answers of a fresh provider of
kind `k` (html/text) to the request sequence `reqs` over the template files `src`; an answer is
the set of definitions of the returned template, `none` = error).  `V : Variant` selects the code
as it is (`Vfix`, both repairs in: /repo commits 0187fed and 7d60dbb) or one of its earlier,
defective revisions (`V0` = both defects).  The theorems are stated for every variant under the
hypotheses that carve out the two defect classes, and those hypotheses are void for the code as
it is (`admissible_current`):

  `ReqOK V k r`  : not (html provider handing out its cached objects, and the caller executes an
                    object obtained from `Base()`/`Layout()`)                  — former KF-C19-1 (22b)
  `KeyOK V r`    : the layout name of a view request contains no ':' unless the view cache is
                    keyed by the pair                                            — former KF-C19-2
  `Admissible V k reqs` = every request satisfies both.

Full-strength statement: `cache_transparent` (for the code as it is, no hypotheses).  For the
old revisions it is false: `cache_transparent_false_html`, `cache_transparent_false_colon`.

Rendering is not modelled: what a template renders to is a function of its definitions (Go's
template semantics, the oracle of the correspondence run).
-/
import Goat.Proofs.TemplatesCache
import Goat.Proofs.TemplatesConc

namespace Goat.C19
open Goat Goat.Tmpl

/-- the providers before the two repairs (pinned tree + lock fix) -/
def V0 : Variant := { cloneOut := false, pairKey := false }
/-- the providers as they are in /repo -/
def Vfix : Variant := { cloneOut := true, pairKey := true }

/-- For the code as it is every request sequence is admissible: the layering, isolation and
ask-twice theorems below hold for it without any restriction on names or on what callers execute. -/
theorem admissible_current (k : Kind) (reqs : List Req) : Admissible Vfix k reqs := by
  intro r _
  cases r <;> simp [ReqOK, KeyOK, KeyP, Vfix]

example : Admissible Vfix Kind.html [Req.layout [112, 58, 113] true, Req.base true, Req.view [112] [113, 58, 114] true] :=
  admissible_current _ _

/-- the layered template of (layout `l`, view `v`): the view's definitions over the layout's over the helpers' -/
def layered (src : Src) (l v : Name) : Option TSet :=
  (layerDefs src.helpers).bind fun H => (layerDefs (src.layout l)).bind fun L =>
    (layerDefs (src.view v)).map fun W => over W (over L H)

/-- With caching off every answer is the fresh layered build, whatever was asked or executed before. -/
theorem uncached_is_spec (V : Variant) (k : Kind) (src : Src) (reqs : List Req) :
    run V k src false reqs = reqs.map (specAns src) := by
  unfold run
  induction reqs with
  | nil => rfl
  | cons r rs ih => simp only [runFrom, step_unc, List.map_cons, ih]

/-- Every answer of either provider, cached or not, after any admissible history, is the fresh build. -/
theorem answers_are_spec (V : Variant) (k : Kind) (src : Src) (cached : Bool) (reqs : List Req)
    (h : Admissible V k reqs) : run V k src cached reqs = reqs.map (specAns src) :=
  runFrom_ok cached reqs (inv_init V src) h

/-- **Layering.** After any admissible history, `View(l, v)` answers with the view's definitions
laid over the layout's laid over the helpers' (an error iff one of the three layers fails to load). -/
theorem view_lookup (V : Variant) (k : Kind) (src : Src) (cached : Bool) (pre : List Req)
    (l v : Name) (e : Bool) (hv : v ≠ []) (h : Admissible V k (pre ++ [Req.view l v e])) :
    (run V k src cached (pre ++ [Req.view l v e])).getLast? = some (layered src (normL l) v) := by
  rw [answers_are_spec V k src cached _ h]
  simp [specAns, hv, specView_eq, layered]

example : ∃ reqs : List Req, Admissible V0 Kind.html (reqs ++ [Req.view [97] [98] true]) ∧ reqs.length = 2 :=
  ⟨[Req.layout [97] false, Req.view [] [99] true], by decide +kernel, rfl⟩

/-- Name by name: the more specific layer overrides the more general one.  (`pick`: a blank body
does not replace an existing definition — `text/template`'s rule for empty templates.) -/
theorem view_lookup_name (W L H : TSet) (n : Name) :
    over W (over L H) n = pick (W n) (pick (L n) (H n)) := rfl

/-- For definitions that are not blank this is `view <|> layout <|> helper`. -/
theorem view_lookup_plain (W L H : TSet) (n : Name)
    (hW : ∀ x, W n = some x → blank x = false) (hL : ∀ x, L n = some x → blank x = false) :
    over W (over L H) n = (W n <|> L n <|> H n) := by
  show pick (W n) (pick (L n) (H n)) = _
  rw [pick_eq_orElse _ _ hL, pick_eq_orElse _ _ hW]

example : ∃ W L H : TSet, ∃ n : Name, (∀ x, W n = some x → blank x = false) ∧
    (∀ x, L n = some x → blank x = false) ∧ W n = none ∧ L n = some [120] ∧ H n = some [121] :=
  ⟨TSet.empty, TSet.empty.set [110] [120], TSet.empty.set [110] [121], [110],
    (by intro x h; cases h), (by intro x h; simp [TSet.set] at h; subst h; decide), rfl, (by simp [TSet.set]),
    (by simp [TSet.set])⟩

/-- **Isolation between views.** A name that neither view `v'` itself, nor the layout, nor the
helpers define is absent from `View(l, v')` — whatever any other view's files define, and whatever
was requested (and cached) before. -/
theorem views_isolated (V : Variant) (k : Kind) (src : Src) (cached : Bool) (pre : List Req)
    (l v' : Name) (e : Bool) (h : Admissible V k (pre ++ [Req.view l v' e]))
    (r W L H : TSet) (n : Name)
    (hans : (run V k src cached (pre ++ [Req.view l v' e])).getLast? = some (some r))
    (hW : layerDefs (src.view v') = some W) (hL : layerDefs (src.layout (normL l)) = some L)
    (hH : layerDefs src.helpers = some H)
    (nW : W n = none) (nL : L n = none) (nH : H n = none) : r n = none := by
  rw [answers_are_spec V k src cached _ h] at hans
  by_cases hv : v' = []
  · simp [specAns, hv] at hans
  · simp [specAns, hv, specView_eq, hW, hL, hH] at hans
    subst hans
    simp [over, pick, nW, nL, nH]

/-- **Isolation of the layout.** A name that neither the layout nor the helpers define is absent
from `Layout(l)`: no view's definitions ever show up in a layout (or, taking `L = ∅`, in the base). -/
theorem layout_isolated (V : Variant) (k : Kind) (src : Src) (cached : Bool) (pre : List Req)
    (l : Name) (e : Bool) (h : Admissible V k (pre ++ [Req.layout l e]))
    (r L H : TSet) (n : Name)
    (hans : (run V k src cached (pre ++ [Req.layout l e])).getLast? = some (some r))
    (hL : layerDefs (src.layout (normL l)) = some L) (hH : layerDefs src.helpers = some H)
    (nL : L n = none) (nH : H n = none) : r n = none := by
  rw [answers_are_spec V k src cached _ h] at hans
  simp [specAns, specLayout_eq, hL, hH] at hans
  subst hans
  simp [over, pick, nL, nH]

/-- a source in which view `a` defines `n` and view `b` does not -/
def exSrc : Src :=
  { helpers := none
    layout := fun _ => none
    view := fun v => if v = [97] then
      some [{ tmpl := true, defines := [([110], [120])], root := [], bad := false }] else none }

example : ∃ W : TSet, layerDefs (exSrc.view [97]) = some W ∧ W [110] = some [120] ∧
    layerDefs (exSrc.view [98]) = some TSet.empty :=
  ⟨_, rfl, (by decide +kernel), rfl⟩

/-- **Asking twice** gives equal templates (in one admissible history, at any two positions). -/
theorem ask_twice_equal (V : Variant) (k : Kind) (src : Src) (cached : Bool) (reqs : List Req)
    (h : Admissible V k reqs) (i j : Nat) (a b : Req) (hi : reqs[i]? = some a) (hj : reqs[j]? = some b)
    (hab : sameTarget a b) :
    (run V k src cached reqs)[i]? = (run V k src cached reqs)[j]? := by
  rw [answers_are_spec V k src cached _ h]
  simp [List.getElem?_map, hi, hj, specAns_sameTarget src hab]

example : sameTarget (Req.view [] [98] true) (Req.view defaultLayout [98] false) := by
  simp [sameTarget, normL]

/-- Cache transparency for every variant, both providers, all file sets and all admissible
request sequences.  For the old revision `V0`: html sequences that execute only view templates,
layout names without ':'; for its text provider only the ':' restriction. -/
theorem cache_transparent_partial (V : Variant) (k : Kind) (src : Src) (reqs : List Req)
    (h : Admissible V k reqs) : run V k src true reqs = run V k src false reqs := by
  rw [answers_are_spec V k src true _ h, uncached_is_spec]

example : Admissible V0 Kind.html [Req.view [108] [118] true, Req.layout [108] false, Req.view [108] [118] false] := by
  decide +kernel

example : Admissible V0 Kind.text [Req.layout [108] true, Req.base true, Req.view [108] [58] true] := by
  decide +kernel

/-- **Cache transparency, full strength**, for the providers as they are: all file sets, all
request sequences (any names, any executions by the callers), both providers. -/
theorem cache_transparent (k : Kind) (src : Src) (reqs : List Req) :
    run Vfix k src true reqs = run Vfix k src false reqs :=
  cache_transparent_partial Vfix k src reqs (admissible_current k reqs)

/-- the witness of KF-C19-1: a layout directory with one template file -/
def kfSrc : Src :=
  { helpers := none
    layout := fun _ => some [{ tmpl := true, defines := [], root := [120], bad := false }]
    view := fun _ => none }

/-- `Layout("a")`, the caller executes it, then `View("a", "c")` -/
def kfReqs : List Req := [Req.layout [97] true, Req.view [97] [99] false]

/-- **Former KF-C19-1 (defect 22b, repaired by 0187fed)**: the old html provider is not cache transparent, even for names
without ':' — after a caller executed the cached layout, `View` fails (`cannot Clone … after it has
executed`) where the uncached provider succeeds. -/
theorem cache_transparent_false_html :
    ¬ (∀ (src : Src) (reqs : List Req), (∀ r ∈ reqs, KeyOK V0 r) →
        run V0 Kind.html src true reqs = run V0 Kind.html src false reqs) := by
  intro h
  have h1 := h kfSrc kfReqs (by decide +kernel)
  -- answers are functions `Name → Option Body`: compare a decidable observation of them (error or not)
  have h2 := congrArg (List.map Option.isSome) h1
  revert h2
  decide +kernel

/-- the witness of the key collision: layout `p:q` does not exist, layout `p` defines `n` -/
def colonSrc : Src :=
  { helpers := none
    layout := fun l => if l = [112] then
      some [{ tmpl := true, defines := [([110], [120])], root := [], bad := false }] else none
    view := fun _ => none }

/-- `View("p:q", "r")` then `View("p", "q:r")`: both join to the key `p:q:r` -/
def colonReqs : List Req := [Req.view [112, 58, 113] [114] false, Req.view [112] [113, 58, 114] false]

/-- **Former KF-C19-2 (repaired by 7d60dbb)**: with a ':' in a layout name neither old provider is cache transparent even if
nothing is ever executed (the second request is answered with the first one's template). -/
theorem cache_transparent_false_colon (k : Kind) :
    ¬ (∀ (src : Src) (reqs : List Req), (∀ r ∈ reqs, ReqOK V0 k r) →
        run V0 k src true reqs = run V0 k src false reqs) := by
  intro h
  have h1 := h colonSrc colonReqs (by
    intro r hr
    simp [colonReqs] at hr
    rcases hr with rfl | rfl <;> simp [ReqOK])
  -- the observation: whether the answer defines the name `n`
  have h2 := congrArg (List.map fun a => a.map fun t => (t [110]).isSome) h1
  revert h2
  cases k <;> decide +kernel

/-- **No crash** in the guarded protocol (look-ups under the read lock, commit 2a64c6e): for any
number of goroutines, caching on or off, and every schedule, the runtime never sees a map read or
write overlapping a map write. -/
theorem no_fatal (n : Nat) (cached : Bool) (sched : List Nat) :
    (Sys.run true cached (Sys.init n) sched).fatal = false :=
  (sysInv_run cached sched (sysInv_init n)).1

/-- **Mutual exclusion** behind it: in every reachable state at most one goroutine is inside the
write-locked section (build + cache write), and none holds the read lock meanwhile — each
`Base/Layout/View` body therefore runs as in the sequential model. -/
theorem mutual_exclusion (n : Nat) (cached : Bool) (sched : List Nat) (i j : Nat) (p q : PC)
    (hi : (Sys.run true cached (Sys.init n) sched).pcs[i]? = some p)
    (hj : (Sys.run true cached (Sys.init n) sched).pcs[j]? = some q) :
    (p.inW = true → q.inW = true → i = j) ∧ (p.inW = true → q.inR = true → False) :=
  (sysInv_run cached sched (sysInv_init n)).2 i j p q hi hj

example : (Sys.run true true (Sys.init 3) [0, 1, 0, 1, 0, 1, 0, 0, 0, 0, 0, 1, 1, 2, 2, 2]).filled = true ∧
    (Sys.run true true (Sys.init 3) [0, 1, 0, 1, 0, 1, 0, 0, 0, 0, 0, 1, 1, 2, 2, 2]).pcs = [PC.idle, PC.wrote, PC.idle] := by
  decide +kernel

/-- **The pinned protocol crashes**: with two or more goroutines there is a schedule in which an
unguarded look-up overlaps the cache write (`fatal error: concurrent map read and map write`). -/
theorem fatal_reachable (n : Nat) (h : 2 ≤ n) :
    ∃ sched : List Nat, (Sys.run false true (Sys.init n) sched).fatal = true := by
  obtain ⟨m, rfl⟩ : ∃ m, n = m + 2 := ⟨n - 2, by omega⟩
  exact ⟨[0, 0, 0, 0, 1], pinned_fatal m⟩

end Goat.C19
