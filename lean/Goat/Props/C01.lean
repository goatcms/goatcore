/-
Property C01 — the in-memory filespace behaves as an abstract file tree on every history.

  "After any sequence of filespace operations on the in-memory filespace (directly or through a
   child view), every result and the whole observable tree equal those of a plain
   tree-of-named-nodes model: a write creates missing parents and replaces content, mkdir is
   idempotent, remove deletes a file or an empty directory only, recursive remove deletes the subtree,
   copies are deep, queries agree with the tree, and no node that was never created (such as an entry
   named '.') ever appears.  Byte slices and directory listings handed in or out are snapshots."

Stated over the executable model `Goat/Model/MemFS.lean` (one function per method of
`memfs.Filespace` / `FilespaceWrapper`, raw path *bytes* in, Go control flow) and the point-wise
specification `Goat/Spec/FS.lean`.  Everything below holds for path strings of any spelling
(`Op` carries the raw bytes; the only normalisation is `Path.norm` = `ReduceAbsPath`), byte contents
of any length, histories of any length, and child views of any depth.

Vocabulary (defined in `Goat/Spec/FS.lean`, `Goat/Base/*.lean`, `Goat/Proofs/*.lean`):
  `norm raw`          `none` when the raw path climbs above the root, else its reduced segment list
  `Plain s`           `s` is none of `""`, `.`, `..`;   `Reduced q`: every segment is `Plain` and `/`-free
  `walk segs cur`     resolve a relative path by walking from directory stack `cur`
  `abs t : State`     what stands at each path of the concrete tree `t` (`Path → Option Entry`)
  `Inv t`             root is a directory, sibling names unique, every name real (`Node.WF`)
  `ViewOK ref b`      handle `ref` is the root filespace (`b = []`) or a wrapper whose base path is
                      `join b ++ "/"` with `b` reduced: a child view rooted at `b`
  `step ref t op`     the model's call of `op` through handle `ref` on tree `t`: `(t', result)`
  `FS.Step b S op r S'`   the specification of one call through a view rooted at `b`
  `FS.Run views S ops rs S'`  … of a whole history;  `World.init.run ops` the model's history
  `Keeps t t' segs`   `t'` is still a directory, and what holds hereditarily of `t` holds of `t'`: unique sibling
                      names; any predicate true of all names of `t` and of `segs` is true of all names of `t'`
  `supplied ops`      every real name occurring in the normal forms of the path arguments of `ops`

SNAPSHOT CLAUSE — section 5 below, on the heap-level model `Goat/Model/MemFSHeap.lean`.
  The value-level model cannot express aliasing (its byte strings and listings are values), so the
  clause is carried by a second model of the same Go code in which every slice is an object in a heap
  (`BufId`), the caller holds handles, and "the caller writes into something it holds" is an operation:
     `snapshot_inv`        ∀ histories, caller-held ids ∩ ids reachable from the tree = ∅, no id is
                           reachable from two tree positions, everything reachable is allocated
     `snapshot_sim`        the heap model, dereferenced, IS the value model on every history — every
                           theorem of sections 2–4 transfers to it
     `handed_out_stable`, `handed_in_stable`, `copy_shares_nothing`   the three sentences of the clause
     `snapshot_prefix_variant_false`   for the code before c1f9074 / e4e01df the invariant is false
  The tie heap model ↔ /repo is the alias-probe differential of checks/c01.py (`m_fsheap`).
-/
import Goat.Proofs.MemFSCor
import Goat.Proofs.MemFSHeapSnap

namespace Goat.C01

open Goat Goat.Path Goat.FS Goat.MemFS

/-! ### 1. Path normalisation (`varutil.ReduceAbsPath`) -/

/-- Every segment of a reduced path is a real name: never `""`, `.` or `..`, and `/`-free. -/
theorem reduce_plain (p : Bytes) (q : List Name) (h : norm p = some q) : Reduced q :=
  norm_reduced p q h

/-- `ReduceAbsPath` is exactly "walk the segments from the root": it fails iff the walk leaves the
root, and otherwise yields the directory stack reached. -/
theorem reduce_eq_walk (p : Bytes) : norm p = (walk (split p) []).map List.reverse :=
  reduceGo_eq_walk (split p) []

/-- Reducing twice is reducing once. -/
theorem reduce_idem (p r : Bytes) (h : reduceAbsPath p = some r) : reduceAbsPath r = some r :=
  Path.reduce_idem p r h

/-- The path string a child view hands down, `base/` ++ reduced argument, reduces to the
concatenation of the two segment lists: views compose by appending paths. -/
theorem reduce_append (b q : List Name) (hb : Reduced b) (hq : Reduced q) :
    norm (join b ++ slash :: join q) = some (b ++ q) :=
  norm_base_join b q hb hq

-- "/a/./../b//" reduces to ["b"];  "a/../.." climbs out
example : norm [47, 97, 47, 46, 47, 46, 46, 47, 98, 47, 47] = some [[98]] := by decide
example : norm [97, 47, 46, 46, 47, 46, 46] = none := by decide
example : Reduced [[97], [46, 46, 46]] := by
  intro s hs; simp at hs; rcases hs with rfl | rfl <;> decide
example : reduceAbsPath [47, 97, 47, 47, 98] = some [97, 47, 98] := by decide

/-! ### 2. One call refines the abstract tree -/

/-- MAIN REFINEMENT.  Any of the 16 methods, with any raw path spelling, through the root filespace
or a child view rooted at `b`, on any well-formed tree: the result and the whole abstract tree
afterwards are those the point-wise specification prescribes (the tree after the call is given by
a formula over the tree before the call). -/
theorem memfs_refines (ref : FSRef) (b : List Name) (hv : ViewOK ref b) (t : Node) (ht : Inv t) (op : Op) :
    FS.Step b (abs t) op (step ref t op).2 (abs (step ref t op).1) :=
  (step_refines ref b hv t ht op).spec

/-- Well-formedness (root is a directory, sibling names unique, all names real) is preserved by
every call. -/
theorem wf_preserved (ref : FSRef) (b : List Name) (hv : ViewOK ref b) (t : Node) (ht : Inv t) (op : Op) :
    Inv (step ref t op).1 :=
  step_inv ref b hv t ht op

/-- A call that answers `err` leaves the concrete tree exactly as it was (no partial effects, e.g.
no parents left behind by a refused write or copy). -/
theorem failed_call_changes_nothing (ref : FSRef) (b : List Name) (hv : ViewOK ref b) (t : Node)
    (ht : Inv t) (op : Op) (h : (step ref t op).2 = .err) : (step ref t op).1 = t :=
  (step_refines ref b hv t ht op).err_same h

/-- Child views: a call through a wrapper with base path `join b ++ "/"` is the specification's call
at `b ++ p` — in particular it is confined to what the root filespace does at that longer path. -/
theorem view_refines (b : List Name) (hb : Reduced b) (t : Node) (ht : Inv t) (op : Op) :
    FS.Step b (abs t) op (step (.wrap (join b ++ [slash])) t op).2
      (abs (step (.wrap (join b ++ [slash])) t op).1) :=
  (step_refines (.wrap (join b ++ [slash])) b (show Reduced b ∧ join b ++ [slash] = join b ++ [slash] from ⟨hb, rfl⟩) t ht op).spec

/-- Views of views, to any depth: `Filespace(raw)` through a view rooted at `b` succeeds for every
non-climbing `raw` and yields a view rooted at `b ++ norm raw`. -/
theorem view_of_view (ref : FSRef) (b : List Name) (hv : ViewOK ref b) (raw : Bytes) (q : List Name)
    (hn : norm raw = some q) : ∃ v, openView ref raw = some v ∧ ViewOK v (b ++ q) :=
  openView_some ref b hv raw q hn

/-- …and for every other `raw` it FAILS, through any handle: a spelling whose walk passes the root of the
view it is given to is refused by `Filespace` whether or not the walk would still end inside the root
filespace (`../sibling`, `work/../../sibling`, `/../sibling` from a view one or more levels down) — the
reduction is relative to the view, not to the concatenated path.  With `view_of_view` this decides
`openView` for all byte strings; `memfs_run_refines` uses both (a refused call opens no handle). -/
theorem view_escape_refused (ref : FSRef) (raw : Bytes) (hn : norm raw = none) : openView ref raw = none :=
  openView_none ref raw hn

example : Inv Node.empty := inv_empty
example : ViewOK .root [] := rfl
-- "work/../../secret" and "/../secret" climb out of any view; base ++ raw would reduce inside the root filespace
example : norm [119, 111, 114, 107, 47, 46, 46, 47, 46, 46, 47, 115] = none
    ∧ norm ([97, 47, 98, 47] ++ [119, 111, 114, 107, 47, 46, 46, 47, 46, 46, 47, 115]) = some [[97], [115]] := by decide
example : openView (.wrap [97, 47, 98, 47]) [47, 46, 46, 47, 115] = none := by decide
example : ViewOK (.wrap [97, 47, 98, 47]) [[97], [98]] :=
  ⟨by intro s hs; simp at hs; rcases hs with rfl | rfl <;> decide, by decide⟩
-- from the view rooted at a/b: "c/./d/.." opens the view rooted at a/b/c, "../c" is refused
example : openView (.wrap [97, 47, 98, 47]) [99, 47, 46, 47, 100, 47, 46, 46]
    = some (.wrap [97, 47, 98, 47, 99, 47]) := by decide
example : openView (.wrap [97, 47, 98, 47]) [46, 46, 47, 99] = none := by decide

/-! ### 3. Every history -/

/-- ALL HISTORIES.  For every finite sequence of calls, each through any handle opened so far
(handle 0 = the root filespace, further handles = child views opened by earlier `Filespace` calls,
at any depth), the results produced by the model and the final tree are a run of the
specification from the empty filespace; and the final tree is well formed. -/
theorem memfs_run_refines (ops : List (Nat × Op)) :
    FS.Run [[]] State.empty ops (World.init.run ops).2 (abs (World.init.run ops).1.root)
    ∧ Inv (World.init.run ops).1.root := by
  have h := run_refines_from World.init worldOK_init ops
  have e : World.init.views.map baseOf = [[]] := rfl
  rw [e, show World.init.root = Node.empty from rfl, abs_empty] at h
  exact ⟨h.1, h.2.inv⟩

/-- The same from any reachable world (any tree satisfying the invariant, any set of open views). -/
theorem memfs_run_refines_from (w : World) (hw : WorldOK w) (ops : List (Nat × Op)) :
    FS.Run (w.views.map baseOf) (abs w.root) ops (w.run ops).2 (abs (w.run ops).1.root)
    ∧ WorldOK (w.run ops).1 :=
  run_refines_from w hw ops

-- write "a/b" through the root, open the view "a", read "./b" through it, remove "b", look again
example :
    (World.init.run [(0, .writeFile [97, 47, 98] [1, 2]), (0, .filespace [97]),
        (1, .readFile [46, 47, 98]), (1, .remove [98]), (0, .isExist [97, 47, 98]),
        (1, .remove []), (0, .readDir [])]).2
      = [.ok, .ok, .data [1, 2], .ok, .bool false, .err, .list [([97], true)]] := by decide

/-- SNAPSHOT CLAUSE, value-level part only.  In the value model every result handed out is a value:
whatever a history has answered is left unchanged by any continuation of the history.  The value model
has no heap, so it cannot say that a Go slice returned by `ReadFile`/`ReadDir` (or passed to
`WriteFile`) is not aliased by the tree; that is proved on the heap-level model in section 5
(`snapshot_inv`, `snapshot_sim`, `handed_out_stable`, `handed_in_stable`, `copy_shares_nothing`). -/
theorem snapshot_partial (w : World) (ops more : List (Nat × Op)) :
    (w.run (ops ++ more)).2 = (w.run ops).2 ++ ((w.run ops).1.run more).2 :=
  (run_append w ops more).1

example :
    (World.init.run ([(0, .writeFile [97] [1]), (0, .readFile [97])] ++ [(0, .writeFile [97] [2])])).2
      = [.ok, .data [1]] ++ [.ok] := by decide

/-! ### 4. The sentences of the property -/

-- the hypotheses used below are satisfiable by non-trivial values: a view rooted at `a`, an oddly
-- spelled path `./b//c`, a non-empty tree
example : norm [46, 47, 98, 47, 47, 99] = some [[98], [99]] := by decide
example : (step (.wrap [97, 47]) Node.empty (.writeFile [46, 47, 98, 47, 47, 99] [7])).2 = .ok := by decide
example : (step .root Node.empty (.mkdirAll [97, 47, 98])).2 = .ok := by decide
example :
    (step .root (step .root Node.empty (.writeFile [97, 47, 98] [1])).1 (.copy [97] [99, 47, 100])).2 = .ok := by
  decide
example :
    (step .root (step .root Node.empty (.writeFile [97, 47, 98] [1])).1 (.removeAll [47, 97, 47])).2 = .ok := by
  decide
example :
    (step (.wrap [97, 47]) (step .root Node.empty (.writeFile [97, 47, 98] [1])).1 (.remove [98])).2 = .ok := by
  decide

/-- "A write creates missing parents": after a successful `WriteFile` (any spelling, any handle)
the path holds exactly the data and every proper prefix of it is a directory. -/
theorem write_creates_parents (ref : FSRef) (b : List Name) (hv : ViewOK ref b) (t : Node) (ht : Inv t)
    (raw data : Bytes) (p : List Name) (hn : norm raw = some p)
    (hok : (step ref t (.writeFile raw data)).2 = .ok) :
    abs (step ref t (.writeFile raw data)).1 (b ++ p) = some (.file data)
    ∧ ∀ q, q <+: b ++ p → q ≠ b ++ p → abs (step ref t (.writeFile raw data)).1 q = some .dir := by
  rw [write_post ref b hv t ht raw data p hn hok]
  exact ⟨writeSt_at _ _ _, fun q h1 h2 => writeSt_parent _ _ q _ h1 h2⟩

/-- "… and replaces content": whatever stood at the path, afterwards it is the new data, and no path
other than the written one and its prefixes changes. -/
theorem write_replaces (ref : FSRef) (b : List Name) (hv : ViewOK ref b) (t : Node) (ht : Inv t)
    (raw data : Bytes) (p : List Name) (hn : norm raw = some p)
    (hok : (step ref t (.writeFile raw data)).2 = .ok) :
    abs (step ref t (.writeFile raw data)).1 (b ++ p) = some (.file data)
    ∧ ∀ q, ¬ q <+: b ++ p → abs (step ref t (.writeFile raw data)).1 q = abs t q := by
  rw [write_post ref b hv t ht raw data p hn hok]
  exact ⟨writeSt_at _ _ _, fun q h => writeSt_frame _ _ q _ h⟩

/-- A write succeeds exactly when the path is not the root, no node on the way is a file and the
path is not a directory. -/
theorem write_ok_iff (ref : FSRef) (b : List Name) (hv : ViewOK ref b) (t : Node) (ht : Inv t)
    (raw data : Bytes) (p : List Name) (hn : norm raw = some p) :
    (step ref t (.writeFile raw data)).2 = .ok ↔ FS.writeOk (abs t) (b ++ p) :=
  (step_mut ref b hv t ht _ fun h => by simpa only [FS.Step, hn] using h).1

/-- Streams: a `Writer` that is opened, fed any chunks and closed is a `WriteFile` of their
concatenation (it truncates; old content never survives) — same verdict, same tree. -/
theorem writer_exact (ref : FSRef) (b : List Name) (hv : ViewOK ref b) (t : Node) (ht : Inv t)
    (raw : Bytes) (chunks : List Bytes) :
    (step ref t (.writer raw chunks)).2 = (step ref t (.writeFile raw chunks.flatten)).2
    ∧ abs (step ref t (.writer raw chunks)).1 = abs (step ref t (.writeFile raw chunks.flatten)).1 := by
  rw [step_writer]; exact ⟨rfl, rfl⟩

/-- "mkdir is idempotent": a `MkdirAll` that succeeded succeeds again and changes nothing. -/
theorem mkdir_idempotent (ref : FSRef) (b : List Name) (hv : ViewOK ref b) (t : Node) (ht : Inv t)
    (raw : Bytes) (hok : (step ref t (.mkdirAll raw)).2 = .ok) :
    (step ref (step ref t (.mkdirAll raw)).1 (.mkdirAll raw)).2 = .ok
    ∧ abs (step ref (step ref t (.mkdirAll raw)).1 (.mkdirAll raw)).1 = abs (step ref t (.mkdirAll raw)).1 := by
  have h1' := (step_refines ref b hv t ht (.mkdirAll raw)).spec
  have ht1 := step_inv ref b hv t ht (.mkdirAll raw)
  have h2 := (step_refines ref b hv _ ht1 (.mkdirAll raw)).spec
  simp only [FS.Step] at h1' h2
  cases hn : norm raw with
  | none => simp only [hn] at h1'; rw [h1'.1] at hok; cases hok
  | some p =>
    simp only [hn] at h1' h2
    obtain ⟨_, e⟩ := h1'.ok hok
    rw [e] at h2
    have hr := h2.ok_iff.mpr (FS.mkdirOk_mkdirSt (abs t) (b ++ p))
    refine ⟨hr, ?_⟩
    rw [(h2.ok hr).2, FS.mkdirSt_idem, e]

/-- "remove deletes a file or an empty directory only": `Remove` succeeds exactly when the path is
not the (view's) root and holds a file or a directory without children; then that one path
disappears and every other path keeps its entry; otherwise the tree is untouched. -/
theorem remove_only_file_or_empty_dir (ref : FSRef) (b : List Name) (hv : ViewOK ref b) (t : Node)
    (ht : Inv t) (raw : Bytes) (p : List Name) (hn : norm raw = some p) :
    ((step ref t (.remove raw)).2 = .ok ↔
        p ≠ [] ∧ ((∃ d, abs t (b ++ p) = some (.file d))
                  ∨ (abs t (b ++ p) = some .dir ∧ ∀ n, abs t (b ++ p ++ [n]) = none)))
    ∧ ((step ref t (.remove raw)).2 = .ok →
        ∀ q, abs (step ref t (.remove raw)).1 q = if q = b ++ p then none else abs t q)
    ∧ ((step ref t (.remove raw)).2 ≠ .ok → (step ref t (.remove raw)).1 = t) := by
  obtain ⟨h1, h2, h3⟩ := step_mut ref b hv t ht (.remove raw) fun h => by simpa only [FS.Step, hn] using h
  exact ⟨h1.trans nonroot_and, fun hok q => by rw [h2 hok]; rfl, h3⟩

/-- "recursive remove deletes the subtree": `RemoveAll` succeeds exactly on an existing path other
than the (view's) root; then every path at or below it is gone and every other path keeps its entry. -/
theorem removeAll_subtree (ref : FSRef) (b : List Name) (hv : ViewOK ref b) (t : Node) (ht : Inv t)
    (raw : Bytes) (p : List Name) (hn : norm raw = some p) :
    ((step ref t (.removeAll raw)).2 = .ok ↔ p ≠ [] ∧ abs t (b ++ p) ≠ none)
    ∧ ((step ref t (.removeAll raw)).2 = .ok →
        ∀ q, abs (step ref t (.removeAll raw)).1 q = if b ++ p <+: q then none else abs t q)
    ∧ ((step ref t (.removeAll raw)).2 ≠ .ok → (step ref t (.removeAll raw)).1 = t) := by
  obtain ⟨h1, h2, h3⟩ := step_mut ref b hv t ht (.removeAll raw) fun h => by simpa only [FS.Step, hn] using h
  exact ⟨h1.trans nonroot_and, fun hok q => by rw [h2 hok]; rfl, h3⟩

/-- "copies are deep" (1): after a successful `Copy` of `s` to `d`, what stands at `d ++ r` is what
stood at `s ++ r`, for every `r` (when the source is not an ancestor of the destination; in general it
is the source as it is once the destination's missing parents exist), and nothing outside `d` and
its prefixes changes. -/
theorem copy_deep (ref : FSRef) (b : List Name) (hv : ViewOK ref b) (t : Node) (ht : Inv t)
    (rs rd : Bytes) (s d : List Name) (hs : norm rs = some s) (hd : norm rd = some d)
    (hok : (step ref t (.copy rs rd)).2 = .ok) :
    (∀ r, abs (step ref t (.copy rs rd)).1 (b ++ d ++ r)
            = FS.mkdirSt (abs t) (b ++ d).dropLast (b ++ s ++ r))
    ∧ (¬ (b ++ s) <+: (b ++ d) →
        ∀ r, abs (step ref t (.copy rs rd)).1 (b ++ d ++ r) = abs t (b ++ s ++ r))
    ∧ (∀ q, ¬ (b ++ d) <+: q → ¬ q <+: (b ++ d) → abs (step ref t (.copy rs rd)).1 q = abs t q) := by
  rw [(step_mut ref b hv t ht (.copy rs rd) fun h => by simpa only [FS.Step, hs, hd] using h).2.1 hok]
  exact ⟨fun r => copySt_under _ _ _ r, fun h r => copySt_under_plain _ _ _ r h,
    fun q h1 h2 => copySt_frame _ _ _ q h1 h2⟩

/-- "copies are deep" (2): the copy shares nothing with its source.  After the copy, a later write
anywhere outside `d` — in particular under the source `s` — changes nothing at or below `d`. -/
theorem copy_independent (ref : FSRef) (b : List Name) (hv : ViewOK ref b) (t' : Node) (ht' : Inv t')
    (raw data : Bytes) (w d r : List Name) (hn : norm raw = some w)
    (hok : (step ref t' (.writeFile raw data)).2 = .ok) (hout : ¬ d <+: b ++ w) :
    abs (step ref t' (.writeFile raw data)).1 (d ++ r) = abs t' (d ++ r) := by
  rw [write_post ref b hv t' ht' raw data w hn hok]
  exact writeSt_frame _ _ _ _ (fun hp => hout ((List.prefix_append d r).trans hp))

/-- `Copy` succeeds exactly when the destination is not the root, the source exists, no node on the
way to the destination is a file and the destination does not exist. -/
theorem copy_ok_iff (ref : FSRef) (b : List Name) (hv : ViewOK ref b) (t : Node) (ht : Inv t)
    (rs rd : Bytes) (s d : List Name) (hs : norm rs = some s) (hd : norm rd = some d) :
    (step ref t (.copy rs rd)).2 = .ok ↔ FS.copyOk .any (abs t) (b ++ s) (b ++ d) :=
  (step_mut ref b hv t ht (.copy rs rd) fun h => by simpa only [FS.Step, hs, hd] using h).1

/-- "queries agree with the tree": the seven read-type methods (and `Filespace`) never change the
tree; existence, file content and directory listings are those of the abstract tree (a listing is
duplicate-free and contains exactly the children with their kinds).  The remaining answers
(`IsFile`, `IsDir`, `Lstat`, `Reader`) are the clauses of `FS.Step` in `memfs_refines`. -/
theorem queries_agree (ref : FSRef) (b : List Name) (hv : ViewOK ref b) (t : Node) (ht : Inv t)
    (raw : Bytes) (p : List Name) (hn : norm raw = some p) :
    (∀ op, isQuery op = true → (step ref t op).1 = t)
    ∧ (step ref t (.isExist raw)).2 = .bool (abs t (b ++ p)).isSome
    ∧ (∀ d, abs t (b ++ p) = some (.file d) → (step ref t (.readFile raw)).2 = .data d)
    ∧ ((∀ d, abs t (b ++ p) ≠ some (.file d)) → (step ref t (.readFile raw)).2 = .err)
    ∧ (abs t (b ++ p) = some .dir →
        ∃ l, (step ref t (.readDir raw)).2 = .list l ∧ FS.IsListing (abs t) (b ++ p) l) := by
  have rd := fun op h => read_agrees ref b hv t ht op raw h
  simp only [hn, Option.map_some] at rd
  have hf := rd (.readFile raw) rfl
  refine ⟨fun op h => query_unchanged ref t op h, rd (.isExist raw) rfl,
    fun d h => readFile_agrees ref b hv t ht raw p hn d h, fun h => ?_,
    fun h => by simpa [ReadAns, h] using rd (.readDir raw) rfl⟩
  rw [hf]
  rcases he : abs t (b ++ p) with _ | d | _
  · rfl
  · exact absurd he (h d)
  · rfl

/-- Read-after-write across spellings and handles: what any `WriteFile` stored is what a `ReadFile`
of any spelling of the same path returns, through any other handle that reaches that path. -/
theorem read_after_write (ref ref' : FSRef) (b b' : List Name) (hv : ViewOK ref b) (hv' : ViewOK ref' b')
    (t : Node) (ht : Inv t) (raw raw' data : Bytes) (p p' : List Name)
    (hn : norm raw = some p) (hn' : norm raw' = some p') (hsame : b ++ p = b' ++ p')
    (hok : (step ref t (.writeFile raw data)).2 = .ok) :
    (step ref' (step ref t (.writeFile raw data)).1 (.readFile raw')).2 = .data data := by
  have ht1 := wf_preserved ref b hv t ht (.writeFile raw data)
  apply readFile_agrees ref' b' hv' _ ht1 raw' p' hn'
  rw [← hsame]
  exact (write_creates_parents ref b hv t ht raw data p hn hok).1

/-- A path that climbs above the root of the handle it is given to is refused and has no effect. -/
theorem climbing_path_refused (ref : FSRef) (b : List Name) (hv : ViewOK ref b) (t : Node) (ht : Inv t)
    (raw data : Bytes) (hn : norm raw = none) :
    step ref t (.writeFile raw data) = (t, .err) ∧ (step ref t (.readFile raw)).2 = .err
    ∧ (step ref t (.isExist raw)).2 = .bool false :=
  climbing_refused ref b hv t ht raw data hn

/-- "No node that was never created ever appears": after any history, every segment of every
existing path is a real name (never `""`, `.`, `..`) that stands literally between two `/` in a
path argument of some call of the history. -/
theorem no_phantom (ops : List (Nat × Op)) (q : List Name)
    (h : abs (World.init.run ops).1.root q ≠ none) :
    ∀ s ∈ q, Plain s ∧ ∃ x ∈ ops, ∃ raw ∈ opPaths x.2, s ∈ split raw :=
  fun s hs => supplied_literal ops s (no_phantom_run ops q h s hs)

-- MkdirAll("."), WriteFile("a/../."), MkdirAll("./x/..") leave the tree empty (no node `.`)
example :
    (World.init.run [(0, .mkdirAll [46]), (0, .writeFile [97, 47, 46, 46, 47, 46] [1]),
        (0, .mkdirAll [46, 47, 120, 47, 46, 46]), (0, .readDir [])]).2
      = [.ok, .err, .ok, .list []] := by decide
-- remove: non-empty directory refused, file accepted, then the emptied directory accepted
example :
    (World.init.run [(0, .writeFile [97, 47, 98] []), (0, .remove [97]), (0, .remove [97, 47, 98]),
        (0, .remove [97]), (0, .remove [97])]).2 = [.ok, .err, .ok, .ok, .err] := by decide
-- copy a → c is deep: a later write under a is not seen under c
example :
    (World.init.run [(0, .writeFile [97, 47, 98] [1]), (0, .copy [97] [99]),
        (0, .writeFile [97, 47, 98] [2]), (0, .readFile [99, 47, 98]), (0, .readFile [97, 47, 98])]).2
      = [.ok, .ok, .ok, .data [1], .data [2]] := by decide
-- a Writer truncates: "hello" then a writer with chunks "a","b" leaves "ab"
example :
    (World.init.run [(0, .writeFile [102] [104, 101, 108, 108, 111]), (0, .writer [102] [[97], [98]]),
        (0, .readFile [102])]).2 = [.ok, .ok, .data [97, 98]] := by decide

/-! ### 5. The snapshot clause, on the heap-level model

`Goat/Model/MemFSHeap.lean` mirrors the same Go code one level lower: every `[]byte` and every
`[]os.FileInfo` is an object in a heap (`BufId`), a file node holds the id of its data array, a
directory node the id of its node array, the caller holds `Handle`s (buffers it made and handed in,
slices it was handed out) and can write through them (`HOp.mutate`) at any point of a history.
`cfg.old = false` selects the code as it is now (copies at `WriteFile`, `ReadFile`, `ReadDir`, `copyFile`);
`cfg.realloc` is Go's unspecified `append` growth policy — every theorem holds for every policy.

Vocabulary (`Goat/Model/MemFSHeap.lean`, `Goat/Proofs/MemFSHeap*.lean`):
  `HWorld.run cfg w ops`   a history of `HOp`s: filespace calls through any open handle (`.call n c`, byte
                           arguments are ids of caller buffers), `.alloc`, `.mutate`, `.keep`, `.recheck`
  `Sep w`                  ∀ held handle, its id ∉ `w.root.ids`;  `w.root.ids.Nodup`;  every id of the tree
                           and of a held handle is allocated;  held handles have pairwise different ids
  `deref w`                the value-level `World`: every id replaced by its content
  `traceOps`, `callResults`  the value-level history a heap-level history induces, and its results
  `view h hd`              what the caller sees through handle `hd` in heap `h`
  `applyOwn hd ops v`      `v` with the caller's own `mutate`s through `hd` applied, nothing else -/

section Snapshot
open Goat.MemFSHeap

/-- SNAPSHOT INVARIANT, all histories: after any sequence of filespace calls (16 methods, any handle,
any spelling), caller allocations and caller writes into anything the caller holds, no buffer or
listing held by the caller is reachable from the tree, no object is reachable from two positions of
the tree, and everything reachable is allocated. -/
theorem snapshot_inv (cfg : Cfg) (hc : cfg.old = false) (ops : List HOp) : Sep (HWorld.init.run cfg ops).1 :=
  sep_run cfg hc _ sep_init ops

/-- the invariant is inductive: it is kept by every single step from any world that has it -/
theorem snapshot_inv_step (cfg : Cfg) (hc : cfg.old = false) (w : HWorld) (hs : Sep w) (op : HOp) :
    Sep (w.step cfg op).1 :=
  sep_step cfg hc w hs op

/-- SIMULATION, all histories: dereferenced, the heap model is the value model — same tree, same open
handles, same results of all calls — where a `WriteFile`/`Write` passes the bytes its buffer holds at the
time of the call and every caller-side step is invisible.  Hence `memfs_run_refines` and every sentence
of section 4 hold of the heap model. -/
theorem snapshot_sim (cfg : Cfg) (hc : cfg.old = false) (ops : List HOp) :
    deref (HWorld.init.run cfg ops).1 = (World.init.run (traceOps cfg HWorld.init ops)).1
    ∧ callResults cfg HWorld.init ops = (World.init.run (traceOps cfg HWorld.init ops)).2 := by
  have h := sim_run cfg hc _ sep_init ops
  rwa [deref_init] at h

/-- … and therefore refines the abstract tree: the specification's run on the induced history -/
theorem snapshot_refines (cfg : Cfg) (hc : cfg.old = false) (ops : List HOp) :
    FS.Run [[]] State.empty (traceOps cfg HWorld.init ops) (callResults cfg HWorld.init ops)
      (abs (deref (HWorld.init.run cfg ops).1).root) := by
  rw [(snapshot_sim cfg hc ops).1, (snapshot_sim cfg hc ops).2]
  exact (memfs_run_refines _).1

/-- "a later operation on the tree does not change a buffer or listing the caller already holds":
whatever the caller holds after a history `pre` (handed out by `ReadFile`/`ReadDir`/`Read`, or made by
itself and handed in), what it sees through it after any further history `post` is what it saw, changed
only by its own `mutate`s through that handle — never by a filespace call. -/
theorem handed_out_stable (cfg : Cfg) (hc : cfg.old = false) (pre post : List HOp) (hd : Handle)
    (hh : hd ∈ (HWorld.init.run cfg pre).1.held) :
    view (HWorld.init.run cfg (pre ++ post)).1.heap hd
      = applyOwn hd post (view (HWorld.init.run cfg pre).1.heap hd) := by
  rw [(MemFSHeap.run_append cfg _ pre post).1]
  exact MemFSHeap.handed_out_stable cfg hc _ (snapshot_inv cfg hc pre) hd hh post

/-- what a call hands out is held from then on (so `handed_out_stable` applies to it) … -/
theorem handed_out_is_held (cfg : Cfg) (w : HWorld) (n : Nat) (c : HCall) :
    ∀ hd ∈ outHandles c (w.step cfg (.call n c)).2, hd ∈ (w.step cfg (.call n c)).1.held := by
  intro hd hh
  rcases call_cases cfg w n c with ⟨_, e⟩ | ⟨ref, _, _, e⟩ <;> rw [e] at hh ⊢
  · cases c <;> simp [outHandles, noOut] at hh
  · exact List.mem_append_left _ hh

/-- … and what `ReadFile` / `ReadDir` hand out shows exactly what they answered -/
theorem handed_out_shows_result (cfg : Cfg) (hc : cfg.old = false) (w : HWorld) (n : Nat) (p : Bytes) :
    (∀ hd ∈ outHandles (.readFile p) (w.step cfg (.call n (.readFile p))).2,
      view (w.step cfg (.call n (.readFile p))).1.heap hd = (w.step cfg (.call n (.readFile p))).2.res)
    ∧ (∀ hd ∈ outHandles (.readDir p) (w.step cfg (.call n (.readDir p))).2,
      view (w.step cfg (.call n (.readDir p))).1.heap hd = (w.step cfg (.call n (.readDir p))).2.res) :=
  ⟨handed_out_shows cfg hc w n _ (Or.inl ⟨p, rfl⟩),
   handed_out_shows cfg hc w n _ (Or.inr ⟨p, rfl⟩)⟩

/-- the node arrays are in step with the tree on every history: the directory `ReadDir` finds holds
exactly its entries in the first `len` places of its array (which `removeNodeByName` shifts in place and
`append` overwrites or reallocates) — the copy of `k.entries` the model's `ReadDir` hands out is the copy
of `d.nodes[:len]` the Go code makes. -/
theorem listing_sync (cfg : Cfg) (hc : cfg.old = false) (ops : List HOp) (p : Bytes) (l : BufId) (k : HKids)
    (hg : getDirByPath (HWorld.init.run cfg ops).1.root p = some (l, k)) :
    ((HWorld.init.run cfg ops).1.heap.lists l).take k.length = k.entries :=
  readDir_reads_array (sync_run cfg hc _ sep_init (sync_empty_dir _ _) ops) p l k hg

/-- "a later mutation of the caller's buffer does not change the tree": after a successful
`WriteFile(raw, id)`, any sequence of caller-side steps (writes into `id` included) leaves
`ReadFile(raw)` = the bytes `id` held at the time of the call. -/
theorem handed_in_stable (cfg : Cfg) (hc : cfg.old = false) (pre : List HOp) (n : Nat) (raw : Bytes)
    (id : BufId) (hh : Handle.buf id ∈ (HWorld.init.run cfg pre).1.held) (muts : List HOp)
    (hm : ∀ op ∈ muts, op.isCaller = true)
    (hok : ((HWorld.init.run cfg pre).1.step cfg (.call n (.writeFile raw id))).2.res = .ok) :
    ((((HWorld.init.run cfg pre).1.step cfg (.call n (.writeFile raw id))).1.run cfg muts).1.step cfg
        (.call n (.readFile raw))).2.res
      = .data ((HWorld.init.run cfg pre).1.heap.bytes id) :=
  handed_in_stable_from cfg hc _ (snapshot_inv cfg hc pre) (worldOK_deref_run cfg hc pre) n raw id hh muts hm hok

/-- more generally no caller-side step is visible in the value-level world at all -/
theorem caller_steps_invisible (cfg : Cfg) (hc : cfg.old = false) (pre muts : List HOp)
    (hm : ∀ op ∈ muts, op.isCaller = true) :
    deref (HWorld.init.run cfg (pre ++ muts)).1 = deref (HWorld.init.run cfg pre).1 := by
  rw [(MemFSHeap.run_append cfg _ pre muts).1]
  exact caller_run_deref cfg hc _ (snapshot_inv cfg hc pre) muts hm

/-- "two nodes never share mutable storage", in particular source and destination of a copy: after
any history followed by a `Copy`/`CopyFile`/`CopyDirectory` (or any other call) the nodes at or below `s`
and the nodes at or below `d` have no heap object in common, for any two paths neither of which is a
prefix of the other. -/
theorem copy_shares_nothing (cfg : Cfg) (hc : cfg.old = false) (ops : List HOp) (n : Nat) (c : HCall)
    (s d r₁ r₂ : List Name) (a b : HNode) (h1 : ¬ s <+: d) (h2 : ¬ d <+: s)
    (ha : ((HWorld.init.run cfg ops).1.step cfg (.call n c)).1.root.lookup (s ++ r₁) = some a)
    (hb : ((HWorld.init.run cfg ops).1.step cfg (.call n c)).1.root.lookup (d ++ r₂) = some b) :
    ∀ id ∈ a.ids, id ∉ b.ids :=
  nodes_share_nothing _ (snapshot_inv_step cfg hc _ (snapshot_inv cfg hc ops) (.call n c)) _ _ a b ha hb
    (incomparable_append s d r₁ r₂ h1 h2) (incomparable_append d s r₂ r₁ h2 h1)

/-- THE PRE-FIX CODE (before c1f9074 "memfs copies file data on the way in and out" and e4e01df "ReadDir
returns a snapshot") does not have the invariant: without `cfg.old = false` the statement of
`snapshot_inv` is false, with the documented symptoms as witnesses — the file reads `Xello` after the
caller overwrote the buffer it had passed to `WriteFile`, `XYllo` after it overwrote the slice `ReadFile`
returned; a held listing `a b c` reads `b c c` after `Remove("a")`. -/
theorem snapshot_prefix_variant_false :
    (¬ ∀ (cfg : Cfg) (ops : List HOp), Sep (HWorld.init.run cfg ops).1)
    ∧ (HWorld.init.run Cfg.preFix aliasDataOps).2.map (·.res)
        = [.ok, .ok, .ok, .data [88, 101, 108, 108, 111], .ok, .data [88, 89, 108, 108, 111]]
    ∧ ((HWorld.init.run Cfg.preFix aliasListOps).2.map (·.res)).getLast?
        = some (.list [([98], false), ([99], false), ([99], false)]) :=
  ⟨fun h => prefix_variant_data.2 (h Cfg.preFix aliasDataOps), prefix_variant_data.1,
   by rw [prefix_variant_listing.1]; rfl⟩

-- non-vacuity: the repaired code (`Cfg.fixed`, doubling growth policy) on the two histories of the
-- corpus (02-data-alias, 03-listing-alias) with keep/mutate/recheck:
--   alloc "hello" (buffer 1); WriteFile("f", 1); buf1[0]='X'; ReadFile("f") = "hello" (handed out: 4);
--   buf4[1]='Y'; ReadFile("f") = "hello"; recheck 1 = "Xello"; recheck 4 = "hYllo"
example : (HWorld.init.run Cfg.fixed fixedDataOps).2.map (·.res)
    = [.ok, .ok, .ok, .data [104, 101, 108, 108, 111], .ok, .data [104, 101, 108, 108, 111],
       .data [88, 101, 108, 108, 111], .data [104, 89, 108, 108, 111]] := fixed_variant_histories.1
--   files a b c; ReadDir("") = a b c (handed out: listing 10, length 3); Remove("a");
--   recheck = a b c; ReadDir("") = b c
example : (HWorld.init.run Cfg.fixed fixedListOps).2.map (·.res)
    = [.ok, .ok, .ok, .ok, .ok, .ok, .list [([97], false), ([98], false), ([99], false)], .ok,
       .list [([97], false), ([98], false), ([99], false)], .list [([98], false), ([99], false)]] :=
  fixed_variant_histories.2
-- the hypotheses of `handed_out_stable` / `handed_in_stable` are satisfiable: buffer 1 and slice 4 are held
example : Handle.buf 1 ∈ (HWorld.init.run Cfg.fixed (fixedDataOps.take 1)).1.held
    ∧ Handle.buf 4 ∈ (HWorld.init.run Cfg.fixed (fixedDataOps.take 4)).1.held
    ∧ ((HWorld.init.run Cfg.fixed (fixedDataOps.take 1)).1.step Cfg.fixed (.call 0 (.writeFile [102] 1))).2.res = .ok := by
  decide
-- `applyOwn` is the caller's own writes: through slice 4, the rest of the data history is one write
example : applyOwn (.buf 4) (fixedDataOps.drop 4) (.data [104, 101, 108, 108, 111])
    = .data [104, 89, 108, 108, 111] := by decide
-- `copy_shares_nothing`: a/x copied to c — source [a] and destination [c] both exist, ids 2|3|… differ
example :
    let w := (HWorld.init.run Cfg.fixed [.alloc [1], .call 0 (.writeFile [97, 47, 120] 1), .call 0 (.copy [97] [99])]).1
    (w.root.lookup [[97]]).isSome ∧ (w.root.lookup [[99], [120]]).isSome ∧ ¬ [[97]] <+: [[99]] := by decide
-- `listing_sync`: after the listing history (three adds, one in-place removal) the root directory is found
example : (getDirByPath (HWorld.init.run Cfg.fixed fixedListOps).1.root []).isSome := by decide
-- the invariant itself on a concrete world, and its failure for the pre-fix code
example : Sep (HWorld.init.run Cfg.fixed fixedDataOps).1 := snapshot_inv Cfg.fixed rfl _
example : ¬ Sep (HWorld.init.run Cfg.preFix aliasDataOps).1 := prefix_variant_data.2

end Snapshot

end Goat.C01
