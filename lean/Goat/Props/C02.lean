/-
Property C02 — the disk filespace obeys the same contract as the in-memory one.

  "On every history of operations whose preconditions are met (source exists, destination parent exists,
   destination of a copy is absent), a disk filespace rooted in a directory returns the same results and
   ends with the same tree as the in-memory filespace, so code written against the Filespace interface may
   switch backend.  Outside those preconditions both backends must still fail cleanly: no panic and no
   change outside the addressed paths."

Stated over the executable model `Goat/Model/DiskFS.lean` — every method of `diskfs.Filespace` =
`ReduceAbsPath` (`Path.norm`) + the host calls it makes, `diskfs.WriteFile`, `Writer`,
`disk.Copy/CopyDirectory/CopyFile` step by step, over an explicit POSIX-like host (`Host`, a flat map from
absolute host paths to `file bytes | dir` with the failure conditions of the system calls used) — the
memory model `Goat/Model/MemFS.lean` of C01 and the point-wise specification `Goat/Spec/FS.lean`.
Everything below holds for raw path strings of any spelling, contents of any length, histories of any
length, child views of any depth, and any well-formed host around the root directory.

PARTIAL (what is assumed, not proved): that the Linux file system behaves like `Host`, and that the Go
code behaves like the two models.  Both are validated on every run by the differential of checks/c02.py.

Vocabulary (`Goat/Model/DiskFS.lean`, `Goat/Proofs/DiskFSDefs.lean`, `DiskFSRun.lean`):
  `Host.WF H`          one binding per path and the parent of every bound path is a directory
  `H.get p`            what stands at host path `p` (`/` is a directory)
  `step r H op`        the model's call of `op` through the disk filespace rooted at host path `r`:
                       `(host afterwards, Out.val result | Out.panic)`
  `World.init H r`, `World.run`   histories over the filespace and the views opened from it
  `Pre b S op`         THE PRECONDITION of the property, per method (see its definition): the filespace's
                       directory exists; Writer: the parent exists; RemoveAll: the path exists; Reader: not a
                       directory; Filespace: a directory; CopyFile / Copy of a file: parent exists and
                       destination absent; CopyDirectory / Copy of a directory: destination absent; Lstat:
                       not the root filespace's own root.  Calls with a climbing path are inside `Pre`.
  `AllPre w ops`       every call of the history is inside `Pre` in the state in which it is made
  `ResEq`              equal results; listings up to order (ReadDir as a set); Readers by the bytes each
                       Read delivered (io.EOF may come with the last bytes or with the next, empty Read)
  `AllAgree rs os`     the memory results `rs` and the disk outcomes `os` agree call by call, no panic
  `S.below r`          the tree `S` seen from `r`
  `Tolerated`          the five classes of calls outside `Pre` which the disk filespace carries out
  `opArgs r op`, `Addressed`, `Above`   the normalised arguments of a call; at or below one; strictly above one
-/
import Goat.Proofs.DiskFSRefuse
import Goat.Proofs.DiskFSConfine
import Goat.Proofs.DiskFSPair
import Goat.Proofs.DiskFSReads

namespace Goat.C02

open Goat Goat.Path Goat.FS Goat.DiskFS

/-- DISK REFINES THE SPECIFICATION INSIDE `Pre`.  Any of the 16 methods, any spelling of its path
arguments, through a disk filespace rooted at host path `r` on any well-formed host: the call does not
panic, and its result and the whole host tree afterwards are those the point-wise specification `FS.Step`
prescribes for a filespace rooted at `r` (listings as sets: `FS.Step` specifies them so; a Reader's chunks
up to EOF timing: `ResEq`). -/
theorem disk_refines_pre (r : HPath) (H : Host) (hwf : H.WF) (op : Op) (hpre : Pre r H.get op) :
    ∃ res res', (step r H op).2 = .val res ∧ ResEq res' res ∧ FS.Step r H.get op res' (step r H op).1.get :=
  (step_pre r H hwf op hpre).2

/-- … and the host stays well formed, after every call whatsoever. -/
theorem disk_wf_preserved (r : HPath) (H : Host) (hwf : H.WF) (op : Op) : (step r H op).1.WF :=
  (step_clean r H hwf op).1

/-- The same seen from inside: a disk filespace rooted at `r0`, a view of it rooted at `b` (`[]` for the
filespace itself) — the call is the specification's call through base `b` on the tree seen from `r0`,
exactly the statement `C01.memfs_refines` makes about the memory filespace and its views. -/
theorem disk_view_refines_pre (r0 b : HPath) (H : Host) (hwf : H.WF) (op : Op)
    (hpre : Pre b (State.below H.get r0) op) :
    ∃ res res', (step (r0 ++ b) H op).2 = .val res ∧ ResEq res' res
      ∧ FS.Step b (State.below H.get r0) op res' (State.below (step (r0 ++ b) H op).1.get r0) := by
  have hroot : H.get r0 = some .dir :=
    (Host.wf_treeLike hwf).closed.prefix_of_dir hpre.1 (List.prefix_append r0 b)
  obtain ⟨_, res, res', h1, h2, h3⟩ := step_pre (r0 ++ b) H hwf op (pre_host r0 b H.get op hpre)
  exact ⟨res, res', h1, h2, FS.Step_rebase r0 b _ _ op res' (Host.wf_treeLike hwf) hroot (pre_lstat hpre) h3⟩

-- the hypotheses are satisfiable: the host the drivers use (root/ empty, sentinels next to it) is well formed,
-- `Pre` holds of non-trivial calls, and the model answers them
example : demoHost.WF := by decide +kernel
example : Pre demoRoot demoHost.get (.writeFile [47, 97, 47, 46, 47, 98] [1, 2]) := by decide +kernel
example : Pre demoRoot (step demoRoot demoHost (.writeFile [97, 47, 98] [1, 2])).1.get (.copy [97] [97, 47, 99, 47, 100]) := by
  decide +kernel
example : (step demoRoot (step demoRoot demoHost (.writeFile [97, 47, 98] [1, 2])).1 (.copy [97] [97, 47, 99, 47, 100])).2
    = .val .ok := by decide +kernel
example : ¬ Pre demoRoot demoHost.get (.writer [97, 47, 98] [[1]]) := by decide +kernel

/-- MEMORY AND DISK AGREE ON EVERY HISTORY INSIDE `Pre`.  An empty memory filespace and a disk filespace
rooted in an empty directory `r0` of any well-formed host; any finite sequence of calls, each through any
handle opened so far (0 = the filespace, further handles = child views opened by earlier `Filespace`
calls, at any depth — opened on both sides); every call inside `Pre`.  Then the two models answer alike call
by call (no panic on disk; ReadDir as a set) and end with equal trees: what stands at `q` in memory stands
at `r0 ++ q` on the host.  (The memory side is C01's `memfs_run_refines` machinery: both models are runs
of `FS.Step`, and `FS.Step` is deterministic up to listing order.) -/
theorem mem_disk_agree (H0 : Host) (r0 : HPath) (hwf : H0.WF) (hroot : H0.get r0 = some .dir)
    (hempty : ∀ q, q ≠ [] → H0.get (r0 ++ q) = none) (ops : List (Nat × Op))
    (hpre : AllPre MemFS.World.init ops) :
    AllAgree (MemFS.World.init.run ops).2 ((World.init H0 r0).run ops).2
    ∧ ∀ q, abs (MemFS.World.init.run ops).1.root q = ((World.init H0 r0).run ops).1.host.get (r0 ++ q) := by
  obtain ⟨hs, ha⟩ := sim_run r0 _ _ (sim_init H0 r0 hwf hroot hempty) ops hpre
  exact ⟨ha, hs.state⟩

/- Backend pairs covered by `mem_disk_agree` / `mem_disk_agree_from`: (memory filespace, disk filespace
   rooted at ANY directory `r0` of the host — in particular a disk child view, which is a disk filespace of
   its own) and, for every view opened in the history, (memory view at `b`, disk view at `r0 ++ b`).
   The remaining pairing — a memory CHILD VIEW as handle 0 against a disk filespace rooted in its own
   directory (an offset on the memory side) — and with it every pair of handles is `pair_agree` below:
   there `Lstat("")` names the view's base on one side and the directory on the other, which is the one
   difference and is stated as such. -/

/-- The same from any pair of worlds that show the same tree with the same views open (`Sim`): backends
may be switched in mid-history. -/
theorem mem_disk_agree_from (r0 : HPath) (w : MemFS.World) (dw : World) (hsim : Sim r0 w dw)
    (ops : List (Nat × Op)) (hpre : AllPre w ops) :
    AllAgree (w.run ops).2 (dw.run ops).2 ∧ Sim r0 (w.run ops).1 (dw.run ops).1 :=
  (sim_run r0 w dw hsim ops hpre).symm

/-- … in particular the views correspond: a `Filespace(raw)` inside `Pre` opens, on disk, the filespace
rooted at `r ++ norm raw`. -/
theorem disk_view_opens (r : HPath) (H : Host) (raw : Bytes) (p : List Name) (hroot : H.get r = some .dir)
    (hn : norm raw = some p) (hd : H.get (r ++ p) = some .dir) : openView r H raw = some (r ++ p) := by
  simp [openView, hn, (isDir_full hroot p).mpr hd]

-- the drivers' host satisfies the hypotheses; a history with odd spellings, a copy into the source and a
-- child view is inside `Pre`, and the two models answer it alike
example : demoHost.get demoRoot = some .dir := by decide +kernel
example : ∀ q, q ≠ [] → demoHost.get (demoRoot ++ q) = none := by
  intro q hq
  cases q with
  | nil => exact absurd rfl hq
  | cons a t => simp [demoHost, demoRoot, Host.get, Host.raw]
example :
    AllPre MemFS.World.init
      [(0, .writeFile [47, 97, 47, 46, 47, 98] [1, 2]), (0, .copy [97] [97, 47, 99, 47, 100]),
       (0, .filespace [97, 47, 99]), (1, .readFile [100, 47, 98]), (1, .remove [46, 46])] := by
  decide +kernel
example :
    ((World.init demoHost demoRoot).run
      [(0, .writeFile [47, 97, 47, 46, 47, 98] [1, 2]), (0, .copy [97] [97, 47, 99, 47, 100]),
       (0, .filespace [97, 47, 99]), (1, .readFile [100, 47, 98]), (1, .remove [46, 46])]).2
      = [.val .ok, .val .ok, .val .ok, .val (.data [1, 2]), .val .err] := by decide +kernel
example :
    (MemFS.World.init.run
      [(0, .writeFile [47, 97, 47, 46, 47, 98] [1, 2]), (0, .copy [97] [97, 47, 99, 47, 100]),
       (0, .filespace [97, 47, 99]), (1, .readFile [100, 47, 98]), (1, .remove [46, 46])]).2
      = [.ok, .ok, .ok, .data [1, 2], .err] := by decide +kernel

/-- NO PANIC.  The model has the outcome `Out.panic` where the Go code could dereference a nil `FileInfo`
(the callback of `filepath.Walk` in `disk.CopyDirectory`); it is unreachable, for every call in every
state. -/
theorem no_panic (r : HPath) (H : Host) (hwf : H.WF) (op : Op) : (step r H op).2 ≠ .panic :=
  (step_clean r H hwf op).2.1

/-- … and over every history. -/
theorem no_panic_run (H0 : Host) (r0 : HPath) (hwf : H0.WF) (hroot : H0.get r0 = some .dir)
    (ops : List (Nat × Op)) : ∀ o ∈ ((World.init H0 r0).run ops).2, o ≠ .panic :=
  (conf_run r0 H0 _ (conf_init H0 r0 hwf hroot) ops).2

/-- NO CHANGE OUTSIDE THE ADDRESSED PATHS.  For every call, with any arguments, in any state (no
precondition at all): a host path that is neither at or below a normalised argument of the call nor above
one keeps its entry; a path strictly above an argument keeps its entry or was missing and is now a
directory (a parent created by MkdirAll / WriteFile / CopyDirectory); whether the call succeeds or not. -/
theorem disk_fail_clean (r : HPath) (H : Host) (hwf : H.WF) (op : Op) :
    (∀ q, ¬ Addressed (opArgs r op) q → ¬ Above (opArgs r op) q → (step r H op).1.get q = H.get q)
    ∧ (∀ q, ¬ Addressed (opArgs r op) q → Above (opArgs r op) q →
        (step r H op).1.get q = H.get q ∨ (H.get q = none ∧ (step r H op).1.get q = some .dir)) :=
  step_frame r H hwf op

/- FULL STATEMENT (false): "outside `Pre` every call of the disk filespace is refused":
     ∀ r H op, H.WF → H.get r = some .dir → ¬ Pre r H.get op → (step r H op).2 = .val .err
   It fails in exactly the classes listed in `Tolerated` (RemoveAll of nothing succeeds, a file copy
   overwrites an existing file, a directory copy merges into an existing directory, a Reader of a
   directory that is never read is handed out, Lstat of `/`): `refused_outside_pre_full_false`. -/

/-- REFUSED OUTSIDE `Pre` (partial: the tolerated classes are excluded, see above).  With the
filespace's directory in place, a call outside `Pre` that is not tolerated answers `err` and leaves every
path of the host as it was. -/
theorem disk_refused_outside_pre_partial (r : HPath) (H : Host) (hwf : H.WF) (hroot : H.get r = some .dir)
    (op : Op) (hnp : ¬ Pre r H.get op) (hnt : ¬ Tolerated r H.get op) :
    (step r H op).2 = .val .err ∧ (step r H op).1.get = H.get :=
  step_refused r H hwf hroot op hnp hnt

/-- The full statement is false: `RemoveAll` of a path that does not exist is outside `Pre` and succeeds. -/
theorem refused_outside_pre_full_false :
    ¬ (∀ (r : HPath) (H : Host) (op : Op), H.WF → H.get r = some .dir → ¬ Pre r H.get op →
        (step r H op).2 = .val .err) := by
  intro h
  have := h demoRoot demoHost (.removeAll [122]) (by decide) (by decide) (by decide)
  revert this
  decide +kernel

-- a call that is outside `Pre` and not tolerated (a Writer below a missing directory; a file copy onto a
-- directory), and the tolerated classes at work
example : ¬ Pre demoRoot demoHost.get (.writer [97, 47, 98] [[1]])
    ∧ ¬ Tolerated demoRoot demoHost.get (.writer [97, 47, 98] [[1]]) := by decide +kernel
example : (step demoRoot demoHost (.removeAll [122])).2 = .val .ok := by decide +kernel
example :
    (World.init demoHost demoRoot |>.run
      [(0, .writeFile [102] [1]), (0, .writeFile [103] [2, 3]), (0, .copyFile [102] [103]), (0, .readFile [103]),
       (0, .mkdirAll [100]), (0, .reader [100] []), (0, .copyFile [102] [100])]).2
      = [.val .ok, .val .ok, .val .ok, .val (.data [1]), .val .ok, .val (.chunks []), .val .err] := by decide +kernel
-- a path that is neither addressed nor above an argument
example : ¬ Addressed (opArgs demoRoot (.copy [97] [98, 47, 99])) [[114, 111, 111, 116], [122]]
    ∧ ¬ Above (opArgs demoRoot (.copy [97] [98, 47, 99])) [[114, 111, 111, 116], [122]] := by
  decide +kernel

/-- HOST CONFINEMENT, one call.  A call through a disk filespace rooted at `r0`, or through a view of
it rooted anywhere below (`r0 ++ b`), with any arguments, in any state: no host path outside `r0` changes,
and `r0` is still a directory afterwards. -/
theorem host_confined (r0 b : HPath) (H : Host) (hwf : H.WF) (hroot : H.get r0 = some .dir) (op : Op) :
    (∀ q, ¬ r0 <+: q → (step (r0 ++ b) H op).1.get q = H.get q)
    ∧ (step (r0 ++ b) H op).1.get r0 = some .dir :=
  ⟨fun q hq => step_outside_root r0 b H hwf hroot op q hq, step_keeps_root r0 b H hwf hroot op⟩

/-- HOST CONFINEMENT, every history: whatever is called, through the filespace or any view opened from
it, the host outside the root directory is, at the end, what it was at the start. -/
theorem host_confined_run (H0 : Host) (r0 : HPath) (hwf : H0.WF) (hroot : H0.get r0 = some .dir)
    (ops : List (Nat × Op)) :
    (∀ q, ¬ r0 <+: q → ((World.init H0 r0).run ops).1.host.get q = H0.get q)
    ∧ ((World.init H0 r0).run ops).1.host.get r0 = some .dir :=
  let h := (conf_run r0 H0 _ (conf_init H0 r0 hwf hroot) ops).1
  ⟨h.outside, h.root⟩

/- FULL STATEMENT (reads): "no call reads host state outside the root directory", i.e. for ALL calls
     two hosts that agree below `r0` give the same result and the same tree below `r0`.
   Proved below (`host_reads_confined`) for every call, with equal outcomes, by a direct argument:
   every system call of the model reads the host only at and below the root directory.
   `host_reads_confined_partial` is its restriction to the calls inside `Pre`. -/

-- climbing paths and the sentinels' names: nothing next to the root is touched
example :
    ((World.init demoHost demoRoot).run
      [(0, .writeFile [46, 46, 47, 104, 111, 115, 116, 115, 101, 99, 114, 101, 116] [9]),
       (0, .removeAll [46, 46, 47, 114, 111, 111, 116, 120]), (0, .removeAll []), (0, .remove [46]),
       (0, .copyDirectory [] [46, 46, 47, 122]), (0, .writeFile [120] [7])]).1.host.get [[114, 111, 111, 116, 120], [105, 110, 110, 101, 114]]
      = some (.file [120]) := by decide +kernel
example : ¬ demoRoot <+: [[104, 111, 115, 116, 115, 101, 99, 114, 101, 116]] := by decide +kernel

/- Vocabulary (`Goat/Proofs/DiskFSPair.lean`):
  `SimG m0 r0 w dw`   THE PAIR: the memory world `w` and the disk world `dw` show the same tree, memory below
                      `m0`, the host below `r0`, and have the same views open: the memory handles have the bases
                      `m0 ++ c`, the disk handles the roots `r0 ++ c`, for the same list of `c`.  `m0 = []` is the
                      memory root filespace, any other `m0` a memory CHILD VIEW; `r0` is the directory of a disk
                      root filespace or of a disk child view (a disk view is a disk filespace rooted deeper).
  `PreN`, `AllPreN`   the precondition `Pre` WITHOUT its clause about `Lstat`
  `RootLstat m0 w h op`   the call is `Lstat` of the pair's own root (it normalises to `m0` itself)
  `AllAgreeG m0 r0 w ops rs os`   call by call: the two sides agree (`Agree`: same result up to `ResEq`, no panic)
                      OR the call is `RootLstat` and the memory side answers `stat (name of m0) dir`, the disk
                      side `stat (name of r0) dir` — the one and only difference between the backends. -/

/-- EVERY BACKEND PAIR.  A memory handle — root filespace or child view at any base `m0` — and a disk
handle — root filespace or child view, at any directory `r0` of any well-formed host — that show the same
tree, with the views opened from them in step (`SimG`); any history through any of these handles, inside the
precondition (`AllPreN`).  The two models end in the same tree again, and answer alike call by call, the ONLY
exception being `Lstat` of the pair's own root, where each names its own root directory. -/
theorem pair_agree (m0 r0 : HPath) (w : MemFS.World) (dw : World) (hsim : SimG m0 r0 w dw)
    (ops : List (Nat × Op)) (hpre : AllPreN w ops) :
    AllAgreeG m0 r0 w ops (w.run ops).2 (dw.run ops).2 ∧ SimG m0 r0 (w.run ops).1 (dw.run ops).1 := by
  induction ops generalizing w dw with
  | nil => exact ⟨trivial, hsim⟩
  | cons x rest ih =>
    obtain ⟨h, op⟩ := x
    obtain ⟨hs1, ha1⟩ := simG_step m0 r0 w dw hsim h op hpre.1
    obtain ⟨ha2, hs2⟩ := ih (w.step h op).1 (dw.step h op).1 hs1 hpre.2
    rw [MemFS.run_cons, World.run_cons]
    exact ⟨⟨ha1, ha2⟩, hs2⟩

/-- … in particular the trees: what stands at `m0 ++ q` in memory stands at `r0 ++ q` on the host. -/
theorem pair_same_tree (m0 r0 : HPath) (w : MemFS.World) (dw : World) (hsim : SimG m0 r0 w dw)
    (ops : List (Nat × Op)) (hpre : AllPreN w ops) (q : HPath) :
    abs (w.run ops).1.root (m0 ++ q) = (dw.run ops).1.host.get (r0 ++ q) :=
  (pair_agree m0 r0 w dw hsim ops hpre).2.state q

/-- One call of a pair, spelled out: the two sides agree, or the call is `Lstat` of the pair's own root and
the answers are exactly `stat <name of m0> dir` and `stat <name of r0> dir`. -/
theorem pair_step_only_difference (m0 r0 : HPath) (w : MemFS.World) (dw : World) (hsim : SimG m0 r0 w dw)
    (h : Nat) (op : Op) (hpre : PreAtN w h op) :
    Agree (w.step h op).2 (dw.step h op).2
    ∨ (RootLstat m0 w h op ∧ (w.step h op).2 = .stat (FS.statName m0) true 0
        ∧ (dw.step h op).2 = .val (.stat (DiskFS.statName r0) true 0)) :=
  (simG_step m0 r0 w dw hsim h op hpre).2

/-- When the two root directories carry the same name — or the history never asks for it — nothing
differs at all. -/
theorem pair_agree_same_names (m0 r0 : HPath) (w : MemFS.World) (dw : World) (hsim : SimG m0 r0 w dw)
    (ops : List (Nat × Op)) (hpre : AllPreN w ops)
    (hname : FS.statName m0 = DiskFS.statName r0 ∨ ∀ w' h' op', ¬ RootLstat m0 w' h' op') :
    AllAgree (w.run ops).2 (dw.run ops).2 :=
  allAgree_of_allAgreeG m0 r0 w ops _ _ (pair_agree m0 r0 w dw hsim ops hpre).1 hname

/-- A memory handle `ref` (the root filespace or a child view at any base) of any well-formed tree `t`
and a disk filespace rooted at `r0` that show the same tree are a pair. -/
theorem pair_of_handles (t : Node) (ht : MemFS.Inv t) (ref : MemFS.FSRef) (hg : MemFS.GoodRef ref)
    (H0 : Host) (r0 : HPath) (hwf : H0.WF)
    (hstate : ∀ q, abs t (MemFS.baseOf ref ++ q) = H0.get (r0 ++ q)) :
    SimG (MemFS.baseOf ref) r0 ⟨t, [ref]⟩ (World.init H0 r0) :=
  ⟨⟨ht, by intro v hv; simp at hv; subst hv; exact hg⟩, hwf, hstate, [[]], by simp, by simp [World.init]⟩

/-- `mem_disk_agree` is the pair `m0 = []`: there `Pre`'s own `Lstat` clause excludes the root. -/
theorem pair_of_sim (r0 : HPath) (w : MemFS.World) (dw : World) (h : Sim r0 w dw) : SimG [] r0 w dw :=
  h.pair

-- the pairing "memory CHILD VIEW as handle 0 against a disk ROOT": the tree { v/ }, the view `v`, the
-- drivers' host; the hypotheses of `pair_of_handles` hold, a history through the pair is inside `AllPreN`,
-- and `Lstat("")` is where the two differ (`v` against `root`)
example : MemFS.GoodRef (.wrap [118, 47]) := by
  have hb : MemFS.baseOf (.wrap [118, 47]) = [[118]] := by decide +kernel
  refine ⟨?_, by decide⟩
  rw [hb]
  intro s hs
  simp at hs; subst hs; decide
example : MemFS.baseOf (.wrap [118, 47]) = [[118]] := by decide +kernel
example : MemFS.Inv (MemFS.World.init.run [(0, .mkdirAll [118])]).1.root :=
  (MemFS.run_refines_from MemFS.World.init MemFS.worldOK_init [(0, .mkdirAll [118])]).2.inv
example : ∀ q, abs (MemFS.World.init.run [(0, .mkdirAll [118])]).1.root ([[118]] ++ q) = demoHost.get (demoRoot ++ q) := by
  intro q
  cases q with
  | nil => decide
  | cons a t =>
    show abs (Node.dir (.cons [118] (.dir .nil) .nil)) ([118] :: a :: t) = _
    simp [abs, Node.lookup, Kids.find, demoHost, demoRoot, Host.get, Host.raw]
example :
    AllPreN ⟨(MemFS.World.init.run [(0, .mkdirAll [118])]).1.root, [.wrap [118, 47]]⟩
      [(0, .writeFile [97, 47, 98] [1]), (0, .lstat []), (0, .filespace [97]), (1, .lstat []), (1, .readFile [98])] := by
  decide +kernel
example :
    ((⟨(MemFS.World.init.run [(0, .mkdirAll [118])]).1.root, [.wrap [118, 47]]⟩ : MemFS.World).run
      [(0, .writeFile [97, 47, 98] [1]), (0, .lstat []), (0, .filespace [97]), (1, .lstat []), (1, .readFile [98])]).2
      = [.ok, .stat [118] true 0, .ok, .stat [97] true 0, .data [1]] := by decide +kernel
example :
    ((World.init demoHost demoRoot).run
      [(0, .writeFile [97, 47, 98] [1]), (0, .lstat []), (0, .filespace [97]), (1, .lstat []), (1, .readFile [98])]).2
      = [.val .ok, .val (.stat [114, 111, 111, 116] true 0), .val .ok, .val (.stat [97] true 0), .val (.data [1])] := by
  decide +kernel
example : RootLstat [[118]] ⟨Node.empty, [.wrap [118, 47]]⟩ 0 (.lstat [46]) := by decide +kernel

/- Vocabulary (`Goat/Proofs/DiskFSReads.lean`): `Eqv r0 A B` — two well-formed hosts carry the same entry at
   every path at or below `r0` and at every ancestor of `r0`.  Every system call of the model is shown to
   be a function of the entries at such paths (`step_eqv`). -/

/-- HOST CONFINEMENT OF READS, every call (no `Pre`, no exception).  Two well-formed hosts in which `r0` is a directory and which show the same tree below `r0`:
every call, with any arguments, through a filespace rooted at `r0` or a view of it rooted anywhere below
(`r0 ++ b`), has the SAME outcome on both — the same result, listings in the same order, the same verdict of
a composite that fails half-way — and leaves the same tree below `r0`.  Nothing outside the root directory
is read into a result or into the tree. -/
theorem host_reads_confined (r0 b : HPath) (H1 H2 : Host) (hwf1 : H1.WF) (hwf2 : H2.WF)
    (hr1 : H1.get r0 = some .dir) (hsame : ∀ q, H1.get (r0 ++ q) = H2.get (r0 ++ q)) (op : Op) :
    (step (r0 ++ b) H1 op).2 = (step (r0 ++ b) H2 op).2
    ∧ ∀ q, (step (r0 ++ b) H1 op).1.get (r0 ++ q) = (step (r0 ++ b) H2 op).1.get (r0 ++ q) := by
  obtain ⟨h1, h2⟩ := step_eqv r0 b H1 H2 (eqv_of_below r0 H1 H2 hwf1 hwf2 hr1 hsame) op
  exact ⟨h1, fun q => h2.at (List.prefix_append _ _)⟩

/-- HOST CONFINEMENT of reads (partial: calls inside `Pre`).  Two well-formed hosts that show the same
tree below `r0`: a call inside `Pre` through the filespace rooted at `r0 ++ b` answers alike on both and
leaves the same tree below `r0`. -/
theorem host_reads_confined_partial (r0 b : HPath) (H1 H2 : Host) (hwf1 : H1.WF) (hwf2 : H2.WF)
    (hr1 : H1.get r0 = some .dir) (hsame : ∀ q, H1.get (r0 ++ q) = H2.get (r0 ++ q)) (op : Op)
    (hpre : Pre (r0 ++ b) H1.get op)
    (hl : ∀ raw p, op = .lstat raw → norm raw = some p → b ++ p ≠ []) :
    (∃ res1 res2, (step (r0 ++ b) H1 op).2 = .val res1 ∧ (step (r0 ++ b) H2 op).2 = .val res2 ∧ ResEq res1 res2)
    ∧ ∀ q, (step (r0 ++ b) H1 op).1.get (r0 ++ q) = (step (r0 ++ b) H2 op).1.get (r0 ++ q) := by
  obtain ⟨h1, h2⟩ := host_reads_confined r0 b H1 H2 hwf1 hwf2 hr1 hsame op
  cases ho : (step (r0 ++ b) H1 op).2 with
  | panic => exact absurd ho (no_panic _ H1 hwf1 op)
  | val res => exact ⟨⟨res, res, rfl, h1 ▸ ho, ResEq.refl res⟩, h2⟩

/-- … and every history, through the filespace and every view opened from it. -/
theorem host_reads_confined_run (r0 : HPath) (H1 H2 : Host) (hwf1 : H1.WF) (hwf2 : H2.WF)
    (hr1 : H1.get r0 = some .dir) (hsame : ∀ q, H1.get (r0 ++ q) = H2.get (r0 ++ q)) (ops : List (Nat × Op)) :
    ((World.init H1 r0).run ops).2 = ((World.init H2 r0).run ops).2
    ∧ ∀ q, ((World.init H1 r0).run ops).1.host.get (r0 ++ q) = ((World.init H2 r0).run ops).1.host.get (r0 ++ q) := by
  obtain ⟨h1, h2⟩ := run_eqv r0 (World.init H1 r0) (World.init H2 r0)
    (eqv_of_below r0 H1 H2 hwf1 hwf2 hr1 hsame) rfl (conf_init H1 r0 hwf1 hr1).views ops
  exact ⟨h1, fun q => h2.at (List.prefix_append _ _)⟩

/-- The hypothesis "`r0` is a directory" cannot be dropped: when the root directory itself is missing,
`MkdirAll` (and with it `WriteFile`, `CopyDirectory`) and `RemoveAll` look at the ANCESTORS of `r0` — a
missing ancestor is created / is "nothing to remove", an ancestor that is a file is `ENOTDIR`.  Witness: root
`x/y` missing on both hosts, `x` missing on one and a file on the other, `MkdirAll("")`. -/
theorem host_reads_root_needed :
    ¬ (∀ (r0 : HPath) (H1 H2 : Host) (op : Op), H1.WF → H2.WF → (∀ q, H1.get (r0 ++ q) = H2.get (r0 ++ q)) →
        (step r0 H1 op).2 = (step r0 H2 op).2) := by
  intro h
  have := h [[120], [121]] [] [([[120]], .file [])] (.mkdirAll []) (by decide) (by decide)
    (by intro q; simp [Host.get, Host.raw])
  revert this
  decide +kernel

-- two different hosts around the same (empty) root directory: a history with escapes attempted answers alike
example : (∀ q, demoHost.get (demoRoot ++ q) = Host.get [([[114, 111, 111, 116]], .dir)] (demoRoot ++ q)) := by
  intro q
  cases q with
  | nil => decide
  | cons a t => simp [demoHost, demoRoot, Host.get, Host.raw]
example :
    ((World.init demoHost demoRoot).run
      [(0, .readFile [46, 46, 47, 104, 111, 115, 116, 115, 101, 99, 114, 101, 116]), (0, .isExist [46, 46]),
       (0, .writeFile [97, 47, 98] [1]), (0, .copy [46, 46, 47, 97] [99]), (0, .readDir [])]).2
    = ((World.init [([[114, 111, 111, 116]], .dir)] demoRoot).run
      [(0, .readFile [46, 46, 47, 104, 111, 115, 116, 115, 101, 99, 114, 101, 116]), (0, .isExist [46, 46]),
       (0, .writeFile [97, 47, 98] [1]), (0, .copy [46, 46, 47, 97] [99]), (0, .readDir [])]).2 := by decide +kernel

end Goat.C02
