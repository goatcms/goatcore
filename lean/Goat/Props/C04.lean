/-
Property C04 — streams and cross-filespace copies are byte-exact and replace old content.

  "Opening a writer on a path, writing any chunks and closing it leaves a file whose content is exactly
   the concatenation of the chunks, whether or not a (longer or shorter) file existed there before; a
   reader returns exactly the stored bytes for any read-buffer sizes.  Consequently the stream-based copy
   helpers reproduce a source file or tree byte-for-byte in any destination backend, and report an error
   whenever the destination is not a complete copy."

Stated over the executable model `Goat/Model/Stream.lean` (writer/reader handles of the memory and disk
backends, the `io.Copy` loop with an arbitrary chunking oracle, `fshelper.StreamCopy`, `fshelper.Copy` over an
arbitrary visiting order, `fshelper.Copier.Do`; filesystems are the point-wise states of `Goat/Spec/FS.lean`).
Every theorem quantifies over all byte contents, all chunkings / read-buffer sizes (`List Nat` of any
length), all pre-existing destination states (`State` is an arbitrary function `Path → Option Entry`), both
destination kinds and both reader styles, all source trees, all visiting orders, and ALL FAULT PLANS
`pl : Stage → Nat → Option Mode` — any set of failing calls at any stage and index, of which the single
injected fault `oneFault s k m` (`planOf (some (s, k))` in DESIGN's notation) is a special case.  Modes: `hard`
(the call does nothing and fails) and `short` (a read delivers part of its bytes with a non-EOF error; a write
stores part of the chunk and reports fewer bytes; a writer `Close` loses the last chunk written and fails).

Vocabulary (Model/Stream.lean, Proofs/StreamHandle.lean, Proofs/StreamCopy.lean, Proofs/StreamTree.lean):
  `WHandle.open kind old`      the writer handle opened where `old : Option Bytes` stands (what the CURRENT code
                               does: both backends truncate); `.writes chunks`, `.close` = stored content
  `RHandle.open style data`    a reader handle; `.reads sizes` = per `Read` the bytes delivered and whether
                               `io.EOF` came with them; `delivered out` = concatenation of the delivered bytes
  `ioCopy pl sizes c r w`      `io.Copy(w, r)`: `sizes` = how many bytes each `Read` delivers at most
  `streamCopy pl sizes c src dst p`     `.ok` = returned nil, `.dst` = destination afterwards
  `treeCopy pl sizes extra c src sb dst db order`   `fshelper.Copy` of the source view rooted at `sb` into the
                               destination view rooted at `db`, callbacks in `order`, `extra` callbacks after the
                               first error
  `copierDo …`                 `fshelper.Copier.Do`
  `nodesOf t`                  the nodes of tree `t` below its root as `(isDir, path)`; `stateOf t` its state
  `overlay srcv db S0`         `srcv` laid over `S0` at `db`: under `db` what the source holds if anything,
                               everywhere else what `S0` holds
  `Visits srcv order`          `order` hands out exactly the nodes of `srcv` (C08's guarantee; `visits_of_perm`)

  `Disc`, `Sys`, `readerRun cfg ws sizes s`, `streamCopyRW cfg pl sizes c ws s dst dp`   (Model/Stream.lean, "Open handles on ONE memory file")
                               ONE memory file, an open reader and a thread that rewrites the same file through
                               `Writer(p)` / `Write`* / `Close`, interleaved by the schedule `ws` (how many steps
                               of the rewriter before each action of the reader's thread); `cfg` = the locking
                               discipline (`Disc.memfs` = the CURRENT code, `Disc.seeded` = snapshot + in-place)

Trusted/assumed (also in checks/c04.py): `io.Copy` is modelled (stdlib contract); the AEAD of the encrypted
filespace is opaque (enc∘X is X seen from the plain side); that the walk visits a permutation of the nodes
and runs callbacks one at a time (`Consumers: 1`) is C08's theorem, taken as the hypothesis `Perm`.
-/
import Goat.Proofs.StreamOk
import Goat.Proofs.StreamTree
import Goat.Proofs.StreamConc

namespace Goat.C04

open Goat Goat.Stream
open Goat.FS (State Entry)

/-- WRITER, handle level.  For the memory and the disk writer, whatever stood at the path before (`none`,
a shorter file, a longer file) and whatever the chunks: after open / write chunks / close the file holds
exactly the concatenation of the chunks. -/
theorem writer_exact (kind : Backend) (old : Option Bytes) (chunks : List Bytes) :
    ((WHandle.open kind old).writes chunks).close = chunks.flatten :=
  open_writes_content kind old chunks

-- memory over a longer file, disk over a longer file: no stale tail; three chunks, one of them empty
example : ((WHandle.open .mem (some [1, 2, 3, 4, 5])).writes [[7], [], [8, 9]]).close = [7, 8, 9] := by decide +kernel
example : ((WHandle.open .disk (some [1, 2, 3, 4, 5])).writes [[7], [], [8, 9]]).close = [7, 8, 9] := by decide +kernel
-- what the property excludes, shown on the same model with the truncation switched off: a memory writer that
-- appends, a disk writer that leaves the old tail
example : ((WHandle.openWith false .mem (some [1, 2, 3])).writes [[7]]).close = [1, 2, 3, 7] := by decide +kernel
example : ((WHandle.openWith false .disk (some [1, 2, 3])).writes [[7]]).close = [7, 2, 3] := by decide +kernel

/-- WRITER, filesystem level.  `Writer(p)`, any chunks, `Close` on any destination state: when the writer
can be opened the path holds exactly the concatenation afterwards, nothing that is not an ancestor of `p`
changes, and the kind of filesystem is what it was. -/
theorem writer_replaces (D D' : Dest) (p : Path) (chunks : List Bytes) (h : D.writer p chunks = some D') :
    D'.st p = some (.file chunks.flatten) ∧ (∀ q, ¬ q <+: p → D'.st q = D.st q) ∧ D'.kind = D.kind := by
  obtain ⟨hk, hst⟩ := writer_some D D' p chunks h
  rw [hst]
  exact ⟨put_same _ _ _, fun q hq => put_openBase_off D p q _ hq, hk⟩

/-- The writer can be opened exactly when the path is not the root, is not a directory, and — memory: no
node on the way is a file (missing parents are created); disk: the parent directory exists. -/
theorem writer_ok_iff (D : Dest) (p : Path) (chunks : List Bytes) :
    (D.writer p chunks).isSome ↔
      p ≠ [] ∧ D.st p ≠ some .dir ∧
        (match D.kind with
         | .mem => FS.mkdirOk D.st p.dropLast
         | .disk => D.st p.dropLast = some .dir) := by
  refine Iff.trans ?_ (canOpen_iff D p)
  unfold Dest.writer Dest.openWriter
  by_cases h : D.canOpen p = true <;> simp [h]

/-- A memory writer is the specification's `Writer` of C01 (`FS.writeSt`): same post-state. -/
theorem writer_mem_is_spec (S : State) (D' : Dest) (p : Path) (chunks : List Bytes)
    (h : (Dest.mk .mem S).writer p chunks = some D') : D'.st = FS.writeSt S p chunks.flatten := by
  rw [(writer_some _ D' p chunks h).2]
  funext q
  simp only [put, FS.writeSt, openBase]

/-- a state with a longer file at `a/f`, directory `a`, root -/
def exState : State := fun q =>
  if q = [] then some .dir else if q = [[97]] then some .dir
  else if q = [[97], [102]] then some (.file [1, 2, 3, 4, 5]) else none

example : (Dest.mk .disk exState).writer [[97], [102]] [[7], [8]] ≠ none := by decide +kernel
example : ∃ D', (Dest.mk .mem exState).writer [[98], [102]] [[7], [8]] = some D' := ⟨_, rfl⟩
-- a disk writer does not create a missing parent, a writer on a directory is refused
example : (Dest.mk .disk exState).writer [[98], [102]] [[7]] = none := by decide +kernel
example : (Dest.mk .mem exState).writer [[97]] [[7]] = none := by decide +kernel

/-- READER.  Any stored bytes, any positive read-buffer sizes, both EOF styles: the concatenation of the
delivered bytes is a prefix of the data; once `io.EOF` has been reported it is all of the data; and `io.EOF` is
reported exactly when the end is reached — by the read that delivers the last byte (memory, decrypting
reader) or by the first read that finds nothing left (`*os.File`). -/
theorem reader_exact (style : EofStyle) (data : Bytes) (sizes : List Nat) (hpos : ∀ n ∈ sizes, 0 < n) :
    let out := (RHandle.open style data).reads sizes
    delivered out <+: data
    ∧ ((∃ x ∈ out, x.2 = true) → delivered out = data)
    ∧ (∀ pre x post, out = pre ++ x :: post →
        (x.2 = true ↔ match style with
          | .eager => delivered (pre ++ [x]) = data
          | .lazy => delivered pre = data)) := by
  intro out
  have he : out = chunksOf style data sizes := reads_eq sizes _ (open_ok style data)
  rw [he]
  refine ⟨delivered_prefix style sizes data, eof_all style sizes data, fun pre x post hsplit => ?_⟩
  cases style <;> exact eof_iff _ sizes data hpos pre x post hsplit

/-- A memory reader is the specification's `Reader` of C01 (`FS.readChunks`). -/
theorem reader_mem_is_spec (data : Bytes) (sizes : List Nat) :
    (RHandle.open .eager data).reads sizes = FS.readChunks data sizes :=
  (reads_eq sizes _ (open_ok _ _)).trans (chunksOf_eager data sizes)

/-- Reading on until `io.EOF`: whenever the sizes add up to at least the length, everything is delivered. -/
theorem reader_all (style : EofStyle) (data : Bytes) (sizes : List Nat)
    (h : ∃ x ∈ (RHandle.open style data).reads sizes, x.2 = true) (hpos : ∀ n ∈ sizes, 0 < n) :
    delivered ((RHandle.open style data).reads sizes) = data :=
  (reader_exact style data sizes hpos).2.1 h

example : (RHandle.open .eager [1, 2, 3, 4, 5]).reads [2, 2, 7, 1]
    = [([1, 2], false), ([3, 4], false), ([5], true), ([], true)] := by decide +kernel
example : (RHandle.open .lazy [1, 2, 3, 4, 5]).reads [2, 2, 7, 1]
    = [([1, 2], false), ([3, 4], false), ([5], false), ([], true)] := by decide +kernel
example : ∀ n ∈ [2, 2, 7, 1], 0 < n := by decide +kernel

/-- `io.Copy` with no fault: for EVERY chunking (the sizes need not even be positive), both reader styles
and both writer kinds, whatever stood at the destination, it reports success and the writer holds exactly
the reader's data. -/
theorem ioCopy_exact (style : EofStyle) (kind : Backend) (data : Bytes) (old : Option Bytes) (sizes : List Nat)
    (c : Calls) :
    (ioCopy noFault sizes c (RHandle.open style data) (WHandle.open kind old)).ok = true
    ∧ (ioCopy noFault sizes c (RHandle.open style data) (WHandle.open kind old)).w.close = data := by
  have hok := ioCopy_noFault_ok sizes c (RHandle.open style data) (WHandle.open kind old) (open_ok _ _)
  exact ⟨hok, ioCopy_open_ok_content noFault sizes c style data kind old hok⟩

/-- `io.Copy` under ANY fault plan: success is reported only if the writer holds exactly the reader's data
(a failed or short read, a failed or short write always surface as an error). -/
theorem ioCopy_ok_complete (pl : Plan) (style : EofStyle) (kind : Backend) (data : Bytes) (old : Option Bytes)
    (sizes : List Nat) (c : Calls)
    (hok : (ioCopy pl sizes c (RHandle.open style data) (WHandle.open kind old)).ok = true) :
    (ioCopy pl sizes c (RHandle.open style data) (WHandle.open kind old)).w.close = data :=
  ioCopy_open_ok_content pl sizes c style data kind old hok

example : (ioCopy noFault [1, 2] Calls.zero (RHandle.open .lazy [1, 2, 3, 4, 5]) (WHandle.open .disk (some [9, 9, 9, 9, 9, 9, 9]))).w.close
    = [1, 2, 3, 4, 5] := by decide +kernel
-- a short write on the second Write: reported, and the destination is indeed incomplete
example : (ioCopy (oneFault .write 1 .short) [2] Calls.zero (RHandle.open .eager [1, 2, 3, 4, 5]) (WHandle.open .mem none)).ok = false
    ∧ (ioCopy (oneFault .write 1 .short) [2] Calls.zero (RHandle.open .eager [1, 2, 3, 4, 5]) (WHandle.open .mem none)).w.close
      = [1, 2, 3] := by decide +kernel

/-- `StreamCopy` with no fault: whenever the source path is a file and the destination's writer can be
opened (see `writer_ok_iff`), it returns nil and the destination path holds the source's bytes — for every
chunking, reader style, destination kind and pre-existing destination state. -/
theorem streamCopy_exact (sizes : List Nat) (c : Calls) (src : Src) (dst : Dest) (p : Path) (d : Bytes)
    (hsrc : src.st p = some (.file d)) (hcan : dst.canOpen p = true) :
    (streamCopy noFault sizes c src dst p).ok = true
    ∧ (streamCopy noFault sizes c src dst p).dst.st p = src.st p := by
  have hok := streamCopy2_noFault sizes c src p dst p d hsrc hcan
  obtain ⟨d', hs, hd, _⟩ := streamCopy2_complete noFault sizes c src p dst p hok
  exact ⟨hok, hd.trans hs.symm⟩

/-- `StreamCopy` under EVERY fault plan — in particular every single injected fault at every stage
(`Reader`, `Writer`, each `Read`, each `Write`, short reads and writes, either `Close`) and every index:
if it returns nil, the destination path holds exactly what the source path holds (a file), nothing that is
not an ancestor of the path has changed.  So an error is reported whenever the destination is not a complete
copy. -/
theorem streamCopy_ok_complete (pl : Plan) (sizes : List Nat) (c : Calls) (src : Src) (dst : Dest) (p : Path)
    (hok : (streamCopy pl sizes c src dst p).ok = true) :
    (streamCopy pl sizes c src dst p).dst.st p = src.st p
    ∧ (∃ d, src.st p = some (.file d))
    ∧ (∀ q, ¬ q <+: p → (streamCopy pl sizes c src dst p).dst.st q = dst.st q) := by
  obtain ⟨d, hs, hd, hoff⟩ := streamCopy2_complete pl sizes c src p dst p hok
  exact ⟨hd.trans hs.symm, ⟨d, hs⟩, hoff⟩

/-- The same, read the other way round, for a single injected fault: a destination that is not a complete
copy always comes with an error. -/
theorem streamCopy_incomplete_reports (s : Stage) (k : Nat) (m : Mode) (sizes : List Nat) (c : Calls) (src : Src)
    (dst : Dest) (p : Path)
    (hbad : (streamCopy (oneFault s k m) sizes c src dst p).dst.st p ≠ src.st p) :
    (streamCopy (oneFault s k m) sizes c src dst p).ok = false := by
  cases h : (streamCopy (oneFault s k m) sizes c src dst p).ok with
  | false => rfl
  | true => exact absurd (streamCopy_ok_complete _ sizes c src dst p h).1 hbad

/-- the source: `a/f` = 1 2 3 4 5 read lazily -/
def exSrc : Src := ⟨.lazy, fun q =>
  if q = [] then some .dir else if q = [[97]] then some .dir
  else if q = [[97], [102]] then some (.file [9, 8, 7]) else none, true⟩

example : (streamCopy noFault [2] Calls.zero exSrc ⟨.disk, exState⟩ [[97], [102]]).ok = true := by decide +kernel
example : (streamCopy noFault [2] Calls.zero exSrc ⟨.disk, exState⟩ [[97], [102]]).dst.st [[97], [102]]
    = some (.file [9, 8, 7]) := by decide +kernel
-- the writer's Close fails: reported
example : (streamCopy (oneFault .closeWriter 0 .hard) [2] Calls.zero exSrc ⟨.disk, exState⟩ [[97], [102]]).ok = false := by
  decide +kernel
-- the writer's Close loses the last chunk (a backend that delivers its last bytes on Close): reported, and
-- the destination is indeed incomplete
example : (streamCopy (oneFault .closeWriter 0 .short) [2] Calls.zero exSrc ⟨.disk, exState⟩ [[97], [102]]).ok = false
    ∧ (streamCopy (oneFault .closeWriter 0 .short) [2] Calls.zero exSrc ⟨.disk, exState⟩ [[97], [102]]).dst.st [[97], [102]]
      = some (.file [9, 8]) := by decide +kernel
-- a directory as source path of a disk filespace (os.OpenFile opens it, the first Read fails): reported
example : (streamCopy noFault [2] Calls.zero exSrc ⟨.mem, exState⟩ [[97]]).ok = false := by decide +kernel
-- the second Read fails: reported, destination truncated to the first chunk
example : (streamCopy (oneFault .read 1 .hard) [2] Calls.zero exSrc ⟨.mem, exState⟩ [[97], [102]]).ok = false
    ∧ (streamCopy (oneFault .read 1 .hard) [2] Calls.zero exSrc ⟨.mem, exState⟩ [[97], [102]]).dst.st [[97], [102]]
      = some (.file [9, 8]) := by decide +kernel

/-- TREE COPY under EVERY fault plan, EVERY visiting order, EVERY pre-existing destination.
Source: any tree `t` with unique sibling names, seen through a view rooted at `sb`; the callbacks run in
`order`, any permutation of the tree's nodes (C08); destination view rooted at `db`, an existing
directory below existing directories.  If `Copy` returns nil then
  * every node of the source stands in the destination, byte for byte,
  * the whole destination is the source laid over the old destination: a path under `db` that is not a
    node of the source holds what it held, and nothing outside `db` has changed. -/
theorem treeCopy_ok_complete (pl : Plan) (sizes : List Nat) (extra : Nat) (c : Calls) (src : Src) (sb : Path)
    (dst : Dest) (db : Path) (k : Kids) (order : List Item)
    (hnd : (Node.dir k).NoDup) (hsrc : ∀ q, src.st (sb ++ q) = stateOf (.dir k) q)
    (hroot : ∀ x, x <+: db → dst.st x = some .dir)
    (hperm : order.Perm (nodesOf (.dir k)))
    (hok : (treeCopy pl sizes extra c src sb dst db order).ok = true) :
    (∀ q, stateOf (.dir k) q ≠ none →
        (treeCopy pl sizes extra c src sb dst db order).dst.st (db ++ q) = src.st (sb ++ q))
    ∧ (∀ q, stateOf (.dir k) q = none →
        (treeCopy pl sizes extra c src sb dst db order).dst.st (db ++ q) = dst.st (db ++ q))
    ∧ (∀ x, ¬ db <+: x → (treeCopy pl sizes extra c src sb dst db order).dst.st x = dst.st x) := by
  obtain ⟨hdir, hv, _⟩ := tree_source src sb k order hnd hsrc hperm
  rw [treeCopy_ok_overlay pl sizes extra c src sb dst db order (copyPre_of_dir src sb db _ order hroot hdir hv) hok]
  exact ⟨fun q hq => overlay_node _ db q _ (by rwa [hsrc]), fun q hq => overlay_hole _ db q _ (by rw [hsrc, hq]),
    fun x hx => overlay_outside _ _ _ _ hx⟩

/-- TREE COPY SUCCEEDS AND REPRODUCES.  With no fault, for every chunking, reader style, destination kind,
visiting order and every pre-existing destination that is COMPATIBLE with the source (wherever both hold
something under the destination root it is of the same kind — longer, shorter, other content are all fine):
`Copy` returns nil, and therefore (previous theorem) the destination holds the source tree byte for byte. -/
theorem treeCopy_reproduces (sizes : List Nat) (extra : Nat) (c : Calls) (src : Src) (sb : Path)
    (dst : Dest) (db : Path) (k : Kids) (order : List Item)
    (hnd : (Node.dir k).NoDup) (hsrc : ∀ q, src.st (sb ++ q) = stateOf (.dir k) q)
    (hroot : ∀ x, x <+: db → dst.st x = some .dir)
    (hperm : order.Perm (nodesOf (.dir k)))
    (hcompat : ∀ q e e', stateOf (.dir k) q = some e → dst.st (db ++ q) = some e' → e.isDir = e'.isDir) :
    (treeCopy noFault sizes extra c src sb dst db order).ok = true
    ∧ ∀ q, stateOf (.dir k) q ≠ none →
        (treeCopy noFault sizes extra c src sb dst db order).dst.st (db ++ q) = src.st (sb ++ q) := by
  obtain ⟨hdir, hv, hfile⟩ := tree_source src sb k order hnd hsrc hperm
  have hok := treeCopy_noFault_ok sizes extra c src sb dst db order (copyPre_of_dir src sb db _ order hroot hdir hv) hfile
    (compat_overlay _ db dst.st fun q e e' hs hd => hcompat q e e' (by rwa [hsrc] at hs) hd)
  exact ⟨hok, (treeCopy_ok_complete noFault sizes extra c src sb dst db k order hnd hsrc hroot hperm hok).1⟩

/-- TREE COPY, the statement of DESIGN C04 (root filespaces): for every source tree, every pre-existing
destination and every visiting order that is a permutation of the source's nodes, `Copy = ok` implies that
every path of the source stands in the destination with the source's entry. -/
theorem treeCopy_exact (sizes : List Nat) (extra : Nat) (c : Calls) (style : EofStyle) (dirOpens : Bool) (k : Kids) (dst : Dest)
    (order : List Item) (hnd : (Node.dir k).NoDup) (hroot : dst.st [] = some .dir)
    (hperm : order.Perm (nodesOf (.dir k)))
    (hok : (treeCopy noFault sizes extra c ⟨style, stateOf (.dir k), dirOpens⟩ [] dst [] order).ok = true) :
    ∀ p, stateOf (.dir k) p ≠ none →
      (treeCopy noFault sizes extra c ⟨style, stateOf (.dir k), dirOpens⟩ [] dst [] order).dst.st p = stateOf (.dir k) p :=
  (treeCopy_ok_complete noFault sizes extra c _ [] dst [] k order hnd (fun _ => rfl)
    (fun _ hx => List.prefix_nil.mp hx ▸ hroot) hperm hok).1

/-- TREE COPY under every single injected fault (stage, index, hard or short): `Copy = ok` implies the
destination is complete. -/
theorem treeCopy_fault (s : Stage) (j : Nat) (m : Mode) (sizes : List Nat) (extra : Nat) (c : Calls)
    (style : EofStyle) (dirOpens : Bool) (k : Kids) (dst : Dest) (order : List Item) (hnd : (Node.dir k).NoDup)
    (hroot : dst.st [] = some .dir) (hperm : order.Perm (nodesOf (.dir k)))
    (hok : (treeCopy (oneFault s j m) sizes extra c ⟨style, stateOf (.dir k), dirOpens⟩ [] dst [] order).ok = true) :
    ∀ p, stateOf (.dir k) p ≠ none →
      (treeCopy (oneFault s j m) sizes extra c ⟨style, stateOf (.dir k), dirOpens⟩ [] dst [] order).dst.st p
        = stateOf (.dir k) p :=
  (treeCopy_ok_complete (oneFault s j m) sizes extra c _ [] dst [] k order hnd (fun _ => rfl)
    (fun _ hx => List.prefix_nil.mp hx ▸ hroot) hperm hok).1

/-- the source tree  d/ , d/x = 1 2 3 , f = (empty) -/
def exTree : Kids :=
  .cons [100] (.dir (.cons [120] (.file [1, 2, 3]) .nil)) (.cons [102] (.file []) .nil)

/-- a destination that already holds a longer `d/x`, an unrelated `keep`, and nothing else -/
def exDst : State := fun q =>
  if q = [] then some .dir else if q = [[100]] then some .dir
  else if q = [[100], [120]] then some (.file [9, 9, 9, 9, 9, 9]) else if q = [[107]] then some (.file [5]) else none

/-- a visiting order that is not the pre-order: file `f`, then `d/x` before its directory `d` -/
def exOrder : List Item := [(false, [[102]]), (false, [[100], [120]]), (true, [[100]])]

example : (Node.dir exTree).NoDup := by simp [exTree, Node.NoDup, Kids.NoDup, Kids.find]
example : nodesOf (.dir exTree) = [(true, [[100]]), (false, [[100], [120]]), (false, [[102]])] := by decide +kernel
example : exOrder.Perm (nodesOf (.dir exTree)) := by decide +kernel
example : exDst [] = some .dir := by decide +kernel
example : (treeCopy noFault [2] 0 Calls.zero ⟨.eager, stateOf (.dir exTree), false⟩ [] ⟨.disk, exDst⟩ [] exOrder).ok = true := by
  decide +kernel
example : (treeCopy noFault [2] 0 Calls.zero ⟨.eager, stateOf (.dir exTree), false⟩ [] ⟨.disk, exDst⟩ [] exOrder).dst.st [[100], [120]]
    = some (.file [1, 2, 3]) := by decide +kernel
-- the example destination is compatible with the example tree (its `d/x` is a longer FILE, `d` a directory)
example : ∀ q e e', stateOf (.dir exTree) q = some e → exDst ([] ++ q) = some e' → e.isDir = e'.isDir := by
  intro q e e' h1 h2
  -- `exDst` holds something at four paths only
  have hq : q = [] ∨ q = [[100]] ∨ q = [[100], [120]] ∨ q = [[107]] := by
    refine Classical.byContradiction fun hn => ?_
    simp only [not_or] at hn
    simp [exDst, hn] at h2
  rcases hq with rfl | rfl | rfl | rfl <;> cases h2 <;> cases h1 <;> rfl
-- the unrelated file is kept
example : (treeCopy noFault [2] 0 Calls.zero ⟨.eager, stateOf (.dir exTree), false⟩ [] ⟨.disk, exDst⟩ [] exOrder).dst.st [[107]]
    = some (.file [5]) := by decide +kernel
-- the second MkdirAll fails / the walk's second listing fails / a short write: always reported
example : (treeCopy (oneFault .mkdir 1 .hard) [2] 1 Calls.zero ⟨.eager, stateOf (.dir exTree), false⟩ [] ⟨.mem, exDst⟩ [] exOrder).ok
    = false := by decide +kernel
example : (treeCopy (oneFault .list 1 .hard) [2] 1 Calls.zero ⟨.eager, stateOf (.dir exTree), false⟩ [] ⟨.mem, exDst⟩ [] exOrder).ok
    = false := by decide +kernel
example : (treeCopy (oneFault .write 1 .short) [2] 1 Calls.zero ⟨.eager, stateOf (.dir exTree), false⟩ [] ⟨.mem, exDst⟩ [] exOrder).ok
    = false := by decide +kernel
-- a fault position beyond the last call never fires: the copy succeeds
example : (treeCopy (oneFault .write 2 .hard) [2] 1 Calls.zero ⟨.eager, stateOf (.dir exTree), false⟩ [] ⟨.mem, exDst⟩ [] exOrder).ok
    = true := by decide +kernel

/-- COPIER under EVERY fault plan.  `Copier{SrcFS, SrcPath, DestFS, DestPath}.Do()` returning nil means:
  * file source: the destination path holds exactly the source file's bytes, nothing that is not an ancestor
    of the destination path has changed;
  * directory source (any tree with unique sibling names standing at `SrcPath`, any visiting order that is a
    permutation of its nodes, any pre-existing destination): `DestPath` and its ancestors are directories,
    every node of the source subtree stands under `DestPath` byte for byte, every other path under `DestPath`
    holds what it held, and nothing outside `DestPath` other than its (created) ancestors has changed;
  * anything else at `SrcPath`: `Do` never returns nil. -/
theorem copier_exact (pl : Plan) (sizes : List Nat) (extra : Nat) (c : Calls) (src : Src) (sp : Path)
    (dst : Dest) (dp : Path) (order : List Item)
    (hok : (copierDo pl sizes extra c src sp dst dp order).ok = true) :
    (∀ d, src.st sp = some (.file d) →
        (copierDo pl sizes extra c src sp dst dp order).dst.st dp = some (.file d)
        ∧ ∀ q, ¬ q <+: dp → (copierDo pl sizes extra c src sp dst dp order).dst.st q = dst.st q)
    ∧ (∀ k, (Node.dir k).NoDup → (∀ q, src.st (sp ++ q) = stateOf (.dir k) q) → order.Perm (nodesOf (.dir k)) →
        (∀ q, stateOf (.dir k) q ≠ none →
            (copierDo pl sizes extra c src sp dst dp order).dst.st (dp ++ q) = src.st (sp ++ q))
        ∧ (∀ q, stateOf (.dir k) q = none →
            (copierDo pl sizes extra c src sp dst dp order).dst.st (dp ++ q) = dst.st (dp ++ q))
        ∧ (∀ x, ¬ dp <+: x → ¬ x <+: dp → (copierDo pl sizes extra c src sp dst dp order).dst.st x = dst.st x))
    ∧ src.st sp ≠ none := by
  refine ⟨?_, ?_, ?_⟩
  · intro d hd
    rw [copierDo_file pl sizes extra c src sp dst dp order d hd] at hok ⊢
    obtain ⟨d', hs, hd', hoff⟩ := streamCopy2_complete pl sizes c src sp dst dp hok
    rw [hd] at hs
    cases hs
    exact ⟨hd', hoff⟩
  · intro k hnd hsrc hperm
    obtain ⟨hdir, hv, _⟩ := tree_source src sp k order hnd hsrc hperm
    rw [copierDo_dir_ok pl sizes extra c src sp dst dp order hdir hv hok]
    refine ⟨fun q hq => overlay_node _ dp q _ (by rwa [hsrc]), fun q hq => ?_, fun x hx hx' => ?_⟩
    · rw [overlay_hole _ dp q _ (by rw [hsrc, hq])]
      -- `q = []` does not arise: the source root is a directory
      exact mkdirSt_strictly_below dst.st dp q (by rintro rfl; simp [stateOf] at hq)
    · rw [overlay_outside _ _ _ _ hx]
      exact if_neg hx'
  · intro hn
    unfold copierDo at hok
    rw [hn] at hok
    simp at hok

/-- COPIER SUCCEEDS AND REPRODUCES (directory source).  With no fault, whenever `DestPath` can be made a
directory (no file on the way to it) and what already stands below it is compatible with the source subtree
(same kind wherever both hold something), `Do` returns nil and every node of the source subtree stands under
`DestPath` byte for byte — for every chunking, backend kind, visiting order. -/
theorem copier_reproduces (sizes : List Nat) (extra : Nat) (c : Calls) (src : Src) (sp : Path)
    (dst : Dest) (dp : Path) (k : Kids) (order : List Item)
    (hnd : (Node.dir k).NoDup) (hsrc : ∀ q, src.st (sp ++ q) = stateOf (.dir k) q)
    (hperm : order.Perm (nodesOf (.dir k))) (hmk : FS.mkdirOk dst.st dp)
    (hcompat : ∀ q e e', q ≠ [] → stateOf (.dir k) q = some e → dst.st (dp ++ q) = some e' → e.isDir = e'.isDir) :
    (copierDo noFault sizes extra c src sp dst dp order).ok = true
    ∧ ∀ q, stateOf (.dir k) q ≠ none →
        (copierDo noFault sizes extra c src sp dst dp order).dst.st (dp ++ q) = src.st (sp ++ q) := by
  obtain ⟨hdir, hv, hfile⟩ := tree_source src sp k order hnd hsrc hperm
  have hc : Compat (FS.mkdirSt dst.st dp) (overlay (fun q => src.st (sp ++ q)) dp (FS.mkdirSt dst.st dp)) := by
    refine compat_overlay _ dp _ fun q e e' hs hd => ?_
    by_cases hq : q = []
    · -- `DestPath` itself: a directory on both sides
      subst hq
      simp only [List.append_nil, hdir, Option.some.injEq] at hs
      simp only [List.append_nil, FS.mkdirSt, List.prefix_refl, if_true, Option.some.injEq] at hd
      rw [← hs, ← hd]
    · rw [mkdirSt_strictly_below _ _ _ hq] at hd
      exact hcompat q e e' hq (by rwa [hsrc] at hs) hd
  have hok := copierDo_dir_noFault_ok sizes extra c src sp dst dp order hdir hv hfile
    ((mkdirOkB_iff dst.st dp).mpr hmk) hc
  exact ⟨hok, ((copier_exact noFault sizes extra c src sp dst dp order hok).2.1 k hnd hsrc hperm).1⟩

/-- the destination's ancestors: `DestPath` and everything above it are directories after a successful
directory copy -/
theorem copier_makes_dest_dir (pl : Plan) (sizes : List Nat) (extra : Nat) (c : Calls) (src : Src) (sp : Path)
    (dst : Dest) (dp : Path) (order : List Item) (k : Kids) (hnd : (Node.dir k).NoDup)
    (hsrc : ∀ q, src.st (sp ++ q) = stateOf (.dir k) q) (hperm : order.Perm (nodesOf (.dir k)))
    (hok : (copierDo pl sizes extra c src sp dst dp order).ok = true) :
    ∀ x, x <+: dp → (copierDo pl sizes extra c src sp dst dp order).dst.st x = some .dir := by
  obtain ⟨hdir, hv, _⟩ := tree_source src sp k order hnd hsrc hperm
  intro x hx
  rw [copierDo_dir_ok pl sizes extra c src sp dst dp order hdir hv hok]
  by_cases hd : dp <+: x
  · obtain rfl : dp = x := List.IsPrefix.eq_of_length_le hd hx.length_le
    have := overlay_node (fun q => src.st (sp ++ q)) dp [] (FS.mkdirSt dst.st dp) (by simp [hdir])
    simpa [hdir] using this
  · rw [overlay_outside _ _ _ _ hd]
    simp [FS.mkdirSt, hx]

/-- the source filespace holds the example tree at `s` -/
def exSrc2 : Src := ⟨.eager, fun q =>
  match q with
  | [] => some .dir
  | s :: r => if s = [115] then stateOf (.dir exTree) r else none, false⟩

example : ∀ q, exSrc2.st ([[115]] ++ q) = stateOf (.dir exTree) q := fun _ => rfl
-- directory source into `t/u` of a destination where neither exists; file source `s/f` to `g`
example : (copierDo noFault [1] 0 Calls.zero exSrc2 [[115]] ⟨.mem, exDst⟩ [[116], [117]] exOrder).ok = true := by decide +kernel
example : (copierDo noFault [1] 0 Calls.zero exSrc2 [[115]] ⟨.mem, exDst⟩ [[116], [117]] exOrder).dst.st
    [[116], [117], [100], [120]] = some (.file [1, 2, 3]) := by decide +kernel
example : (copierDo noFault [1] 0 Calls.zero exSrc2 [[115], [100], [120]] ⟨.mem, exDst⟩ [[103]] []).dst.st [[103]]
    = some (.file [1, 2, 3]) := by decide +kernel
-- neither file nor directory: refused; the destination view cannot be opened: reported
example : (copierDo noFault [1] 0 Calls.zero exSrc2 [[122]] ⟨.mem, exDst⟩ [[103]] []).ok = false := by decide +kernel
example : (copierDo (oneFault .dstView 0 .hard) [1] 0 Calls.zero exSrc2 [[115]] ⟨.mem, exDst⟩ [[116]] exOrder).ok = false := by
  decide +kernel

/-- READER ISOLATED FROM A REWRITE.  One memory file holding `old` (in an array with any spare capacity
`slack`); a reader's thread (`Reader(p)`, one `Read` per size, `Close`) and a rewriting thread (`Writer(p)`, one
`Write` per chunk, `Close`) run under ANY schedule `ws` (any number of rewriter steps before the open, before
every `Read`, before the `Close`; a thread that needs the lock waits), for EVERY discipline but snapshot +
in-place truncation — in particular the current memfs `Disc.memfs` (handles hold the file's lock from open to
Close) and `Disc.priv` (the decrypting reader, a cache reader of a remote file).  Then
  * what the reader delivers is exactly what a private sequential reader of `atOpen` — the content the file
    had when the reader was opened — delivers for the same buffer sizes (as `sizes` is arbitrary this holds at
    every point between open and Close): a prefix of that content, all of it once `io.EOF` has been reported;
  * that content is the old one or the chunks' concatenation, whole (never a mix), and the old one when the
    reader was opened before the rewriter made its first step;
  * nobody hangs, and after both have closed the file holds exactly the chunks' concatenation. -/
theorem reader_isolated_from_rewrite (cfg : Disc) (hsafe : cfg.safe = true) (old slack : Bytes)
    (chunks : List Bytes) (sizes ws : List Nat) :
    let r := readerRun cfg ws sizes (Sys.init old slack chunks)
    (r.atOpen = old ∨ r.atOpen = chunks.flatten)
    ∧ (ws.headD 0 = 0 → r.atOpen = old)
    ∧ r.out = (RHandle.open .eager r.atOpen).reads sizes
    ∧ delivered r.out <+: r.atOpen
    ∧ ((∀ n ∈ sizes, 0 < n) → (∃ x ∈ r.out, x.2 = true) → delivered r.out = r.atOpen)
    ∧ r.fin.cell.content = chunks.flatten ∧ r.fin.phase = .closed ∧ r.fin.cell.locked = false ∧ r.fin.rd = none := by
  intro r
  obtain ⟨h1, h3, _, h4⟩ := readerRun_spec cfg hsafe old chunks sizes ws _ (init_wf old slack chunks) rfl
  refine ⟨h1, await_first cfg old slack chunks ws, h3, ?_, ?_, h4⟩
  · rw [h3, reads_eq sizes _ (open_ok _ _)]; exact delivered_prefix .eager sizes _
  · intro hpos heof
    rw [h3] at heof ⊢
    exact (reader_exact .eager _ sizes hpos).2.1 heof

/-- THE WRITER WAITS (the code's discipline, `cfg.rd = lock`: `NewFileHandler` takes `dataMU.Lock()`, `Close`
gives it back).  A reader opened before the rewriter's first step keeps the rewriter before its open until the
reader's `Close`, whatever the schedule: just before that `Close` the rewriter has not truncated or written
anything — the file still holds `old` and all chunks are still to be written. -/
theorem writer_waits_for_open_reader (cfg : Disc) (hlock : cfg.rd = .lock) (old slack : Bytes) (chunks : List Bytes)
    (sizes ws : List Nat) (hfirst : ws.headD 0 = 0) :
    let r := readerRun cfg ws sizes (Sys.init old slack chunks)
    r.atOpen = old ∧ r.beforeClose.phase = .idle ∧ r.beforeClose.cell.content = old ∧ r.beforeClose.todo = chunks := by
  intro r
  obtain ⟨_, _, hwf, _⟩ := readerRun_spec cfg (by simp [Disc.safe, hlock]) old chunks sizes ws _
    (init_wf old slack chunks) rfl
  -- the reader holds the lock from its open on, and the rewriter is before its open
  have hs1 : awaitFree cfg (wsteps cfg (ws.headD 0) (Sys.init old slack chunks)) = Sys.init old slack chunks := by
    rw [hfirst]; rfl
  obtain ⟨h1, h2⟩ := readsI_idle_locked cfg sizes ws.tail (openReader cfg (Sys.init old slack chunks))
    (by unfold openReader; rw [hlock]; rfl) (by unfold openReader; rw [hlock])
  have hp : r.beforeClose.phase = .idle := by
    show (wsteps cfg _ (readsI cfg ws.tail sizes (openReader cfg (awaitFree cfg
      (wsteps cfg (ws.headD 0) (Sys.init old slack chunks))))).2.2).phase = .idle
    rw [hs1, wsteps_idle_locked cfg _ _ h1 h2]
    exact h1
  exact ⟨await_first cfg old slack chunks ws hfirst, hp, (hwf.idle hp).2, (hwf.idle hp).1⟩

/-- the discipline of the current code, of the private-copy readers, and each half of the seeded change alone
are covered by the theorem; the seeded combination is not -/
example : Disc.memfs.safe = true ∧ Disc.priv.safe = true ∧ (Disc.mk .alias .fresh).safe = true
    ∧ (Disc.mk .lock .inPlace).safe = true ∧ (Disc.mk .copy .inPlace).safe = true ∧ Disc.seeded.safe = false := by decide +kernel

-- the hypotheses of `writer_waits_for_open_reader` hold for the current memfs and the schedules used below
example : Disc.memfs.rd = .lock ∧ ([0, 0, 50] : List Nat).headD 0 = 0 := ⟨rfl, rfl⟩
example : (readerRun Disc.memfs [0, 0, 50] [2, 2, 7] (Sys.init [1, 2, 3, 4, 5, 6] [] [[7, 8], [9]])).beforeClose.todo = [[7, 8], [9]] := by
  decide +kernel
-- the interleaving `open reader; read 1 buffer; (other thread) Writer … ; read the rest; Close`: under the
-- code's discipline the rewriter's 50 attempted steps change nothing, the reader delivers the old bytes, and
-- afterwards the file holds the new ones
example : (readerRun Disc.memfs [0, 0, 50] [2, 2, 7] (Sys.init [1, 2, 3, 4, 5, 6] [] [[7, 8], [9]])).out
    = [([1, 2], false), ([3, 4], false), ([5, 6], true)] := by decide +kernel
example : (readerRun Disc.memfs [0, 0, 50] [2, 2, 7] (Sys.init [1, 2, 3, 4, 5, 6] [] [[7, 8], [9]])).beforeClose.phase = .idle := by
  decide +kernel
example : (readerRun Disc.memfs [0, 0, 50] [2, 2, 7] (Sys.init [1, 2, 3, 4, 5, 6] [] [[7, 8], [9]])).fin.cell.content = [7, 8, 9] := by
  decide +kernel
-- a private-copy reader does not hold the rewriter up (it has finished before the reader closes): same bytes
example : (readerRun Disc.priv [0, 0, 50] [2, 2, 7] (Sys.init [1, 2, 3, 4, 5, 6] [] [[7, 8], [9]])).out
    = [([1, 2], false), ([3, 4], false), ([5, 6], true)]
    ∧ (readerRun Disc.priv [0, 0, 50] [2, 2, 7] (Sys.init [1, 2, 3, 4, 5, 6] [] [[7, 8], [9]])).beforeClose.phase = .closed := by
  decide +kernel
-- each half of the seeded change alone, same schedule: the old bytes
example : (readerRun ⟨.alias, .fresh⟩ [0, 0, 50] [2, 2, 7] (Sys.init [1, 2, 3, 4, 5, 6] [] [[7, 8], [9]])).out
    = [([1, 2], false), ([3, 4], false), ([5, 6], true)] := by decide +kernel
example : (readerRun ⟨.lock, .inPlace⟩ [0, 0, 50] [2, 2, 7] (Sys.init [1, 2, 3, 4, 5, 6] [] [[7, 8], [9]])).out
    = [([1, 2], false), ([3, 4], false), ([5, 6], true)] := by decide +kernel
-- the rewriter has opened first (one step): the reader waits for its Close and reads the new content, whole
example : (readerRun Disc.memfs [1] [2, 2] (Sys.init [1, 2, 3, 4, 5, 6] [] [[7, 8], [9]])).out
    = [([7, 8], false), ([9], true)]
    ∧ (readerRun Disc.memfs [1] [2, 2] (Sys.init [1, 2, 3, 4, 5, 6] [] [[7, 8], [9]])).atOpen = [7, 8, 9] := by decide +kernel
-- a rewrite that outgrows the old array (spare capacity 1): the same
example : (readerRun Disc.memfs [0, 0, 3, 9] [2, 2, 7] (Sys.init [1, 2, 3] [0] [[7, 8], [9, 9, 9]])).out
    = [([1, 2], false), ([3], true), ([], true)]
    ∧ (readerRun Disc.memfs [0, 0, 3, 9] [2, 2, 7] (Sys.init [1, 2, 3] [0] [[7, 8], [9, 9, 9]])).fin.cell.content
      = [7, 8, 9, 9, 9] := by decide +kernel

/-- STREAMCOPY WHOSE SOURCE IS REWRITTEN WHILE IT RUNS.  `fshelper.StreamCopy` from a memory file that another
thread rewrites (`Writer`, chunks, `Close`) under ANY schedule, ANY fault plan and chunking, any destination,
for every discipline but snapshot + in-place truncation: the helper's outcome — verdict, calls made,
destination — is EXACTLY that of the sequential `StreamCopy` (`streamCopy2`, the subject of
`streamCopy_ok_complete`) from a source holding `d`, where `d` is the old content or the chunks' concatenation,
whole (the old one if the copy's reader was opened before the rewriter's first step).  So it copies the old
content completely or the new content completely — never a mix — or reports an error; and the rewrite itself
is intact: afterwards the source holds the chunks' concatenation and nobody hangs.  (`S`, `sp` are arbitrary: the
sequential copy looks at its source only at `sp`.) -/
theorem streamCopy_source_rewritten (cfg : Disc) (hsafe : cfg.safe = true) (pl : Plan) (sizes : List Nat) (c : Calls)
    (ws : List Nat) (old slack : Bytes) (chunks : List Bytes) (S : State) (sp : Path) (dst : Dest) (dp : Path) :
    let o := streamCopyRW cfg pl sizes c ws (Sys.init old slack chunks) dst dp
    (∃ d, (d = old ∨ d = chunks.flatten) ∧ (ws.headD 0 = 0 → d = old)
        ∧ o.1 = streamCopy2 pl sizes c ⟨.eager, put S sp d, false⟩ sp dst dp
        ∧ (o.1.ok = true → o.1.dst.st dp = some (.file d)))
    ∧ o.2.cell.content = chunks.flatten ∧ o.2.phase = .closed ∧ o.2.cell.locked = false ∧ o.2.rd = none := by
  intro o
  obtain ⟨hd, heq, hfin⟩ := streamCopyRW_spec cfg hsafe pl sizes c ws old chunks _ (init_wf old slack chunks) rfl
    S sp dst dp
  have hfirst := await_first cfg old slack chunks ws
  generalize (awaitFree cfg (wsteps cfg (ws.headD 0) (Sys.init old slack chunks))).cell.content = d at hd heq hfirst
  refine ⟨⟨d, hd, hfirst, heq, ?_⟩, hfin⟩
  intro hok
  have hok' : (streamCopy2 pl sizes c ⟨.eager, put S sp d, false⟩ sp dst dp).ok = true := by rw [← heq]; exact hok
  obtain ⟨d', hs, hd', _⟩ := streamCopy2_complete pl sizes c _ sp dst dp hok'
  have hdd : some (Entry.file d) = some (.file d') := (put_same S sp d).symm.trans hs
  cases hdd
  rw [heq, hd']

/-- a destination with only its root -/
def rootOnly : State := fun q => if q = [] then some .dir else none

-- the copy's reader has delivered one buffer when the rewriter tries: under the code's discipline the copy is the
-- old content, complete, and the source ends up with the new one
example : (streamCopyRW Disc.memfs noFault [2] Calls.zero [0, 0, 50] (Sys.init [1, 2, 3, 4, 5, 6] [] [[7, 8], [9]])
      ⟨.mem, rootOnly⟩ [[102]]).1.ok = true
    ∧ (streamCopyRW Disc.memfs noFault [2] Calls.zero [0, 0, 50] (Sys.init [1, 2, 3, 4, 5, 6] [] [[7, 8], [9]])
      ⟨.mem, rootOnly⟩ [[102]]).1.dst.st [[102]] = some (.file [1, 2, 3, 4, 5, 6])
    ∧ (streamCopyRW Disc.memfs noFault [2] Calls.zero [0, 0, 50] (Sys.init [1, 2, 3, 4, 5, 6] [] [[7, 8], [9]])
      ⟨.mem, rootOnly⟩ [[102]]).2.cell.content = [7, 8, 9] := by decide +kernel
-- the rewriter was first: the new content, complete; a failing second Read: reported
example : (streamCopyRW Disc.memfs noFault [2] Calls.zero [1] (Sys.init [1, 2, 3, 4, 5, 6] [] [[7, 8], [9]])
      ⟨.disk, rootOnly⟩ [[102]]).1.dst.st [[102]] = some (.file [7, 8, 9]) := by decide +kernel
example : (streamCopyRW Disc.memfs (oneFault .read 1 .hard) [2] Calls.zero [0, 0, 50]
      (Sys.init [1, 2, 3, 4, 5, 6] [] [[7, 8], [9]]) ⟨.mem, rootOnly⟩ [[102]]).1.ok = false := by decide +kernel

/-- SNAPSHOT + TRUNCATION IN PLACE MIXES (the seeded change C04-5, `Disc.seeded`: `Reader` keeps the slice
header `file.data` and lets go of the lock, `Writer` truncates with `file.data[:0]`).  Explicit witness: a file
of six bytes, a reader that has not read anything yet when the rewrite `78 | 9` happens, then reads on: it was
opened on the old content, reports `io.EOF`, and what it delivered is the new bytes followed by the old tail —
a prefix of neither the old nor the new content, bytes that were never the file's content.  `StreamCopy` under
the same schedule returns nil with a destination that is neither the old nor the new source, while the source
itself holds the new content. -/
theorem snapshot_truncate_in_place_mixes :
    ∃ (old : Bytes) (chunks : List Bytes) (sizes ws : List Nat),
      (let r := readerRun Disc.seeded ws sizes (Sys.init old [] chunks)
       r.atOpen = old ∧ (∃ x ∈ r.out, x.2 = true)
       ∧ ¬ delivered r.out <+: old ∧ ¬ delivered r.out <+: chunks.flatten
       ∧ delivered r.out = chunks.flatten ++ old.drop chunks.flatten.length
       ∧ r.fin.cell.content = chunks.flatten)
      ∧ (let o := streamCopyRW Disc.seeded noFault sizes Calls.zero ws (Sys.init old [] chunks) ⟨.mem, rootOnly⟩ [[102]]
         o.1.ok = true ∧ o.1.dst.st [[102]] ≠ some (.file old) ∧ o.1.dst.st [[102]] ≠ some (.file chunks.flatten)
         ∧ o.1.dst.st [[102]] = some (.file (chunks.flatten ++ old.drop chunks.flatten.length))
         ∧ o.2.cell.content = chunks.flatten) :=
  ⟨[1, 2, 3, 4, 5, 6], [[7, 8], [9]], [2, 2, 2], [0, 50], by decide +kernel⟩

-- the same with the reader in the middle of the file when the rewrite happens: old head, new middle, old tail
example : delivered (readerRun Disc.seeded [0, 0, 50] [2, 2, 7] (Sys.init [1, 2, 3, 4, 5, 6] [] [[7, 8], [9]])).out
    = [1, 2, 9, 4, 5, 6] := by decide +kernel
-- a rewrite that does not fit into the old array is not seen by the snapshot (the first chunk is: it fits)
example : delivered (readerRun Disc.seeded [0, 50] [7] (Sys.init [1, 2, 3] [] [[7, 8], [9, 9]])).out = [7, 8, 3] := by
  decide +kernel

end Goat.C04
