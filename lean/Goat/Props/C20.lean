/-
Property C20 — "Config and translation maps survive flattening, JSON and loading unchanged".

Model: `Goat/Model/PlainMap.lean` (mirror of varutil/plainmap, i18n/i18mem, i18n/fsi18loader and of the
parts of github.com/buger/jsonparser and encoding/json they use).  Specification-side definitions
(`WFNested`, `PrefixFree`, `Flat.Equiv`, `ValidUTF8`, documents as concrete syntax `CObj` with
`render` / `leaves`): `Goat/Proofs/PlainMapSpec.lean`.

Three recorded findings (see /verif/known_findings.d/C20.json) shape the statements:

* KF-C20-1  the reader decides "nested or top level" by testing whether the accumulated key is empty:
            an object stored under the empty key at the top level loses that level
            (`{"":{"x":"1"}}` reads as `x`), so a flat key that begins with a dot does not round-trip.
            `read_matches_decoder_full_false`, `write_read_full_false` disprove the full statements for
            the code as it is; the `_partial` theorems carry the negated defect predicate; the
            `_repaired` theorems prove the full statements for the reader with the proposed one-line
            repair (`readFixed`).
* KF-C20-2  `ToRecursiveMap` rejects the flat key `""`: a nested map with a leaf under the empty key
            at the top level (dot-free key, no empty sub-map) flattens to a map that cannot be rebuilt.
            `rebuild_flatten_full_false`, `flatten_rebuild_full_false`; `_partial` under the negation.
* KF-C20-3  jsonparser's `\u` decoding of surrogate code units: a lone surrogate escape makes the reader
            fail (a standard decoder yields U+FFFD).  `CObj.WF` admits `\u` escapes only for
            non-surrogate code units and for proper high/low pairs; `read_lone_surrogate_false`.

Invalid UTF-8 cannot be written as JSON text: `write_read_*` assume well-formed UTF-8 keys and values
(`write_read_invalid_utf8_false` shows the hypothesis is needed; the check tests the excluded point on
the real code).
-/
import Goat.Proofs.PlainMapRebuild
import Goat.Proofs.PlainMapEmit
import Goat.Proofs.PlainMapLoad

namespace Goat.C20
open Goat Goat.PlainMap

/-! Full statement (false on the code, KF-C20-2):
  `∀ m, m.WFNested → ∀ order ~ flatten m, ∃ t, rebuild order = some t ∧ t ≃ m`.
`order` is the order in which Go happens to iterate over the flat map. -/

theorem rebuild_flatten_partial {α : Type} (m : Tree α) (hw : m.WFNested)
    (hk : m.leafAt [[]] = none)            -- ¬ KF-C20-2: no leaf under the empty key at the top level
    (order : Flat α) (hperm : order.Perm m.flatten) :
    ∃ t, rebuild order = some t ∧ t.WFNested ∧ t.Equiv m := by
  have ⟨hu, hd, _⟩ := hw
  have hkeys : (Flat.keys order).Perm (Flat.keys m.flatten) := hperm.map Prod.fst
  have hn := hkeys.nodup_iff.mpr (Tree.flatten_keys_nodup hu hd)
  obtain ⟨t, ht, hwt, hl⟩ := rebuild_spec order
    (fun a ha b hb r => Tree.flatten_prefixFree hu hd a (hkeys.mem_iff.mp ha) b (hkeys.mem_iff.mp hb) r)
    (fun h => Tree.flatten_no_empty_key hu hd hk (hkeys.mem_iff.mp h))
  refine ⟨t, ht, hwt, Tree.leafAt_ext hwt hw fun k => ?_⟩
  rw [hl, Flat.get_perm hn hperm, Tree.get_flatten hu hd]

/-- hypotheses satisfiable: `{"a": {"b": "1", "": "2"}, "c": "3"}` -/
example : (Tree.node [97] (.leaf [98] [49] (.leaf [] [50] .nil)) (.leaf [99] [51] .nil) : Tree Bytes).WFNested ∧
    (Tree.node [97] (.leaf [98] [49] (.leaf [] [50] .nil)) (.leaf [99] [51] .nil) : Tree Bytes).leafAt [[]] = none := by
  simp [Tree.WFNested, Tree.Uniq, Tree.DotFreeKeys, Tree.NoEmpty, Tree.find?, DotFree, Tree.leafAt, dot]

/-- KF-C20-2: the nested map `{"": "1"}` is well formed, its flattening `{"": "1"}` is rejected -/
theorem rebuild_flatten_full_false :
    ¬ ∀ (m : Tree Bytes), m.WFNested → ∃ t, rebuild m.flatten = some t ∧ t.Equiv m := by
  intro h
  obtain ⟨t, ht, _⟩ := h (.leaf [] [49] .nil) ⟨⟨rfl, trivial⟩, ⟨by simp [DotFree], trivial⟩, trivial⟩
  simp [Tree.flatten, Tree.flattenNode, rebuild] at ht

/-- Full statement (false on the code, KF-C20-2): the same without `he`.  A Go map has distinct keys
(`hn`); the hypotheses do not depend on the order of `f`, so this covers every iteration order. -/
theorem flatten_rebuild_partial {α : Type} (f : Flat α) (hn : f.keys.Nodup) (hp : PrefixFree f.keys)
    (he : [] ∉ f.keys) :                     -- ¬ KF-C20-2: the empty string is not a key
    ∃ t, rebuild f = some t ∧ t.WFNested ∧ (Tree.flatten t).Equiv f := by
  obtain ⟨t, ht, hw, hl⟩ := rebuild_spec f hp he
  exact ⟨t, ht, hw, fun key => (Tree.get_flatten hw.1 hw.2.1 key).trans (hl key)⟩

/-- hypotheses satisfiable: `{"a.b": "1", "a..c": "2", ".x": "3", "d.": "4"}` -/
example : (Flat.keys [([97, 46, 98], [49]), ([97, 46, 46, 99], [50]), ([46, 120], [51]), ([100, 46], [52])]).Nodup ∧
    [] ∉ Flat.keys [([97, 46, 98], [49]), ([97, 46, 46, 99], [50]), ([46, 120], [51]), ([100, 46], [52])] ∧
    PrefixFree (Flat.keys [([97, 46, 98], [49]), ([97, 46, 46, 99], [50]), ([46, 120], [51]), ([100, 46], [52])]) := by
  exact ⟨by decide, by decide, prefixFree_of_strip (by decide)⟩

theorem flatten_rebuild_full_false :
    ¬ ∀ (f : Flat Bytes), f.keys.Nodup → PrefixFree f.keys → ∃ t, rebuild f = some t ∧ (Tree.flatten t).Equiv f := by
  intro h
  obtain ⟨t, ht, _⟩ := h [([], [49])] (by simp [Flat.keys]) (by
    intro a ha b hb r; simp [Flat.keys] at ha hb; subst ha; subst hb; simp)
  simp [rebuild] at ht

/-! A JSON text whose top-level value is an object is `wLead ++ o.render wOpen ++ tail` for a well-formed
concrete syntax tree `o` (any white space, any spelling of every character, number literals as written,
arrays / true / false / null as other leaves); `o.leaves []` is the flat map a standard decoder followed
by flattening yields for its string and number leaves.  `tail` is arbitrary: the reader does not look
past the closing brace. -/

/-- the code with the proposed repair of KF-C20-1: full statement -/
theorem read_matches_decoder_repaired (wLead wOpen : Bytes) (o : CObj) (tail : Bytes)
    (hl : WsOK wLead) (ho : WsOK wOpen) (hwf : o.WF) :
    readFixed (wLead ++ o.render wOpen ++ tail) = some (o.leaves []) :=
  readWith_render true o tail hl ho hwf (by intro h; cases h)

/-- the code as it is: the same for every document that does not store an object under the empty
key at the top level (¬ KF-C20-1) -/
theorem read_matches_decoder_partial (wLead wOpen : Bytes) (o : CObj) (tail : Bytes)
    (hl : WsOK wLead) (ho : WsOK wOpen) (hwf : o.WF) (hk : ¬ o.emptyTopKey) :
    read (wLead ++ o.render wOpen ++ tail) = some (o.leaves []) :=
  readWith_render false o tail hl ho hwf fun _ => hk

/-- hypotheses satisfiable: `{ "k\"" : {"n":-1.5e3,"s":"\u00e9\ud83d\ude00\n"} ,"o":[1,{"x":"]"}]}` -/
example :
    (CObj.sub [32] [.raw 107, .esc 34] [32] [32] [] (.leaf [] [.raw 110] [] [] (.num [45, 49, 46, 53, 101, 51]) []
        (.leaf [] [.raw 115] [] [] (.str [.uni 48 48 101 57, .pair 100 56 51 100 100 101 48 48, .esc 110]) [] .nil))
      [32] (.leaf [] [.raw 111] [] [] (.other [91, 49, 44, 123, 34, 120, 34, 58, 34, 93, 34, 125, 93]) [] .nil)).WF ∧
    ¬ (CObj.sub [32] [.raw 107, .esc 34] [32] [32] [] (.leaf [] [.raw 110] [] [] (.num [45, 49, 46, 53, 101, 51]) []
        (.leaf [] [.raw 115] [] [] (.str [.uni 48 48 101 57, .pair 100 56 51 100 100 101 48 48, .esc 110]) [] .nil))
      [32] (.leaf [] [.raw 111] [] [] (.other [91, 49, 44, 123, 34, 120, 34, 58, 34, 93, 34, 125, 93]) [] .nil)).emptyTopKey := by
  have sp : WsOK [32] := by intro b hb; simp at hb; subst hb; decide
  have raw : ∀ b : Byte, b ≠ dq → b ≠ bsl → ∀ i ∈ [SItem.raw b], i.WF := by
    intro b h1 h2 i hi; simp at hi; subst hi; exact ⟨h1, h2⟩
  refine ⟨⟨sp, sp, sp, wsOK_nil, sp, ?_, ⟨wsOK_nil, wsOK_nil, wsOK_nil, wsOK_nil, raw 110 (by decide) (by decide), ?_,
    ⟨wsOK_nil, wsOK_nil, wsOK_nil, wsOK_nil, raw 115 (by decide) (by decide), ?_, trivial⟩⟩,
    ⟨wsOK_nil, wsOK_nil, wsOK_nil, wsOK_nil, raw 111 (by decide) (by decide), ?_, trivial⟩⟩, ?_⟩
  · intro i hi; simp at hi; rcases hi with rfl | rfl
    · exact ⟨by decide, by decide⟩
    · show (simpleEsc 34).isSome = true; decide
  · exact ⟨⟨45, _, rfl, Or.inr rfl⟩, by decide⟩
  · intro i hi; simp at hi; rcases hi with rfl | rfl | rfl
    · exact ⟨0xe9, by decide, by decide⟩
    · exact ⟨0xd83d, 0xde00, by decide, by decide, by decide, by decide, by decide, by decide⟩
    · show (simpleEsc 110).isSome = true; decide
  · right; right; right
    refine ⟨[49, 44, 123, 34, 120, 34, 58, 34, 93, 34, 125], rfl, ?_⟩
    exact Bal.chr 49 _ (by decide) (by decide) (by decide) (by decide) (by decide)
      (Bal.chr 44 _ (by decide) (by decide) (by decide) (by decide) (by decide)
        (Bal.brace [34, 120, 34, 58, 34, 93, 34] [] (Bal.str [120] _ (.chr 120 _ (by decide) (by decide) .nil)
          (Bal.chr 58 _ (by decide) (by decide) (by decide) (by decide) (by decide)
            (Bal.str [93] [] (.chr 93 _ (by decide) (by decide) .nil) Bal.nil))) Bal.nil))
  · simp [CObj.emptyTopKey, valItems, SItem.val]

/-- KF-C20-1: `{"":{"x":"1"}}` denotes `.x = 1`, the code reads `x = 1` -/
theorem read_matches_decoder_full_false :
    ¬ ∀ (o : CObj), o.WF → read (o.render []) = some (o.leaves []) := by
  intro h
  have := h (.sub [] [] [] [] [] (.leaf [] [.raw 120] [] [] (.str [.raw 49]) [] .nil) [] .nil)
    (by simp [CObj.WF, WsOK, SItem.WF, CLeaf.WF, dq, bsl])
  revert this
  decide

/-- KF-C20-3: for a `\u` escape of any four hex digits a standard decoder yields the UTF-8 encoding of
the code unit (U+FFFD for a lone surrogate — that is what `encodeRune` gives); the code fails on
`{"a":"\ud800"}` -/
theorem read_lone_surrogate_false :
    ¬ ∀ (a b c d : Byte) (cp : Nat), hex4 a b c d = some cp →
      read ([123, 34, 97, 34, 58, 34, 92, 117] ++ [a, b, c, d] ++ [34, 125]) = some [([97], encodeRune cp)] := by
  intro h
  have := h 100 56 48 48 0xD800 (by decide)
  revert this
  decide

/-! Full statement (false on the code, KF-C20-1): `write_read_partial` without `hd`.  Prefix-freeness is
not needed for the round trip through *this* reader (it is needed for the written document to denote
the map under a standard decoder; the check tests that with encoding/json). -/

/-- the code with the proposed repair of KF-C20-1: every map with distinct, well-formed UTF-8 keys and
values (all characters: quotes, backslashes, control, non-ASCII) is read back unchanged -/
theorem write_read_repaired (f : Flat Bytes) (hn : f.keys.Nodup)
    (hk : ∀ k ∈ f.keys, ValidUTF8 k) (hv : ∀ e ∈ f, ValidUTF8 e.2) :
    ∃ g, readFixed (emit f) = some g ∧ g.Equiv f :=
  write_read true f hn hk hv (by intro h; cases h)

/-- the code as it is: the same when no key begins with a dot (¬ KF-C20-1) -/
theorem write_read_partial (f : Flat Bytes) (hn : f.keys.Nodup)
    (hk : ∀ k ∈ f.keys, ValidUTF8 k) (hv : ∀ e ∈ f, ValidUTF8 e.2)
    (hd : ∀ k ∈ f.keys, k.head? ≠ some dot) :
    ∃ g, read (emit f) = some g ∧ g.Equiv f :=
  write_read false f hn hk hv fun _ => hd

/-- hypotheses satisfiable: `{"a.b": "\"\\\n", "a..é": "<\u2028>", "": "x"}` (é = C3 A9, U+2028 = E2 80 A8) -/
example : (Flat.keys [([97, 46, 98], [34, 92, 10]), ([97, 46, 46, 0xC3, 0xA9], [60, 0xE2, 0x80, 0xA8, 62]), ([], [120])]).Nodup ∧
    (∀ k ∈ Flat.keys [([97, 46, 98], [34, 92, 10]), ([97, 46, 46, 0xC3, 0xA9], [60, 0xE2, 0x80, 0xA8, 62]), ([], [120])],
      ValidUTF8 k ∧ k.head? ≠ some dot) ∧
    ValidUTF8 [60, 0xE2, 0x80, 0xA8, 62] ∧ ValidUTF8 [34, 92, 10] := by
  refine ⟨by decide, ?_, ?_, ?_⟩
  · intro k hk
    simp [Flat.keys] at hk
    rcases hk with rfl | rfl | rfl
    · exact ⟨.ascii _ _ (by decide) (.ascii _ _ (by decide) (.ascii _ _ (by decide) .nil)), by decide⟩
    · exact ⟨.ascii _ _ (by decide) (.ascii _ _ (by decide) (.ascii _ _ (by decide)
        (.two _ _ _ (by decide) (by decide) ⟨by decide, by decide⟩ .nil))), by decide⟩
    · exact ⟨.nil, by decide⟩
  · exact .ascii _ _ (by decide) (.three _ _ _ _ (Or.inl ⟨by decide, by decide⟩) ⟨by decide, by decide⟩
      ⟨by decide, by decide⟩ (.ascii _ _ (by decide) .nil))
  · exact .ascii _ _ (by decide) (.ascii _ _ (by decide) (.ascii _ _ (by decide) .nil))

/-- KF-C20-1: `{".x": "1"}` is written as `{"":{"x":"1"}}` and read back as `{"x": "1"}` -/
theorem write_read_full_false :
    ¬ ∀ (f : Flat Bytes), f.keys.Nodup → (∀ k ∈ f.keys, ValidUTF8 k) → (∀ e ∈ f, ValidUTF8 e.2) →
      ∃ g, read (emit f) = some g ∧ g.Equiv f := by
  intro h
  refine singleton_not_round_trip (g := [([120], [49])]) (k' := [46, 120]) (by decide) (by decide)
    (h [([46, 120], [49])] (by decide) ?_ ?_)
  · intro k hk; simp [Flat.keys] at hk; subst hk; exact .ascii _ _ (by decide) (.ascii _ _ (by decide) .nil)
  · intro e he; simp at he; subst he; exact .ascii _ _ (by decide) .nil

/-- the hypothesis "well-formed UTF-8" is needed: the value `FF` comes back as U+FFFD -/
theorem write_read_invalid_utf8_false :
    ¬ ∀ (f : Flat Bytes), f.keys.Nodup → (∀ k ∈ f.keys, k.head? ≠ some dot) → ∃ g, read (emit f) = some g ∧ g.Equiv f := by
  intro h
  exact singleton_not_round_trip (g := [([97], [0xEF, 0xBF, 0xBD])]) (k' := [97]) (by decide) (by decide)
    (h [([97], [0xFF])] (by decide) (by decide))

/-! `files`: what the walk reaches, `order`: the order in which the consumers call `Set` — any permutation
(every scheduling of any number of consumers yields one, because `Set` runs under the mutex).  Files
not named `*.json` are ignored.  `reader` is the JSON reader (any function: the statement does not
depend on which). -/

/-- every key of every translation file translates to the value given by the last file in `order`
that defines it -/
theorem load_all_keys (reader : Bytes → Option (Flat Bytes)) (files order : List (Bytes × Bytes))
    (hperm : order.Perm files)
    (hok : ∀ f ∈ files, isJsonName f.1 = true → ∃ m, reader f.2 = some m) :
    ∃ st, load reader order = some st ∧
      ∀ pre f post m k v, order = pre ++ f :: post → isJsonName f.1 = true → reader f.2 = some m → m.get k = some v →
        (∀ g ∈ post, isJsonName g.1 = true → ∀ m', reader g.2 = some m' → m'.get k = none) →
        I18.translate st k = some v := by
  refine ⟨_, load_eq reader order fun f hf => hok f (hperm.mem_iff.mp hf), ?_⟩
  intro pre f post m k v e hj hm hv hpost
  -- the state is `… ++ m ++ (maps of post)`, and no map of `post` has the key
  rw [e, List.filter_append, List.filter_cons, if_pos hj, List.filterMap_append,
    List.filterMap_cons_some (f := fun f : Bytes × Bytes => reader f.2) hm, List.flatten_append, List.flatten_cons,
    I18.translate, Flat.get_append, Flat.get_append, hv, Flat.get_flatten_none]
  intro m' hm'
  obtain ⟨g, hg, hgm⟩ := List.mem_filterMap.mp hm'
  exact hpost g (List.mem_filter.mp hg).1 (List.mem_filter.mp hg).2 m' hgm

/-- the case the property states: when no two files define the same key, every key of every file
translates to its value — whatever the order -/
theorem load_all_keys_disjoint (reader : Bytes → Option (Flat Bytes)) (files order : List (Bytes × Bytes))
    (hperm : order.Perm files) (hnd : files.Nodup)
    (hok : ∀ f ∈ files, isJsonName f.1 = true → ∃ m, reader f.2 = some m)
    (hdisj : ∀ f ∈ files, ∀ g ∈ files, f ≠ g → ∀ m m' k, reader f.2 = some m → reader g.2 = some m' →
      m.get k ≠ none → m'.get k = none) :
    ∃ st, load reader order = some st ∧
      ∀ f ∈ files, isJsonName f.1 = true → ∀ m, reader f.2 = some m → ∀ k v, m.get k = some v →
        I18.translate st k = some v := by
  obtain ⟨st, hst, h⟩ := load_all_keys reader files order hperm hok
  refine ⟨st, hst, ?_⟩
  intro f hf hj m hm k v hv
  obtain ⟨pre, post, e⟩ := List.append_of_mem (hperm.mem_iff.mpr hf)
  have hno : order.Nodup := hperm.nodup_iff.mpr hnd
  refine h pre f post m k v e hj hm hv ?_
  intro g hg _ m' hm'
  have hgo : g ∈ order := by rw [e]; exact List.mem_append_right _ (List.mem_cons_of_mem _ hg)
  have hne : f ≠ g := by
    intro heq; subst heq
    rw [e, List.nodup_append] at hno
    exact (List.nodup_cons.mp hno.2.1).1 hg
  exact hdisj f hf g (hperm.mem_iff.mp hgo) hne m m' k hm hm' (by rw [hv]; simp)

/-- hypotheses satisfiable: `tr/pl/a.json`, `tr/b.json` are translation files and parse, `tr/readme.txt`
is not one -/
example : isJsonName [116, 114, 47, 112, 108, 47, 97, 46, 106, 115, 111, 110] = true ∧
    isJsonName [116, 114, 47, 98, 46, 106, 115, 111, 110] = true ∧
    isJsonName [116, 114, 47, 114, 101, 97, 100, 109, 101, 46, 116, 120, 116] = false ∧
    read [123, 34, 112, 108, 34, 58, 123, 34, 104, 105, 34, 58, 34, 99, 122, 101, 92, 117, 48, 49, 53, 98, 92, 117, 48, 49,
      48, 55, 34, 125, 125] = some [([112, 108, 46, 104, 105], [99, 122, 101, 0xC5, 0x9B, 0xC4, 0x87])] ∧
    read [123, 34, 101, 110, 34, 58, 123, 34, 104, 105, 34, 58, 34, 104, 101, 108, 108, 111, 34, 125, 125] =
      some [([101, 110, 46, 104, 105], [104, 101, 108, 108, 111])] := by
  refine ⟨by decide, by decide, by decide, by decide, by decide⟩

end Goat.C20
