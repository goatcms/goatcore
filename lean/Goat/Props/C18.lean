/-
C18 — environment values reach sandbox shells verbatim, with no shell interpretation.

Model: Goat/Model/EnvScript.lean (the two start-up script builders, the name pattern, the mini-shell).
Vocabulary (Goat/Proofs/EnvScript.lean):
  Ident k          a letter, then letters or underscores          (the property's "plain identifier")
  ValidKeys envs   every key is Ident and is not PATH / OPTIND    (names `Environments.Set` accepted;
                   the two excluded names change how the shell itself runs the script: command
                   lookup of `cat`, dash's numeric check of OPTIND)
  TagOk tag        non-empty, letters/digits/underscore           ("EOF" + 10 capitals is such a tag)
  TagFree tag envs the tag is not a line of any value             (assumed for the random tag, see the check)
  NoNul envs       no value contains a NUL byte
  st.deliverAll envs   for every (k, v) in script order: k := stripTrailingNewlines v ; export k

All theorems are relative to the mini-shell `sh` (dialect `posix`); that the real /bin/sh behaves
like it on the emitted scripts is validated by the check on every run (trusted base).
-/
import Goat.Proofs.EnvScriptExamples

namespace Goat.C18
open Goat Goat.EnvScript

/-- SSH sandbox: executing the start-up script is exactly "deliver every variable, then run the
entrypoint in that state" — for all environments, tags, entrypoints and initial shell states. -/
theorem script_sets_exact_ssh (envs : Env) (tag entry : Bytes) (st : State)
    (ht : TagOk tag) (hv : ValidKeys envs) (hf : TagFree tag envs) (h0 : NoNul envs) :
    sh .posix st (sshScript envs tag entry) = sh .posix (st.afterHeader.deliverAll envs) (entry ++ [nl]) :=
  sh_prefix .posix envs st _ ht hv hf h0 (fun _ _ _ _ => rfl)

example : sh .posix State.empty (sshScript exEnvs exTag exEntry)
    = sh .posix (State.empty.afterHeader.deliverAll exEnvs) (exEntry ++ [nl]) :=
  script_sets_exact_ssh _ _ _ _ exTag_ok exEnvs_valid exEnvs_tagFree exEnvs_noNul

/-- Container sandbox: the same, whatever the job then sends on standard input. -/
theorem script_sets_exact_container (envs : Env) (tag entry : Bytes) (st : State)
    (ht : TagOk tag) (hv : ValidKeys envs) (hf : TagFree tag envs) (h0 : NoNul envs) :
    sh .posix st (containerStdin envs tag entry) = sh .posix (st.afterHeader.deliverAll envs) entry := by
  unfold containerStdin containerScript
  rw [List.append_assoc]
  exact sh_prefix .posix envs st _ ht hv hf h0 (fun _ _ _ _ => rfl)

example : sh .posix State.empty (containerStdin exEnvs exTag exEntry)
    = sh .posix (State.empty.afterHeader.deliverAll exEnvs) exEntry :=
  script_sets_exact_container _ _ _ _ exTag_ok exEnvs_valid exEnvs_tagFree exEnvs_noNul

/-- The container script on its own runs to its end, inside the fragment, and leaves that state. -/
theorem script_sets_exact_container_alone (envs : Env) (tag : Bytes) (st : State)
    (ht : TagOk tag) (hv : ValidKeys envs) (hf : TagFree tag envs) (h0 : NoNul envs) :
    sh .posix st (containerScript envs tag) = .stop (st.afterHeader.deliverAll envs) [] := by
  have := script_sets_exact_container envs tag [] st ht hv hf h0
  rwa [containerStdin, List.append_nil, sh_nil] at this

example : sh .posix State.empty (containerScript exEnvs exTag) = .stop (State.empty.afterHeader.deliverAll exEnvs) [] :=
  script_sets_exact_container_alone _ _ _ exTag_ok exEnvs_valid exEnvs_tagFree exEnvs_noNul

/-- What the entrypoint finds in its environment: for every configured variable exactly the
configured value up to trailing newlines (keys of a Go map are pairwise distinct) — `$`, backquote,
quotes, backslash, newline, `)` and EOF-like lines are data. -/
theorem script_sets_exact (envs : Env) (st : State) (hd : (envs.map (·.1)).Nodup) :
    envs.map (fun kv => (kv.1, (st.afterHeader.deliverAll envs).environ kv.1))
      = envs.map (fun kv => (kv.1, some (stripTrailingNewlines kv.2))) := by
  apply List.map_congr_left
  intro kv hkv
  rw [deliverAll_environ envs _ hd kv hkv]

example : exEnvs.map (fun kv => (kv.1, (State.empty.afterHeader.deliverAll exEnvs).environ kv.1))
    = exEnvs.map (fun kv => (kv.1, some (stripTrailingNewlines kv.2))) :=
  script_sets_exact _ _ exEnvs_nodup

/-- End to end, container: the script runs to its end and every configured variable is in the
environment with exactly its value (up to trailing newlines). -/
theorem container_environment_exact (envs : Env) (tag : Bytes) (st : State)
    (ht : TagOk tag) (hv : ValidKeys envs) (hf : TagFree tag envs) (h0 : NoNul envs)
    (hd : (envs.map (·.1)).Nodup) :
    ∃ S, sh .posix st (containerScript envs tag) = .stop S [] ∧
      envs.map (fun kv => (kv.1, S.environ kv.1)) = envs.map (fun kv => (kv.1, some (stripTrailingNewlines kv.2))) :=
  ⟨_, script_sets_exact_container_alone envs tag st ht hv hf h0, script_sets_exact envs st hd⟩

example : ∃ S, sh .posix State.empty (containerScript exEnvs exTag) = .stop S [] ∧
    exEnvs.map (fun kv => (kv.1, S.environ kv.1)) = exEnvs.map (fun kv => (kv.1, some (stripTrailingNewlines kv.2))) :=
  container_environment_exact _ _ _ exTag_ok exEnvs_valid exEnvs_tagFree exEnvs_noNul exEnvs_nodup

/-- End to end, SSH: the entrypoint line is interpreted in a state whose environment holds every
configured variable with exactly its value. -/
theorem ssh_environment_exact (envs : Env) (tag entry : Bytes) (st : State)
    (ht : TagOk tag) (hv : ValidKeys envs) (hf : TagFree tag envs) (h0 : NoNul envs)
    (hd : (envs.map (·.1)).Nodup) :
    ∃ S, sh .posix st (sshScript envs tag entry) = sh .posix S (entry ++ [nl]) ∧
      envs.map (fun kv => (kv.1, S.environ kv.1)) = envs.map (fun kv => (kv.1, some (stripTrailingNewlines kv.2))) :=
  ⟨_, script_sets_exact_ssh envs tag entry st ht hv hf h0, script_sets_exact envs st hd⟩

example : ∃ S, sh .posix State.empty (sshScript exEnvs exTag exEntry) = sh .posix S (exEntry ++ [nl]) ∧
    exEnvs.map (fun kv => (kv.1, S.environ kv.1)) = exEnvs.map (fun kv => (kv.1, some (stripTrailingNewlines kv.2))) :=
  ssh_environment_exact _ _ _ _ exTag_ok exEnvs_valid exEnvs_tagFree exEnvs_noNul exEnvs_nodup

/-- The script sets nothing else: a name that is not configured keeps its value and its export
attribute. -/
theorem script_sets_nothing_else (envs : Env) (st : State) (k : Bytes) (hk : ∀ kv ∈ envs, kv.1 ≠ k) :
    (st.afterHeader.deliverAll envs).get k = st.get k ∧
    (st.afterHeader.deliverAll envs).exported.contains k = st.exported.contains k :=
  deliverAll_get_other envs st.afterHeader k hk

example : (State.empty.afterHeader.deliverAll exEnvs).get [72, 79, 77, 69] = none :=
  (script_sets_nothing_else exEnvs State.empty [72, 79, 77, 69] (by decide +kernel)).1

/-- No variable can alter another: the value delivered for `k` is the same in any two environments
that configure `k` with the same value, whatever the other variables hold. -/
theorem no_variable_alters_another (envs envs' : Env) (st st' : State) (k v : Bytes)
    (hd : (envs.map (·.1)).Nodup) (hd' : (envs'.map (·.1)).Nodup)
    (h : (k, v) ∈ envs) (h' : (k, v) ∈ envs') :
    (st.afterHeader.deliverAll envs).environ k = (st'.afterHeader.deliverAll envs').environ k := by
  rw [deliverAll_environ envs _ hd (k, v) h, deliverAll_environ envs' _ hd' (k, v) h']

example : (State.empty.afterHeader.deliverAll exEnvs).environ [66, 95, 99]
    = (State.empty.afterHeader.deliverAll [([66, 95, 99], [36, 40, 114, 109, 32, 45, 114, 102, 32, 47, 41])]).environ [66, 95, 99] :=
  no_variable_alters_another _ _ _ _ [66, 95, 99] [36, 40, 114, 109, 32, 45, 114, 102, 32, 47, 41]
    exEnvs_nodup (by decide +kernel) (by decide +kernel) (by decide +kernel)

/-- Names that are not plain identifiers are rejected when they are set. -/
theorem invalid_names_rejected (m : Env) (k v : Bytes) (h : ¬ Ident k) : envSet m k v = none := by
  have : nameOk k = false := by
    cases hn : nameOk k with
    | false => rfl
    | true => exact absurd ((nameOk_iff_ident k).mp hn) h
  simp [envSet, this]

/-- `A B`, `A;x` are not identifiers -/
example : envSet [] [65, 32, 66] [118] = none ∧ envSet [] [65, 59, 120] [118] = none :=
  ⟨invalid_names_rejected _ _ _ (fun h => absurd ((nameOk_iff_ident _).mpr h) (by decide +kernel)),
   invalid_names_rejected _ _ _ (fun h => absurd ((nameOk_iff_ident _).mpr h) (by decide +kernel))⟩

/-- Plain identifiers are accepted and stored with the value unchanged. -/
theorem valid_names_accepted (m : Env) (k v : Bytes) (h : Ident k) :
    ∃ m', envSet m k v = some m' ∧ m'.find? (fun kv => kv.1 == k) = some (k, v) := by
  have : nameOk k = true := (nameOk_iff_ident k).mpr h
  exact ⟨(k, v) :: m.filter (fun kv => kv.1 != k), by simp [envSet, this], by simp⟩

example : ∃ m', envSet [] [66, 95, 99] [36] = some m' ∧ m'.find? (fun kv => kv.1 == [66, 95, 99]) = some ([66, 95, 99], [36]) :=
  valid_names_accepted _ _ _ ((nameOk_iff_ident _).mp (by decide +kernel))

/-- The recogniser accepts exactly the language of `^[a-zA-Z]+([_a-zA-Z]+)?$`. -/
theorem name_pattern_is_regex (k : Bytes) : nameOk k = true ↔ RegexLang k :=
  (nameOk_iff_ident k).trans (regexLang_iff_ident k).symm

example : RegexLang [66, 95, 99] := (name_pattern_is_regex _).mp (by decide +kernel)

/-- With `X=1` and `A=$X` the old SSH builder delivers `A=1`: the value was expanded, and one
variable altered another. -/
theorem unquoted_expands :
    ∃ S, sh .posix State.empty (sshScriptOld oldEnvs exTag exEntry) = .stop S (exEntry ++ [nl]) ∧
      S.environ [65] = some [49] ∧ some [49] ≠ some (stripTrailingNewlines [36, 88]) :=
  ⟨(State.empty.afterHeader.deliverAll [([88], [49]), ([65], [49])]), by decide +kernel⟩

/-- The statement of `script_sets_exact_ssh` is false for the old builder. -/
theorem old_ssh_builder_full_false :
    ¬ ∀ (envs : Env) (tag entry : Bytes) (st : State), TagOk tag → ValidKeys envs → TagFree tag envs → NoNul envs →
      sh .posix st (sshScriptOld envs tag entry) = sh .posix (st.afterHeader.deliverAll envs) (entry ++ [nl]) := by
  intro h
  have := h oldEnvs exTag exEntry State.empty exTag_ok oldEnvs_valid oldEnvs_tagFree oldEnvs_noNul
  revert this
  decide +kernel

/-! The real shell of this machine: dash 0.5.12 (known finding KF-C18-1).

Full-strength statement for the dash dialect (FALSE, see `dash_full_false`):
  ∀ envs tag entry st, TagOk tag → ValidKeys envs → TagFree tag envs → NoNul envs →
    sh .dash st (sshScript envs tag entry) = sh .dash (st.afterHeader.deliverAll envs) (entry ++ [nl])
dash loses a byte >= 0x80 that follows a non-empty prefix of the delimiter at the start of a value
line.  Proved part: outside that class (`DashSafe`: dash keeps every line of every value; implied
by "all bytes < 0x80" and by "no line starts with the tag's first byte", lemmas `dashLine_ascii`,
`dashLine_head_ne`) dash delivers exactly like the standard shell. -/

theorem dash_script_sets_exact_ssh_partial (envs : Env) (tag entry : Bytes) (st : State)
    (ht : TagOk tag) (hv : ValidKeys envs) (hf : TagFree tag envs) (h0 : NoNul envs) (hs : DashSafe tag envs) :
    sh .dash st (sshScript envs tag entry) = sh .dash (st.afterHeader.deliverAll envs) (entry ++ [nl]) :=
  sh_prefix .dash envs st _ ht hv hf h0 hs

example : sh .dash State.empty (sshScript exEnvs exTag exEntry)
    = sh .dash (State.empty.afterHeader.deliverAll exEnvs) (exEntry ++ [nl]) :=
  dash_script_sets_exact_ssh_partial _ _ _ _ exTag_ok exEnvs_valid exEnvs_tagFree exEnvs_noNul exEnvs_dashSafe

theorem dash_script_sets_exact_container_partial (envs : Env) (tag entry : Bytes) (st : State)
    (ht : TagOk tag) (hv : ValidKeys envs) (hf : TagFree tag envs) (h0 : NoNul envs) (hs : DashSafe tag envs) :
    sh .dash st (containerStdin envs tag entry) = sh .dash (st.afterHeader.deliverAll envs) entry := by
  unfold containerStdin containerScript
  rw [List.append_assoc]
  exact sh_prefix .dash envs st _ ht hv hf h0 hs

example : sh .dash State.empty (containerStdin exEnvs exTag exEntry)
    = sh .dash (State.empty.afterHeader.deliverAll exEnvs) exEntry :=
  dash_script_sets_exact_container_partial _ _ _ _ exTag_ok exEnvs_valid exEnvs_tagFree exEnvs_noNul exEnvs_dashSafe

/-- The full-strength statement is false for the dash dialect: `A` = `E` U+00E9 arrives without
its byte 0xC3 (replayed on the real /bin/sh by the check). -/
theorem dash_full_false :
    ¬ ∀ (envs : Env) (tag entry : Bytes) (st : State), TagOk tag → ValidKeys envs → TagFree tag envs → NoNul envs →
      sh .dash st (sshScript envs tag entry) = sh .dash (st.afterHeader.deliverAll envs) (entry ++ [nl]) := by
  intro h
  have := h dashEnvs exTag exEntry State.empty exTag_ok dashEnvs_valid dashEnvs_tagFree dashEnvs_noNul
  revert this
  decide +kernel

/-- ASCII-only values are outside the defect class. -/
theorem dashSafe_of_ascii (tag : Bytes) (envs : Env)
    (h : ∀ kv ∈ envs, ∀ l ∈ splitLines kv.2, ∀ b ∈ l, b < 128) : DashSafe tag envs :=
  fun kv hkv l hl => dashLine_ascii tag l (h kv hkv l hl)

example : DashSafe exTag exEnvs := dashSafe_of_ascii _ _ (by decide +kernel)

end Goat.C18
