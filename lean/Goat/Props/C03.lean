/-
Property C03 — a filespace never reaches outside its root, whatever path it is given.

  "For every filespace and every child view obtained from it, no operation with any path argument can
   read, list, create, change or delete anything that is not under that view's own root: a path that would
   climb above the root is rejected with an error or resolved inside the root, and the rest of the parent
   tree stays byte-identical.  This holds uniformly for the memory, disk, encrypted, read-only, sub-path and
   cache-backed views and for views of views."

Stated over
  * the path functions of `Goat/Base/Path.lean` (`norm` = `varutil.ReduceAbsPath` as a segment list,
    `clean` = `path.Clean`),
  * the point-wise specification `FS.Step base S op r S'` of `Goat/Spec/FS.lean` (a call through a view rooted
    at `base`), and
  * the executable view-stack model `Goat/Model/Views.lean`: a stack is a `List Layer` of ANY depth, each layer a
    `(kind, stored base string)` with the path plumbing of its Go code, over a bottom filespace.

Everything below holds for all byte strings as paths, all 16 methods and both arguments of the three copies,
all stacks (any kinds in any order, any depth, any stored base strings — also climbing ones) and all states.

Vocabulary
  `norm raw`          `none` when the raw path climbs above the root, else its reduced segment list
  `Reduced q`         every segment of `q` is a real name (not `""`, `.`, `..`) without `/`
  `walk segs cur`     resolve a relative path by walking from directory stack `cur` (`none`: left the root)
  `RootDirs base S`   the root path of the view exists in `S` (`base` and its ancestors are directories)
  `AgreeUnder base S₁ S₂`   the two trees coincide at every path at or below `base`
  `Layer.down l op`   the call layer `l` hands to the filespace it wraps (`none`: refused by the layer itself)
  `downAll ls op`     … through the whole stack: the call that reaches the bottom filespace
  `run B ls s op`     the call through stack `ls` over bottom `B` in state `s`: `(state', result)`
  `rootOf ls`         where the stack is rooted, in coordinates of the bottom (`none`: a dead view — some layer
                      stores a climbing base, every call through it fails)
  `hasReadOnly ls`    the stack contains a read-only mask; `isMutator op`: `op` is one of the eight mutating methods
  `NotFilespace op`   any method but `Filespace`, which opens a view instead of being handed down:
  `openView B s ls raw`   the stack of the view `Filespace(raw)` opens through stack `ls` (`none`: error);
                      `DisksLive ls`: no disk layer of `ls` stores a climbing path
  `opArgs op`         the raw path arguments of a call (a copy's source first)
  `argAt root n`      where an argument with normal form `n` lies in coordinates of the bottom, through a stack rooted
                      at `root`: `root ++ n`, `none` when the stack is dead or the argument climbs
  `memBottom`         the memory root filespace of C01 as a bottom
  `Refines B b0 Good α`   the bottom filespace `B` behaves as the specification says a filespace rooted at `b0`
                      does.  For the memory filespace this is a THEOREM (`memory_bottom`, from C01); for a disk
                      bottom (the host) and for the cache it is the assumption under which the semantic theorems
                      apply — the lexical theorem `stack_delegates_under` needs no assumption on the bottom.
  `Outcome root ro b0 S op r S'`   the call is the specification's call at `b0 ++ root`; or it fails cleanly (dead
                      stack; mutation through a stack with a read-only mask)
-/
import Goat.Proofs.MemFSStep
import Goat.Proofs.ViewsMem

namespace Goat.C03

open Goat Goat.Path Goat.FS Goat.Views

/-- `ReduceAbsPath` yields real names only, and the path string a view builds from it — ANY stored base
string `dir`, `/`, the reduced argument — resolves to the base's own normal form followed by the argument's:
it lies at or below the base, or (a climbing base) it climbs as a whole. -/
theorem reduce_stays_under_base (p : Bytes) (q : List Name) (h : norm p = some q) :
    Reduced q ∧ ∀ dir : Bytes, norm (dir ++ slash :: join q) = (norm dir).map (· ++ q) :=
  ⟨norm_reduced p q h, fun dir => norm_dir_join dir q (norm_reduced p q h)⟩

/-- … in particular under every reduced base `b`: the joined path is `b ++ q`, which has `b` as a prefix. -/
theorem reduce_stays_under_reduced_base (p : Bytes) (q : List Name) (h : norm p = some q) (b : List Name)
    (hb : Reduced b) : norm (join b ++ slash :: join q) = some (b ++ q) ∧ b <+: b ++ q :=
  ⟨norm_base_join b q hb (norm_reduced p q h), List.prefix_append b q⟩

/-- `ReduceAbsPath` fails exactly when walking the segments from the root leaves the root. -/
theorem climbs_iff_walk_leaves_root (p : Bytes) : norm p = none ↔ walk (split p) [] = none := by
  have h : norm p = (walk (split p) []).map List.reverse := reduceGo_eq_walk (split p) []
  rw [h]
  cases walk (split p) [] <;> simp

/-- When it succeeds it is the directory reached by that walk. -/
theorem reduce_eq_walk (p : Bytes) : norm p = (walk (split p) []).map List.reverse :=
  reduceGo_eq_walk (split p) []

/-- `path.Clean` (used by the sub-path view for its base) keeps the normal form of a path that does not climb. -/
theorem clean_keeps_normal_form (p : Bytes) (q : List Name) (h : norm p = some q) : norm (clean p) = some q :=
  norm_clean p q h

-- "in/./a/.." resolves to ["in"]; under the base "x/y" the joined string resolves to x/y/in; "a/../.." climbs
example : norm [105, 110, 47, 46, 47, 97, 47, 46, 46] = some [[105, 110]] := by decide +kernel
example : norm ([120, 47, 121] ++ slash :: join [[105, 110]]) = some [[120], [121], [105, 110]] := by decide +kernel
example : norm [97, 47, 46, 46, 47, 46, 46] = none ∧ walk (split [97, 47, 46, 46, 47, 46, 46]) [] = none := by decide +kernel
-- a climbing base: the joined string climbs as a whole
example : norm ([46, 46] ++ slash :: join [[97]]) = none := by decide +kernel
example : norm (clean [47, 105, 110, 47, 47, 46, 47]) = some [[105, 110]] := by decide +kernel

/-- NOTHING OUTSIDE CHANGES.  A call through a view rooted at `base` — any of the 16 methods, any raw path
spellings, both arguments of the copies — leaves every path that is not at or below `base` exactly as it was. -/
theorem confined (base : List Name) (S : State) (op : Op) (r : Result) (S' : State)
    (h : FS.Step base S op r S') (hroot : RootDirs base S) :
    ∀ q, ¬ base <+: q → S' q = S q :=
  fun q hq => step_confined base S op r S' h hroot q hq

/-- The same for a view opened on a path that does not exist yet (the memory wrapper and the sub-path view
allow it): the only other effect outside is that missing ancestors of the view's own root come into being as
directories on the first write — "resolved inside the root". -/
theorem confined_rootless (base : List Name) (S : State) (op : Op) (r : Result) (S' : State)
    (h : FS.Step base S op r S') :
    ∀ q, ¬ base <+: q → S' q = S q ∨ (q <+: base ∧ S' q = some .dir) :=
  fun q hq => step_confined_rootless base S op r S' h q hq

/-- Why `confined` asks for the root path to exist: the statement without that hypothesis,
     ∀ base S op r S', FS.Step base S op r S' → ∀ q, ¬ base <+: q → S' q = S q,
is FALSE in the specification (and in the code: the memory wrapper and the sub-path view may be opened on a path
that does not exist, and the first `MkdirAll("")` / write through them creates the missing ancestors of their own
root).  `confined_rootless` is the exact general statement. -/
theorem confined_needs_root :
    ¬ ∀ (base : List Name) (S : State) (op : Op) (r : Result) (S' : State),
        FS.Step base S op r S' → ∀ q, ¬ base <+: q → S' q = S q := by
  intro h
  have hstep : FS.Step [[97], [98]] State.empty (.mkdirAll []) .ok (mkdirSt State.empty ([[97], [98]] ++ [])) := by
    refine Or.inl ⟨?_, rfl, rfl⟩
    intro q _ d
    simp only [State.empty]
    split <;> intro e <;> cases e
  have := h _ _ _ _ _ hstep [[97]] (by decide)
  simp [mkdirSt, State.empty] at this

/-- NOTHING OUTSIDE IS READ OR LISTED.  Two trees that coincide at and below the root of the view (the root
path existing in both) give every call through the view the same possible answers, and the trees afterwards
coincide at and below the root again: answers and effects are a function of the tree below the root. -/
theorem result_local (base : List Name) (S₁ S₂ : State) (hagree : AgreeUnder base S₁ S₂)
    (h1 : RootDirs base S₁) (h2 : RootDirs base S₂) (op : Op) (r : Result) (S₁' : State)
    (h : FS.Step base S₁ op r S₁') :
    ∃ S₂', FS.Step base S₂ op r S₂' ∧ AgreeUnder base S₁' S₂' := by
  cases op with
  | lstat raw =>
    -- `Lstat` of the root names it; it looks at the entry at its path only
    refine ⟨S₂, ⟨rfl, ?_⟩, h.1 ▸ hagree⟩
    cases hn : norm raw with
    | none => simpa only [hn] using h.2
    | some p => simpa only [hn, ← hagree _ (List.prefix_append base p)] using h.2
  | _ => exact step_local_unnamed (fun _ e => by cases e) hagree h1 h2 h

/-- the view's root path is still there afterwards (so `confined` and `result_local` apply to the next call) -/
theorem root_path_kept (base : List Name) (S : State) (op : Op) (r : Result) (S' : State)
    (h : FS.Step base S op r S') (hroot : RootDirs base S) :
    ∀ q, q <+: base → q ≠ base → S' q = some .dir := by
  intro q hq hne
  have hnot : ¬ base <+: q := fun h' => hne (hq.eq_of_length_le h'.length_le)
  rw [step_confined base S op r S' h hroot q hnot]
  exact hroot q hq

-- a tree with a secret next to the view root `in`; a copy inside the view; the secret and the root are untouched
example : RootDirs [[105, 110]] (fun q => if q = [] ∨ q = [[105, 110]] then some .dir else
    if q = [[115]] then some (.file [1]) else none) := by
  intro q hq
  have : q = [] ∨ q = [[105, 110]] := by
    obtain ⟨t, ht⟩ := hq
    cases q with
    | nil => exact Or.inl rfl
    | cons a r =>
      cases r with
      | nil => simp at ht; exact Or.inr (by rw [ht.1])
      | cons b r' => simp at ht
  simp [this]
example : ¬ ([[105, 110]] : List Name) <+: [[115]] := by decide +kernel
example : AgreeUnder [[105, 110]] (fun _ => none) (fun q => if q = [[115]] then some (.file [1]) else none) := by
  intro q hq
  have : q ≠ [[115]] := by rintro rfl; exact absurd hq (by decide)
  simp [this]

/-- the memory root filespace is a bottom that refines the specification (C01 `memfs_refines`) -/
theorem memory_bottom : Refines memBottom [] MemFS.Inv abs :=
  { step := fun t op ht => (MemFS.step_refines .root [] rfl t ht op).spec
    good := fun t op ht => MemFS.step_inv .root [] rfl t ht op }

/-- STACK REFINEMENT (from `downAll_down` / `downAll_refused`, which go by induction on the list of layers).
Over any bottom that refines the specification at `b0`,
a call (any method but `Filespace`, see `view_of_stack`) through a stack of layers with stored bases
`dir₁ … dirₙ`, any `n`, any kinds, is the specification's call at the root `b0 ++ norm dir₁ ++ … ++ norm dirₙ`;
or it fails cleanly — when some stored base climbs (dead view), or when it is a mutation and the stack contains a
read-only mask.  The bottom stays in its good states. -/
theorem stack_refines {σ : Type} (B : Bottom σ) (b0 : List Name) (Good : σ → Prop) (α : σ → State)
    (hB : Refines B b0 Good α) (ls : List Layer) (s : σ) (op : Op) (hs : Good s) (hop : NotFilespace op) :
    Good (run B ls s op).1 ∧
    Outcome (rootOf ls) (hasReadOnly ls) b0 (α s) op (run B ls s op).2 (α (run B ls s op).1) := by
  rw [run_eq_downAll]
  cases h : downAll ls op with
  | some op' =>
    obtain ⟨hd, hq⟩ := downAll_down ls op op' h
    refine ⟨hB.good s op' hs, ?_⟩
    have hstep := hB.step s op' hs
    cases hr : rootOf ls with
    | none => exact hd.dead hr _ _ _ _ hstep
    | some b =>
      simp only [Outcome]
      split
      · next hro => rw [hq hro.1] at hro; cases hro.2
      · exact (hd.live b hr _ _ _ _).mp hstep
  | none =>
    refine ⟨hs, ?_⟩
    cases hr : rootOf ls with
    | none => exact ⟨rfl, rfl⟩
    | some b =>
      simp only [Outcome]
      split
      · exact ⟨rfl, rfl⟩
      · next hn => exact ((downAll_refused ls op hop h b hr).resolve_left hn) b0 _

/-- … hence CONFINED: whatever the call did, every path of the bottom filespace that is not at or below the
stack's root is as it was (for a dead stack: every path). -/
theorem stack_confined {σ : Type} (B : Bottom σ) (b0 : List Name) (Good : σ → Prop) (α : σ → State)
    (hB : Refines B b0 Good α) (ls : List Layer) (s : σ) (op : Op) (hs : Good s) (hop : NotFilespace op)
    (hroot : ∀ b, rootOf ls = some b → RootDirs (b0 ++ b) (α s)) (q : List Name)
    (hq : ∀ b, rootOf ls = some b → ¬ (b0 ++ b) <+: q) :
    α (run B ls s op).1 q = α s q :=
  outcome_confined (stack_refines B b0 Good α hB ls s op hs hop).2 hroot q hq

/-- the same, spelled out for the memory filespace: any stack over `memfs`, any well-formed tree -/
theorem memory_stack_confined (ls : List Layer) (t : Node) (ht : MemFS.Inv t) (op : Op) (hop : NotFilespace op)
    (b : List Name) (hb : rootOf ls = some b) (hroot : RootDirs b (abs t)) (q : List Name) (hq : ¬ b <+: q) :
    abs (run memBottom ls t op).1 q = abs t q := by
  apply stack_confined memBottom [] MemFS.Inv abs memory_bottom ls t op ht hop
  · intro b' hb'; rw [hb] at hb'; cases hb'; simpa using hroot
  · intro b' hb'; rw [hb] at hb'; cases hb'; simpa using hq

/-- WHATEVER THE BOTTOM IS (memory, the host below a disk root, a cache, anything — no assumption): every path
argument that reaches the bottom filespace resolves, by the `ReduceAbsPath` every bottom applies, to the root of
the stack followed by the normal form of the argument the caller gave; it climbs exactly when the stack is dead
(a climbing caller argument never gets that far).  The bottom is only ever asked about paths at or below the
stack's root. -/
theorem stack_delegates_under (ls : List Layer) (op op' : Op) (h : downAll ls op = some op') :
    (opArgs op').map norm = (opArgs op).map fun raw => argAt (rootOf ls) (norm raw) :=
  (downAll_down ls op op' h).1.args

/-- a call through the stack is: refused by some layer, or exactly one call of the bottom with those arguments -/
theorem stack_is_one_bottom_call {σ : Type} (B : Bottom σ) (ls : List Layer) (s : σ) (op : Op) :
    run B ls s op = match downAll ls op with
      | none => (s, failResult op)
      | some op' => B.step s op' :=
  run_eq_downAll B ls s op

/-- A PATH THAT WOULD CLIMB IS REJECTED: through any stack over a refining bottom, a call with a climbing
argument (either argument of a copy) answers the failure of its method and changes nothing. -/
theorem climbing_rejected {σ : Type} (B : Bottom σ) (b0 : List Name) (Good : σ → Prop) (α : σ → State)
    (hB : Refines B b0 Good α) (ls : List Layer) (s : σ) (op : Op) (hs : Good s) (hop : NotFilespace op)
    (raw : Bytes) (hraw : raw ∈ opArgs op) (hn : norm raw = none) :
    (run B ls s op).2 = failResult op ∧ α (run B ls s op).1 = α s :=
  (stack_refines B b0 Good α hB ls s op hs hop).2.elim id fun _ _ => step_climbing raw hraw hn

/-- ROOT REMOVAL IS REFUSED FOR EVERY KIND: `Remove`/`RemoveAll` of a spelling of the view's own root (`""`,
`.`, `a/..` …) through any stack answers an error and changes nothing. -/
theorem root_removal_refused {σ : Type} (B : Bottom σ) (b0 : List Name) (Good : σ → Prop) (α : σ → State)
    (hB : Refines B b0 Good α) (ls : List Layer) (s : σ) (hs : Good s) (raw : Bytes) (hn : norm raw = some []) :
    ((run B ls s (.remove raw)).2 = .err ∧ α (run B ls s (.remove raw)).1 = α s)
    ∧ ((run B ls s (.removeAll raw)).2 = .err ∧ α (run B ls s (.removeAll raw)).1 = α s) :=
  ⟨(stack_refines B b0 Good α hB ls s (.remove raw) hs (fun _ e => by cases e)).2.elim id
      fun _ _ => (NonRoot.remove.step_none (.inr hn)).mp,
   (stack_refines B b0 Good α hB ls s (.removeAll raw) hs (fun _ e => by cases e)).2.elim id
      fun _ _ => (NonRoot.removeAll.step_none (.inr hn)).mp⟩

/-- THE READ-ONLY MASK NEVER MUTATES: through a stack that contains a read-only mask (at any position), none
of the eight mutating methods reaches the bottom filespace at all — whatever the bottom is; the state is
literally unchanged and the answer is an error. -/
theorem readonly_never_mutates {σ : Type} (B : Bottom σ) (ls : List Layer) (s : σ) (op : Op)
    (hro : hasReadOnly ls = true) (hm : isMutator op = true) :
    downAll ls op = none ∧ run B ls s op = (s, .err) := by
  have h := readonly_refuses ls op hro hm
  refine ⟨h, ?_⟩
  rw [run_eq_downAll, h, failResult_mutator hm]

/-- THE ENCRYPTED VIEW DELEGATES NAMES UNCHANGED: it hands every call down as it is, adds nothing to the root,
and a stack with it on top behaves as the stack below it. -/
theorem encrypted_delegates_names {σ : Type} (B : Bottom σ) (dir : Bytes) (ls : List Layer) (s : σ) (op : Op) :
    (⟨.encrypted, dir⟩ : Layer).down op = some op
    ∧ run B (⟨.encrypted, dir⟩ :: ls) s op = run B ls s op
    ∧ rootOf (⟨.encrypted, dir⟩ :: ls) = rootOf ls :=
  ⟨rfl, rfl, by rw [rootOf_cons]; exact rootPlus_nil _⟩

/-- The memory wrapper layer of this model over the memory root IS the child view of the C01 model. -/
theorem wrapper_layer_is_memfs_view (dir : Bytes) (t : Node) (op : Op) (hop : NotFilespace op) :
    run memBottom [⟨.memWrapper, dir⟩] t op = MemFS.step (.wrap (dir ++ [slash])) t op :=
  (run_single ..).trans (MemFS.step_wrap _ t op hop).symm

/-- VIEWS OF VIEWS: `Filespace(raw)` through a stack (any kind on top, any depth) yields a stack that is rooted
at or below the root of the stack it was opened from — or is dead; and its disk layers are live again, so the
statement applies to the views of the new view in turn.  (`DisksLive`: a disk layer stores what `filepath.Abs`
returned, a path that does not climb.  `hview`: the bottom's own `Filespace` does not hand out a disk layer — so
`memBottom`, whose child is a memory wrapper.) -/
theorem view_of_stack {σ : Type} (B : Bottom σ) (s : σ)
    (hview : ∀ raw l, B.view s raw = some l → l.kind ≠ .diskRoot) (ls : List Layer) (raw : Bytes)
    (ls' : List Layer) (hlive : DisksLive ls) (h : openView B s ls raw = some ls') :
    (∀ b', rootOf ls' = some b' → ∃ b, rootOf ls = some b ∧ b <+: b') ∧ DisksLive ls' := by
  obtain ⟨⟨Q, hQ⟩, hl⟩ := openView_root B s hview ls raw ls' hlive h
  refine ⟨fun b' hb' => ?_, hl⟩
  obtain ⟨b, d, hb, _, rfl⟩ := rootPlus_some (hQ ▸ hb')
  exact ⟨b, hb, List.prefix_append _ _⟩

-- `demoStack` = encrypted view of the sub-path view `./in/` of the memory wrapper at `in` (rooted at in/in),
-- `demoRO` = the same below a read-only mask (depth 4), `demoTree` = secret at `s`, files `in/a`, `in/in/a`
-- (definitions in `Goat/Proofs/ViewsMem.lean`)
example : rootOf demoStack = some [[105, 110], [105, 110]] := by decide +kernel
example : rootOf demoRO = some [[105, 110], [105, 110]] ∧ hasReadOnly demoRO = true := by decide +kernel
example : DisksLive demoStack := by intro l hl hk; simp [demoStack, newEncrypted, newSubFS] at hl; rcases hl with rfl | rfl | rfl <;> simp at hk
-- reads inside; `../a` and `../../s` are refused; nothing reaches the bottom for them
example : (run memBottom demoStack demoTree (.readFile [97])).2 = .data [2] := by decide +kernel
example : (run memBottom demoStack demoTree (.readFile [46, 46, 47, 97])).2 = .err := by decide +kernel
example : downAll demoStack (.readFile [46, 46, 47, 46, 46, 47, 115]) = none := by decide +kernel
example : (run memBottom demoStack demoTree (.copy [46, 46, 47, 46, 46, 47, 115] [120])).2 = .err := by decide +kernel
-- what reaches the bottom for `x/../a`: the path in/in/a (the sub-path view stores `path.Clean("./in/")` = in)
example : downAll demoStack (.readFile [120, 47, 46, 46, 47, 97])
    = some (.readFile [105, 110, 47, 105, 110, 47, 97]) := by decide +kernel
-- a write inside succeeds and the secret is still there; the view's own root cannot be removed
example : (run memBottom demoStack demoTree (.writeFile [98] [9])).2 = .ok := by decide +kernel
example : (MemFS.step .root (run memBottom demoStack demoTree (.writeFile [98] [9])).1 (.readFile [115])).2
    = .data [83] := by decide +kernel
example : (run memBottom demoStack demoTree (.removeAll [97, 47, 46, 46])).2 = .err := by decide +kernel
example : norm [97, 47, 46, 46] = some [] := by decide +kernel
-- the read-only stack refuses the write without reaching the bottom, and still reads
example : downAll demoRO (.writeFile [98] [9]) = none ∧ isMutator (.writeFile [98] [9]) = true := by decide +kernel
example : (run memBottom demoRO demoTree (.readFile [97])).2 = .data [2] := by decide +kernel
-- views of views: the read-only child is a read-only mask over a sub-path view; a dead child (`..`) fails every call
example : openView memBottom demoTree demoRO [105, 110]
    = some (newReadOnly :: newSubFS [105, 110] :: demoStack) := by decide +kernel
example : rootOf (newReadOnly :: newSubFS [46, 46] :: demoStack) = none := by decide +kernel
example : (run memBottom (newReadOnly :: newSubFS [46, 46] :: demoStack) demoTree (.readFile [97])).2 = .err := by
  decide +kernel
example : MemFS.Inv demoTree := by
  have h0 := MemFS.inv_empty
  have h1 := memory_bottom.good Node.empty (.writeFile [115] [83]) h0
  have h2 := memory_bottom.good _ (.writeFile [105, 110, 47, 97] [1]) h1
  exact memory_bottom.good _ (.writeFile [105, 110, 47, 105, 110, 47, 97] [2]) h2
example : NotFilespace (.readFile [97]) := fun _ e => by cases e

end Goat.C03
