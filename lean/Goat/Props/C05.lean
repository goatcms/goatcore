/-
Property C05 — encrypted filespace: round-trip, secrecy, integrity, no crash on bad data — stated over the
executable model `Goat/Model/Encrypt.lean`.

  "Whatever is written through the encrypted filespace (whole-file or stream) is read back identically
   through either path by a filespace with the same secret, salt and host binding, while the underlying
   filespace never contains the plaintext and two writes of the same data give different stored bytes.
   Stored bytes that were produced with another secret or salt, or were modified, truncated or emptied, are
   answered with an error - never with data and never with a panic; all name-space operations behave
   exactly as on the underlying filespace."

LEVEL: PARTIAL.  What is proved here is everything AROUND the AEAD: framing, totality (no panic, no leaked
handle), propagation of a refusal, which key reaches `open`, how the nonce enters the stored bytes, that the
plaintext enters them only through `seal`, delegation.  The primitives are parameters: `a : AEAD`
(`seal`/`open`/`nonceSize`/`overhead`), the key-material hash `H`, and `ent` — the bytes `crypto/rand`
delivers.  Their laws appear as HYPOTHESES (`a.Lawful` = `open_seal` + `len_seal`; "no collision of `H` on
this pair"), never as axioms, and `toyAEAD` (a lawful instance) makes every statement non-vacuous.
"Another key / modified bytes → error" therefore reduces to authenticity of AES-GCM, "no plaintext in the
store" to its confidentiality, "two writes differ" to freshness of `crypto/rand`: these are assumptions of
the trusted base, exercised on the real code by `harness/cmd/enc oracle`, not proved.

The unrestricted statement "another secret or salt is answered with an error" is FALSE for this code
(`key_concat_collision`, known finding KF-C05-1): the key material is the plain concatenation
`secret ++ host? ++ salt`.  `other_key` is proved under the negated defect predicate (different
concatenations).

Vocabulary (`Goat/Model/Encrypt.lean`, `Goat/Proofs/Encrypt*.lean`, namespace `Goat.Enc`):
  `mkCipher a H k`    the cipher of kind `k` (`raw` = aesgcm256cfs, `tagged` = extcfs default) of the current tree
  `c.writeVia wp km ent chunks`   bytes stored when `chunks` are written via `wp` (`whole`: one WriteFile of
                      `chunks.flatten`; `stream`: Writer, one Write per chunk, Close) with key material `km`
  `c.readVia rp km stored bad sizes`  reading `stored` via `rp` (`stream`: one `Read` per buffer size in `sizes`,
                      then the rest); `.res` = chunks delivered | error | panic, `.leak` = source handle left open;
                      `bad` = the underlying stream fails instead of reporting EOF
  `content cs`        the bytes delivered, concatenated;  `deliver rp d sizes` what a read delivers of content `d`
  `k.header`          `[]` for `raw`, the 4-byte little-endian tag `0` for `tagged`
  `keyMaterial host set`  `set.secret ++ (if set.hostOnly then host else []) ++ set.salt`
  `ofOpen`            `some p ↦ ok p`, `none ↦ err auth`
  `hstep c kms ent s st` / `hrun c kms ent s steps`  (`Goat/Model/EncHandles.lean`) one step / a history over a state
                      of files and numbered handles (`Handle.reader rest`, `Handle.writer fs file w`), filespace i has
                      key material `kms[i]`; `none` = not well formed; `st.handle?` the handle a step addresses
-/
import Goat.Proofs.EncHandles

namespace Goat.C05

open Goat Goat.Enc

/-- Whatever is written (in any chunks, through either path) is delivered back (for any read buffer sizes,
through either path) by the same key material; nothing panics, no handle is left open. -/
theorem roundtrip (a : AEAD) (hl : a.Lawful) (H : Bytes → Bytes) (k : Kind) (wp rp : Path2)
    (km ent : Bytes) (chunks : List Bytes) (sizes : List Nat) (hent : a.nonceSize ≤ ent.length) :
    ∃ stored cs, (mkCipher a H k).writeVia wp km ent chunks = .ok stored ∧
      (mkCipher a H k).readVia rp km stored false sizes = { res := .ok cs, leak := false } ∧
      content cs = chunks.flatten :=
  roundtrip_of (mk_sound a H k) (mk_invertible a H hl k) wp rp km ent chunks sizes hent

/-- The same for the tag dispatch over ANY cipher map and ANY default tag (not only the shipped
`{0: aesgcm256cfs}`): it preserves the round trip of the ciphers it dispatches to. -/
theorem roundtrip_any_mapping (dflt : UInt32) (mapping : List (UInt32 × Cipher)) (e : Cipher) (ns : Nat)
    (he : extCipher Rev.fixed dflt mapping = some e)
    (hm : ∀ t c, lookupTag t mapping = some c → c.Sound ∧ c.Invertible ns)
    (wp rp : Path2) (km ent : Bytes) (chunks : List Bytes) (sizes : List Nat) (hent : ns ≤ ent.length) :
    ∃ stored cs, e.writeVia wp km ent chunks = .ok stored ∧
      e.readVia rp km stored false sizes = { res := .ok cs, leak := false } ∧
      content cs = chunks.flatten := by
  obtain ⟨d, hd, rfl⟩ := extCipher_eq_some he
  exact roundtrip_of (ext_sound (hm _ _ hd).1 (fun t c h => (hm t c h).1))
    (ext_invertible hd (hm _ _ hd).2) wp rp km ent chunks sizes hent

/-- Through the filespace: a filespace with the same settings (more generally: equal key material) over the
same base reads back what was written, for every base that returns what was stored. -/
theorem roundtrip_fs {β σ ρ : Type} (O : BaseOps β σ ρ) (hO : O.LoadStore)
    (a : AEAD) (hl : a.Lawful) (H : Bytes → Bytes) (k : Kind) (host : Bytes) (base : β) (set : Settings)
    (wp rp : Path2) (p ent : Bytes) (chunks : List Bytes) (sizes : List Nat) (s : σ)
    (hent : a.nonceSize ≤ ent.length) (hacc : ∀ d, ∃ s', O.store base p d s = some s') :
    ∃ s' cs, (newEncryptFS host base set (mkCipher a H k)).write O wp p ent chunks s = .ok s' ∧
      (newEncryptFS host base set (mkCipher a H k)).read O rp p sizes s' = { res := .ok cs, leak := false } ∧
      content cs = chunks.flatten :=
  fs_roundtrip O hO (mk_sound a H k) (mk_invertible a H hl k) host base set set rfl wp rp p ent chunks sizes s
    hent hacc

/-- Length of a stored file: header + nonce + plaintext + AEAD overhead. -/
theorem stored_length (a : AEAD) (hl : a.Lawful) (H : Bytes → Bytes) (k : Kind) (wp : Path2)
    (km ent : Bytes) (chunks : List Bytes) (hent : a.nonceSize ≤ ent.length) :
    ∃ stored, (mkCipher a H k).writeVia wp km ent chunks = .ok stored ∧
      stored.length = k.header.length + a.nonceSize + chunks.flatten.length + a.overhead := by
  refine ⟨_, write_shape a H k wp km ent chunks hent, ?_⟩
  simp only [List.length_append, hl.len_seal, List.length_take_of_le hent]
  omega

-- non-vacuity: the toy AEAD is lawful; a concrete stream-write / stream-read round trip, evaluated
example : toyAEAD.Lawful := toyAEAD_lawful
example :
    (mkCipher toyAEAD id .tagged).writeVia .stream [107] [1, 2, 3, 4, 5, 6, 7, 8, 9, 10, 11, 12, 13] [[104], [], [105, 33]]
      = .ok [0, 0, 0, 0, 1, 2, 3, 4, 5, 6, 7, 8, 9, 10, 11, 12, 104, 105, 33, 69, 13, 186, 3] := by decide +kernel
example :
    (mkCipher toyAEAD id .tagged).readVia .stream [107]
        [0, 0, 0, 0, 1, 2, 3, 4, 5, 6, 7, 8, 9, 10, 11, 12, 104, 105, 33, 69, 13, 186, 3] false [2, 0, 5]
      = { res := .ok [([104, 105], false), ([], false), ([33], true), ([], true)], leak := false } := by decide +kernel

/-- No slice expression and no nonce-length check of the code can panic, and the source handle is closed on
every path — for ALL stored bytes (length 0, 1, … included), either read path, either cipher, any read buffer
sizes, and also when the underlying stream fails.  No law of the AEAD is needed. -/
theorem framing_total (a : AEAD) (H : Bytes → Bytes) (k : Kind) (rp : Path2) (km stored : Bytes) (bad : Bool)
    (sizes : List Nat) :
    (∃ cs, ((mkCipher a H k).readVia rp km stored bad sizes).res = .ok cs ∨
      ∃ e, ((mkCipher a H k).readVia rp km stored bad sizes).res = .err e) ∧
    ((mkCipher a H k).readVia rp km stored bad sizes).res ≠ .panic ∧
    ((mkCipher a H k).readVia rp km stored bad sizes).leak = false := by
  have h := readVia_total (mk_sound a H k) rp km stored bad sizes
  refine ⟨?_, h.1, h.2⟩
  cases hr : ((mkCipher a H k).readVia rp km stored bad sizes).res with
  | ok cs => exact ⟨cs, Or.inl rfl⟩
  | err e => exact ⟨[], Or.inr ⟨e, rfl⟩⟩
  | panic => exact absurd hr h.1

/-- The same for the tag dispatch over any map of sound ciphers. -/
theorem framing_total_any_mapping (dflt : UInt32) (mapping : List (UInt32 × Cipher)) (e : Cipher)
    (he : extCipher Rev.fixed dflt mapping = some e) (hm : ∀ t c, lookupTag t mapping = some c → c.Sound)
    (rp : Path2) (km stored : Bytes) (bad : Bool) (sizes : List Nat) :
    (e.readVia rp km stored bad sizes).res ≠ .panic ∧ (e.readVia rp km stored bad sizes).leak = false := by
  obtain ⟨d, hd, rfl⟩ := extCipher_eq_some he
  exact readVia_total (ext_sound (hm _ _ hd) hm) rp km stored bad sizes

/-- Through the filespace (whatever the base holds under the path). -/
theorem framing_total_fs {β σ ρ : Type} (O : BaseOps β σ ρ) (a : AEAD) (H : Bytes → Bytes) (k : Kind)
    (host : Bytes) (base : β) (set : Settings) (rp : Path2) (p : Bytes) (sizes : List Nat) (s : σ) :
    ((newEncryptFS host base set (mkCipher a H k)).read O rp p sizes s).res ≠ .panic ∧
    ((newEncryptFS host base set (mkCipher a H k)).read O rp p sizes s).leak = false :=
  fs_read_total O _ (mk_sound a H k) rp p sizes s

/-- The write side cannot panic either (it fails only when `crypto/rand` delivers too few bytes). -/
theorem write_total (a : AEAD) (H : Bytes → Bytes) (k : Kind) (wp : Path2) (km ent : Bytes)
    (chunks : List Bytes) : (mkCipher a H k).writeVia wp km ent chunks ≠ .panic := by
  rw [writeVia_eq (mk_sound a H k)]
  exact (mk_sound a H k).enc_total _ _ _

/-- Emptied or truncated below header + nonce: an error, on either path. -/
theorem short_is_error (a : AEAD) (H : Bytes → Bytes) (k : Kind) (rp : Path2) (km stored : Bytes)
    (sizes : List Nat) (h : stored.length < k.header.length + a.nonceSize) :
    ∃ e, (mkCipher a H k).readVia rp km stored false sizes = { res := .err e, leak := false } := by
  obtain ⟨e, he⟩ := decrypt_short a H k km stored h
  exact ⟨e, by rw [readVia_eq (mk_sound a H k), he]; rfl⟩

/-- A cipher tag that is not registered: an error, on either path. -/
theorem unknown_tag_is_error (a : AEAD) (H : Bytes → Bytes) (rp : Path2) (km x : Bytes) (t : UInt32)
    (ht : t ≠ 0) (sizes : List Nat) :
    (mkCipher a H .tagged).readVia rp km (tagBytes t ++ x) false sizes
      = { res := .err .unknownTag, leak := false } := by
  rw [readVia_eq (mk_sound a H .tagged), decrypt_unknown_tag a H km x t ht]; rfl

-- non-vacuity: the empty file, a 5-byte file, an unknown tag — evaluated on the toy instance; and the same
-- inputs on the model of the pinned base DO panic / leak (so `panic` and `leak` are not unreachable by
-- construction of the model)
example : (mkCipher toyAEAD id .tagged).readVia .stream [] [] false [] = { res := .err .short, leak := false } := by
  decide +kernel
example : (mkCipher toyAEAD id .raw).readVia .whole [] [1, 2, 3, 4, 5] false [] = { res := .err .short, leak := false } := by
  decide +kernel
example : (mkCipher toyAEAD id .tagged).readVia .stream [] [9, 0, 0, 0, 1] false []
    = { res := .err .unknownTag, leak := false } := by decide +kernel
theorem pinned_base_panics_and_leaks :
    aesDecrypt Rev.pinned toyAEAD id [] [1, 2, 3, 4, 5] = .panic ∧
    (mkCipherRev Rev.pinned toyAEAD id .tagged).decrypt [] [0, 0] = .panic ∧
    ((mkCipherRev Rev.pinned toyAEAD id .tagged).decryptReader [] { data := [], bad := false, closed := false }).leak
      = true := by
  decide +kernel

/-- If the AEAD refuses (`open = none`) the nonce/ciphertext found in the file, the read fails — both read
paths, both ciphers; in particular no data is delivered. -/
theorem reject_propagates (a : AEAD) (H : Bytes → Bytes) (k : Kind) (rp : Path2) (km n c : Bytes)
    (sizes : List Nat) (hn : n.length = a.nonceSize) (hopen : a.open (H km) n c = none) :
    (mkCipher a H k).readVia rp km (k.header ++ (n ++ c)) false sizes = { res := .err .auth, leak := false } := by
  rw [read_frame a H k rp km n c sizes hn, hopen]; rfl

/-- Conversely data is delivered only if the AEAD accepted, and then it is exactly what the AEAD returned. -/
theorem data_only_from_open (a : AEAD) (H : Bytes → Bytes) (k : Kind) (rp : Path2) (km n c : Bytes)
    (sizes : List Nat) (hn : n.length = a.nonceSize) (cs : List (Bytes × Bool))
    (h : ((mkCipher a H k).readVia rp km (k.header ++ (n ++ c)) false sizes).res = .ok cs) :
    a.open (H km) n c = some (content cs) := by
  rw [read_frame a H k rp km n c sizes hn] at h
  cases ho : a.open (H km) n c with
  | none => rw [ho] at h; cases h
  | some p =>
    rw [ho] at h
    obtain ⟨cs', h1, h2⟩ := deliver_ok rp p sizes
    change deliver rp p sizes = .ok cs at h
    cases h1.symm.trans h
    rw [h2]

-- non-vacuity: one flipped ciphertext byte is refused by the toy AEAD, hence by the read
example : toyAEAD.open [107] [1, 2, 3, 4, 5, 6, 7, 8, 9, 10, 11, 12] [104, 104, 33, 69, 13, 186, 3] = none := by
  decide +kernel
example :
    (mkCipher toyAEAD id .tagged).readVia .stream [107]
        [0, 0, 0, 0, 1, 2, 3, 4, 5, 6, 7, 8, 9, 10, 11, 12, 104, 104, 33, 69, 13, 186, 3] false [1]
      = { res := .err .auth, leak := false } := by decide +kernel

/-! Which key reaches `open`: another secret / salt / host binding.

Full-strength statement of the property's clause (NOT provable, see `other_key_full_false` /
`key_concat_collision` below — known finding KF-C05-1):

    ∀ s₁ s₂, (s₁.secret ≠ s₂.secret ∨ s₁.salt ≠ s₂.salt) →
      the key handed to `open` by a filespace with settings s₂ differs from the sealing key of s₁
      (and hence, by authenticity of the AEAD, the read is an error)

`other_key` is its `_partial` form: the same conclusion under the negated defect predicate
`secret₁ ++ host₁ ++ salt₁ ≠ secret₂ ++ host₂ ++ salt₂`. -/

/-- A filespace whose `secret ++ host? ++ salt` differs from the writer's hands a DIFFERENT key (provided `H`
does not collide on these two inputs) to `open`, together with the writer's nonce and sealed text; the
outcome of the read is the outcome of that `open`.  So "another secret or salt → error" is exactly the
authenticity of the AEAD under a wrong key (see `reject_propagates`). -/
theorem other_key (a : AEAD) (H : Bytes → Bytes) (host : Bytes) (s₁ s₂ : Settings)
    (hne : s₁.secret ++ (if s₁.hostOnly then host else []) ++ s₁.salt
         ≠ s₂.secret ++ (if s₂.hostOnly then host else []) ++ s₂.salt)
    (hcoll : H (keyMaterial host s₁) = H (keyMaterial host s₂) → keyMaterial host s₁ = keyMaterial host s₂)
    (k : Kind) (wp rp : Path2) (ent : Bytes) (chunks : List Bytes) (sizes : List Nat)
    (hent : a.nonceSize ≤ ent.length) :
    let n := ent.take a.nonceSize
    let key₁ := H (keyMaterial host s₁)
    let key₂ := H (keyMaterial host s₂)
    let stored := k.header ++ (n ++ a.seal key₁ n chunks.flatten)
    key₁ ≠ key₂ ∧
    (mkCipher a H k).writeVia wp (keyMaterial host s₁) ent chunks = .ok stored ∧
    (mkCipher a H k).readVia rp (keyMaterial host s₂) stored false sizes
      = { res := (ofOpen (a.open key₂ n (a.seal key₁ n chunks.flatten))).bind fun p => deliver rp p sizes,
          leak := false } := by
  refine ⟨fun h => hne (hcoll h), write_shape a H k wp _ ent chunks hent, ?_⟩
  exact read_frame a H k rp _ _ _ sizes (List.length_take_of_le hent)

/-- …and when the AEAD refuses the wrong key, the read is an error. -/
theorem other_key_rejected (a : AEAD) (H : Bytes → Bytes) (host : Bytes) (s₁ s₂ : Settings)
    (k : Kind) (wp rp : Path2) (ent : Bytes) (chunks : List Bytes) (sizes : List Nat)
    (hent : a.nonceSize ≤ ent.length)
    (hauth : a.open (H (keyMaterial host s₂)) (ent.take a.nonceSize)
        (a.seal (H (keyMaterial host s₁)) (ent.take a.nonceSize) chunks.flatten) = none) :
    ∃ stored, (mkCipher a H k).writeVia wp (keyMaterial host s₁) ent chunks = .ok stored ∧
      (mkCipher a H k).readVia rp (keyMaterial host s₂) stored false sizes = { res := .err .auth, leak := false } :=
  ⟨_, write_shape a H k wp _ ent chunks hent,
    reject_propagates a H k rp _ _ _ sizes (List.length_take_of_le hent) hauth⟩

-- non-vacuity: secret "a" vs secret "b" (no salt) on the toy instance: different concatenations, `id` does
-- not collide, the toy AEAD refuses
example : ([97] : Bytes) ++ (if false then [] else []) ++ [] ≠ [98] ++ (if false then [] else []) ++ [] := by decide +kernel
example :
    toyAEAD.open (id (keyMaterial [] ⟨[98], [], false⟩)) [1, 2, 3, 4, 5, 6, 7, 8, 9, 10, 11, 12]
      (toyAEAD.seal (id (keyMaterial [] ⟨[97], [], false⟩)) [1, 2, 3, 4, 5, 6, 7, 8, 9, 10, 11, 12] [104, 105])
      = none := by decide +kernel

/-- KNOWN FINDING KF-C05-1 — the DISPROOF of `other_key` without its hypothesis: the settings
(secret "st", salt "") and (secret "s", salt "t") are different, yet have the same key material, so (for
every lawful AEAD, every hash, both ciphers, all four path pairs) the second filespace reads what the first
wrote. -/
theorem key_concat_collision :
    kfA ≠ kfB ∧ kfA.secret = [115, 116] ∧ kfA.salt = [] ∧ kfB.secret = [115] ∧ kfB.salt = [116] ∧
    ∀ (a : AEAD) (_ : a.Lawful) (H : Bytes → Bytes) (k : Kind) (host : Bytes) (wp rp : Path2) (ent : Bytes)
      (chunks : List Bytes) (sizes : List Nat), a.nonceSize ≤ ent.length →
      ∃ stored cs, (mkCipher a H k).writeVia wp (keyMaterial host kfA) ent chunks = .ok stored ∧
        (mkCipher a H k).readVia rp (keyMaterial host kfB) stored false sizes = { res := .ok cs, leak := false } ∧
        content cs = chunks.flatten := by
  refine ⟨by decide, rfl, rfl, rfl, rfl, ?_⟩
  intro a hl H k host wp rp ent chunks sizes hent
  rw [← kf_same_material host]
  exact roundtrip a hl H k wp rp _ ent chunks sizes hent

/-- Hence the unrestricted claim "settings with another secret or salt have other key material" is false. -/
theorem other_key_full_false :
    ¬ ∀ (host : Bytes) (s₁ s₂ : Settings), (s₁.secret ≠ s₂.secret ∨ s₁.salt ≠ s₂.salt) →
        keyMaterial host s₁ ≠ keyMaterial host s₂ := by
  intro h
  exact h [] kfA kfB (Or.inl (by decide)) (kf_same_material [])

/-- What the code does about host binding: `idutil.HostID()` returns `""`, so `HostOnly` changes nothing. -/
theorem host_binding_inert (secret salt : Bytes) :
    keyMaterial hostIDActual ⟨secret, salt, true⟩ = keyMaterial hostIDActual ⟨secret, salt, false⟩ := by
  simp [keyMaterial, hostIDActual]

/-- Key material is a VALUE fixed at construction: in a history in which any number of filespaces are built
from any settings (before or after this one), filespace `i` uses exactly the key material of ITS settings.
(The Go constructor must therefore copy the caller's `Secret`/`Salt` into a fresh slice; the correspondence
runs build the settings from shared buffers with spare capacity and overwrite them afterwards.) -/
theorem construction_independent {β : Type} (host : Bytes) (base : β) (c : Cipher) (sets : List Settings)
    (i : Nat) (h : i < sets.length) :
    ((sets.map fun s => newEncryptFS host base s c)[i]'(by simpa using h)).hash = keyMaterial host sets[i] := by
  simp [newEncryptFS]

example : (([⟨[115], [97], false⟩, ⟨[115], [98], false⟩] : List Settings).map
    fun s => newEncryptFS [] () s (mkCipher toyAEAD id .raw))[0].hash = [115, 97] := by decide +kernel

/-- Two writes whose `crypto/rand` draws differ in their first `nonceSize` bytes store different bytes —
whatever the data (equal or not), key material, path, cipher. -/
theorem fresh_nonce_distinct (a : AEAD) (H : Bytes → Bytes) (k : Kind) (wp₁ wp₂ : Path2)
    (km₁ km₂ ent₁ ent₂ : Bytes) (chunks₁ chunks₂ : List Bytes)
    (h₁ : a.nonceSize ≤ ent₁.length) (h₂ : a.nonceSize ≤ ent₂.length)
    (hne : ent₁.take a.nonceSize ≠ ent₂.take a.nonceSize) :
    (mkCipher a H k).writeVia wp₁ km₁ ent₁ chunks₁ ≠ (mkCipher a H k).writeVia wp₂ km₂ ent₂ chunks₂ := by
  rw [write_shape a H k wp₁ km₁ ent₁ chunks₁ h₁, write_shape a H k wp₂ km₂ ent₂ chunks₂ h₂]
  intro e
  injection e with e
  -- the headers are equal; the nonces that follow have equal length and differ
  exact hne (List.append_inj (List.append_cancel_left e)
    (by rw [List.length_take_of_le h₁, List.length_take_of_le h₂])).1

example : ([1, 2, 3, 4, 5, 6, 7, 8, 9, 10, 11, 12, 0] : Bytes).take toyAEAD.nonceSize
    ≠ ([1, 2, 3, 4, 5, 6, 7, 8, 9, 10, 11, 13, 0] : Bytes).take toyAEAD.nonceSize := by decide +kernel

/-- The stored bytes are a fixed function of the nonce and of `seal key nonce plaintext` alone: the framing
adds nothing that depends on the plaintext or the key (so what the store reveals about the plaintext is what
the AEAD's output reveals). -/
theorem plaintext_only_via_seal (a : AEAD) (H : Bytes → Bytes) (k : Kind) :
    ∃ f : Bytes → Bytes → Bytes, ∀ (wp : Path2) (km ent : Bytes) (chunks : List Bytes),
      a.nonceSize ≤ ent.length →
      (mkCipher a H k).writeVia wp km ent chunks
        = .ok (f (ent.take a.nonceSize) (a.seal (H km) (ent.take a.nonceSize) chunks.flatten)) :=
  ⟨fun n c => k.header ++ (n ++ c), fun wp km ent chunks h => write_shape a H k wp km ent chunks h⟩

/-- Copy, CopyDirectory, CopyFile, ReadDir, IsExist, IsFile, IsDir, MkdirAll, Remove, RemoveAll, Lstat: result
and state change are exactly the base's (whatever the settings and the cipher); `Filespace(path)` is the base's
child wrapped with the same cipher and key material. -/
theorem namespace_ops_delegate {β σ ρ : Type} (O : BaseOps β σ ρ) (host : Bytes) (base : β) (set : Settings)
    (c : Cipher) (s : σ) :
    (∀ op : NsOp, (newEncryptFS host base set c).ns O op s = O.ns base op s) ∧
    (∀ p : Bytes, (newEncryptFS host base set c).sub O p s
        = (O.sub base p s).map fun b => newEncryptFS host b set c) :=
  ⟨fun _ => rfl, fun _ => rfl⟩

-- non-vacuity: a base that logs its calls; the encrypted filespace's Remove("x") is the base's Remove("x")
example :
    (newEncryptFS [] () ⟨[1], [2], false⟩ (mkCipher toyAEAD id .raw)).ns
        (⟨fun _ op log => (log.length, log ++ [op]), fun _ _ _ => some (), fun _ _ _ => none,
          fun _ _ _ _ => none⟩ : BaseOps Unit (List NsOp) Nat) (.remove [120]) [.isDir []]
      = (1, [.isDir [], .remove [120]]) := rfl

/-- `Reader(path)` through a filespace whose key material wrote the file (whole-file or stream, any chunking):
the reader object holds exactly the content written. -/
theorem reader_holds_content_at_open (a : AEAD) (hl : a.Lawful) (H : Bytes → Bytes) (k : Kind) (wp : Path2)
    (kms : List Bytes) (fs file h : Nat) (km ent ent' : Bytes) (chunks : List Bytes) (s : HState) (stored : Bytes)
    (hkm : kms[fs]? = some km) (hent : a.nonceSize ≤ ent.length)
    (hw : (mkCipher a H k).writeVia wp km ent chunks = .ok stored) (hfile : s.file file = some stored)
    (hfree : s.busy file = false) (hfresh : s.handle h = none) :
    hstep (mkCipher a H k) kms ent' s (.openReader fs file h)
      = some (s.setHandle h (.reader chunks.flatten), .ok) :=
  openReader_on_written (mk_sound a H k) (mk_invertible a H hl k) ent' hkm hw hfile hfree hfresh

/-- Whatever happens in between — a history of ANY length and ANY cipher, none of whose steps addresses handle `h`:
other readers opened, read, closed (on any file, through any filespace), whole-file writes to any file INCLUDING
the reader's own, writers opened, written, closed in any order — an open reader still holds, and on a
read-to-the-end delivers, exactly what it held. -/
theorem open_reader_untouched (c : Cipher) (kms : List Bytes) (ent : Bytes) (h : Nat) (d : Bytes)
    (steps : List HStep) (s s' : HState) (outs : List HOut)
    (hopen : s.handle h = some (.reader d)) (hother : ∀ st ∈ steps, st.handle? ≠ some h)
    (hr : hrun c kms ent s steps = some (s', outs)) :
    s'.handle h = some (.reader d) ∧
      hstep c kms ent s' (.readAll h) = some (s'.setHandle h (.reader []), .data d none) := by
  have hf := hrun_frame hother hr
  rw [hopen] at hf
  exact ⟨hf, by simp [hstep, hf]⟩

/-- Both together: a reader opened on written content delivers THAT content after any such history. -/
theorem reader_delivers_content_at_open (a : AEAD) (hl : a.Lawful) (H : Bytes → Bytes) (k : Kind) (wp : Path2)
    (kms : List Bytes) (fs file h : Nat) (km ent ent' : Bytes) (chunks : List Bytes) (s s' : HState)
    (stored : Bytes) (steps : List HStep) (outs : List HOut)
    (hkm : kms[fs]? = some km) (hent : a.nonceSize ≤ ent.length)
    (hw : (mkCipher a H k).writeVia wp km ent chunks = .ok stored) (hfile : s.file file = some stored)
    (hfree : s.busy file = false) (hfresh : s.handle h = none)
    (hother : ∀ st ∈ steps, st.handle? ≠ some h)
    (hr : hrun (mkCipher a H k) kms ent' (s.setHandle h (.reader chunks.flatten)) steps = some (s', outs)) :
    hrun (mkCipher a H k) kms ent' s (.openReader fs file h :: steps ++ [.readAll h])
      = some (s'.setHandle h (.reader []), .ok :: outs ++ [.data chunks.flatten none]) := by
  have ho := reader_holds_content_at_open a hl H k wp kms fs file h km ent ent' chunks s stored hkm hent hw hfile
    hfree hfresh
  have hd := (open_reader_untouched (mkCipher a H k) kms ent' h chunks.flatten steps _ s' outs
    (handle_setHandle_self s h _) hother hr).2
  exact hrun_cons_eq_some.mpr ⟨_, _, _, ho, hrun_append_one hr hd, rfl⟩

-- non-vacuity: two files, a reader on each (the second opened before the first is read), the first file is
-- overwritten, a writer on a third file is open meanwhile: reader 1 delivers what file 0 held when it was opened
example :
    (hrun (mkCipher toyAEAD id .tagged) [[1], [2]] [1, 2, 3, 4, 5, 6, 7, 8, 9, 10, 11, 12] HState.empty
      [.writeFile 0 0 [104, 105], .writeFile 0 1 [98, 121, 101], .openReader 0 0 1, .openReader 0 1 2,
       .openReader 1 1 3, .writeFile 0 0 [110, 101, 119], .openWriter 0 2 4, .write 4 [122], .readAll 2,
       .readAll 1, .closeWriter 4, .readFile 0 0, .readFile 0 2]).map (·.2)
      = some [.ok, .ok, .ok, .ok, .err, .ok, .ok, .ok, .data [98, 121, 101] none, .data [104, 105] none, .ok,
              .data [110, 101, 119] none, .data [122] none] := by
  decide +kernel

end Goat.C05
