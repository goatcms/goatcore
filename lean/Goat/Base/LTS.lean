/-
Base/LTS — the small labelled-transition-system kit shared by the schedule-quantified
properties (DESIGN section 2).  Core Lean only.

A system has a state type `σ`, a type `ι` of scheduling choices ("which thread moves", "which
nondeterministic alternative is taken") and a partial step function: `step s i = none` means that
choice `i` is *disabled* in `s` (the thread is blocked on a lock, has finished, does not exist…).
A schedule is any `List ι`; running it takes the enabled choices and skips the disabled ones, so
"for all schedules" is "for all lists", of any length, over any number of threads.
-/
namespace Goat.LTS

structure Sys (σ : Type) (ι : Type) where
  init : σ
  step : σ → ι → Option σ

variable {σ ι : Type}

/-- one scheduling decision: take the step if enabled, otherwise nothing happens -/
def Sys.next (S : Sys σ ι) (s : σ) (i : ι) : σ := (S.step s i).getD s

/-- run a schedule from a state -/
def Sys.runFrom (S : Sys σ ι) (s : σ) (sched : List ι) : σ := sched.foldl S.next s

/-- run a schedule from the initial state -/
def Sys.run (S : Sys σ ι) (sched : List ι) : σ := S.runFrom S.init sched

/-- the choices of a schedule that were enabled when their turn came (the actions that occurred),
each with the state it was taken from -/
def Sys.firedFrom (S : Sys σ ι) : σ → List ι → List (σ × ι)
  | _, [] => []
  | s, i :: rest =>
    match S.step s i with
    | some t => (s, i) :: S.firedFrom t rest
    | none => S.firedFrom s rest

def Sys.fired (S : Sys σ ι) (sched : List ι) : List (σ × ι) := S.firedFrom S.init sched

inductive Reachable (S : Sys σ ι) : σ → Prop where
  | init : Reachable S S.init
  | step {s t : σ} (i : ι) : Reachable S s → S.step s i = some t → Reachable S t

/-- no choice is enabled -/
def Stuck (S : Sys σ ι) (s : σ) : Prop := ∀ i, S.step s i = none

theorem inv_of_init_step (S : Sys σ ι) (Inv : σ → Prop) (h0 : Inv S.init)
    (hstep : ∀ s i t, Inv s → S.step s i = some t → Inv t) :
    ∀ s, Reachable S s → Inv s := by
  intro s h
  induction h with
  | init => exact h0
  | step i _ hs ih => exact hstep _ i _ ih hs

theorem runFrom_nil (S : Sys σ ι) (s : σ) : S.runFrom s [] = s := rfl

theorem runFrom_cons (S : Sys σ ι) (s : σ) (i : ι) (rest : List ι) :
    S.runFrom s (i :: rest) = S.runFrom (S.next s i) rest := rfl

theorem runFrom_append (S : Sys σ ι) (s : σ) (a b : List ι) :
    S.runFrom s (a ++ b) = S.runFrom (S.runFrom s a) b := by
  simp [Sys.runFrom, List.foldl_append]

theorem runFrom_induction (S : Sys σ ι) (p : σ → Prop) (hstep : ∀ s i t, p s → S.step s i = some t → p t)
    {s : σ} (h : p s) (sched : List ι) : p (S.runFrom s sched) := by
  induction sched generalizing s with
  | nil => exact h
  | cons i rest ih =>
    rw [runFrom_cons]
    unfold Sys.next
    cases hs : S.step s i with
    | none => exact ih h
    | some t => exact ih (hstep s i t h hs)

theorem runFrom_reachable (S : Sys σ ι) {s : σ} (h : Reachable S s) (sched : List ι) :
    Reachable S (S.runFrom s sched) :=
  runFrom_induction S (Reachable S) (fun _ i _ h hs => .step i h hs) h sched

theorem run_reachable (S : Sys σ ι) (sched : List ι) : Reachable S (S.run sched) :=
  runFrom_reachable S Reachable.init sched

theorem inv_run (S : Sys σ ι) (Inv : σ → Prop) (h0 : Inv S.init)
    (hstep : ∀ s i t, Inv s → S.step s i = some t → Inv t) (sched : List ι) : Inv (S.run sched) :=
  inv_of_init_step S Inv h0 hstep _ (run_reachable S sched)

theorem firedFrom_sound (S : Sys σ ι) {s0 : σ} (h0 : Reachable S s0) (sched : List ι) :
    ∀ p ∈ S.firedFrom s0 sched, Reachable S p.1 ∧ ∃ t, S.step p.1 p.2 = some t := by
  induction sched generalizing s0 with
  | nil => intro p hp; simp [Sys.firedFrom] at hp
  | cons i rest ih =>
    intro p hp
    simp only [Sys.firedFrom] at hp
    cases hs : S.step s0 i with
    | none =>
      rw [hs] at hp
      exact ih h0 p hp
    | some t =>
      rw [hs] at hp
      rcases List.mem_cons.mp hp with hp | hp
      · subst hp
        exact ⟨h0, t, hs⟩
      · exact ih (Reachable.step i h0 hs) p hp

theorem fired_sound (S : Sys σ ι) (sched : List ι) :
    ∀ p ∈ S.fired sched, Reachable S p.1 ∧ ∃ t, S.step p.1 p.2 = some t :=
  firedFrom_sound S Reachable.init sched

theorem run_append (S : Sys σ ι) (a b : List ι) : S.run (a ++ b) = S.runFrom (S.run a) b :=
  runFrom_append S S.init a b

theorem next_of_step {S : Sys σ ι} {s t : σ} {i : ι} (h : S.step s i = some t) : S.next s i = t := by
  rw [Sys.next, h]; rfl

theorem countP_fired_le_measure (S : Sys σ ι) (Inv : σ → Prop) (μ : σ → Nat) (q : σ × ι → Bool)
    (hstep : ∀ s i t, Inv s → S.step s i = some t → Inv t ∧ μ t + (if q (s, i) then 1 else 0) ≤ μ s) :
    ∀ (sched : List ι) (s : σ), Inv s → (S.firedFrom s sched).countP q ≤ μ s
  | [], _, _ => Nat.zero_le _
  | i :: rest, s, hs => by
    unfold Sys.firedFrom
    cases hst : S.step s i with
    | none => exact countP_fired_le_measure S Inv μ q hstep rest s hs
    | some t =>
      have ⟨ht, hle⟩ := hstep s i t hs hst
      have := countP_fired_le_measure S Inv μ q hstep rest t ht
      simp only [List.countP_cons]; omega

theorem fired_le_measure (S : Sys σ ι) (Inv : σ → Prop) (μ : σ → Nat)
    (hstep : ∀ s i t, Inv s → S.step s i = some t → Inv t ∧ μ t < μ s)
    (sched : List ι) (s : σ) (hs : Inv s) : (S.firedFrom s sched).length ≤ μ s :=
  -- `μ t < μ s` unfolds to `μ t + 1 ≤ μ s`, the lemma's `hstep` once `if true` is reduced
  List.countP_true ▸ countP_fired_le_measure S Inv μ (fun _ => true)
    (fun s i t h hst => ⟨(hstep s i t h hst).1, (hstep s i t h hst).2⟩) sched s hs

theorem can_reach_final (S : Sys σ ι) (Inv Final : σ → Prop) (μ : σ → Nat)
    (hstep : ∀ s i t, Inv s → S.step s i = some t → Inv t ∧ μ t < μ s)
    (hprog : ∀ s, Inv s → ¬ Final s → ∃ i, (S.step s i).isSome = true) (s : σ) (hs : Inv s) :
    ∃ sched : List ι, Final (S.runFrom s sched) := by
  induction hn : μ s using Nat.strongRecOn generalizing s with
  | _ n ih =>
    by_cases hf : Final s
    · exact ⟨[], hf⟩
    · obtain ⟨i, hen⟩ := hprog s hs hf
      obtain ⟨t, hst⟩ := Option.isSome_iff_exists.mp hen
      have ⟨ht, hlt⟩ := hstep s i t hs hst
      obtain ⟨sched, hfin⟩ := ih _ (hn ▸ hlt) t ht rfl
      exact ⟨i :: sched, by rwa [runFrom_cons, next_of_step hst]⟩

theorem sum_map_set {α} (f : α → Nat) (b : α) : ∀ {l : List α} {i : Nat} {a : α}, l[i]? = some a →
    ((l.set i b).map f).sum + f a = (l.map f).sum + f b
  | _ :: _, 0, _, h => by
    simp only [List.getElem?_cons_zero, Option.some.injEq] at h
    simp only [h, List.set_cons_zero, List.map_cons, List.sum_cons]; omega
  | _ :: l, i + 1, _, h => by
    have := sum_map_set f b (l := l) (i := i) h
    simp only [List.set_cons_succ, List.map_cons, List.sum_cons]; omega

theorem sum_map_le {α} {f f' : α → Nat} : ∀ {l : List α}, (∀ a ∈ l, f' a ≤ f a) → (l.map f').sum ≤ (l.map f).sum
  | [], _ => Nat.le_refl _
  | a :: l, h => by
    have := h a (by simp); have := sum_map_le (l := l) fun b hb => h b (by simp [hb])
    simp only [List.map_cons, List.sum_cons]; omega

theorem sum_map_lt {α} {f f' : α → Nat} : ∀ {l : List α}, (∀ a ∈ l, f' a ≤ f a) → ∀ {x}, x ∈ l → f' x < f x →
    (l.map f').sum < (l.map f).sum
  | a :: l, h, x, hx, hlt => by
    have := h a (by simp); have := sum_map_le (l := l) fun b hb => h b (by simp [hb])
    simp only [List.map_cons, List.sum_cons]
    rcases List.mem_cons.1 hx with rfl | hx
    · omega
    · have := sum_map_lt (l := l) (fun b hb => h b (by simp [hb])) hx hlt; omega

theorem le_sum_map {α} (f : α → Nat) : ∀ {l : List α} {a : α}, a ∈ l → f a ≤ (l.map f).sum
  | b :: l, a, h => by
    simp only [List.map_cons, List.sum_cons]
    rcases List.mem_cons.1 h with rfl | h
    · omega
    · have := le_sum_map f h; omega

end Goat.LTS
