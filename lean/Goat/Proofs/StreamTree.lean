/-
A concrete tree as the source of a copy (`stateOf`, `nodesOf` of `Goat/Model/Stream.lean`): its items are exactly its
nodes below the root, so any permutation of them `Visits` it, and `tree_source` hands the copy theorems of
`StreamCopy`/`StreamOk` what they ask of a source view.
-/
import Goat.Proofs.StreamCopy
import Goat.Proofs.MemFSAbs

namespace Goat
namespace Stream

theorem entryOf_eq : @entryOf = @Node.entry := by funext m; cases m <;> rfl

theorem stateOf_eq_abs (t : Node) : stateOf t = abs t := by unfold stateOf abs; rw [entryOf_eq]

theorem mem_nodesOf (k : Kids) (hnd : (Node.dir k).NoDup) (it : Item) :
    it ∈ nodesOf (.dir k) ↔ it.2 ≠ [] ∧ ∃ e, stateOf (.dir k) it.2 = some e ∧ e.isDir = it.1 := by
  obtain ⟨b, p⟩ := it
  rw [nodesOf, List.mem_map]
  constructor
  · rintro ⟨⟨q, x⟩, hx, hb⟩
    obtain ⟨s, r, m, rfl, hl, rfl⟩ := (k.mem_walk ((Node.nodup_dir k).mp hnd) [] q x).mp hx
    cases hb
    exact ⟨List.cons_ne_nil _ _, entryOf m, congrArg (Option.map entryOf) hl,
      by rw [entryOf_eq, MemAbs.entry_isDir, Node.content_isNone]⟩
  · rintro ⟨hp, e, he, rfl⟩
    cases p with
    | nil => exact absurd rfl hp
    | cons s r =>
      cases hl : (Node.dir k).lookup (s :: r) with
      | none => cases (congrArg (Option.map entryOf) hl).symm.trans he
      | some m =>
        cases (congrArg (Option.map entryOf) hl).symm.trans he
        exact ⟨(s :: r, m.content), (k.mem_walk ((Node.nodup_dir k).mp hnd) [] _ _).mpr ⟨s, r, m, rfl, hl, rfl⟩,
          by rw [entryOf_eq, MemAbs.entry_isDir, Node.content_isNone]⟩

theorem visits_of_perm (k : Kids) (hnd : (Node.dir k).NoDup) (order : List Item)
    (hperm : order.Perm (nodesOf (.dir k))) : Visits (stateOf (.dir k)) order := by
  constructor
  · intro it hit
    obtain ⟨hne, e, hst, he⟩ := (mem_nodesOf k hnd it).mp (hperm.mem_iff.mp hit)
    refine ⟨hne, by rw [hst]; exact Option.some_ne_none e, fun hb => ?_, fun q ⟨r, hr⟩ hqne => ?_⟩
    · rw [hst]
      cases e with
      | dir => rfl
      | file d => rw [hb] at he; cases he
    · rw [stateOf_eq_abs] at hst ⊢
      exact (MemAbs.abs_closed (.dir k)).anc_dir q r (fun e => hqne (by rw [← hr, e, List.append_nil]))
        (by rw [hr, hst]; exact Option.some_ne_none _)
  · intro q e hq hs
    exact hperm.mem_iff.mpr ((mem_nodesOf k hnd (e.isDir, q)).mpr ⟨hq, e, hs, rfl⟩)

theorem nodesOf_file (k : Kids) (hnd : (Node.dir k).NoDup) (it : Item) (h : it ∈ nodesOf (.dir k))
    (hf : it.1 = false) : ∃ d, stateOf (.dir k) it.2 = some (.file d) := by
  obtain ⟨_, e, hst, he⟩ := (mem_nodesOf k hnd it).mp h
  cases e with
  | dir => rw [hf] at he; cases he
  | file d => exact ⟨d, hst⟩

theorem tree_source (src : Src) (sb : Path) (k : Kids) (order : List Item) (hnd : (Node.dir k).NoDup)
    (hsrc : ∀ q, src.st (sb ++ q) = stateOf (.dir k) q) (hperm : order.Perm (nodesOf (.dir k))) :
    src.st sb = some .dir ∧ Visits (fun q => src.st (sb ++ q)) order
      ∧ ∀ it ∈ order, it.1 = false → ∃ d, src.st (sb ++ it.2) = some (.file d) := by
  have hfun : (fun q => src.st (sb ++ q)) = stateOf (.dir k) := funext hsrc
  refine ⟨?_, ?_, ?_⟩
  · have := hsrc []
    rwa [List.append_nil] at this
  · rw [hfun]; exact visits_of_perm k hnd order hperm
  · intro it hit hf
    rw [hsrc]
    exact nodesOf_file k hnd it (hperm.mem_iff.mp hit) hf

end Stream
end Goat
