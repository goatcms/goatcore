/-
Confinement over whole histories: the filespace's root directory survives every call and nothing outside it
changes, through the filespace and every view opened from it (`Conf`, `conf_run`); no outcome is a panic.
-/
import Goat.Proofs.DiskFSFrame
import Goat.Proofs.DiskFSRun

namespace Goat
namespace DiskFS

open Path (Name norm)
open FS (Op Result Entry State TreeLike)

/-- invariant of a history over a disk filespace rooted at `r0` on a host that was `H0` at the start -/
structure Conf (r0 : HPath) (H0 : Host) (dw : World) : Prop where
  wf : dw.host.WF
  root : dw.host.get r0 = some .dir
  views : ∀ v ∈ dw.views, r0 <+: v
  outside : ∀ q, ¬ r0 <+: q → dw.host.get q = H0.get q

theorem conf_init (H0 : Host) (r0 : HPath) (hwf : H0.WF) (hroot : H0.get r0 = some .dir) :
    Conf r0 H0 (World.init H0 r0) :=
  ⟨hwf, hroot, by intro v hv; simp [World.init] at hv; subst hv; exact List.prefix_refl _, fun _ _ => rfl⟩

theorem conf_step (r0 : HPath) (H0 : Host) (dw : World) (hc : Conf r0 H0 dw) (h : Nat) (op : Op) :
    Conf r0 H0 (dw.step h op).1 ∧ (dw.step h op).2 ≠ .panic := by
  cases hh : dw.views[h]? with
  | none =>
    rw [world_step_none dw h op hh]
    exact ⟨hc, by simp⟩
  | some r =>
    obtain ⟨hhost, hres, hviews⟩ := world_step_some dw h op r hh
    obtain ⟨b, rfl⟩ := World.view_under hc.views hh
    obtain ⟨hwf', hnp, _⟩ := step_clean (r0 ++ b) dw.host hc.wf op
    refine ⟨⟨by rw [hhost]; exact hwf', ?_, ?_, ?_⟩, by rw [hres]; exact hnp⟩
    · rw [hhost]; exact step_keeps_root r0 b dw.host hc.wf hc.root op
    · rw [hviews]; exact viewsNext_under hc.views
    · intro q hq
      rw [hhost, step_outside_root r0 b dw.host hc.wf hc.root op q hq]
      exact hc.outside q hq

theorem conf_run (r0 : HPath) (H0 : Host) (dw : World) (hc : Conf r0 H0 dw) (ops : List (Nat × Op)) :
    Conf r0 H0 (dw.run ops).1 ∧ ∀ o ∈ (dw.run ops).2, o ≠ .panic := by
  induction ops generalizing dw with
  | nil => exact ⟨hc, by intro o ho; simp [World.run] at ho⟩
  | cons x rest ih =>
    obtain ⟨h, op⟩ := x
    obtain ⟨hc1, hn1⟩ := conf_step r0 H0 dw hc h op
    obtain ⟨hc2, hn2⟩ := ih (dw.step h op).1 hc1
    rw [World.run_cons]
    refine ⟨hc2, ?_⟩
    intro o ho
    rcases List.mem_cons.mp ho with rfl | ho
    · exact hn1
    · exact hn2 o ho

end DiskFS
end Goat
