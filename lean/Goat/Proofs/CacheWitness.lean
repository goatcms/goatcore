/-
The witnesses of the known findings (KF-C06-1, 2, 4, 6, 9, 10, 11, 12 / KF-C07-1…6) and of the repaired ones
(KF-C06-3, 5, 7, 8: regression cases) as Lean values: the histories of known_findings.d/C06.json, C07.json and
corpus/C06, corpus/C07.  Props/C06 and Props/C07 evaluate them.
The comment above each history abbreviates its lines in the harness's protocol (paths as text): filespace 0 is the
remote, 1 the cache; what stands before `|` prepares the remote, `;` separates calls.
Bytes: a = 97, b = 98, c = 99, x = 120, y = 121, '/' = 47, '.' = 46, "1" = 49, "2" = 50.
-/
import Goat.Proofs.CacheRoot

namespace Goat
namespace Cache
namespace Witness

open FS (Op Result)
open MemFS

/-- a remote tree populated directly: `(path, some data)` = WriteFile, `(path, none)` = MkdirAll -/
def mkRemote : List (Bytes × Option Bytes) → Node → Node
  | [], t => t
  | (p, some d) :: rest, t => mkRemote rest (MemFS.step .root t (.writeFile p d)).1
  | (p, none) :: rest, t => mkRemote rest (MemFS.step .root t (.mkdirAll p)).1

theorem inv_mkRemote (l : List (Bytes × Option Bytes)) (t : Node) (ht : Inv t) : Inv (mkRemote l t) := by
  induction l generalizing t with
  | nil => exact ht
  | cons x rest ih =>
    obtain ⟨p, d⟩ := x
    cases d <;> exact ih _ (root_step_inv t ht _)

def calls (l : List Op) : List HOp := l.map (HOp.call .cache)

/-- the co-simulation (cache ‖ direct application) after a history on a populated remote -/
def sim (remote : List (Bytes × Option Bytes)) (l : List Op) : Sim :=
  (Sim.new (mkRemote remote Node.empty)).run (calls l)

def a : Bytes := [97]
def b : Bytes := [98]
def c : Bytes := [99]

-- KF-C06-1  mkdir 0 a | remove 1 a ; commit
def r1 : List (Bytes × Option Bytes) := [(a, none)]
def h1 : List Op := [.remove a]
-- KF-C06-2  write 1 b/c/b x ; removeall 1 b ; commit
def h2 : List Op := [.writeFile [98, 47, 99, 47, 98] [120], .removeAll b]
-- KF-C06-3 (repaired)  write 1 a/b/ x ; commit
def h3 : List Op := [.writeFile [97, 47, 98, 47] [120]]
-- KF-C06-4  mkdir 0 a/b | copy 1 a c ; commit
def r4 : List (Bytes × Option Bytes) := [([97, 47, 98], none)]
def h4 : List Op := [.copy a c]
-- KF-C06-5 (repaired)  copy 1 c a/b ; commit
def h5 : List Op := [.copy c [97, 47, 98]]
-- KF-C06-6  mkdir 1 a/b ; remove 1 a/b ; commit
def h6 : List Op := [.mkdirAll [97, 47, 98], .remove [97, 47, 98]]
-- KF-C06-7 (repaired)  write 1 a x ; copy 1 a a     (overlapping arguments)
def h7 : List Op := [.writeFile a [120], .copy a a]
-- KF-C06-8 (repaired)  removeall 1 "" ; write 1 a x ; commit
def h8 : List Op := [.removeAll [], .writeFile a [120]]
-- KF-C06-9 = KF-C07-3  write 0 a x | write 1 a/b y ; commit
def r9 : List (Bytes × Option Bytes) := [(a, some [120])]
def h9 : List Op := [.writeFile [97, 47, 98] [121]]
-- KF-C06-10 = KF-C07-5  write 0 a 1 ; write 0 c 2 | copyfile 1 a c ; commit
def r10 : List (Bytes × Option Bytes) := [(a, some [49]), (c, some [50])]
def h10 : List Op := [.copyFile a c]
-- KF-C06-11 = KF-C07-6  mkdir 1 /../a ; commit
def h11 : List Op := [.mkdirAll [47, 46, 46, 47, 97]]
-- KF-C06-12  write 0 a 1 | remove 1 a ; copyfile 1 a b ; commit
def r12 : List (Bytes × Option Bytes) := [(a, some [49])]
def h12 : List Op := [.remove a, .copyFile a b]
-- KF-C07-1  write 0 b x | remove 1 b ; isexist 1 b
def r71 : List (Bytes × Option Bytes) := [(b, some [120])]
def h71 : List Op := [.remove b]
-- KF-C07-2  write 0 a/b x | removeall 1 a ; isexist 1 a/b
def r72 : List (Bytes × Option Bytes) := [([97, 47, 98], some [120])]
def h72 : List Op := [.removeAll a]
-- KF-C07-4  write 0 a/x 1 | write 1 a/y 2 ; copy 1 a c ; isexist 1 c/x
def r74 : List (Bytes × Option Bytes) := [([97, 47, 120], some [49])]
def h74 : List Op := [.writeFile [97, 47, 121] [50], .copy a c]

/-- the final Commit of a witness -/
def committed (remote : List (Bytes × Option Bytes)) (l : List Op) : State × Nat × Bool :=
  commit none (sim remote l).cache

end Witness
end Cache
end Goat
