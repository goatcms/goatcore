/-
C12, the publication order of `AppendError`: with record-then-close a closed context holds an error in every reachable
state, so an observer woken by `Done()` reads a non-nil `Err()` and no watcher of an isolated child chooses `Stop`.
-/
import Goat.Model.ScopePublish

namespace Goat.ScopePublish

/-- what a goroutine at `pc` relies on: between its two accesses an appender has recorded its error, a woken observer
or watcher has seen the channel closed, what an observer read was an error, and nobody is calling `Stop` -/
def Knows (s : State) : PC → Prop
  | .appMid c => 0 < s.errs c
  | .obsWoke c => s.closed c = true
  | .watchWoke p _ => s.closed p = true
  | .obsSaw _ b => b = true
  | .stopStart _ => False
  | _ => True

structure Inv (s : State) : Prop where
  pub : ∀ c, s.closed c = true → 0 < s.errs c
  knows : ∀ t, Knows s (s.pcs t)

theorem inv_init (pcs : Nat → PC) (h : ∀ t, (pcs t).initial) : Inv (initState pcs) where
  pub c hc := by simp [initState] at hc
  knows t := by
    have := h t
    show Knows _ (pcs t)
    generalize pcs t = pc at this
    cases pc <;> first | trivial | exact False.elim this

theorem Knows.mono {s s' : State} {pc : PC} (hk : Knows s pc) (he : ∀ c, s.errs c ≤ s'.errs c)
    (hc : ∀ c, s.closed c = true → s'.closed c = true) : Knows s' pc := by
  cases pc <;> first | exact hk | exact hc _ hk | exact Nat.lt_of_lt_of_le hk (he _)

theorem Inv.access {s s₁ : State} {t : Nat} {pc : PC} (h : Inv s) (he : ∀ c, s.errs c ≤ s₁.errs c)
    (hc : ∀ c, s.closed c = true → s₁.closed c = true) (hp : s₁.pcs = s.pcs)
    (hpub : ∀ c, s₁.closed c = true → 0 < s₁.errs c) (hk : Knows s₁ pc) : Inv (s₁.setPC t pc) where
  pub := hpub
  knows u := by
    show Knows s₁ (if u = t then pc else s₁.pcs u)
    split
    · exact hk
    · exact hp ▸ (h.knows u).mono he hc

theorem inv_step (s : State) (t : Nat) (s' : State) (h : Inv s) (hs : step .recordThenClose s t = some s') : Inv s' := by
  have hk := h.knows t
  have same := fun {pc} => h.access (t := t) (pc := pc) (fun _ => Nat.le_refl _) (fun _ => id) rfl h.pub
  unfold step at hs
  split at hs <;> rename_i hpc <;> rw [hpc] at hk
  · cases hs
  · cases hs
  · -- appStart c: record
    rename_i c
    cases hs
    have he : ∀ d, s.errs d ≤ (s.record c).errs d := fun d => by simp only [State.record]; split <;> omega
    exact h.access he (fun _ => id) rfl (fun d hd => Nat.lt_of_lt_of_le (h.pub d hd) (he d)) (by simp [Knows, State.record])
  · -- appMid c: close; the error is there already
    cases hs
    refine h.access (fun _ => Nat.le_refl _) (fun d hd => by simp [State.close, hd]) rfl (fun d hd => ?_) trivial
    simp only [State.close] at hd ⊢
    split at hd
    · subst_vars; exact hk
    · exact h.pub d hd
  · -- obsWait c
    split at hs
    · cases hs; exact same ‹_›
    · cases hs
  · -- obsWoke c: read Err()
    cases hs
    exact same (by simpa [Knows] using h.pub _ hk)
  · -- watchWait p c
    split at hs
    · cases hs; exact same ‹_›
    · cases hs
  · -- watchWoke p c: read p.Errors(), decide
    cases hs
    exact same (by simp [h.pub _ hk, Knows])
  · -- stopStart c: nobody is there
    exact hk.elim

theorem inv_run (pcs : Nat → PC) (h : ∀ t, (pcs t).initial) (sched : List Nat) :
    Inv ((sys .recordThenClose pcs).run sched) :=
  Goat.LTS.inv_run (sys .recordThenClose pcs) Inv (inv_init pcs h)
    inv_step sched

end Goat.ScopePublish
