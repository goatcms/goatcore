/-
The success direction of the copy helpers: with no fault, `Copy` / `Copier.Do` return nil whenever the pre-existing
destination is compatible with the source (where both hold something, it is of the same kind).
-/
import Goat.Proofs.StreamCopy

namespace Goat
namespace Stream

open FS (Entry State)

/-- the destination never holds the other kind of node where the target holds one -/
def Compat (S T : State) : Prop := ∀ x e e', S x = some e' → T x = some e → e.isDir = e'.isDir

theorem Compat.toward {S T S' : State} (hc : Compat S T) (ht : Toward T S S') : Compat S' T := by
  intro x e e' hs hT
  rcases ht x with h | h
  · exact hc x e e' (h.symm.trans hs) hT
  · rw [h, hT] at hs; cases hs; rfl

theorem compat_overlay (srcv : State) (db : Path) (S0 : State)
    (h : ∀ q e e', srcv q = some e → S0 (db ++ q) = some e' → e.isDir = e'.isDir) :
    Compat S0 (overlay srcv db S0) := by
  intro x e e' hx ho
  by_cases hd : db <+: x
  · obtain ⟨q, rfl⟩ := hd
    cases hs : srcv q with
    | none => rw [overlay_hole _ _ _ _ hs, hx] at ho; cases ho; rfl
    | some e0 =>
      rw [overlay_node _ _ _ _ (by rw [hs]; simp), hs] at ho
      cases ho
      exact h q e e' hs hx
  · rw [overlay_outside _ _ _ _ hd, hx] at ho; cases ho; rfl

theorem Compat.mkdirOkB {S T : State} (hc : Compat S T) (t : Path) (hT : ∀ x, x <+: t → T x = some .dir) :
    mkdirOkB S t = true :=
  (mkdirOkB_iff S t).mpr fun x hx d hd => by simpa [Entry.isDir] using hc x .dir (.file d) hd (hT x hx)

theorem onItem_noFault_ok (sizes : List Nat) (src : Src) (sb db : Path) (c : Calls) (dst : Dest) (it : Item)
    (T : State) (hc : Compat dst.st T) (hit : ItemOK T src sb db it)
    (hne : it.2 ≠ []) (hfile : it.1 = false → ∃ d, src.st (sb ++ it.2) = some (.file d)) :
    (onItem noFault sizes src sb db c dst it).ok = true := by
  obtain ⟨b, p⟩ := it
  cases b with
  | true =>
    simp only [onItem]
    exact mkdirStep_noFault c dst _ (hc.mkdirOkB _ hit.dirs)
  | false =>
    obtain ⟨d, hd⟩ := hfile rfl
    obtain ⟨hdl, hanc⟩ := hit.parent hne
    have hm : (mkdirStep noFault c dst (db ++ p.dropLast)).ok = true :=
      mkdirStep_noFault c dst _ (hc.mkdirOkB _ hanc)
    have hst1 := mkdirStep_ok noFault c dst (db ++ p.dropLast) hm
    have hc1 : Compat (mkdirStep noFault c dst (db ++ p.dropLast)).dst.st T := by
      rw [hst1]; exact hc.toward (toward_mkdirSt T dst.st _ hanc)
    have hT : T (db ++ p) = some (.file d) := by rw [hit.file rfl]; exact hd
    simp only [onItem]
    rw [if_pos hm]
    apply streamCopy2_noFault sizes _ src (sb ++ p) _ (db ++ p) d hd
    refine (canOpen_iff _ _).mpr ⟨by simp [hne], fun hdir => ?_, ?_⟩
    · simpa [Entry.isDir] using hc1 _ (.file d) .dir hdir hT
    · rw [hdl]
      split
      · exact (mkdirOkB_iff _ _).mp (hc1.mkdirOkB _ hanc)
      · rw [hst1]
        simp [FS.mkdirSt]

theorem copyItems_noFault_ok (sizes : List Nat) (src : Src) (sb db : Path) (extra : Nat) (T : State)
    (items : List Item) (c : Calls) (dst : Dest) (hc : Compat dst.st T)
    (hits : ∀ it ∈ items, ItemOK T src sb db it ∧ it.2 ≠ [] ∧
      (it.1 = false → ∃ d, src.st (sb ++ it.2) = some (.file d))) :
    (copyItems noFault sizes src sb db extra items c dst).ok = true := by
  induction items generalizing c dst with
  | nil => rfl
  | cons it rest ih =>
    obtain ⟨h1, h2, h3⟩ := hits it (List.mem_cons_self ..)
    have hok := onItem_noFault_ok sizes src sb db c dst it T hc h1 h2 h3
    simp only [copyItems]
    rw [if_pos hok]
    exact ih _ _ (hc.toward (onItem_ok noFault sizes src sb db c dst it T h1 hok).1)
      (fun x hx => hits x (List.mem_cons_of_mem _ hx))

theorem listFails_noFault (c : Calls) (n : Nat) : listFails noFault c n = false := by
  simp [listFails, noFault]

theorem treeCopy_noFault_ok (sizes : List Nat) (extra : Nat) (c : Calls) (src : Src) (sb : Path) (dst : Dest)
    (db : Path) (order : List Item) (hpre : CopyPre (fun q => src.st (sb ++ q)) db dst.st order)
    (hfile : ∀ it ∈ order, it.1 = false → ∃ d, src.st (sb ++ it.2) = some (.file d))
    (hc : Compat dst.st (overlay (fun q => src.st (sb ++ q)) db dst.st)) :
    (treeCopy noFault sizes extra c src sb dst db order).ok = true := by
  unfold treeCopy
  simp only [listFails_noFault]
  apply copyItems_noFault_ok sizes src sb db extra _ order _ dst hc
  intro it hit
  exact ⟨itemOK_overlay src sb db dst.st order hpre it hit, (hpre.visits.sound it hit).1, hfile it hit⟩

theorem copierDo_dir_noFault_ok (sizes : List Nat) (extra : Nat) (c : Calls) (src : Src) (sp : Path) (dst : Dest)
    (dp : Path) (order : List Item) (h : src.st sp = some .dir)
    (hv : Visits (fun q => src.st (sp ++ q)) order)
    (hfile : ∀ it ∈ order, it.1 = false → ∃ d, src.st (sp ++ it.2) = some (.file d))
    (hmk : mkdirOkB dst.st dp = true)
    (hc : Compat (FS.mkdirSt dst.st dp) (overlay (fun q => src.st (sp ++ q)) dp (FS.mkdirSt dst.st dp))) :
    (copierDo noFault sizes extra c src sp dst dp order).ok = true := by
  have hm : (mkdirStep noFault (c.bump .srcView) dst dp).ok = true := mkdirStep_noFault _ dst dp hmk
  have hst1 := mkdirStep_ok noFault _ dst dp hm
  unfold copierDo
  rw [h]
  rw [if_pos hm]
  apply treeCopy_noFault_ok sizes extra _ src sp _ dp order (hst1 ▸ copyPre_of_dir src sp dp _ order (fun _ hx => if_pos hx) h hv)
    hfile
  rw [hst1]; exact hc

end Stream
end Goat
