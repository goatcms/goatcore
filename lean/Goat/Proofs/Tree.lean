/-
Lemmas about `Goat/Base/Tree.lean`: the find/set/erase algebra of `Kids`, `mkdirs` and `update` described through
`lookup`, and `Hered`, the shape of a property (`All P`, `NoDup`) that all three walks preserve.
-/
import Goat.Base.Tree

namespace Goat

open Path (Name)

namespace Kids

@[simp] theorem find_nil (m : Name) : Kids.nil.find m = none := rfl

theorem find_cons (n : Name) (x : Node) (r : Kids) (m : Name) :
    (Kids.cons n x r).find m = if n = m then some x else r.find m := rfl

/-- induction on `Kids` alone (the `induction` tactic rejects the mutual type itself) -/
theorem induct {motive : Kids → Prop} (nil : motive .nil)
    (cons : ∀ n x r, motive r → motive (.cons n x r)) (k : Kids) : motive k :=
  Kids.rec (motive_1 := fun _ => True) (fun _ => trivial) (fun _ _ => trivial) nil
    (fun n x r _ ih => cons n x r ih) k

theorem find_set_same (k : Kids) (m : Name) (x : Node) : (k.set m x).find m = some x := by
  fun_induction Kids.set k m x <;> simp_all [find]

theorem set_set (k : Kids) (m : Name) (x y : Node) : (k.set m x).set m y = k.set m y := by
  fun_induction Kids.set k m x <;> simp_all [set]

theorem find_set_other (k : Kids) (m m' : Name) (x : Node) (h : m ≠ m') :
    (k.set m x).find m' = k.find m' := by
  fun_induction Kids.set k m x <;> simp_all [find]

theorem find_set (k : Kids) (m m' : Name) (x : Node) :
    (k.set m x).find m' = if m = m' then some x else k.find m' := by
  split
  · next e => subst e; exact find_set_same k m x
  · next e => exact find_set_other k m m' x e

theorem find_erase_other (k : Kids) (m m' : Name) (h : m ≠ m') :
    (k.erase m).find m' = k.find m' := by
  fun_induction Kids.erase k m <;> simp_all [find]

theorem set_find_self (k : Kids) (m : Name) (x : Node) (h : k.find m = some x) : k.set m x = k := by
  fun_induction Kids.find k m <;> simp_all [set]

@[simp] theorem all_nil (P : Name → Prop) : Kids.All P .nil := by simp [Kids.All]

theorem all_cons (P : Name → Prop) (n : Name) (x : Node) (r : Kids) :
    Kids.All P (.cons n x r) ↔ P n ∧ Node.All P x ∧ Kids.All P r := by simp [Kids.All]

theorem all_find {P : Name → Prop} (k : Kids) (m : Name) (x : Node) (hk : Kids.All P k)
    (h : k.find m = some x) : P m ∧ Node.All P x := by
  fun_induction Kids.find k m <;> simp_all [all_cons]

theorem all_set {P : Name → Prop} (k : Kids) (m : Name) (x : Node) (hk : Kids.All P k) (hm : P m)
    (hx : Node.All P x) : Kids.All P (k.set m x) := by
  fun_induction Kids.set k m x <;> simp_all [all_cons]

theorem all_erase {P : Name → Prop} (k : Kids) (m : Name) (hk : Kids.All P k) :
    Kids.All P (k.erase m) := by
  fun_induction Kids.erase k m <;> simp_all [all_cons]

theorem all_mono {P Q : Name → Prop} (h : ∀ n, P n → Q n) :
    (∀ t : Node, Node.All P t → Node.All Q t) ∧ (∀ k : Kids, Kids.All P k → Kids.All Q k) := by
  have key : ∀ (t : Node), Node.All P t → Node.All Q t := by
    intro t
    induction t using Node.rec (motive_2 := fun k => Kids.All P k → Kids.All Q k) with
    | file d => intro _; simp [Node.All]
    | dir k ih => intro hk; simp only [Node.All] at hk ⊢; exact ih hk
    | nil => simp
    | cons n x r ihx ihr =>
      rename_i hk
      have := (all_cons ..).mp hk
      exact (all_cons ..).mpr ⟨h n this.1, ihx this.2.1, ihr this.2.2⟩
  refine ⟨key, ?_⟩
  intro k hk
  have := key (.dir k) (by simpa [Node.All] using hk)
  simpa [Node.All] using this

@[simp] theorem nodup_nil : Kids.NoDup .nil := by simp [Kids.NoDup]

theorem nodup_cons (n : Name) (x : Node) (r : Kids) :
    Kids.NoDup (.cons n x r) ↔ r.find n = none ∧ Node.NoDup x ∧ Kids.NoDup r := by simp [Kids.NoDup]

theorem nodup_find (k : Kids) (m : Name) (x : Node) (hk : k.NoDup) (h : k.find m = some x) :
    Node.NoDup x := by
  fun_induction Kids.find k m <;> simp_all [nodup_cons]

theorem nodup_set (k : Kids) (m : Name) (x : Node) (hk : k.NoDup) (hx : Node.NoDup x) :
    (k.set m x).NoDup := by
  fun_induction Kids.set k m x <;> simp_all [nodup_cons, find_set_other, eq_comm]

theorem nodup_erase (k : Kids) (m : Name) (hk : k.NoDup) : (k.erase m).NoDup := by
  fun_induction Kids.erase k m <;> simp_all [nodup_cons, find_erase_other, eq_comm]

theorem find_erase_same (k : Kids) (m : Name) (hk : k.NoDup) : (k.erase m).find m = none := by
  fun_induction Kids.erase k m <;> simp_all [nodup_cons, find]

theorem find_erase (k : Kids) (m m' : Name) (hk : k.NoDup) :
    (k.erase m).find m' = if m = m' then none else k.find m' := by
  split
  · next e => subst e; exact find_erase_same k m hk
  · next e => exact find_erase_other k m m' e

theorem eq_nil_of_find_none (k : Kids) (h : ∀ n, k.find n = none) : k = .nil := by
  cases k with
  | nil => rfl
  | cons n x r => have := h n; simp [find] at this

theorem isEmpty_eq_nil (k : Kids) : k.isEmpty = true ↔ k = .nil := by
  cases k <;> simp [isEmpty]

theorem mem_names (k : Kids) (n : Name) : n ∈ k.names ↔ (k.find n).isSome := by
  induction k using Kids.induct with
  | nil => simp [names]
  | cons m y r ih =>
    simp only [names, find, List.mem_cons]
    by_cases e : m = n
    · subst e; simp
    · have e' : ¬ n = m := fun h => e h.symm
      simp [e, e', ih]

theorem entries_map_fst (k : Kids) : k.entries.map Prod.fst = k.names := by
  fun_induction Kids.entries k <;> simp_all [names]

theorem names_nodup (k : Kids) (hk : k.NoDup) : k.names.Nodup := by
  fun_induction Kids.names k <;> simp_all [nodup_cons, mem_names]

theorem mem_entries (k : Kids) (hk : k.NoDup) (n : Name) (b : Bool) :
    (n, b) ∈ k.entries ↔ (k.find n).map Node.isDir = some b := by
  induction k using Kids.induct with
  | nil => simp [entries]
  | cons m x r ih =>
    have hc := (nodup_cons ..).mp hk
    simp only [entries, List.mem_cons, Prod.mk.injEq, find]
    by_cases e : m = n
    · subst e
      simp only [true_and, if_true, Option.map_some, Option.some.injEq]
      constructor
      · rintro (h | h)
        · exact h.symm
        · have := (ih hc.2.2).mp h
          rw [hc.1] at this
          simp at this
      · intro h; exact Or.inl h.symm
    · have e' : ¬ n = m := fun h => e h.symm
      simp only [if_neg e, e', false_and, false_or]
      exact ih hc.2.2

end Kids

namespace Node

@[simp] theorem lookup_nil (t : Node) : t.lookup [] = some t := by cases t <;> rfl

@[simp] theorem lookup_file_cons (d : Bytes) (s : Name) (r : List Name) :
    (Node.file d).lookup (s :: r) = none := rfl

theorem lookup_dir_cons (k : Kids) (s : Name) (r : List Name) :
    (Node.dir k).lookup (s :: r) = (k.find s).bind fun c => c.lookup r := by
  simp only [lookup]
  cases k.find s <;> rfl

theorem lookup_append (t : Node) (p q : List Name) :
    t.lookup (p ++ q) = (t.lookup p).bind fun n => n.lookup q := by
  fun_induction Node.lookup t p <;> simp_all [lookup_dir_cons]

theorem lookup_snoc (t : Node) (init : List Name) (name : Name) (k : Kids)
    (hk : t.lookup init = some (.dir k)) : t.lookup (init ++ [name]) = k.find name := by
  rw [lookup_append, hk]
  simp only [Option.bind_some, lookup_dir_cons]
  cases k.find name <;> simp

theorem lookup_parent (t : Node) (init : List Name) (name : Name) (n : Node)
    (h : t.lookup (init ++ [name]) = some n) : ∃ k, t.lookup init = some (.dir k) := by
  rw [lookup_append] at h
  cases hl : t.lookup init with
  | none => simp [hl] at h
  | some m =>
    cases m with
    | file d => simp [hl] at h
    | dir k => exact ⟨k, rfl⟩

theorem all_dir (P : Name → Prop) (k : Kids) : Node.All P (.dir k) ↔ Kids.All P k := by
  simp [Node.All]

theorem nodup_dir (k : Kids) : Node.NoDup (.dir k) ↔ Kids.NoDup k := by simp [Node.NoDup]

@[simp] theorem all_file (P : Name → Prop) (d : Bytes) : Node.All P (.file d) := by simp [Node.All]
@[simp] theorem nodup_file (d : Bytes) : Node.NoDup (.file d) := by simp [Node.NoDup]
@[simp] theorem all_empty (P : Name → Prop) : Node.All P Node.empty := by simp [Node.empty, Node.All]
@[simp] theorem nodup_empty : Node.NoDup Node.empty := by simp [Node.empty, Node.NoDup]

theorem mkdirs_file (d : Bytes) (p : List Name) : (Node.file d).mkdirs p = none := by
  cases p <;> rfl

theorem mkdirs_dir_nil (k : Kids) : (Node.dir k).mkdirs [] = some (.dir k) := rfl

/-- the child `mkdirs` continues in: the existing one or a fresh empty directory -/
def childOr (k : Kids) (s : Name) : Node := (k.find s).getD Node.empty

theorem mkdirs_dir_cons (k : Kids) (s : Name) (rest : List Name) :
    (Node.dir k).mkdirs (s :: rest) =
      ((childOr k s).mkdirs rest).map fun c' => .dir (k.set s c') := by
  simp only [mkdirs, childOr]
  cases k.find s with
  | none => simp only [Option.getD_none]; cases empty.mkdirs rest <;> rfl
  | some c => simp only [Option.getD_some]; cases c.mkdirs rest <;> rfl

theorem lookup_childOr (k : Kids) (s : Name) (q : List Name) (hq : q ≠ []) :
    (childOr k s).lookup q = (Node.dir k).lookup (s :: q) := by
  rw [lookup_dir_cons, childOr]
  cases k.find s with
  | none =>
    cases q with
    | nil => exact absurd rfl hq
    | cons a b => simp [Node.empty, lookup]
  | some c => simp

/-- no `q ≠ []` here: the fresh directory is no file -/
theorem lookup_childOr_file (k : Kids) (s : Name) (q : List Name) (d : Bytes) :
    (childOr k s).lookup q = some (.file d) ↔ (Node.dir k).lookup (s :: q) = some (.file d) := by
  rw [lookup_dir_cons, childOr]
  cases k.find s with
  | none => cases q <;> simp [Node.empty, lookup]
  | some c => simp

/-- Not `fun_induction Node.mkdirs`: the definition has its recursive branch twice (child found / fresh empty
directory), which `childOr` folds into one, and the motive may mention the equation `t.mkdirs p = some t'` -/
theorem mkdirs_induct {motive : (t : Node) → (p : List Name) → (t' : Node) → t.mkdirs p = some t' → Prop}
    (nil : ∀ k, motive (.dir k) [] (.dir k) (mkdirs_dir_nil k))
    (cons : ∀ k s rest c' (hc : (childOr k s).mkdirs rest = some c'), motive (childOr k s) rest c' hc →
      motive (.dir k) (s :: rest) (.dir (k.set s c')) (by rw [mkdirs_dir_cons, hc]; rfl))
    {t : Node} {p : List Name} {t' : Node} (h : t.mkdirs p = some t') : motive t p t' h := by
  induction p generalizing t t' with
  | nil =>
    cases t with
    | file d => simp [mkdirs_file] at h
    | dir k => simp [mkdirs_dir_nil] at h; subst h; exact nil k
  | cons s rest ih =>
    cases t with
    | file d => simp [mkdirs_file] at h
    | dir k =>
      have h' := h
      rw [mkdirs_dir_cons] at h'
      cases hc : (childOr k s).mkdirs rest with
      | none => simp [hc] at h'
      | some c' => simp [hc] at h'; subst h'; exact cons k s rest c' hc (ih hc)

theorem lookup_mkdirs {t t' : Node} {p : List Name} (h : t.mkdirs p = some t') (q : List Name) :
    if q <+: p then ∃ k', t'.lookup q = some (.dir k') else t'.lookup q = t.lookup q := by
  induction h using mkdirs_induct generalizing q with
  | nil k => cases q <;> simp
  | cons k s rest c' hc ih =>
    cases q with
    | nil => simp
    | cons s2 q' =>
      simp only [lookup_dir_cons, Kids.find_set, List.cons_prefix_cons]
      by_cases e : s = s2
      · subst e
        simp only [true_and, if_true, Option.bind_some]
        have := ih q'
        split at this
        · next hq' => rwa [if_pos hq']
        · next hq' =>
          rw [if_neg hq', this, lookup_childOr k s q' fun e => hq' (e ▸ List.nil_prefix), lookup_dir_cons]
      · simp [e, Ne.symm e]

theorem mkdirs_isDir (t t' : Node) (p : List Name) (h : t.mkdirs p = some t') : t'.isDir = true := by
  induction h using mkdirs_induct <;> rfl

theorem mkdirs_isSome_iff (t : Node) (p : List Name) :
    (t.mkdirs p).isSome ↔ ∀ q, q <+: p → ∀ d, t.lookup q ≠ some (.file d) := by
  induction p generalizing t with
  | nil =>
    cases t with
    | file d =>
      simp only [mkdirs_file, Option.isSome_none, Bool.false_eq_true, false_iff]
      intro h; exact h [] List.nil_prefix d (by simp)
    | dir k =>
      simp only [mkdirs_dir_nil, Option.isSome_some, true_iff]
      intro q hq d
      have : q = [] := List.prefix_nil.mp hq
      subst this; simp
  | cons s rest ih =>
    cases t with
    | file d =>
      simp only [mkdirs_file, Option.isSome_none, Bool.false_eq_true, false_iff]
      intro h; exact h [] List.nil_prefix d (by simp)
    | dir k =>
      rw [mkdirs_dir_cons, Option.isSome_map, ih]
      constructor
      · intro h q hq d
        cases q with
        | nil => simp
        | cons s2 q' =>
          obtain ⟨rfl, hq'⟩ := List.cons_prefix_cons.mp hq
          exact fun e => h q' hq' d ((lookup_childOr_file k s2 q' d).mpr e)
      · exact fun h q hq d e => h (s :: q) (by simpa using hq) d ((lookup_childOr_file k s q d).mp e)

theorem mkdirs_eq_self (t : Node) (p : List Name) (k : Kids) (h : t.lookup p = some (.dir k)) :
    t.mkdirs p = some t := by
  -- along the path every child is set to itself: `Kids.set_find_self`
  fun_induction Node.lookup t p <;> simp_all [mkdirs_dir_cons, childOr, Kids.set_find_self, mkdirs_dir_nil]

theorem update_file (d : Bytes) (p : List Name) (f : Kids → Option Kids) :
    (Node.file d).update p f = none := by cases p <;> rfl

theorem update_dir_nil (k : Kids) (f : Kids → Option Kids) :
    (Node.dir k).update [] f = (f k).map .dir := by
  simp only [update]; cases f k <;> rfl

theorem update_dir_cons (k : Kids) (s : Name) (rest : List Name) (f : Kids → Option Kids) :
    (Node.dir k).update (s :: rest) f =
      (k.find s).bind fun c => (c.update rest f).map fun c' => .dir (k.set s c') := by
  simp only [update]
  cases k.find s with
  | none => rfl
  | some c => simp only [Option.bind_some]; cases c.update rest f <;> rfl

theorem update_eq_some (t t' : Node) (p : List Name) (f : Kids → Option Kids)
    (h : t.update p f = some t') :
    ∃ k k', t.lookup p = some (.dir k) ∧ f k = some k' ∧ t'.lookup p = some (.dir k') := by
  fun_induction Node.update t p f generalizing t' with
  | case3 k f k' hk => cases h; exact ⟨k, k', by simp, hk, by simp⟩
  | case6 k0 s rest f c hf c' hu ih =>
    cases h
    obtain ⟨k, k', h1, h2, h3⟩ := ih c' hu
    refine ⟨k, k', ?_, h2, ?_⟩
    · rw [lookup_dir_cons, hf]; simpa using h1
    · rw [lookup_dir_cons, Kids.find_set_same]; simpa using h3
  | _ => cases h

theorem update_of_lookup (t : Node) (p : List Name) (f : Kids → Option Kids) (k k' : Kids)
    (h1 : t.lookup p = some (.dir k)) (h2 : f k = some k') : ∃ t', t.update p f = some t' := by
  fun_induction Node.lookup t p with
  | case4 k0 s rest c hf ih =>
    obtain ⟨c', hc'⟩ := ih (by simpa [lookup_dir_cons, hf] using h1)
    exact ⟨.dir (k0.set s c'), by simp [update_dir_cons, hf, hc']⟩
  | _ => simp_all [update_dir_nil]

theorem update_eq_none (t : Node) (p : List Name) (f : Kids → Option Kids)
    (h : t.update p f = none) : ∀ k, t.lookup p = some (.dir k) → f k = none := by
  intro k hk
  cases hf : f k with
  | none => rfl
  | some k' =>
    obtain ⟨t', ht'⟩ := update_of_lookup t p f k k' hk hf
    rw [h] at ht'; cases ht'

theorem update_isDir (t t' : Node) (p : List Name) (f : Kids → Option Kids)
    (h : t.update p f = some t') : t'.isDir = true := by
  fun_induction Node.update t p f <;> cases h <;> rfl

theorem update_congr (t : Node) (p : List Name) (f g : Kids → Option Kids) (k : Kids)
    (hk : t.lookup p = some (.dir k)) (hfg : f k = g k) : t.update p f = t.update p g := by
  -- both walks go down to the same `k`
  fun_induction Node.lookup t p <;> simp_all [update_dir_nil, update_dir_cons]

theorem update_update (t : Node) (p : List Name) (f g : Kids → Option Kids) :
    (t.update p f).bind (fun t' => t'.update p g) = t.update p fun k => (f k).bind g := by
  -- the second walk finds the child the first has just set (`find_set_same`) and sets it again (`set_set`)
  fun_induction Node.update t p f with
  | case1 => simp [update_file]
  | case2 k f hk => simp [update_dir_nil, hk]
  | case3 k f k' hk => simp [update_dir_nil, hk]
  | case4 k s rest f hf => simp [update_dir_cons, hf]
  | case5 k s rest f c hf hu ih => simp [update_dir_cons, hf, ← ih, hu]
  | case6 k s rest f c hf c' hu ih =>
    simp [update_dir_cons, hf, ← ih, hu, Kids.find_set_same, Kids.set_set]

theorem lookup_update_under (t' : Node) (p r : List Name) (k' : Kids)
    (hk : t'.lookup p = some (.dir k')) :
    t'.lookup (p ++ r) = (Node.dir k').lookup r := by
  rw [lookup_append, hk]; rfl

theorem lookup_update {t t' : Node} {p : List Name} {f : Kids → Option Kids} (h : t.update p f = some t')
    (q : List Name) (h1 : ¬ p <+: q) :
    if q <+: p then ∃ k1 k2, t.lookup q = some (.dir k1) ∧ t'.lookup q = some (.dir k2)
    else t'.lookup q = t.lookup q := by
  fun_induction Node.update t p f generalizing t' q with
  | case3 => exact absurd List.nil_prefix h1
  | case6 k0 s rest f c hf c' hu ih =>
    cases h
    cases q with
    | nil => simp
    | cons s2 q' =>
      simp only [lookup_dir_cons, Kids.find_set, List.cons_prefix_cons]
      by_cases e : s = s2
      · subst e
        simp only [hf, true_and, if_true, Option.bind_some]
        exact ih hu q' fun hp => h1 (List.cons_prefix_cons.mpr ⟨rfl, hp⟩)
      · simp [e, Ne.symm e]
  | _ => cases h

/-- a property of trees that the children of a directory inherit and that comes back when a child under a
`Q`-name is replaced by one that has it: `All P` (with `Q = P`) and `NoDup` (with any `Q`) -/
structure Hered (N : Node → Prop) (K : Kids → Prop) (Q : Name → Prop) : Prop where
  dir : ∀ k, N (.dir k) ↔ K k
  find : ∀ k m x, K k → k.find m = some x → Q m ∧ N x
  set : ∀ k m x, K k → Q m → N x → K (k.set m x)
  erase : ∀ k m, K k → K (k.erase m)
  empty : N Node.empty
  file : ∀ d, N (.file d)

theorem hered_all (P : Name → Prop) : Hered (Node.All P) (Kids.All P) P :=
  ⟨all_dir P, fun k m x => Kids.all_find k m x, fun k m x => Kids.all_set k m x, fun k m => Kids.all_erase k m,
   all_empty P, all_file P⟩

theorem hered_nodup : Hered Node.NoDup Kids.NoDup (fun _ => True) :=
  ⟨nodup_dir, fun k m x hk h => ⟨trivial, Kids.nodup_find k m x hk h⟩,
   fun k m x hk _ hx => Kids.nodup_set k m x hk hx, Kids.nodup_erase, nodup_empty, nodup_file⟩

namespace Hered

variable {N : Node → Prop} {K : Kids → Prop} {Q : Name → Prop} (H : Hered N K Q)
include H

theorem lookup (t : Node) (p : List Name) (n : Node) (ht : N t) (h : t.lookup p = some n) :
    N n ∧ ∀ s ∈ p, Q s := by
  fun_induction Node.lookup t p with
  | case1 t => cases h; exact ⟨ht, by simp⟩
  | case4 k s rest c hf ih =>
    have hc := H.find k s c ((H.dir k).mp ht) hf
    have := ih hc.2 (by simpa [lookup_dir_cons, hf] using h)
    exact ⟨this.1, by simpa using ⟨hc.1, this.2⟩⟩
  | _ => simp_all

theorem mkdirs (t t' : Node) (p : List Name) (ht : N t) (hp : ∀ s ∈ p, Q s) (h : t.mkdirs p = some t') :
    N t' := by
  induction h using mkdirs_induct with
  | nil k => exact ht
  | cons k s rest c' hc ih =>
    have hk := (H.dir k).mp ht
    have hchild : N (childOr k s) := by
      simp only [childOr]
      cases hf : k.find s with
      | none => exact H.empty
      | some c => exact (H.find k s c hk hf).2
    exact (H.dir _).mpr (H.set k s c' hk (hp s (by simp))
      (ih hchild (fun x hx => hp x (List.mem_cons_of_mem _ hx))))

theorem update (t t' : Node) (p : List Name) (f : Kids → Option Kids) (ht : N t)
    (hf : ∀ k k', K k → f k = some k' → K k') (h : t.update p f = some t') : N t' := by
  fun_induction Node.update t p f generalizing t' with
  | case3 k f k' hk => cases h; exact (H.dir _).mpr (hf k k' ((H.dir k).mp ht) hk)
  | case6 k0 s rest f c hfi c' hu ih =>
    cases h
    have hk := (H.dir k0).mp ht
    have hc := H.find k0 s c hk hfi
    exact (H.dir _).mpr (H.set k0 s c' hk hc.1 (ih _ hc.2 hf hu))
  | _ => cases h

end Hered

theorem lookup_all {P : Name → Prop} (t : Node) (p : List Name) (n : Node) (ht : t.All P)
    (h : t.lookup p = some n) : n.All P ∧ ∀ s ∈ p, P s :=
  (hered_all P).lookup t p n ht h

theorem lookup_nodup (t : Node) (p : List Name) (n : Node) (ht : t.NoDup)
    (h : t.lookup p = some n) : n.NoDup :=
  (hered_nodup.lookup t p n ht h).1

/-- what the walk records of a node besides its path -/
def content : Node → Option Bytes
  | .file d => some d
  | .dir _ => none

theorem content_isNone (m : Node) : m.content.isNone = m.isDir := by cases m <;> rfl

end Node

theorem Kids.mem_walk (k : Kids) : k.NoDup → ∀ pre p x, (p, x) ∈ Kids.walk pre k ↔
    ∃ s r m, p = pre ++ s :: r ∧ (Node.dir k).lookup (s :: r) = some m ∧ m.content = x := by
  induction k using Kids.rec (motive_1 := fun n => n.NoDup → ∀ pre p x, (p, x) ∈ Node.walk pre n ↔
      ∃ r m, p = pre ++ r ∧ n.lookup r = some m ∧ m.content = x) with
  | file d =>
    rw [Node.walk, List.mem_singleton, Prod.mk.injEq]
    constructor
    · rintro ⟨rfl, rfl⟩; exact ⟨[], _, (List.append_nil _).symm, Node.lookup_nil _, rfl⟩
    · rintro ⟨r, m, rfl, hl, rfl⟩
      cases r with
      | nil => cases (Node.lookup_nil _).symm.trans hl; exact ⟨List.append_nil _, rfl⟩
      | cons s r => cases hl
  | dir k ih =>
    rename_i hnd pre p x
    rw [Node.walk, List.mem_cons, Prod.mk.injEq, ih ((Node.nodup_dir k).mp hnd)]
    constructor
    · rintro (⟨rfl, rfl⟩ | ⟨s, r, m, rfl, hl, rfl⟩)
      · exact ⟨[], _, (List.append_nil _).symm, Node.lookup_nil _, rfl⟩
      · exact ⟨s :: r, m, rfl, hl, rfl⟩
    · rintro ⟨r, m, rfl, hl, rfl⟩
      cases r with
      | nil => cases (Node.lookup_nil _).symm.trans hl; exact Or.inl ⟨List.append_nil _, rfl⟩
      | cons s r => exact Or.inr ⟨s, r, m, rfl, hl, rfl⟩
  | nil =>
    intro _ pre p x
    refine ⟨fun h => (List.not_mem_nil h).elim, fun ⟨s, r, m, _, hl, _⟩ => ?_⟩
    rw [Node.lookup_dir_cons] at hl; cases hl
  | cons n y rest ihy ihr =>
    intro hnd pre p x
    obtain ⟨hn, hy, hr⟩ := (Kids.nodup_cons ..).mp hnd
    rw [Kids.walk, List.mem_append, ihy hy, ihr hr]
    -- a path into `cons n y rest` goes into `y` when it starts with `n`, into `rest` (where no `n` is) otherwise
    have hsame : ∀ r, (Node.dir (.cons n y rest)).lookup (n :: r) = y.lookup r := fun r => by
      rw [Node.lookup_dir_cons, Kids.find_cons, if_pos rfl]; rfl
    have hother : ∀ s r, n ≠ s → (Node.dir (.cons n y rest)).lookup (s :: r) = (Node.dir rest).lookup (s :: r) :=
      fun s r h => by rw [Node.lookup_dir_cons, Node.lookup_dir_cons, Kids.find_cons, if_neg h]
    constructor
    · rintro (⟨r, m, rfl, h, rfl⟩ | ⟨s, r, m, rfl, h, rfl⟩)
      · exact ⟨n, r, m, List.append_assoc pre [n] r, (hsame r).trans h, rfl⟩
      · refine ⟨s, r, m, rfl, (hother s r ?_).trans h, rfl⟩
        rintro rfl
        rw [Node.lookup_dir_cons, hn] at h; cases h
    · rintro ⟨s, r, m, rfl, h, rfl⟩
      by_cases e : n = s
      · subst e; exact Or.inl ⟨r, m, (List.append_assoc pre [n] r).symm, (hsame r).symm.trans h, rfl⟩
      · exact Or.inr ⟨s, r, m, rfl, (hother s r e).symm.trans h, rfl⟩

end Goat
