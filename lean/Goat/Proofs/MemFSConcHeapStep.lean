/-
What a change of the heap does to the forest and to the abstract tree, by kind of change: same edges (locks, reads,
allocation of an unlinked object), new data in a file, one entry of one directory set (a new leaf, a private tree
linked, an entry removed), a new directory over private trees.  `HeapStep h h' L e` bundles what each does: `Shape` is
kept, what the change does NOT do (`StepFrame`), which walks from the root survive, and the micro effect `e` by which
`absT` changes.
-/
import Goat.Proofs.MemFSConcShape

namespace Goat.MemFSConc

/-- `h'` has the entries of `h`, in every directory -/
def EdgeEq (h h' : Heap) : Prop := ∀ a n, edge h' a n = edge h a n

/-- allocated objects keep their kind and their entry unless it is the file `f` -/
def EntKept (h h' : Heap) (f : Option Oid) : Prop :=
  ∀ o, o < h.length → okind h' o = okind h o ∧ (some o ≠ f → entryOf h' o = entryOf h o)

theorem resolve_edgeEq {h h' : Heap} (he : EdgeEq h h') (o : Oid) (p : Path) : resolve h' o p = resolve h o p := by
  induction p generalizing o with
  | nil => simp [resolve_nil]
  | cons n rest ih =>
    rw [resolve_cons, resolve_cons, he]
    cases edge h o n with
    | none => rfl
    | some c => simp [ih]

theorem edge_set_dir {h : Heap} {o : Oid} {d : DirObj} (hd : getDir h o = some d) (d' : DirObj) (a : Oid) (m : Name) :
    edge (h.set o (.dir d')) a m = if a = o then d'.index m else edge h a m := by
  rw [edge_eq, edge_eq, getElem?_set_if]
  by_cases ha : a = o
  · simp [ha, getDir_lt_len hd, edgeObj]
  · simp [ha]

theorem entKept_set_dir {h : Heap} {o : Oid} {d : DirObj} (hd : getDir h o = some d) (d' : DirObj) :
    EntKept h (h.set o (.dir d')) none := by
  intro a _
  unfold okind; rw [entryOf_eq, entryOf_eq, getElem?_set_if]
  by_cases ha : a = o ∧ o < h.length
  · rw [if_pos ha, ha.1, getDir_eq_some.1 hd]; exact ⟨rfl, fun _ => rfl⟩
  · rw [if_neg ha]; exact ⟨rfl, fun _ => rfl⟩

theorem edge_set_idx {h : Heap} {o : Oid} {d d' : DirObj} (hd : getDir h o = some d) {n : Name} {v : Option Oid}
    (hi : d'.index = setIdx d.index n v) (a : Oid) (m : Name) :
    edge (h.set o (.dir d')) a m = if a = o ∧ m = n then v else edge h a m := by
  rw [edge_set_dir hd, hi]
  by_cases ha : a = o
  · subst ha
    by_cases hm : m = n
    · simp [setIdx, hm]
    · simp [setIdx, hm, edge_eq_index hd]
  · simp [ha]

theorem edge_append (h : Heap) (x : Obj) (a : Oid) (m : Name) :
    edge (h ++ [x]) a m = if a = h.length then edgeObj (some x) m else edge h a m := by
  rw [edge_eq, edge_eq, getElem?_snoc_if]
  by_cases ha : a = h.length <;> simp [ha]

theorem entKept_append (h : Heap) (x : Obj) : EntKept h (h ++ [x]) none := by
  intro a ha
  unfold okind; rw [entryOf_eq, entryOf_eq, getElem?_snoc_if, if_neg (Nat.ne_of_lt ha)]
  exact ⟨rfl, fun _ => rfl⟩

theorem entryOf_append (h : Heap) (x : Obj) : entryOf (h ++ [x]) h.length = entryObj (some x) := by
  rw [entryOf_eq, getElem?_snoc_if, if_pos rfl]

theorem edge_unalloc {h : Heap} {a : Oid} (ha : h.length ≤ a) (m : Name) : edge h a m = none := by
  rw [edge_eq, List.getElem?_eq_none ha]; rfl

theorem same_of_set_dir {h : Heap} {o : Oid} {d d' : DirObj} (hd : getDir h o = some d) (hi : d'.index = d.index) :
    EdgeEq h (h.set o (.dir d')) ∧ EntKept h (h.set o (.dir d')) none := by
  refine ⟨fun a n => ?_, entKept_set_dir hd d'⟩
  rw [edge_set_dir hd]
  split
  · rename_i ha; rw [ha, hi, edge_eq_index hd]
  · rfl

theorem data_of_set_file {h : Heap} {o : Oid} {f f' : FileObj} (hf : getFile h o = some f) :
    EdgeEq h (h.set o (.file f')) ∧ EntKept h (h.set o (.file f')) (some o)
      ∧ entryOf (h.set o (.file f')) o = some (.file f'.data) := by
  have hx := getFile_eq_some.1 hf
  have hl := getFile_lt_len hf
  refine ⟨?_, ?_, ?_⟩
  · intro a n
    rw [edge_eq, edge_eq, getElem?_set_if]
    by_cases ha : a = o ∧ o < h.length
    · rw [if_pos ha, ha.1, hx]; rfl
    · rw [if_neg ha]
  · intro a _
    unfold okind; rw [entryOf_eq, entryOf_eq, getElem?_set_if]
    by_cases ha : a = o ∧ o < h.length
    · rw [if_pos ha, ha.1, hx]
      exact ⟨rfl, fun hne => absurd rfl hne⟩
    · rw [if_neg ha]; exact ⟨rfl, fun _ => rfl⟩
  · rw [entryOf_eq, getElem?_set_if, if_pos ⟨rfl, hl⟩]; rfl

/-- an allocated object that is not the root and has no parent entry: out of reach of the root (`unr_of_parentless`) -/
structure Detached (h : Heap) (c : Oid) : Prop where
  ne0 : c ≠ 0
  lt : c < h.length
  noparent : ∀ a m, edge h a m ≠ some c

/-- a private tree: a detached object, representing `sub` -/
def Priv (h : Heap) (c : Oid) (sub : Tree) : Prop := Detached h c ∧ absAt h c = sub

/-- what a critical section does NOT do: objects keep their kind; objects out of reach of the root keep their entries and
their content; no allocated object without a parent entry gets one, except those in `L` (the private trees the acting
thread links) -/
structure StepFrame (h h' : Heap) (L : List Oid) : Prop where
  len : h.length ≤ h'.length
  kind : ∀ o, o < h.length → okind h' o = okind h o
  unr : ∀ a, a < h.length → (∀ π, resolve h 0 π ≠ some a) →
    (∀ m, edge h' a m = edge h a m) ∧ entryOf h' a = entryOf h a
  link : ∀ c, c < h.length → (∀ a m, edge h a m ≠ some c) → c ∉ L → ∀ a m, edge h' a m ≠ some c

theorem unr_of_parentless {h : Heap} {c : Oid} (hc0 : c ≠ 0) (hpar : ∀ a m, edge h a m ≠ some c) :
    ∀ π, resolve h 0 π ≠ some c := by
  intro π hr
  rcases eq_nil_or_snoc π with rfl | ⟨π', m, rfl⟩
  · rw [resolve_nil] at hr; cases hr; exact hc0 rfl
  · obtain ⟨a, _, he⟩ := resolve_snoc_some hr
    exact hpar a m he

theorem unr_child {h : Heap} (hs : Shape h) {a b : Oid} {m : Name} (hu : ∀ π, resolve h 0 π ≠ some a)
    (he : edge h a m = some b) : ∀ π, resolve h 0 π ≠ some b := by
  intro π hr
  rcases eq_nil_or_snoc π with rfl | ⟨π', m', rfl⟩
  · rw [resolve_nil] at hr; cases hr; exact (hs.closed _ _ _ he).2 rfl
  · obtain ⟨a', hp, he'⟩ := resolve_snoc_some hr
    obtain ⟨rfl, _⟩ := hs.up _ _ _ _ _ he he'
    exact hu π' hp

theorem absAt_frame {h h' : Heap} {L : List Oid} (hs : Shape h) (hf : StepFrame h h' L) :
    ∀ (q : Path) (a : Oid), a < h.length → (∀ π, resolve h 0 π ≠ some a) → absAt h' a q = absAt h a q := by
  intro q
  induction q with
  | nil =>
    intro a ha hu
    simp only [absAt, resolve_nil, Option.bind_some]
    exact (hf.unr a ha hu).2
  | cons m r ih =>
    intro a ha hu
    have he := (hf.unr a ha hu).1 m
    simp only [absAt, resolve_cons, he]
    cases hb : edge h a m with
    | none => rfl
    | some b =>
      simp only [Option.bind_some]
      exact ih b (hs.closed _ _ _ hb).1 (unr_child hs hu hb)

theorem Priv.frame {h h' : Heap} {L : List Oid} (hs : Shape h) (hf : StepFrame h h' L) {c : Oid} {sub : Tree}
    (hp : Priv h c sub) (hc : c ∉ L) : Priv h' c sub := by
  obtain ⟨hd, habs⟩ := hp
  refine ⟨⟨hd.ne0, Nat.lt_of_lt_of_le hd.lt hf.len, hf.link c hd.lt hd.noparent hc⟩, ?_⟩
  rw [← habs]
  funext q
  exact absAt_frame hs hf q c hd.lt (unr_of_parentless hd.ne0 hd.noparent)

theorem alloc_file {h : Heap} (f : FileObj) :
    EdgeEq h (h ++ [.file f]) ∧ EntKept h (h ++ [.file f]) none ∧
      entryOf (h ++ [.file f]) h.length = some (.file f.data) := by
  refine ⟨fun a m => ?_, entKept_append h _, entryOf_append h _⟩
  rw [edge_append]
  split
  · rename_i ha; rw [ha, edge_unalloc (Nat.le_refl _)]; rfl
  · rfl

theorem edge_alloc_dir (h : Heap) (nodes : List (Name × Oid)) (a : Oid) (m : Name) :
    edge (h ++ [.dir (newDirObj nodes)]) a m = if a = h.length then indexOf nodes m else edge h a m :=
  edge_append h _ a m

theorem resolve_alloc {h : Heap} (hs : Shape h) (x : Obj) :
    ∀ (q : Path) (a : Oid), a < h.length → resolve (h ++ [x]) a q = resolve h a q := by
  intro q
  induction q with
  | nil => intro a _; simp [resolve_nil]
  | cons m r ih =>
    intro a ha
    rw [resolve_cons, resolve_cons, edge_append, if_neg (Nat.ne_of_lt ha)]
    cases he : edge h a m with
    | none => rfl
    | some b => simp only [Option.bind_some]; exact ih b (hs.closed _ _ _ he).1

theorem absAt_alloc {h : Heap} (hs : Shape h) (x : Obj) (a : Oid) (ha : a < h.length) :
    absAt (h ++ [x]) a = absAt h a := by
  funext q
  unfold absAt
  rw [resolve_alloc hs x q a ha]
  cases hr : resolve h a q with
  | none => rfl
  | some y =>
    simp only [Option.bind_some]
    exact ((entKept_append h _) y (resolve_lt hs ha hr)).2 (by simp)

theorem edge_alloc_dir_ne {h : Heap} (hs : Shape h) {nodes : List (Name × Oid)}
    (hnames : (nodes.map Prod.fst).Nodup) (hlt : ∀ p ∈ nodes, p.2 < h.length) (a : Oid) (m : Name) :
    edge (h ++ [.dir (newDirObj nodes)]) a m ≠ some h.length := by
  rw [edge_alloc_dir]
  split
  · intro e
    exact absurd (hlt _ ((indexOf_spec hnames m h.length).1 e)) (Nat.lt_irrefl _)
  · intro e
    exact absurd (hs.closed _ _ _ e).1 (Nat.lt_irrefl _)

theorem absAt_new_dir {h : Heap} (hs : Shape h) {nodes : List (Name × Oid)}
    (hnames : (nodes.map Prod.fst).Nodup) (hlt : ∀ p ∈ nodes, p.2 < h.length) (q : Path) :
    absAt (h ++ [.dir (newDirObj nodes)]) h.length q =
      match q with
      | [] => some .dir
      | m :: r => match nodes.find? (fun p => p.1 == m) with
        | some p => absAt h p.2 r
        | none => none := by
  cases q with
  | nil =>
    simp only [absAt, resolve_nil, Option.bind_some]
    rw [entryOf_eq, getElem?_snoc_if]; simp [entryObj]
  | cons m r =>
    simp only [absAt, resolve_cons, edge_alloc_dir, if_true]
    cases hf : nodes.find? (fun p => p.1 == m) with
    | none =>
      have : indexOf nodes m = none := by
        cases hx : indexOf nodes m with
        | none => rfl
        | some o =>
          have := (indexOf_spec hnames m o).1 hx
          have := List.find?_eq_none.1 hf _ this
          simp at this
      simp [this]
    | some p =>
      have hmem := List.mem_of_find?_eq_some hf
      have hpm : p.1 = m := by simpa using List.find?_some hf
      have : indexOf nodes m = some p.2 := (indexOf_spec hnames m p.2).2 (by rw [← hpm]; exact hmem)
      simp only [this, Option.bind_some]
      exact congrFun (absAt_alloc hs _ p.2 (hlt p hmem)) r

/-! ### one entry of one directory is set

The entry `n` of the directory object `od` is now `c` (`none`: removed; `some x`: `x` is fresh or the root of a private
tree).  Seen from the root, the tree below `c` now stands at `p ++ [n]`, `p` the path of `od`, and nothing else has
changed: the forest has one path to `od`, so a walk that does not pass `p ++ [n]` never reads the entry. -/

/-- the tree below an optional object -/
def subAt (h : Heap) : Option Oid → Tree
  | none => fun _ => none
  | some x => absAt h x

/-- the tree that consists of one entry -/
def leaf (x : Option Entry) : Tree := fun q => if q = [] then x else none

section SetEdge
variable {h h' : Heap} {od : Oid} {n : Name} {c : Option Oid} {p : Path}

theorem setEdge_resolve_eq (hs : Shape h) (he : ∀ a m, edge h' a m = if a = od ∧ m = n then c else edge h a m)
    (hp : resolve h 0 p = some od) {q : Path} (hpq : ¬ (p ++ [n]) <+: q) : resolve h' 0 q = resolve h 0 q := by
  have key : ∀ (r2 r1 : Path) (a : Oid), q = r1 ++ r2 → resolve h 0 r1 = some a →
      resolve h' a r2 = resolve h a r2 := by
    intro r2
    induction r2 with
    | nil => intro r1 a _ _; simp [resolve_nil]
    | cons m rest ih =>
      intro r1 a hq' ha
      rw [resolve_cons, resolve_cons, he]
      by_cases hx : a = od ∧ m = n
      · exfalso
        obtain ⟨rfl, rfl⟩ := hx
        have := resolve_inj hs _ _ _ ha hp
        subst this
        exact hpq ⟨rest, by rw [hq']; simp⟩
      · simp only [hx, if_false]
        cases he' : edge h a m with
        | none => rfl
        | some b =>
          simp only [Option.bind_some]
          refine ih (r1 ++ [m]) b (by rw [hq']; simp) ?_
          rw [resolve_snoc, ha]; simpa using he'
  exact key q [] 0 rfl (resolve_nil _ _)

theorem setEdge_resolve_new (hs : Shape h) (he : ∀ a m, edge h' a m = if a = od ∧ m = n then c else edge h a m)
    (hp : resolve h 0 p = some od) : resolve h' 0 (p ++ [n]) = c := by
  have hnp : ¬ (p ++ [n]) <+: p := fun hx => by have := hx.length_le; simp at this; omega
  rw [resolve_snoc, setEdge_resolve_eq hs he hp hnp, hp]
  simp [he]

end SetEdge

/-- `h'` is `h` with one more edge `od —n→ N` to a fresh object `N` without children -/
structure AddLeaf (h h' : Heap) (od : Oid) (n : Name) (N : Oid) : Prop where
  edges : ∀ a m, edge h' a m = if a = od ∧ m = n then some N else edge h a m
  absent : edge h od n = none
  fresh_in : ∀ a m, edge h a m ≠ some N
  fresh_out : ∀ m, edge h N m = none
  ne : N ≠ od

theorem addLeaf_of {h : Heap} (hs : Shape h) {o : Oid} {d d' : DirObj} {n : Name} {x : Obj}
    (hd : getDir h o = some d) (ha : d.add n h.length = some d') (hx : ∀ m, edgeObj (some x) m = none) :
    AddLeaf h (h.set o (.dir d') ++ [x]) o n h.length
      ∧ EntKept h (h.set o (.dir d') ++ [x]) none
      ∧ entryOf (h.set o (.dir d') ++ [x]) h.length = entryObj (some x) := by
  have hl := getDir_lt_len hd
  have hnone := add_absent ha
  have hidx := add_index ha
  have hlen : (h.set o (.dir d')).length = h.length := by simp
  refine ⟨⟨?_, by rw [edge_eq_index hd]; exact hnone,
    fun a m he => absurd (hs.closed _ _ _ he).1 (Nat.lt_irrefl _), edge_unalloc (Nat.le_refl _),
    Nat.ne_of_gt hl⟩, ?_, by rw [← hlen]; exact entryOf_append _ x⟩
  · intro a m
    rw [edge_append, hlen, edge_set_idx hd hidx]
    by_cases haN : a = h.length
    · have h1 : ¬ (a = o ∧ m = n) := fun hh => absurd (haN ▸ hh.1) (Nat.ne_of_gt hl)
      rw [if_pos haN, if_neg h1, hx, haN, edge_unalloc (Nat.le_refl _)]
    · rw [if_neg haN]
  · intro a hal
    obtain ⟨h1, h2⟩ := entKept_set_dir hd d' a hal
    obtain ⟨h3, h4⟩ := entKept_append (h.set o (.dir d')) x a (by rw [hlen]; exact hal)
    exact ⟨h3.trans h1, fun hne => (h4 hne).trans (h2 hne)⟩

/-- `h'` is `h` with one more edge `od —n→ c` to the root `c` of a private tree -/
structure AddTree (h h' : Heap) (od : Oid) (n : Name) (c : Oid) : Prop where
  edges : ∀ a m, edge h' a m = if a = od ∧ m = n then some c else edge h a m
  absent : edge h od n = none
  noparent : ∀ a m, edge h a m ≠ some c
  ne0 : c ≠ 0
  lt : c < h.length

/-- inside the private tree nothing changes: the directory that got the new entry is not in it -/
theorem AddTree.inside {h h' : Heap} {od : Oid} {n : Name} {c : Oid} (hs : Shape h) (ha : AddTree h h' od n c)
    {p : Path} (hp : resolve h 0 p = some od) :
    ∀ (q : Path) (a : Oid), (∀ π, resolve h 0 π ≠ some a) → resolve h' a q = resolve h a q := by
  intro q
  induction q with
  | nil => intro a _; simp [resolve_nil]
  | cons m r ih =>
    intro a hu
    rw [resolve_cons, resolve_cons, ha.edges]
    have : ¬ (a = od ∧ m = n) := fun hh => hu p (hh.1 ▸ hp)
    simp only [this, if_false]
    cases he : edge h a m with
    | none => rfl
    | some b => simp only [Option.bind_some]; exact ih b (unr_child hs hu he)

/-! `HeapStep h h' L e`: the change has the abstract micro effect `e` (`none`: the tree stays) and links the private trees
`L`.  A graft may cut the walks at or below the grafted path; every other walk from the root survives. -/

structure HeapStep (h h' : Heap) (L : List Oid) (e : Option Eff1) : Prop where
  shape : Shape h'
  frame : StepFrame h h' L
  /-- what the other threads' `PcInv` rests on: `sim_graft` shows that no independent operation walks through `w` -/
  keep : ∀ π o, resolve h 0 π = some o → resolve h' 0 π = some o ∨ ∃ w sub, e = some (.graft w sub) ∧ w <+: π
  abs : absT h' = e.elim (absT h) (·.apply (absT h))

theorem graft_leaf_dir {A : Tree} (hA : FS.PrefixClosed A) {w : Path} (hnone : A w = none) :
    (Eff1.graft w (leaf (some .dir))).apply A = (Eff1.ensureDir w).apply A := by
  funext q
  simp only [Eff1.apply]
  by_cases hwq : w.isPrefixOf q = true
  · obtain ⟨r, rfl⟩ := List.isPrefixOf_iff_prefix.1 hwq
    cases r with
    | nil => simp [leaf, hnone]
    | cons m r' => simp [leaf, hA.none_below hnone (List.prefix_append w (m :: r'))]
  · have : ¬ q = w := fun e => hwq (e ▸ isPrefixOf_self _)
    simp [hwq, this]

theorem HeapStep.mono {h h' : Heap} {L : List Oid} {e : Option Eff1} (hst : HeapStep h h' L e)
    (he : ∀ w sub, e ≠ some (.graft w sub)) {π : Path} {o : Oid} (hr : resolve h 0 π = some o) :
    resolve h' 0 π = some o :=
  (hst.keep π o hr).resolve_right fun ⟨w, sub, h1, _⟩ => he w sub h1

theorem HeapStep.dirAt {h h' : Heap} {L : List Oid} {e : Option Eff1} (hs : Shape h) (hst : HeapStep h h' L e)
    (he : ∀ w sub, e ≠ some (.graft w sub)) {π : Path} {o : Oid} (hd : DirAt h π o) : DirAt h' π o :=
  ⟨hst.mono he hd.1, by rw [hst.frame.kind o (resolve_lt hs hs.length_pos hd.1)]; exact hd.2⟩

theorem HeapStep.refl {h : Heap} (hs : Shape h) : HeapStep h h [] none :=
  ⟨hs, ⟨Nat.le_refl _, fun _ _ => rfl, fun _ _ _ => ⟨fun _ => rfl, rfl⟩, fun _ _ hc _ => hc⟩, fun _ _ hr => .inl hr, rfl⟩

/-- the edges stay, and the entries but, possibly, the data of a file `f` within reach: the part that does not depend on
what the tree becomes -/
theorem HeapStep.edgeEq {h h' : Heap} {f : Option Oid} {e : Option Eff1} (hs : Shape h) (hi : HeapInv h')
    (he : EdgeEq h h') (hk : EntKept h h' f) (hl : h.length ≤ h'.length)
    (hf : ∀ x, f = some x → ∃ p, resolve h 0 p = some x)
    (habs : absT h' = e.elim (absT h) (·.apply (absT h))) : HeapStep h h' [] e where
  shape := by
    refine ⟨hi, by rw [(hk 0 hs.length_pos).1]; exact hs.root, fun a n c hc => ?_, fun a n a' n' c h1 h2 => ?_⟩
    · rw [he] at hc
      exact ⟨Nat.lt_of_lt_of_le (hs.closed _ _ _ hc).1 hl, (hs.closed _ _ _ hc).2⟩
    · rw [he] at h1 h2
      exact hs.up _ _ _ _ _ h1 h2
  frame := ⟨hl, fun o ho => (hk o ho).1,
    fun a ha hu => ⟨fun m => he a m, (hk a ha).2 (fun e => let ⟨p, hp⟩ := hf a e.symm; hu p hp)⟩,
    fun c _ hc _ a m => by rw [he]; exact hc a m⟩
  keep := fun π o hr => .inl (by rw [resolve_edgeEq he]; exact hr)
  abs := habs

/-- locks, reads, allocation of an unlinked object -/
theorem HeapStep.edgeEq_same {h h' : Heap} (hs : Shape h) (hi : HeapInv h') (he : EdgeEq h h') (hk : EntKept h h' none)
    (hl : h.length ≤ h'.length) : HeapStep h h' [] none := by
  refine .edgeEq hs hi he hk hl nofun ?_
  show absT h' = absT h
  funext q
  unfold absT absAt
  rw [resolve_edgeEq he]
  cases hr : resolve h 0 q with
  | none => rfl
  | some x => exact (hk x (resolve_lt hs hs.length_pos hr)).2 (by simp)

/-- only lock fields of a directory change -/
theorem HeapStep.locks {h : Heap} (hs : Shape h) {o : Oid} {d d' : DirObj} (hd : getDir h o = some d)
    (hi : d'.index = d.index) (hn : d'.nodes = d.nodes) : HeapStep h (h.set o (.dir d')) [] none := by
  obtain ⟨h1, h2⟩ := same_of_set_dir hd hi
  refine .edgeEq_same hs (heapInv_set hs.inv o fun dx hdx => ?_) h1 h2 (by simp)
  cases hdx
  unfold DirInv
  rw [hi, hn]
  exact hs.inv o d hd

theorem HeapStep.allocFile {h : Heap} (hs : Shape h) (f : FileObj) : HeapStep h (h ++ [.file f]) [] none :=
  .edgeEq_same hs (heapInv_append hs.inv fun _ hd => by cases hd) (alloc_file f).1 (alloc_file f).2.1 (by simp)

theorem HeapStep.setData {h : Heap} (hs : Shape h) {f : Oid} {ff : FileObj} (hf : getFile h f = some ff) (ff' : FileObj)
    {p : Path} (hp : resolve h 0 p = some f) :
    HeapStep h (h.set f (.file ff')) [] (some (.graft p (leaf (some (.file ff'.data))))) := by
  obtain ⟨he, hk, hv⟩ := data_of_set_file (f' := ff') hf
  refine .edgeEq hs (heapInv_set hs.inv f (fun d hd => by cases hd)) he hk (by simp)
    (fun x e => ⟨p, by cases e; exact hp⟩) ?_
  show absT _ = (Eff1.graft p _).apply (absT h)
  funext q
  simp only [Eff1.apply]
  by_cases hpq : p.isPrefixOf q = true
  · simp only [hpq, if_true]
    obtain ⟨r, rfl⟩ := List.isPrefixOf_iff_prefix.1 hpq
    simp only [List.drop_left']
    unfold absT absAt
    rw [resolve_edgeEq he, resolve_append, hp]
    cases r with
    | nil => simp [resolve_nil, hv, leaf]
    | cons n r' =>
      simp only [Option.bind_some, resolve_cons, leaf, reduceCtorEq, if_false]
      rw [edge_file_none (by rw [okind_of_getFile hf]; simp)]
      rfl
  · simp only [hpq, Bool.false_eq_true, if_false]
    unfold absT absAt
    rw [resolve_edgeEq he]
    cases hr : resolve h 0 q with
    | none => rfl
    | some x =>
      -- the forest has one path to `f`
      refine (hk x (resolve_lt hs hs.length_pos hr)).2 fun hx => ?_
      cases hx
      have := resolve_inj hs _ _ _ hr hp
      subst this
      exact hpq (isPrefixOf_self _)

theorem HeapStep.setEdge {h h' : Heap} {od : Oid} {n : Name} {c : Option Oid} {p : Path} {L : List Oid}
    (hs : Shape h) (hi : HeapInv h') (hk : EntKept h h' none) (hl : h.length ≤ h'.length)
    (he : ∀ a m, edge h' a m = if a = od ∧ m = n then c else edge h a m) (hp : resolve h 0 p = some od)
    (hc : ∀ x, c = some x → x < h'.length ∧ x ≠ 0 ∧ ∀ a m, edge h a m ≠ some x)
    (hL : ∀ x, c = some x → x ∈ L ∨ h.length ≤ x) :
    HeapStep h h' L (some (.graft (p ++ [n]) (subAt h' c))) where
  shape := by
    refine ⟨hi, by rw [(hk 0 hs.length_pos).1]; exact hs.root, fun a m x hx => ?_, fun a m a' m' x h1 h2 => ?_⟩
    · rw [he] at hx
      split at hx
      · exact ⟨(hc x hx).1, (hc x hx).2.1⟩
      · exact ⟨Nat.lt_of_lt_of_le (hs.closed _ _ _ hx).1 hl, (hs.closed _ _ _ hx).2⟩
    · -- the new child had no parent entry
      rw [he] at h1 h2
      by_cases x1 : a = od ∧ m = n <;> by_cases x2 : a' = od ∧ m' = n
      · exact ⟨x1.1.trans x2.1.symm, x1.2.trans x2.2.symm⟩
      · rw [if_pos x1] at h1; rw [if_neg x2] at h2; exact absurd h2 ((hc x h1).2.2 _ _)
      · rw [if_neg x1] at h1; rw [if_pos x2] at h2; exact absurd h1 ((hc x h2).2.2 _ _)
      · rw [if_neg x1] at h1; rw [if_neg x2] at h2; exact hs.up _ _ _ _ _ h1 h2
  frame := by
    refine ⟨hl, fun o ho => (hk o ho).1, fun a hal hu => ⟨fun m => ?_, (hk a hal).2 (by simp)⟩, fun x hx hpar hxL a m => ?_⟩
    · rw [he, if_neg (fun hh : a = od ∧ m = n => hu p (hh.1 ▸ hp))]
    · rw [he]
      split
      · intro e
        exact (hL x e).elim hxL fun h1 => absurd hx (Nat.not_lt.2 h1)
      · exact hpar a m
  keep := fun π o hr => (Classical.em ((p ++ [n]) <+: π)).elim (fun hx => .inr ⟨_, _, rfl, hx⟩)
    (fun hx => .inl (by rw [setEdge_resolve_eq hs he hp hx]; exact hr))
  abs := by
    show absT h' = (Eff1.graft (p ++ [n]) _).apply (absT h)
    funext q
    simp only [Eff1.apply]
    by_cases hpq : (p ++ [n]) <+: q
    · rw [if_pos (List.isPrefixOf_iff_prefix.2 hpq)]
      obtain ⟨r, rfl⟩ := hpq
      simp only [List.drop_left']
      unfold absT absAt
      rw [resolve_append, setEdge_resolve_new hs he hp]
      cases c <;> rfl
    · rw [if_neg (fun hx => hpq (List.isPrefixOf_iff_prefix.1 hx))]
      unfold absT absAt
      rw [setEdge_resolve_eq hs he hp hpq]
      cases hx : resolve h 0 q with
      | none => rfl
      | some x => exact (hk x (resolve_lt hs hs.length_pos hx)).2 (by simp)

theorem AddLeaf.step {h h' : Heap} {od : Oid} {n : Name} {p : Path} (hs : Shape h) (hi : HeapInv h')
    (ha : AddLeaf h h' od n h.length) (hk : EntKept h h' none) (hl : h.length < h'.length)
    (hp : resolve h 0 p = some od) :
    HeapStep h h' [] (some (.graft (p ++ [n]) (leaf (entryOf h' h.length)))) := by
  have hst := HeapStep.setEdge (c := some h.length) (L := []) hs hi hk (Nat.le_of_lt hl) ha.edges hp
    (by rintro x ⟨⟩; exact ⟨hl, Nat.ne_of_gt hs.length_pos, ha.fresh_in⟩) (by rintro x ⟨⟩; exact .inr (Nat.le_refl _))
  have hsub : subAt h' (some h.length) = leaf (entryOf h' h.length) := by
    funext q
    cases q with
    | nil => simp [subAt, absAt, resolve_nil, leaf]
    | cons m r =>
      have : ¬ (h.length = od ∧ m = n) := fun hh => ha.ne hh.1
      simp [subAt, absAt, resolve_cons, ha.edges, this, ha.fresh_out, leaf]
  rw [hsub] at hst
  exact hst

theorem HeapStep.addLeaf {h : Heap} (hs : Shape h) {o : Oid} {d d' : DirObj} {n : Name} {x : Obj} {p : Path}
    (hp : resolve h 0 p = some o) (hd : getDir h o = some d) (ha : d.add n h.length = some d')
    (hx : ∀ m, edgeObj (some x) m = none) (hxi : ∀ dx, x = .dir dx → DirInv dx) :
    HeapStep h (h.set o (.dir d') ++ [x]) [] (some (.graft (p ++ [n]) (leaf (entryObj (some x))))) := by
  obtain ⟨hal, hkept, hent⟩ := addLeaf_of (x := x) hs hd ha hx
  have hi : HeapInv (h.set o (.dir d') ++ [x]) :=
    heapInv_append (heapInv_set hs.inv o (fun dx hdx => by cases hdx; exact add_inv (hs.inv o d hd) ha)) hxi
  rw [← hent]
  exact hal.step hs hi hkept (by simp) hp

/-- the locked part of `mkdir`: a fresh empty directory `n` below the directory at `p` -/
theorem HeapStep.mkdir {h : Heap} (hs : Shape h) {o : Oid} {d d' : DirObj} {n : Name} {p : Path}
    (hp : resolve h 0 p = some o) (hd : getDir h o = some d) (ha : d.add n h.length = some d') :
    HeapStep h (h.set o (.dir d') ++ [.dir {}]) [] (some (.ensureDir (p ++ [n]))) ∧
      DirAt (h.set o (.dir d') ++ [.dir {}]) (p ++ [n]) h.length := by
  have hst := HeapStep.addLeaf (x := .dir {}) hs hp hd ha (by intro m; simp [edgeObj])
    (fun dx hdx => by cases hdx; exact dirInv_empty)
  have habs : edge h o n = none := by rw [edge_eq_index hd]; exact add_absent ha
  have hnone : absT h (p ++ [n]) = none := absT_none_of_resolve (resolve_absent hp habs (List.prefix_refl _))
  obtain ⟨hal, _, hent⟩ := addLeaf_of (x := .dir {}) hs hd ha (by intro m; simp [edgeObj])
  -- `addLeaf` gives `graft (p ++ [n]) (leaf dir)`; nothing was at `p ++ [n]`, so NO walk is cut (`keep` without its
  -- right side) and the graft is `ensureDir` (`graft_leaf_dir`)
  refine ⟨⟨hst.shape, hst.frame, fun π a hr => .inl ?_, ?_⟩, setEdge_resolve_new hs hal.edges hp, ?_⟩
  · refine (hst.keep π a hr).resolve_right ?_
    rintro ⟨w, sub, e, hpre⟩
    cases e
    rw [resolve_absent hp habs hpre] at hr; cases hr
  · rw [hst.abs]; exact graft_leaf_dir (absT_closed h) hnone
  · rw [← entryOf_dir_iff, hent]; rfl

/-- `removeNodeByName` at the directory at `p` -/
theorem HeapStep.remEdge {h : Heap} (hs : Shape h) {o : Oid} {d d' : DirObj} {n : Name} {p : Path}
    (hp : resolve h 0 p = some o) (hd : getDir h o = some d) (hr : d.remove n = some d') :
    HeapStep h (h.set o (.dir d')) [] (some (.graft (p ++ [n]) (fun _ => none))) :=
  HeapStep.setEdge (c := none) hs (heapInv_set hs.inv o (fun dx hdx => by cases hdx; exact remove_inv (hs.inv o d hd) hr))
    (entKept_set_dir hd d') (by simp) (edge_set_idx hd (remove_index hr)) hp nofun nofun

theorem AddTree.step {h h' : Heap} {od : Oid} {n : Name} {c : Oid} {p : Path} (hs : Shape h) (hi : HeapInv h')
    (ha : AddTree h h' od n c) (hk : EntKept h h' none) (hl : h.length ≤ h'.length) (hp : resolve h 0 p = some od) :
    HeapStep h h' [c] (some (.graft (p ++ [n]) (absAt h c))) := by
  have hst := HeapStep.setEdge (c := some c) (L := [c]) hs hi hk hl ha.edges hp
    (by rintro x ⟨⟩; exact ⟨Nat.lt_of_lt_of_le ha.lt hl, ha.ne0, ha.noparent⟩) (by rintro x ⟨⟩; exact .inl (by simp))
  have hsub : subAt h' (some c) = absAt h c := by
    funext r
    simp only [subAt, absAt]
    rw [ha.inside hs hp r c (unr_of_parentless ha.ne0 ha.noparent)]
    cases hr : resolve h c r with
    | none => rfl
    | some x => exact (hk x (resolve_lt hs ha.lt hr)).2 (by simp)
  rw [hsub] at hst
  exact hst

/-- `addNode` of the private tree `c` below the directory at `p` -/
theorem HeapStep.addTree {h : Heap} (hs : Shape h) {o : Oid} {d d' : DirObj} {n : Name} {c : Oid} {p : Path} {sub : Tree}
    (hp : resolve h 0 p = some o) (hd : getDir h o = some d) (ha : d.add n c = some d') (hpr : Priv h c sub) :
    HeapStep h (h.set o (.dir d')) [c] (some (.graft (p ++ [n]) sub)) := by
  obtain ⟨⟨h0, hlt, hpar⟩, rfl⟩ := hpr
  exact AddTree.step hs (heapInv_set hs.inv o (fun dx hdx => by cases hdx; exact add_inv (hs.inv o d hd) ha))
    ⟨edge_set_idx hd (add_index ha), by rw [edge_eq_index hd]; exact add_absent ha, hpar, h0, hlt⟩
    (entKept_set_dir hd d') (by simp) hp

/-- `NewDir` over private trees: the new directory `N = h.length` links exactly the roots of those trees, and
nothing the root can reach changes -/
theorem HeapStep.allocDir {h : Heap} (hs : Shape h) {nodes : List (Name × Oid)}
    (hnames : (nodes.map Prod.fst).Nodup) (hids : (nodes.map Prod.snd).Nodup)
    (hpriv : ∀ p ∈ nodes, Detached h p.2) :
    HeapStep h (h ++ [.dir (newDirObj nodes)]) (nodes.map Prod.snd) none := by
  have hlen : (h ++ [Obj.dir (newDirObj nodes)]).length = h.length + 1 := by simp
  have hkept := entKept_append h (.dir (newDirObj nodes))
  have hinv : HeapInv (h ++ [.dir (newDirObj nodes)]) :=
    heapInv_append hs.inv (by intro d hd; cases hd; exact newDirObj_inv hnames)
  have hroot : okind (h ++ [.dir (newDirObj nodes)]) 0 = some true := by
    rw [(hkept 0 hs.length_pos).1]; exact hs.root
  refine ⟨⟨hinv, hroot, ?_, ?_⟩, ⟨by simp, fun o ho => (hkept o ho).1, ?_, ?_⟩,
    fun π o hr => .inl (by rw [resolve_alloc hs _ π 0 hs.length_pos]; exact hr),
    absAt_alloc hs _ 0 hs.length_pos⟩
  · intro a m c hc
    rw [edge_alloc_dir] at hc
    split at hc
    · have := (indexOf_spec hnames m c).1 hc
      exact ⟨by rw [hlen]; exact Nat.lt_succ_of_lt (hpriv _ this).lt, (hpriv _ this).ne0⟩
    · exact ⟨by rw [hlen]; exact Nat.lt_succ_of_lt (hs.closed _ _ _ hc).1, (hs.closed _ _ _ hc).2⟩
  · intro a m a' m' c h1 h2
    rw [edge_alloc_dir] at h1 h2
    by_cases x1 : a = h.length <;> by_cases x2 : a' = h.length
    · simp only [x1, x2, if_true] at h1 h2
      have e1 := (indexOf_spec hnames m c).1 h1
      have e2 := (indexOf_spec hnames m' c).1 h2
      refine ⟨x1.trans x2.symm, ?_⟩
      -- two nodes with the same id are the same node
      have := eq_of_nodup_map hids e1 e2 rfl
      exact (Prod.mk.inj this).1
    · simp only [x1, if_true, x2, if_false] at h1 h2
      exact absurd h2 ((hpriv _ ((indexOf_spec hnames m c).1 h1)).noparent a' m')
    · simp only [x1, if_false, x2, if_true] at h1 h2
      exact absurd h1 ((hpriv _ ((indexOf_spec hnames m' c).1 h2)).noparent a m)
    · simp only [x1, x2, if_false] at h1 h2
      exact hs.up _ _ _ _ _ h1 h2
  · intro a ha _
    refine ⟨fun m => ?_, (hkept a ha).2 (by simp)⟩
    rw [edge_alloc_dir]
    simp [Nat.ne_of_lt ha]
  · intro c hc hpar hcL a m
    rw [edge_alloc_dir]
    split
    · intro e
      apply hcL
      exact List.mem_map.2 ⟨(m, c), (indexOf_spec hnames m c).1 e, rfl⟩
    · exact hpar a m

end Goat.MemFSConc
