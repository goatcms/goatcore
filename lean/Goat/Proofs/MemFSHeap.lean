/-
The id-tree of `Goat/Model/MemFSHeap.lean`: the objects of a node (`ids`, counted by `cnt`), the algebra of `HKids`
against `cnt`, `length` and `entries`, `deref`, which commutes with the `Kids` primitives and with `lookup` and reads
only the byte objects of the tree, and `incomparable_cnt`: nodes at positions neither of which lies below the other
are different parts of the tree.
-/
import Goat.Model.MemFSHeap

namespace Goat
namespace MemFSHeap

open Path (Name)

@[simp] theorem ids_file (b : BufId) : (HNode.file b).ids = [b] := by simp [HNode.ids]
@[simp] theorem ids_dir (l : BufId) (k : HKids) : (HNode.dir l k).ids = l :: k.ids := by simp [HNode.ids]
@[simp] theorem ids_nil : HKids.nil.ids = [] := by simp [HKids.ids]
@[simp] theorem ids_cons (n : Name) (x : HNode) (r : HKids) : (HKids.cons n x r).ids = x.ids ++ r.ids := by
  simp [HKids.ids]

@[simp] theorem deref_file (h : Heap) (b : BufId) : (HNode.file b).deref h = .file (h.bytes b) := by
  simp [HNode.deref]
@[simp] theorem deref_dir (h : Heap) (l : BufId) (k : HKids) : (HNode.dir l k).deref h = .dir (k.deref h) := by
  simp [HNode.deref]
@[simp] theorem deref_nil (h : Heap) : HKids.nil.deref h = .nil := by simp [HKids.deref]
@[simp] theorem deref_cons (h : Heap) (n : Name) (x : HNode) (r : HKids) :
    (HKids.cons n x r).deref h = .cons n (x.deref h) (r.deref h) := by simp [HKids.deref]

/-- A multiplicity, not membership: "pairwise different", "allocated" and "no object gained" then are one linear
inequality per id each, which `omega` combines with the `cnt_*` equations below. -/
abbrev HNode.cnt (n : HNode) (id : Nat) : Nat := n.ids.count id
abbrev HKids.cnt (k : HKids) (id : Nat) : Nat := k.ids.count id

theorem cnt_file (b : BufId) (id : Nat) : (HNode.file b).cnt id = if id = b then 1 else 0 := by
  simp only [HNode.cnt, ids_file, List.count_cons, List.count_nil, beq_iff_eq, Nat.zero_add]
  split <;> split <;> simp_all
theorem cnt_dir (l : BufId) (k : HKids) (id : Nat) :
    (HNode.dir l k).cnt id = k.cnt id + if id = l then 1 else 0 := by
  simp only [HNode.cnt, HKids.cnt, ids_dir, List.count_cons, beq_iff_eq]
  split <;> split <;> simp_all
theorem cnt_nil (id : Nat) : HKids.nil.cnt id = 0 := by simp [HKids.cnt]
theorem cnt_cons (n : Name) (x : HNode) (r : HKids) (id : Nat) :
    (HKids.cons n x r).cnt id = x.cnt id + r.cnt id := by simp [HKids.cnt, HNode.cnt, List.count_append]

theorem cnt_dir_self (l : BufId) (k : HKids) : 0 < (HNode.dir l k).cnt l := by rw [cnt_dir]; simp

theorem cnt_le_dir (l : BufId) (k : HKids) (id : Nat) : k.cnt id ≤ (HNode.dir l k).cnt id := by
  rw [cnt_dir]; omega

namespace HKids

variable {k : HKids} {s : Name} {c : HNode}

theorem cnt_find_le (id : Nat) (h : k.find s = some c) : c.cnt id ≤ k.cnt id := by
  fun_induction HKids.find k s <;> simp_all [cnt_cons] <;> omega

theorem cnt_set_found (c' : HNode) (id : Nat) (h : k.find s = some c) :
    (k.set s c').cnt id + c.cnt id = k.cnt id + c'.cnt id := by
  fun_induction HKids.find k s <;> simp_all [set, cnt_cons] <;> omega

theorem cnt_erase (id : Nat) (h : k.find s = some c) : (k.erase s).cnt id + c.cnt id = k.cnt id := by
  fun_induction HKids.find k s <;> simp_all [erase, cnt_cons] <;> omega

theorem length_set_found (c' : HNode) (h : k.find s = some c) : (k.set s c').length = k.length := by
  fun_induction HKids.find k s <;> simp_all [set, length]

theorem entries_set_found (c' : HNode) (h : k.find s = some c) (hd : c'.isDir = c.isDir) :
    (k.set s c').entries = k.entries := by
  fun_induction HKids.find k s <;> simp_all [set, entries]

theorem indexOf_lt (h : k.find s = some c) : k.indexOf s < k.length := by
  fun_induction HKids.find k s <;> simp_all [indexOf, length]

theorem length_erase (h : k.find s = some c) : (k.erase s).length + 1 = k.length := by
  fun_induction HKids.find k s <;> simp_all [erase, length]

theorem entries_erase (k : HKids) (s : Name) : (k.erase s).entries = k.entries.eraseIdx (k.indexOf s) := by
  fun_induction HKids.find k s <;> simp_all [erase, indexOf, entries]

theorem cnt_set_new (x : HNode) (id : Nat) (h : k.find s = none) : (k.set s x).cnt id = k.cnt id + x.cnt id := by
  fun_induction HKids.find k s <;> simp_all [set, cnt_cons, cnt_nil] <;> omega

theorem length_set_new (x : HNode) (h : k.find s = none) : (k.set s x).length = k.length + 1 := by
  fun_induction HKids.find k s <;> simp_all [set, length]

theorem entries_set_new (x : HNode) (h : k.find s = none) : (k.set s x).entries = k.entries ++ [(s, x.isDir)] := by
  fun_induction HKids.find k s <;> simp_all [set, entries]

theorem cnt_find_two {s' : Name} {c' : HNode} (id : Nat) (hne : s ≠ s') (h1 : k.find s = some c)
    (h2 : k.find s' = some c') : c.cnt id + c'.cnt id ≤ k.cnt id := by
  fun_induction HKids.find k s with
  | case1 => cases h1
  | case2 y r s =>
    have := cnt_find_le id (show r.find s' = some c' by simpa [find, hne] using h2)
    cases h1
    rw [cnt_cons]; omega
  | case3 n y r s e ih =>
    rw [cnt_cons]
    by_cases e2 : n = s'
    · have := cnt_find_le id h1
      simp only [find, e2, if_true, Option.some.injEq] at h2; subst h2; omega
    · have := ih hne h1 (by simpa [find, e2] using h2); omega

theorem find_set_same (k : HKids) (m : Name) (x : HNode) : (k.set m x).find m = some x := by
  fun_induction HKids.set k m x <;> simp_all [find]

theorem set_set (k : HKids) (m : Name) (x y : HNode) : (k.set m x).set m y = k.set m y := by
  fun_induction HKids.set k m x <;> simp_all [set]

theorem entries_length (k : HKids) : k.entries.length = k.length := by
  fun_induction HKids.entries k <;> simp_all [length]

theorem find_deref (h : Heap) (k : HKids) (s : Name) :
    (k.deref h).find s = (k.find s).map (HNode.deref h) := by
  fun_induction HKids.find k s <;> simp_all [Kids.find]

theorem set_deref (h : Heap) (k : HKids) (s : Name) (x : HNode) :
    (k.set s x).deref h = (k.deref h).set s (x.deref h) := by
  fun_induction HKids.set k s x <;> simp_all [Kids.set]

theorem erase_deref (h : Heap) (k : HKids) (s : Name) :
    (k.erase s).deref h = (k.deref h).erase s := by
  fun_induction HKids.erase k s <;> simp_all [Kids.erase]

end HKids

theorem isDir_deref (h : Heap) (n : HNode) : (n.deref h).isDir = n.isDir := by
  cases n <;> simp [Node.isDir, HNode.isDir]

namespace HKids

theorem entries_deref (h : Heap) (k : HKids) : (k.deref h).entries = k.entries := by
  fun_induction HKids.entries k <;> simp_all [Kids.entries, isDir_deref]

theorem isEmpty_deref (h : Heap) (k : HKids) : (k.deref h).isEmpty = k.isEmpty := by
  cases k <;> simp [isEmpty, Kids.isEmpty]

end HKids

theorem HNode.induct₂ {P : HNode → Prop} {Q : HKids → Prop} (file : ∀ b, P (.file b))
    (dir : ∀ l k, Q k → P (.dir l k)) (nil : Q .nil) (cons : ∀ n x r, P x → Q r → Q (.cons n x r)) :
    (∀ n, P n) ∧ (∀ k, Q k) :=
  ⟨fun n => HNode.rec file dir nil cons n, fun k => HKids.rec file dir nil cons k⟩

theorem deref_congr_both (h h' : Heap) :
    (∀ n : HNode, (∀ id, 0 < n.cnt id → h'.bytes id = h.bytes id) → n.deref h' = n.deref h)
    ∧ (∀ k : HKids, (∀ id, 0 < k.cnt id → h'.bytes id = h.bytes id) → k.deref h' = k.deref h) := by
  refine HNode.induct₂ (fun b hb => ?_) (fun l k ih hb => ?_) (fun _ => by simp) (fun n x r ihx ihr hb => ?_)
  · simp [hb b (by simp [cnt_file])]
  · simp only [deref_dir, ih (fun id hid => hb id (by rw [cnt_dir]; omega))]
  · simp only [deref_cons, ihx (fun id hid => hb id (by rw [cnt_cons]; omega)),
      ihr (fun id hid => hb id (by rw [cnt_cons]; omega))]

theorem deref_congr (h h' : Heap) (n : HNode) :
    (∀ id, 0 < n.cnt id → h'.bytes id = h.bytes id) → n.deref h' = n.deref h :=
  (deref_congr_both h h').1 n

theorem derefK_congr (h h' : Heap) (k : HKids) :
    (∀ id, 0 < k.cnt id → h'.bytes id = h.bytes id) → k.deref h' = k.deref h :=
  (deref_congr_both h h').2 k

theorem lookup_deref (h : Heap) (n : HNode) (p : List Name) :
    (n.deref h).lookup p = (n.lookup p).map (HNode.deref h) := by
  fun_induction HNode.lookup n p <;> simp_all [Node.lookup, HKids.find_deref]

theorem lookup_cnt (id : Nat) (p : List Name) (n m : HNode) (e : n.lookup p = some m) : m.cnt id ≤ n.cnt id := by
  fun_induction HNode.lookup n p <;> simp_all
  next l k s rest c hf ih => have := HKids.cnt_find_le id hf; rw [cnt_dir]; omega

theorem incomparable_cnt : ∀ (p q : List Name) (n a b : HNode), n.lookup p = some a → n.lookup q = some b →
    ¬ p <+: q → ¬ q <+: p → ∀ id : Nat, a.cnt id + b.cnt id ≤ n.cnt id := by
  intro p
  induction p with
  | nil => intro q n a b _ _ h1; exact absurd (List.nil_prefix) h1
  | cons s p' ih =>
    intro q n a b ha hb h1 h2 id
    cases q with
    | nil => exact absurd (List.nil_prefix) h2
    | cons s' q' =>
      cases n with
      | file x => simp [HNode.lookup] at ha
      | dir l k =>
        simp only [HNode.lookup] at ha hb
        cases hf1 : k.find s with
        | none => simp [hf1] at ha
        | some c =>
          cases hf2 : k.find s' with
          | none => simp [hf2] at hb
          | some c' =>
            simp only [hf1, hf2] at ha hb
            have := cnt_le_dir l k id
            by_cases e : s = s'
            · subst e
              rw [hf1] at hf2; cases hf2
              have := ih q' c a b ha hb (fun h => h1 (List.cons_prefix_cons.mpr ⟨rfl, h⟩))
                (fun h => h2 (List.cons_prefix_cons.mpr ⟨rfl, h⟩)) id
              have := HKids.cnt_find_le id hf1
              omega
            · have := HKids.cnt_find_two id e hf1 hf2
              have := lookup_cnt id p' c a ha
              have := lookup_cnt id q' c' b hb
              omega

end MemFSHeap
end Goat
