/-
C11: what the event machinery (`trigger`, `appendError`, `fire`, the triggers of `Close`) changes and leaves alone
(`CtxStep`, `TrigStep`), how the trace of close events grows, and that a trigger over ungated listeners is one `fire`.
-/
import Goat.Model.Scope

namespace Goat.Scope

@[simp] theorem upd_same {α : Type} (f : Nat → α) (i : Nat) (v : α) : upd f i v i = v := by
  simp [upd]

theorem upd_ne {α : Type} (f : Nat → α) {i j : Nat} (v : α) (h : j ≠ i) : upd f i v j = f j := by
  simp [upd, h]

theorem upd_apply {α : Type} (f : Nat → α) (i j : Nat) (v : α) :
    upd f i v j = if j = i then v else f j := rfl

@[simp] theorem modScp_ctx (st : State) (s : Nat) (f : Scp → Scp) : (st.modScp s f).ctx = st.ctx := rfl
@[simp] theorem modScp_nScopes (st : State) (s : Nat) (f : Scp → Scp) : (st.modScp s f).nScopes = st.nScopes := rfl
@[simp] theorem modScp_nCtxs (st : State) (s : Nat) (f : Scp → Scp) : (st.modScp s f).nCtxs = st.nCtxs := rfl
@[simp] theorem modScp_nListeners (st : State) (s : Nat) (f : Scp → Scp) :
    (st.modScp s f).nListeners = st.nListeners := rfl
@[simp] theorem modScp_log (st : State) (s : Nat) (f : Scp → Scp) : (st.modScp s f).log = st.log := rfl
@[simp] theorem modScp_trace (st : State) (s : Nat) (f : Scp → Scp) : (st.modScp s f).trace = st.trace := rfl
@[simp] theorem modScp_gates (st : State) (s : Nat) (f : Scp → Scp) : (st.modScp s f).gates = st.gates := rfl
@[simp] theorem modScp_scp_same (st : State) (s : Nat) (f : Scp → Scp) :
    (st.modScp s f).scp s = f (st.scp s) := upd_same _ _ _
theorem modScp_scp_ne (st : State) {s t : Nat} (f : Scp → Scp) (h : t ≠ s) :
    (st.modScp s f).scp t = st.scp t := upd_ne _ _ h
theorem modScp_scp (st : State) (s t : Nat) (f : Scp → Scp) :
    (st.modScp s f).scp t = if t = s then f (st.scp s) else st.scp t := rfl

@[simp] theorem modCtx_scp (st : State) (c : Nat) (f : Ctx → Ctx) : (st.modCtx c f).scp = st.scp := rfl
@[simp] theorem modCtx_nScopes (st : State) (c : Nat) (f : Ctx → Ctx) : (st.modCtx c f).nScopes = st.nScopes := rfl
@[simp] theorem modCtx_nCtxs (st : State) (c : Nat) (f : Ctx → Ctx) : (st.modCtx c f).nCtxs = st.nCtxs := rfl
@[simp] theorem modCtx_nListeners (st : State) (c : Nat) (f : Ctx → Ctx) :
    (st.modCtx c f).nListeners = st.nListeners := rfl
@[simp] theorem modCtx_log (st : State) (c : Nat) (f : Ctx → Ctx) : (st.modCtx c f).log = st.log := rfl
@[simp] theorem modCtx_trace (st : State) (c : Nat) (f : Ctx → Ctx) : (st.modCtx c f).trace = st.trace := rfl
@[simp] theorem modCtx_gates (st : State) (c : Nat) (f : Ctx → Ctx) : (st.modCtx c f).gates = st.gates := rfl
@[simp] theorem modCtx_ctx_same (st : State) (c : Nat) (f : Ctx → Ctx) :
    (st.modCtx c f).ctx c = f (st.ctx c) := upd_same _ _ _
theorem modCtx_ctx_ne (st : State) {c d : Nat} (f : Ctx → Ctx) (h : d ≠ c) :
    (st.modCtx c f).ctx d = st.ctx d := upd_ne _ _ h
theorem modCtx_ctx (st : State) (c d : Nat) (f : Ctx → Ctx) :
    (st.modCtx c f).ctx d = if d = c then f (st.ctx c) else st.ctx d := rfl

theorem hasErr_iff (st : State) (s : Nat) : st.hasErr s = true ↔ (st.ctx (st.scp s).ctx).errors ≠ 0 := by
  simp [State.hasErr, State.ctxOf]

theorem upd_rel {α : Type} {R : α → α → Prop} (hr : ∀ x, R x x) {g : Nat → α} {i : Nat} {v : α}
    (hv : R v (g i)) (j : Nat) : R (upd g i v j) (g j) := by
  rw [upd_apply]; split
  · subst_vars; exact hv
  · exact hr _

/-- `y` arose from `x` by gaining errors, becoming done, or losing a watcher that leaves it done -/
structure CtxLe (x y : Ctx) : Prop where
  parent : y.parent = x.parent
  watch : y.watch = false → x.watch = false ∨ y.done = true
  errors : x.errors ≤ y.errors
  done : x.done = true → y.done = true
  errdone : x.errors < y.errors → y.done = true

theorem CtxLe.refl (x : Ctx) : CtxLe x x :=
  ⟨rfl, .inl, Nat.le_refl _, id, fun h => absurd h (Nat.lt_irrefl _)⟩

theorem CtxLe.trans {x y z : Ctx} (h1 : CtxLe x y) (h2 : CtxLe y z) : CtxLe x z where
  parent := h2.parent.trans h1.parent
  watch := fun h => (h2.watch h).elim (fun hb => (h1.watch hb).imp_right h2.done) .inr
  errors := Nat.le_trans h1.errors h2.errors
  done := fun h => h2.done (h1.done h)
  errdone := fun h => by
    by_cases hxy : x.errors < y.errors
    · exact h2.done (h1.errdone hxy)
    · have := h1.errors
      exact h2.errdone (by omega)

/-- listener invocations, error appends, `Stop` or a move of the watcher on context `c`: only `ctx c` changes -/
structure CtxStep (st st' : State) (c : Nat) : Prop where
  scp : st'.scp = st.scp
  nScopes : st'.nScopes = st.nScopes
  nCtxs : st'.nCtxs = st.nCtxs
  ctx_other : ∀ d, d ≠ c → st'.ctx d = st.ctx d
  le : ∀ d, CtxLe (st.ctx d) (st'.ctx d)

theorem CtxStep.of_eq {st st' : State} (c : Nat) (hs : st'.scp = st.scp) (hc : st'.ctx = st.ctx)
    (hn : st'.nScopes = st.nScopes) (hm : st'.nCtxs = st.nCtxs) : CtxStep st st' c :=
  ⟨hs, hn, hm, fun _ _ => by rw [hc], fun _ => by rw [hc]; exact .refl _⟩

theorem CtxStep.trans {a b d : State} {c : Nat} (h1 : CtxStep a b c) (h2 : CtxStep b d c) : CtxStep a d c :=
  ⟨h2.scp.trans h1.scp, h2.nScopes.trans h1.nScopes, h2.nCtxs.trans h1.nCtxs,
    fun x hx => (h2.ctx_other x hx).trans (h1.ctx_other x hx), fun x => (h1.le x).trans (h2.le x)⟩

theorem ctxStep_modCtx (st : State) (c : Nat) (f : Ctx → Ctx)
    (hp : (f (st.ctx c)).parent = (st.ctx c).parent) (he : (st.ctx c).errors ≤ (f (st.ctx c)).errors)
    (hd : (f (st.ctx c)).done = true) : CtxStep st (st.modCtx c f) c :=
  ⟨rfl, rfl, rfl, fun _ h => modCtx_ctx_ne st f h,
    upd_rel (R := fun y x => CtxLe x y) .refl ⟨hp, fun _ => .inr hd, he, fun _ => hd, fun _ => hd⟩⟩

theorem ctxStep_trigger (st : State) (s : Nat) (ev : Ev) (src : Option Nat) (c : Nat) :
    CtxStep st (st.trigger s ev src).1 c := .of_eq c rfl rfl rfl rfl

theorem ctxStep_addError (st : State) (s : Nat) : CtxStep st (st.addError s) (st.scp s).ctx :=
  ctxStep_modCtx st _ _ rfl (Nat.le_succ _) rfl

theorem ctxStep_setDone (st : State) (s : Nat) : CtxStep st (st.setDone s) (st.scp s).ctx :=
  ctxStep_modCtx st _ _ rfl (Nat.le_refl _) rfl

theorem ctxStep_appendError_from_add (st : State) (s : Nat) :
    CtxStep (st.addError s) (st.appendError s) (st.scp s).ctx := by
  unfold State.appendError
  have h := ctxStep_trigger (st.addError s) s .error none (st.scp s).ctx
  simp only []
  split
  · exact h.trans (ctxStep_addError _ s)
  · exact h

theorem ctxStep_appendError (st : State) (s : Nat) : CtxStep st (st.appendError s) (st.scp s).ctx :=
  (ctxStep_addError st s).trans (ctxStep_appendError_from_add st s)

theorem ctxStep_fire (st : State) (s : Nat) (ev : Ev) (src : Option Nat) :
    CtxStep st (st.fire s ev src) (st.scp s).ctx := by
  unfold State.fire
  have h := ctxStep_trigger st s ev src (st.scp s).ctx
  simp only []
  split
  · exact h.trans (ctxStep_appendError _ s)
  · exact h

theorem closeTrace_snoc {st st' : State} {s : Nat} {ev : Ev} (h : st'.trace = st.trace ++ [(s, ev)]) (t : Nat) :
    st'.closeTrace t = st.closeTrace t ++ (if s = t ∧ ev.isClose = true then [ev] else []) := by
  by_cases h1 : s = t <;> by_cases h2 : ev.isClose = true <;> simp [State.closeTrace, h, h1, h2]

@[simp] theorem trigger_trace (st : State) (s : Nat) (ev : Ev) (src : Option Nat) :
    (st.trigger s ev src).1.trace = st.trace ++ [(s, ev)] := rfl

@[simp] theorem addError_trace (st : State) (s : Nat) : (st.addError s).trace = st.trace := rfl
@[simp] theorem setDone_trace (st : State) (s : Nat) : (st.setDone s).trace = st.trace := rfl

theorem appendError_trace (st : State) (s : Nat) : (st.appendError s).trace = st.trace ++ [(s, .error)] := by
  unfold State.appendError
  simp only []
  split <;> rfl

@[simp] theorem closeTrace_addError (st : State) (s t : Nat) : (st.addError s).closeTrace t = st.closeTrace t := rfl
@[simp] theorem closeTrace_setDone (st : State) (s t : Nat) : (st.setDone s).closeTrace t = st.closeTrace t := rfl

@[simp] theorem closeTrace_modScp (st : State) (s t : Nat) (f : Scp → Scp) :
    (st.modScp s f).closeTrace t = st.closeTrace t := rfl

@[simp] theorem closeTrace_modCtx (st : State) (c t : Nat) (f : Ctx → Ctx) :
    (st.modCtx c f).closeTrace t = st.closeTrace t := rfl

@[simp] theorem closeTrace_appendError (st : State) (s t : Nat) :
    (st.appendError s).closeTrace t = st.closeTrace t := by
  simp [closeTrace_snoc (appendError_trace st s), Ev.isClose]

theorem closeTrace_fire (st : State) (s : Nat) (ev : Ev) (src : Option Nat) (t : Nat) :
    (st.fire s ev src).closeTrace t = st.closeTrace t ++ (if s = t ∧ ev.isClose = true then [ev] else []) := by
  unfold State.fire
  simp only []
  split
  · rw [closeTrace_appendError]; exact closeTrace_snoc rfl t
  · exact closeTrace_snoc rfl t

theorem closeTrace_fire_ne (st : State) {s t : Nat} (ev : Ev) (src : Option Nat) (h : s ≠ t) :
    (st.fire s ev src).closeTrace t = st.closeTrace t := by
  simp [closeTrace_fire, h]

theorem closeTrace_fire_nonclose (st : State) (s : Nat) {ev : Ev} (src : Option Nat) (t : Nat)
    (h : ev.isClose = false) : (st.fire s ev src).closeTrace t = st.closeTrace t := by
  simp [closeTrace_fire, h]

@[simp] theorem fire_scp (st : State) (s : Nat) (ev : Ev) (src : Option Nat) : (st.fire s ev src).scp = st.scp :=
  (ctxStep_fire st s ev src).scp
@[simp] theorem fire_nScopes (st : State) (s : Nat) (ev : Ev) (src : Option Nat) :
    (st.fire s ev src).nScopes = st.nScopes := (ctxStep_fire st s ev src).nScopes
@[simp] theorem fire_nCtxs (st : State) (s : Nat) (ev : Ev) (src : Option Nat) :
    (st.fire s ev src).nCtxs = st.nCtxs := (ctxStep_fire st s ev src).nCtxs
@[simp] theorem appendError_scp (st : State) (s : Nat) : (st.appendError s).scp = st.scp :=
  (ctxStep_appendError st s).scp
@[simp] theorem appendError_nScopes (st : State) (s : Nat) : (st.appendError s).nScopes = st.nScopes :=
  (ctxStep_appendError st s).nScopes
@[simp] theorem appendError_nCtxs (st : State) (s : Nat) : (st.appendError s).nCtxs = st.nCtxs :=
  (ctxStep_appendError st s).nCtxs
@[simp] theorem addError_scp (st : State) (s : Nat) : (st.addError s).scp = st.scp := rfl
@[simp] theorem addError_nScopes (st : State) (s : Nat) : (st.addError s).nScopes = st.nScopes := rfl
@[simp] theorem addError_nCtxs (st : State) (s : Nat) : (st.addError s).nCtxs = st.nCtxs := rfl
@[simp] theorem setDone_scp (st : State) (s : Nat) : (st.setDone s).scp = st.scp := rfl
@[simp] theorem setDone_nScopes (st : State) (s : Nat) : (st.setDone s).nScopes = st.nScopes := rfl
@[simp] theorem setDone_nCtxs (st : State) (s : Nat) : (st.setDone s).nCtxs = st.nCtxs := rfl

theorem addError_hasErr (st : State) (s : Nat) :
    ((st.addError s).ctx (st.scp s).ctx).errors ≠ 0 ∧ ((st.addError s).ctx (st.scp s).ctx).done = true := by
  simp [State.addError]

theorem appendError_hasErr (st : State) (s : Nat) : ((st.appendError s).ctx (st.scp s).ctx).errors ≠ 0 := by
  have h1 := (addError_hasErr st s).1
  have h2 := ((ctxStep_appendError_from_add st s).le (st.scp s).ctx).errors
  omega

/-- one piece of a trigger of `Close` of `s`: listener invocations and at most one `Scope.appendError` (a `CtxStep`),
then `s` records that the goroutine parked, or that the trigger ended (a returned error is in the context by then) -/
inductive TrigStep (st : State) (s : Nat) : State → Prop where
  | parked (st1 : State) (p : Park) (e : CtxStep st st1 (st.scp s).ctx) :
      TrigStep st s (st1.modScp s fun x => { x with park := some p })
  | ended (st1 : State) (failed : Bool) (e : CtxStep st st1 (st.scp s).ctx)
      (herr : failed = true → (st1.ctx (st.scp s).ctx).errors ≠ 0) :
      TrigStep st s (st1.modScp s fun x =>
        { x with phase := x.phase.next, park := none, lfail := failed || x.lfail })

theorem TrigStep.of_eq {st sta st' : State} {s : Nat} (t : TrigStep sta s st') (hs : sta.scp = st.scp)
    (hc : sta.ctx = st.ctx) (hn : sta.nScopes = st.nScopes) (hm : sta.nCtxs = st.nCtxs) :
    TrigStep st s st' := by
  have e : CtxStep st sta (st.scp s).ctx := .of_eq _ hs hc hn hm
  cases t with
  | parked st1 p e1 => exact .parked st1 p (e.trans (hs ▸ e1))
  | ended st1 failed e1 herr => exact .ended st1 failed (e.trans (hs ▸ e1)) (hs ▸ herr)

theorem trigStep_endTrigger (st : State) (s : Nat) (failed : Bool) : TrigStep st s (st.endTrigger s failed) := by
  cases failed
  · exact .ended _ false (.of_eq _ rfl rfl rfl rfl) nofun
  · exact .ended _ true (ctxStep_appendError st s) fun _ => appendError_hasErr st s

theorem trigStep_applyTrig (st : State) (s : Nat) (r : List Entry × TrigRes) : TrigStep st s (st.applyTrig s r) := by
  unfold State.applyTrig
  split
  · exact (trigStep_endTrigger _ s _).of_eq rfl rfl rfl rfl
  · exact .parked _ _ (.of_eq _ rfl rfl rfl rfl)

theorem trigStep_startTrigger (st : State) (s : Nat) (ev : Ev) : TrigStep st s (st.startTrigger s ev) :=
  (trigStep_applyTrig _ s _).of_eq rfl rfl rfl rfl

theorem trigStep_resumeTrigger (st : State) (s : Nat) (ev : Ev) (p : Park) :
    TrigStep st s (st.resumeTrigger s ev p) := by
  unfold State.resumeTrigger
  split
  · exact trigStep_endTrigger st s true
  · split <;> exact trigStep_applyTrig st s _

theorem closeTrace_endTrigger (st : State) (s : Nat) (failed : Bool) (t : Nat) :
    (st.endTrigger s failed).closeTrace t = st.closeTrace t := by
  unfold State.endTrigger
  cases failed <;> simp

theorem closeTrace_applyTrig (st : State) (s : Nat) (r : List Entry × TrigRes) (t : Nat) :
    (st.applyTrig s r).closeTrace t = st.closeTrace t := by
  unfold State.applyTrig
  split
  · rw [closeTrace_endTrigger]; rfl
  · rfl

theorem closeTrace_startTrigger (st : State) (s : Nat) (ev : Ev) (t : Nat) :
    (st.startTrigger s ev).closeTrace t = st.closeTrace t ++ (if s = t ∧ ev.isClose = true then [ev] else []) := by
  unfold State.startTrigger
  rw [closeTrace_applyTrig]
  exact closeTrace_snoc rfl t

theorem closeTrace_resumeTrigger (st : State) (s : Nat) (ev : Ev) (p : Park) (t : Nat) :
    (st.resumeTrigger s ev p).closeTrace t = st.closeTrace t := by
  unfold State.resumeTrigger
  split
  · exact closeTrace_endTrigger st s true t
  · split <;> exact closeTrace_applyTrig st s _ t

/-- what the phases that have a trigger share; `seq`, `seqNext`: the event is recorded when the trigger starts (not
again when a parked goroutine resumes), and its end adds nothing -/
structure TrigPhase (ph : Phase) (rb : Bool) (ev : Ev) : Prop where
  live : ph.live = true
  waited : ph.next.waited = ph.waited
  /-- before `Wait()` has returned the only trigger is BeforeClose -/
  begun : ph.waited = false → ph = .begun
  isClose : ev.isClose = true
  seq : ∀ pk, closeSeq ph rb true = closeSeq ph rb pk ++ (if pk then [] else [ev])
  seqNext : closeSeq ph.next rb false = closeSeq ph rb true

theorem evOf_facts {ph : Phase} {rb : Bool} {ev : Ev} (h : evOf ph rb = some ev) : TrigPhase ph rb ev := by
  cases ph <;> cases rb <;> simp [evOf] at h <;> subst h <;>
    exact ⟨rfl, rfl, by decide, rfl, fun pk => by cases pk <;> rfl, rfl⟩

theorem evOf_not_live {ph : Phase} (h : ph.live = false) (rb : Bool) : evOf ph rb = none := by
  cases ph <;> first | rfl | cases h

theorem closeSeq_unwaited {ph : Phase} (h : ph.waited = false) (rb rb' : Bool) {pk : Bool}
    (hp : pk = true → ph = .begun) : closeSeq ph rb pk = closeSeq ph rb' pk := by
  cases pk
  · cases ph <;> cases rb <;> cases rb' <;> first | rfl | (exact absurd h (by decide))
  · rw [hp rfl]; cases rb <;> cases rb' <;> rfl

/-- `more`: the listeners of the event scopes further down, run when `ls` falls off the end -/
theorem runList_ungated (gates : Nat → Bool) (ev : Ev) (src : Option Nat) (owner : Nat) (todo : List Nat)
    (more : List Listener) (ls : List Listener) (h : ∀ l ∈ ls, l.gate = none) :
    (match runList gates ev src owner todo ls with
      | (es, some r) => (es, r)
      | (es, none) => (es ++ (runListeners ev src more).1, .done (runListeners ev src more).2)) =
      ((runListeners ev src (ls ++ more)).1, TrigRes.done (runListeners ev src (ls ++ more)).2) := by
  induction ls with
  | nil => rfl
  | cons l rest ih =>
    have ih' := ih fun x hx => h x (List.mem_cons_of_mem _ hx)
    simp only [runList, runListeners, h l List.mem_cons_self, List.cons_append]
    by_cases h1 : l.ev = ev
    · by_cases h2 : l.fails = true
      · simp [h1, h2]
      · rcases hr : runList gates ev src owner todo rest with ⟨es, _ | r⟩ <;> simp_all
    · simp only [h1, if_false]; exact ih'

theorem runChain_ungated (st : State) (ev : Ev) (src : Option Nat) (path : List Nat)
    (h : ∀ a ∈ path, ∀ l ∈ (st.scp a).listeners, l.gate = none) :
    st.runChain ev src path =
      ((runListeners ev src (path.flatMap fun a => (st.scp a).listeners)).1,
       .done (runListeners ev src (path.flatMap fun a => (st.scp a).listeners)).2) := by
  induction path with
  | nil => rfl
  | cons a todo ih =>
    simp only [State.runChain, List.flatMap_cons]
    rw [ih fun x hx => h x (List.mem_cons_of_mem _ hx)]
    exact runList_ungated _ _ _ _ _ _ _ (h a List.mem_cons_self)

def State.ungatedChain (st : State) (s : Nat) : Prop :=
  ∀ a ∈ (st.scp s).path, ∀ l ∈ (st.scp a).listeners, l.gate = none

/-- with ungated listeners a trigger of `Close` never parks: it is `scp.appendError(scp.Trigger(ev, scp))` in one
piece, then the move of the phase -/
theorem startTrigger_ungated (st : State) (s : Nat) (ev : Ev) (h : st.ungatedChain s) :
    st.startTrigger s ev =
      (st.fire s ev (some s)).modScp s fun x =>
        { x with phase := x.phase.next, park := none, lfail := (st.trigger s ev (some s)).2 || x.lfail } := by
  unfold State.startTrigger
  have hc := runChain_ungated { st with trace := st.trace ++ [(s, ev)] } ev (some s) (st.scp s).path h
  simp only [] at hc ⊢
  rw [hc]
  rfl

end Goat.Scope
