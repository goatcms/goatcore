/-
Which goroutine of the fsloop protocol can move, killed or not.  A consumer that has not signed off always can; a
producer can unless it is at a send on a full channel (`BlockedSend`); so a state in which none can (`stuck_shape`)
has every consumer gone and every remaining producer blocked.  Without a kill, or when the channel capacities cover
what the program sends, that is the regular end; otherwise a blocked producer stays blocked: nobody receives any more.
-/
import Goat.Proofs.LoopCor

namespace Goat.Loop
open Goat.LTS

theorem cons_enabled (P : Params) (s : St) (i : Nat) (pc : PC) (h : s.cons[i]? = some pc)
    (hne : pc ≠ .exited) : ∃ t, step P s (.cons i) = some t := by
  simp [step, consStep, h, hne]

theorem cons_can_move (P : Params) {s : St} (hall : ¬ AllExited s) : ∃ i t, step P s (.cons i) = some t := by
  obtain ⟨pc, hpc, hne⟩ : ∃ pc, pc ∈ s.cons ∧ pc ≠ PC.exited := by simpa [AllExited] using hall
  obtain ⟨i, hi⟩ := List.getElem?_of_mem hpc
  exact ⟨i, cons_enabled P s i pc hi hne⟩

def BlockedSend (P : Params) (s : St) : Prod → Prop
  | .run (.send true _ :: _) => P.capD ≤ s.qd.length
  | .run (.send false _ :: _) => P.capF ≤ s.qf.length
  | _ => False

instance (P : Params) (s : St) (pr : Prod) : Decidable (BlockedSend P s pr) := by
  unfold BlockedSend; split <;> infer_instance

theorem blockedSend_send {P : Params} {s : St} {pr : Prod} (hb : BlockedSend P s pr) :
    ∃ d p rest, pr = .run (.send d p :: rest) ∧ if d then P.capD ≤ s.qd.length else P.capF ≤ s.qf.length := by
  unfold BlockedSend at hb
  split at hb
  · exact ⟨true, _, _, rfl, hb⟩
  · exact ⟨false, _, _, rfl, hb⟩
  · exact hb.elim

theorem prod_enabled {P : Params} {prog : List PAct} {n : Nat} {s : St} (hI : Inv P prog n s) (j : Nat)
    (pr : Prod) (hj : s.prods[j]? = some pr) (hl : pr ≠ .gone) (hb : ¬ BlockedSend P s pr) :
    ∃ t, step P s (.prod j) = some t := by
  obtain ⟨_, _, _, hnd, hnf⟩ := waiting_of_live hI (List.mem_of_getElem? hj) (by cases pr <;> simp [liveP] at hl ⊢)
  simp only [step, prodStep, hj]
  cases pr with
  | gone => exact absurd rfl hl
  | rep p k rest => exact ⟨_, rfl⟩
  | run acts =>
    rcases acts with _ | ⟨a, rest⟩
    · exact ⟨_, rfl⟩
    cases a with
    | send d p => cases d <;> simp only [BlockedSend, Nat.not_le] at hb <;> simp [prodAct, hb, hnd, hnf]
    | list p sl ok k => cases ok <;> exact ⟨_, rfl⟩
    | chk k => simp only [prodAct]; split <;> exact ⟨_, rfl⟩
    | _ => exact ⟨_, rfl⟩

theorem stuck_shape {P : Params} {prog : List PAct} {n : Nat} {s : St} (hI : Inv P prog n s)
    (hstuck : ∀ l, l.isProg = true → step P s l = none) :
    AllExited s ∧ (∀ (j : Nat) (pr : Prod), s.prods[j]? = some pr → pr = .gone ∨ BlockedSend P s pr)
      ∧ (s.ppool = 0 → s.closer = .fin) := by
  refine ⟨?_, ?_, ?_⟩
  · apply Classical.byContradiction
    intro hall
    obtain ⟨i, t, ht⟩ := cons_can_move P hall
    have := hstuck (.cons i) rfl
    rw [ht] at this; cases this
  · intro j pr hj
    apply Classical.byContradiction
    intro hcon
    obtain ⟨t, ht⟩ := prod_enabled hI j pr hj (fun e => hcon (Or.inl e)) (fun e => hcon (Or.inr e))
    have := hstuck (.prod j) rfl
    rw [ht] at this; cases this
  · intro h0
    exact (closerStep_none (hstuck .closer rfl)).resolve_right fun h => h.2 h0

theorem progress {P : Params} {prog : List PAct} {n : Nat} {s : St} (hI : Inv P prog n s) (hn : 0 < n)
    (hk : s.killed = false) (hnf : ¬ (AllExited s ∧ s.closer = .fin)) :
    ∃ l t, l.isProg = true ∧ step P s l = some t := by
  apply Classical.byContradiction
  intro hno
  -- nothing can move and nothing was killed: the consumers left after the announcement, so no producer is left
  obtain ⟨hall, _, hfin⟩ := stuck_shape hI fun l hl => Option.eq_none_iff_forall_ne_some.mpr
    fun t ht => hno ⟨l, t, hl, ht⟩
  exact hnf ⟨hall, hfin (drained_of_allExited hI hn hk hall).1⟩

theorem not_blocked_of_capacity {P : Params} {prog : List PAct} {n : Nat} {s : St} (hI : Inv P prog n s)
    (hD : (sendsL prog).countP (fun x => x.1) ≤ P.capD) (hF : (sendsL prog).countP (fun x => !x.1) ≤ P.capF)
    (j : Nat) (pr : Prod) (hj : s.prods[j]? = some pr) : ¬ BlockedSend P s pr := by
  intro hb
  obtain ⟨d, p, rest, rfl, hfull⟩ := blockedSend_send hb
  have h1 := lsum_ge unsentD (List.mem_of_getElem? hj)
  have h2 := lsum_ge unsentF (List.mem_of_getElem? hj)
  have h3 := hI.lenD
  have h4 := hI.lenF
  cases d <;> simp [unsentD, unsentF] at h1 h2 hfull <;> omega

theorem terminal_of_capacity {P : Params} {prog : List PAct} {n : Nat} {s : St} (hI : Inv P prog n s)
    (hD : (sendsL prog).countP (fun x => x.1) ≤ P.capD) (hF : (sendsL prog).countP (fun x => !x.1) ≤ P.capF)
    (hstuck : ∀ l, l.isProg = true → step P s l = none) :
    AllExited s ∧ (∀ pr ∈ s.prods, pr = Prod.gone) ∧ s.closer = .fin := by
  obtain ⟨h1, h2, h3⟩ := stuck_shape hI hstuck
  have hg : ∀ pr ∈ s.prods, pr = Prod.gone := by
    intro pr hpr
    obtain ⟨j, hj⟩ := List.getElem?_of_mem hpr
    rcases h2 j pr hj with h | h
    · exact h
    · exact absurd h (not_blocked_of_capacity hI hD hF j pr hj)
  refine ⟨h1, hg, h3 ?_⟩
  rw [hI.ppool]
  exact lsum_const_zero (f := liveP) rfl hg

theorem PMove.not_blocked {P : Params} {s u : St} {pr pr' : Prod} {extra : List Prod}
    (h : PMove P s pr pr' extra u) :
    ¬ BlockedSend P s pr ∧ (P.capD ≤ s.qd.length → u.qd = s.qd) ∧ (P.capF ≤ s.qf.length → u.qf = s.qf) := by
  cases h with
  | pass a rest hp =>
    refine ⟨fun hb => ?_, fun _ => rfl, fun _ => rfl⟩
    obtain ⟨d, p, r, e, _⟩ := blockedSend_send hb
    cases e; cases hp
  | _ => simp [BlockedSend] <;> omega

theorem blocked_step {P : Params} {s t : St} (hall : AllExited s) (l : Label) (hs : step P s l = some t) :
    (P.capD ≤ s.qd.length → t.qd = s.qd) ∧ (P.capF ≤ s.qf.length → t.qf = s.qf)
    ∧ (∀ (j : Nat) (pr : Prod), s.prods[j]? = some pr → BlockedSend P s pr → t.prods[j]? = some pr) := by
  cases l with
  | prod j' =>
    obtain ⟨pr', pr'', extra, u, hj', hm, rfl⟩ := prodStep_move hs
    obtain ⟨hnb, hd, hf⟩ := hm.not_blocked
    refine ⟨hd, hf, fun j pr hj hb => ?_⟩
    -- the acting producer is not a blocked one; every other entry keeps its place
    have hne : j' ≠ j := by rintro rfl; rw [hj'] at hj; cases hj; exact hnb hb
    have hjlt := (List.getElem?_eq_some_iff.mp hj).1
    show (s.prods.set j' pr'' ++ extra)[j]? = some pr
    rw [List.getElem?_append_left (by simpa using hjlt), List.getElem?_set_ne hne, hj]
  | closer =>
    obtain ⟨_, _, _, _, rfl⟩ := closerStep_eq hs
    exact ⟨fun _ => rfl, fun _ => rfl, fun _ _ hj _ => hj⟩
  | cons i => exact (no_cons_step hall hs).elim
  | _ => obtain ⟨_, rfl, _⟩ := env_step rfl hs; exact ⟨fun _ => rfl, fun _ => rfl, fun _ _ hj _ => hj⟩

theorem blockedSend_congr {P : Params} {s t : St} {pr : Prod} (hb : BlockedSend P s pr)
    (hd : P.capD ≤ s.qd.length → t.qd = s.qd) (hf : P.capF ≤ s.qf.length → t.qf = s.qf) :
    BlockedSend P t pr := by
  obtain ⟨d, p, rest, rfl, hfull⟩ := blockedSend_send hb
  cases d <;> simp only [BlockedSend, Bool.false_eq_true, if_true, if_false] at hfull ⊢
  · rw [hf hfull]; exact hfull
  · rw [hd hfull]; exact hfull

theorem blocked_forever {P : Params} {prog : List PAct} {n : Nat} (s : St) (hall : AllExited s) (j : Nat) (pr : Prod)
    (hj : s.prods[j]? = some pr) (hb : BlockedSend P s pr) (more : List Label) :
    let t := (sys P prog n).runFrom s more
    t.prods[j]? = some pr ∧ BlockedSend P t pr ∧ AllExited t :=
  runFrom_induction (sys P prog n) (fun t => t.prods[j]? = some pr ∧ BlockedSend P t pr ∧ AllExited t)
    (fun _ l _ ⟨hj, hb, hall⟩ hs =>
      have h := blocked_step hall l hs
      ⟨h.2.2 j pr hj hb, blockedSend_congr hb h.1 h.2.1, (allExited_step hall l hs).1⟩)
    ⟨hj, hb, hall⟩ more

end Goat.Loop
