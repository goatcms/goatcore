/-
Facts about the cache model (`Goat/Model/Cache.lean`) that need nothing but the model: the shape all 16 methods
share, what a call leaves alone, and `Commit` as one loop over tagged journal entries.
-/
import Goat.Model.Cache

namespace Goat
namespace Cache

open FS (Op Result)
open MemFS

theorem ite_eq_or {α} (c : Prop) [Decidable c] (a b : α) : ite c a b = a ∨ ite c a b = b := by
  by_cases h : c
  · exact Or.inl (if_pos h)
  · exact Or.inr (if_neg h)

theorem copyDirectory_cases (s : State) (a b : Bytes) :
    copyDirectory s a b = (s, .err) ∨ copyDirectory s a b = copy s (Path.cleanPath a) (Path.cleanPath b) := by
  unfold copyDirectory
  exact ite_eq_or ..

theorem copyFile_cases (s : State) (a b : Bytes) :
    copyFile s a b = (s, .err) ∨ copyFile s a b = copy s (Path.cleanPath a) (Path.cleanPath b) := by
  unfold copyFile
  exact ite_eq_or ..

/-- Six primitives suffice: a `Copy*` is a `Copy` or refused, a call through a child view is a call on the cache or
refused. -/
theorem step_induct (s : State) (Q : State × Result → Prop) (hid : ∀ r, Q (s, r)) (hcopy : ∀ a b, Q (copy s a b))
    (hmk : ∀ p, Q (mkdirAll s p)) (hwf : ∀ p d, Q (writeFile s p d)) (hw : ∀ p cs, Q (writer s p cs))
    (hrm : ∀ p, Q (remove s p)) (hrma : ∀ p, Q (removeAll s p)) (h : Handle) (op : Op) : Q (step h s op) := by
  have hc : ∀ op, Q (stepCache s op) := by
    intro op
    cases op
    case copy a b => exact hcopy a b
    case copyDirectory a b =>
      show Q (copyDirectory s a b)
      rcases copyDirectory_cases s a b with e | e <;> rw [e]
      · exact hid _
      · exact hcopy _ _
    case copyFile a b =>
      show Q (copyFile s a b)
      rcases copyFile_cases s a b with e | e <;> rw [e]
      · exact hid _
      · exact hcopy _ _
    case mkdirAll p => exact hmk p
    case writeFile p d => exact hwf p d
    case writer p cs => exact hw p cs
    case remove p => exact hrm p
    case removeAll p => exact hrma p
    all_goals exact hid _
  cases h with
  | cache => exact hc op
  | sub base =>
    show Q (match subOp base op with | some op' => stepCache s op' | none => (s, failResult op))
    cases subOp base op with
    | some op' => exact hc op'
    | none => exact hid _

theorem run_append (s : State) (a b : List (Handle × Op)) : run s (a ++ b) = run (run s a) b := by
  induction a generalizing s with
  | nil => rfl
  | cons x rest ih => exact ih _

theorem copier_remote (s : State) (inB : Bool) (src dest : Bytes) :
    (copier s inB src dest).1.remote = s.remote := rfl

theorem copy_remote (s : State) (a b : Bytes) : (copy s a b).1.remote = s.remote := by
  unfold copy
  simp only []
  split <;> rfl

theorem step_remote (h : Handle) (s : State) (op : Op) : (step h s op).1.remote = s.remote :=
  step_induct s (fun x => x.1.remote = s.remote) (fun _ => rfl) (copy_remote s) (fun _ => rfl) (fun _ _ => rfl)
    (fun _ _ => rfl) (fun _ => rfl) (fun _ => rfl) h op

theorem mem_jadd (j : List Bytes) (k x : Bytes) : x ∈ jadd j k ↔ x ∈ j ∨ x = k := by
  unfold jadd
  split
  · next h =>
    have hk : k ∈ j := by simpa using h
    constructor
    · exact Or.inl
    · rintro (h | rfl)
      · exact h
      · exact hk
  · simp

theorem jadd_idem (j : List Bytes) (k : Bytes) : jadd (jadd j k) k = jadd j k := by
  have hk : (jadd j k).contains k = true := by
    unfold jadd
    by_cases h : j.contains k = true
    · rw [if_pos h]; exact h
    · rw [if_neg h]; simp
  generalize jadd j k = j' at hk ⊢
  unfold jadd
  rw [if_pos hk]

theorem jaddIf_ok (j : List Bytes) (k : Bytes) : jaddIf .ok j k = jadd j k := rfl

theorem jaddIf_of_ne (r : Result) (j : List Bytes) (k : Bytes) (h : r ≠ .ok) : jaddIf r j k = j := if_neg h

theorem copy_failed (s : State) (a b : Bytes) (h : (copy s a b).2 ≠ .ok) :
    (copy s a b).1.write = s.write ∧ (copy s a b).1.remove = s.remove ∧ (copy s a b).1.removeAll = s.removeAll := by
  unfold copy at h ⊢
  simp only [] at h ⊢
  split
  · exact ⟨rfl, rfl, rfl⟩
  · next hov =>
    rw [if_neg hov] at h
    exact ⟨jaddIf_of_ne _ _ _ h, rfl, rfl⟩

theorem ioChunks_flatten (d : Bytes) : (ioChunks d).flatten = d := by
  unfold ioChunks
  split
  · next h => simp at h; simp [h]
  · simp

/-! The four loops of `commitWith` have one shape: replay an entry, stop at the first remote error. -/

inductive JEntry where
  | rm (src : Bytes)
  | rma (src : Bytes)
  | mk (src : Bytes)
  | wr (src : Bytes)

def JEntry.src : JEntry → Bytes
  | .rm s | .rma s | .mk s | .wr s => s

/-- The remote call `op` guarded by a test `c`.  The model's loops call `Root.remove · src` etc.; `MemFS.step .root x op`
is that call by definition (`guardedLoop_eq`, `commitWrite_eq` rest on it). -/
def guarded (fa : Option Nat) (c : Bool) (op : Op) (r : Node) (n : Nat) : CommitAcc :=
  if c then ((remoteCall fa n (fun x => MemFS.step .root x op) r).1, n + 1,
    (remoteCall fa n (fun x => MemFS.step .root x op) r).2 == .ok)
  else (r, n, true)

def CommitAcc.andThen (a : CommitAcc) (k : Node → Nat → CommitAcc) : CommitAcc := if a.2.2 = true then k a.1 a.2.1 else a

theorem andThen_true (r : Node) (n : Nat) (k : Node → Nat → CommitAcc) : CommitAcc.andThen (r, n, true) k = k r n := rfl

/-- the body of the entry's loop -/
def JEntry.run (fa : Option Nat) (buffer : Node) (e : JEntry) (r : Node) (n : Nat) : CommitAcc :=
  match e with
  | .rm src => guarded fa (isTrue (Root.isFile r src)) (.remove src) r n
  | .rma src => guarded fa (isTrue (Root.isExist r src)) (.removeAll src) r n
  | .mk src => guarded fa (isTrue (Root.isDir buffer src)) (.mkdirAll src) r n
  | .wr src =>
    (guarded fa true (.mkdirAll (pathDir src)) r n).andThen fun r1 n1 =>
      if isTrue (Root.isFile buffer src) then
        match Root.readFile buffer src with
        | .data d => ((remoteStream fa n1 src (ioChunks d) r1).1.1, (remoteStream fa n1 src (ioChunks d) r1).2,
            (remoteStream fa n1 src (ioChunks d) r1).1.2 == .ok)
        | _ => (r1, n1, false)
      else (r1, n1, true)

def runEntries (fa : Option Nat) (buffer : Node) : List JEntry → Node → Nat → CommitAcc
  | [], r, n => (r, n, true)
  | e :: rest, r, n => (e.run fa buffer r n).andThen (runEntries fa buffer rest)

/-- the journals in the order Commit replays them -/
def entries (rm rma mk wr : List Bytes) : List JEntry :=
  rm.map .rm ++ (rma.map .rma ++ (mk.map .mk ++ wr.map .wr))

theorem runEntries_append (fa : Option Nat) (buffer : Node) (a b : List JEntry) (r : Node) (n : Nat) :
    runEntries fa buffer (a ++ b) r n = (runEntries fa buffer a r n).andThen (runEntries fa buffer b) := by
  induction a generalizing r n with
  | nil => rfl
  | cons e rest ih =>
    simp only [List.cons_append, runEntries]
    rcases e.run fa buffer r n with ⟨r', n', _ | _⟩
    · rfl
    · exact ih r' n'

/-- The three guarded loops of `commitWith` at once: `loop` is any function with their recursion equations. -/
theorem guardedLoop_eq (fa : Option Nat) (buffer : Node) (mk : Bytes → JEntry) (loop : List Bytes → Node → Nat → CommitAcc)
    (c : Node → Bytes → Bool) (op : Bytes → Op)
    (hrun : ∀ src r n, (mk src).run fa buffer r n = guarded fa (c r src) (op src) r n)
    (hnil : ∀ r n, loop [] r n = (r, n, true))
    (hcons : ∀ src rest r n, loop (src :: rest) r n =
      if c r src then
        match remoteCall fa n (fun x => MemFS.step .root x (op src)) r with
        | (r', .ok) => loop rest r' (n + 1)
        | (r', _) => (r', n + 1, false)
      else loop rest r n)
    (l : List Bytes) (r : Node) (n : Nat) : loop l r n = runEntries fa buffer (l.map mk) r n := by
  induction l generalizing r n with
  | nil => exact hnil r n
  | cons src rest ih =>
    simp only [List.map_cons, runEntries, hrun, guarded, hcons]
    split
    · rcases remoteCall fa n (fun x => MemFS.step .root x (op src)) r with ⟨r', _ | _⟩ <;> first | exact ih r' _ | rfl
    · exact ih r n

theorem commitWrite_eq (fa : Option Nat) (buffer : Node) (l : List Bytes) (r : Node) (n : Nat) :
    commitWrite fa buffer l r n = runEntries fa buffer (l.map .wr) r n := by
  induction l generalizing r n with
  | nil => rfl
  | cons src rest ih =>
    simp only [List.map_cons, runEntries, JEntry.run, guarded, if_true, commitWrite]
    rw [show (fun x => MemFS.step .root x (.mkdirAll (pathDir src))) = (Root.mkdirAll · (pathDir src)) from rfl]
    rcases remoteCall fa n (Root.mkdirAll · (pathDir src)) r with ⟨r1, res⟩
    cases res
    case ok =>
      simp only [beq_self_eq_true, andThen_true]
      split
      · cases Root.readFile buffer src
        case data d =>
          simp only []
          rcases remoteStream fa (n + 1) src (ioChunks d) r1 with ⟨⟨r2, res2⟩, n'⟩
          cases res2
          case ok => exact ih r2 _
          all_goals rfl
        all_goals rfl
      · exact ih r1 _
    all_goals rfl

theorem commitWith_eq (rm rma mk wr : List Bytes) (fa : Option Nat) (s : State) :
    commitWith rm rma mk wr fa s
      = ({ s with remote := (runEntries fa s.buffer (entries rm rma mk wr) s.remote 0).1 },
         (runEntries fa s.buffer (entries rm rma mk wr) s.remote 0).2) := by
  unfold commitWith entries
  rw [runEntries_append, ← guardedLoop_eq fa s.buffer .rm (commitRemove fa) (fun r src => isTrue (Root.isFile r src)) .remove
    (fun _ _ _ => rfl) (fun _ _ => rfl) (fun _ _ _ _ => rfl)]
  rcases commitRemove fa rm s.remote 0 with ⟨r1, n1, _ | _⟩
  · rfl
  · simp only [andThen_true]
    rw [runEntries_append, ← guardedLoop_eq fa s.buffer .rma (commitRemoveAll fa) (fun r src => isTrue (Root.isExist r src))
      .removeAll (fun _ _ _ => rfl) (fun _ _ => rfl) (fun _ _ _ _ => rfl)]
    rcases commitRemoveAll fa rma r1 n1 with ⟨r2, n2, _ | _⟩
    · rfl
    · simp only [andThen_true]
      rw [runEntries_append, ← guardedLoop_eq fa s.buffer .mk (commitMkdir fa s.buffer)
        (fun _ src => isTrue (Root.isDir s.buffer src)) .mkdirAll (fun _ _ _ => rfl) (fun _ _ => rfl) (fun _ _ _ _ => rfl)]
      rcases commitMkdir fa s.buffer mk r2 n2 with ⟨r3, n3, _ | _⟩
      · rfl
      · simp only [andThen_true, ← commitWrite_eq]

theorem commitWith_frame (rm rma mk wr : List Bytes) (fa : Option Nat) (s : State) :
    (commitWith rm rma mk wr fa s).1.buffer = s.buffer ∧ (commitWith rm rma mk wr fa s).1.remove = s.remove
    ∧ (commitWith rm rma mk wr fa s).1.removeAll = s.removeAll
    ∧ (commitWith rm rma mk wr fa s).1.mkdirAll = s.mkdirAll ∧ (commitWith rm rma mk wr fa s).1.write = s.write := by
  rw [commitWith_eq]
  exact ⟨rfl, rfl, rfl, rfl, rfl⟩

end Cache
end Goat
