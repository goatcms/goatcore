/-
For properties C14/C16: what holds of every reachable state of the pipeline model, carried through a run once
(`RunInv`): here `inv_step`, `quiet_and_ok2_step` and `oinv_step`, proved side by side, meet.  `runInv_run` is where
the theorems of `Props/C14` and `Props/C16` start from.
-/
import Goat.Proofs.PipelineStep
import Goat.Proofs.PipelineErr
import Goat.Proofs.PipelineTry

namespace Goat.Pipeline

variable {g : Graph}

/-- `quiet`, `ok2`, `ord` rest on `Inv` of the state before the step, so the four are carried through a run together. -/
structure RunInv (g : Graph) (s : St) : Prop where
  wf : WF g
  inv : Inv g s
  quiet : Quiet s
  ok2 : TraceOk2 g s.tr
  ord : OInv g s

theorem RunInv.accepted {s : St} (h : RunInv g s) : accepts g s.tr = true :=
  (accepts_iff g _).mpr ⟨h.inv.ok, h.ok2⟩

theorem runInv_reachable (hw : WF g) {s : St} (h : LTS.Reachable (sys g) s) : RunInv g s :=
  LTS.inv_of_init_step (sys g) (RunInv g) ⟨hw, inv_init g, quiet_init, traceOk2_nil g, oinv_init g⟩
    (fun _ l _ hR hs =>
      let ⟨hq, h2⟩ := quiet_and_ok2_step hR.inv hR.quiet hR.ok2 l hs
      ⟨hw, inv_step hw hR.inv l hs, hq, h2, oinv_step hw hR.inv hR.ord l hs⟩) s h

theorem runInv_run (hw : wf g = true) (sched : List Label) : RunInv g (run g sched) :=
  runInv_reachable ((wf_iff g).mp hw) (LTS.run_reachable (sys g) sched)

theorem run_traceOk (hw : wf g = true) (sched : List Label) : TraceOk g (run g sched).tr :=
  (runInv_run hw sched).inv.ok

end Goat.Pipeline
