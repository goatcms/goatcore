/-
The insertion sort of `Goat/Model/DiskFS.lean`: a permutation, sorted for a transitive total order, and determined
by the elements when the keys are distinct; `keyLe`, the order of listings and walks, is such an order.
-/
import Goat.Model.DiskFS
import Goat.Proofs.Lists

namespace Goat
namespace DiskFS

theorem insertBy_perm {α} (le : α → α → Bool) (a : α) (l : List α) : (insertBy le a l).Perm (a :: l) := by
  induction l with
  | nil => exact List.Perm.refl _
  | cons b l ih =>
    simp only [insertBy]
    split
    · exact List.Perm.refl _
    · exact ((List.Perm.cons b ih).trans (List.Perm.swap a b l))

theorem sortBy_perm {α} (le : α → α → Bool) (l : List α) : (sortBy le l).Perm l := by
  induction l with
  | nil => exact List.Perm.refl _
  | cons a l ih => exact (insertBy_perm le a _).trans (List.Perm.cons a ih)

theorem insertBy_pairwise {α} (le : α → α → Bool)
    (trans : ∀ a b c, le a b = true → le b c = true → le a c = true)
    (total : ∀ a b, le a b = true ∨ le b a = true)
    (a : α) (l : List α) (h : l.Pairwise (fun x y => le x y = true)) :
    (insertBy le a l).Pairwise (fun x y => le x y = true) := by
  induction l with
  | nil => simp [insertBy]
  | cons b l ih =>
    rw [List.pairwise_cons] at h
    simp only [insertBy]
    split
    · next hab =>
      refine List.pairwise_cons.mpr ⟨?_, List.pairwise_cons.mpr h⟩
      intro c hc
      rcases List.mem_cons.mp hc with rfl | hc
      · exact hab
      · exact trans _ _ _ hab (h.1 c hc)
    · next hab =>
      have hba : le b a = true := by
        rcases total a b with h1 | h1
        · exact absurd h1 hab
        · exact h1
      refine List.pairwise_cons.mpr ⟨?_, ih h.2⟩
      intro c hc
      rcases List.mem_cons.mp ((insertBy_perm le a l).mem_iff.mp hc) with rfl | hc
      · exact hba
      · exact h.1 c hc

theorem sortBy_pairwise {α} (le : α → α → Bool)
    (trans : ∀ a b c, le a b = true → le b c = true → le a c = true)
    (total : ∀ a b, le a b = true ∨ le b a = true) (l : List α) :
    (sortBy le l).Pairwise (fun x y => le x y = true) := by
  induction l with
  | nil => simp [sortBy]
  | cons a l ih => exact insertBy_pairwise le trans total a _ ih

theorem sortBy_eq_of_same_mem {κ β} (le : κ × β → κ × β → Bool)
    (trans : ∀ a b c, le a b = true → le b c = true → le a c = true)
    (total : ∀ a b, le a b = true ∨ le b a = true)
    (anti : ∀ a b, le a b = true → le b a = true → a.1 = b.1)
    (l1 l2 : List (κ × β)) (nd1 : (l1.map (·.1)).Nodup) (nd2 : (l2.map (·.1)).Nodup)
    (hmem : ∀ x, x ∈ l1 ↔ x ∈ l2) : sortBy le l1 = sortBy le l2 := by
  have nd : ∀ {l : List (κ × β)}, (l.map (·.1)).Nodup → l.Nodup := fun h =>
    List.Pairwise.of_map (·.1) (fun a b hab e => hab (e ▸ rfl)) h
  have p12 : l1.Perm l2 := (List.perm_ext_iff_of_nodup (nd nd1) (nd nd2)).mpr hmem
  have ps : (sortBy le l1).Perm (sortBy le l2) :=
    ((sortBy_perm le l1).trans p12).trans (sortBy_perm le l2).symm
  apply List.Perm.eq_of_pairwise (le := fun a b => le a b = true) _
    (sortBy_pairwise le trans total l1) (sortBy_pairwise le trans total l2) ps
  intro a b ha hb hab hba
  have ha1 : a ∈ l1 := (sortBy_perm le l1).mem_iff.mp ha
  have hb1 : b ∈ l1 := (hmem b).mpr ((sortBy_perm le l2).mem_iff.mp hb)
  exact eq_of_nodup_map nd1 ha1 hb1 (anti a b hab hba)

section
variable {α β : Type} [LT α] [LE α] [DecidableLT α] [DecidableEq α] [Std.LawfulOrderLT α]

theorem keyLe_trans [Std.IsLinearOrder α] (a b c : List α × β) (h1 : keyLe a b = true) (h2 : keyLe b c = true) :
    keyLe a c = true := by
  simp only [keyLe, decide_eq_true_eq] at *
  exact List.le_trans h1 h2

theorem keyLe_total (a b : List α × β) : keyLe a b = true ∨ keyLe b a = true := by
  simp only [keyLe, decide_eq_true_eq]
  exact List.le_total a.1 b.1

theorem keyLe_anti [Std.IsLinearOrder α] (a b : List α × β) (h1 : keyLe a b = true) (h2 : keyLe b a = true) :
    a.1 = b.1 := by
  simp only [keyLe, decide_eq_true_eq] at *
  exact List.le_antisymm h1 h2

end

end DiskFS
end Goat
