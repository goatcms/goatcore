/-
One lemma per program counter of `MkdirAll` / `WriteFile`: the critical section it enters keeps the simulation invariant.
-/
import Goat.Proofs.MemFSConcSimCore

namespace Goat.MemFSConc

variable {T0 : Tree} {progs : List (List Op)} {s : State} {τ : Nat} {P : List Op} {th : Thread} {i : Op}

theorem step_mk {cur n rest k} : StepOK (.mk cur (n :: rest) k) := by
  intro T0 progs s τ P th i hc hpc hinv h' r hs' hap
  obtain ⟨π, hd, _, hm⟩ := hinv
  obtain ⟨rfl, rfl⟩ := act_lookup hap
  cases he : edge s.heap cur n with
  | none =>
    simp only [Option.map_none, resume]
    exact sim_stay hc hc.same rfl ⟨π, hd, hm⟩
  | some o =>
    cases hk : kindOf s.heap o with
    | true =>
      simp only [Option.map_some, hk, resume]
      exact sim_mkOn hc hc.same (.inl rfl) (by rw [hpc]; rfl) hm (hd.child_dir hc.shape he hk)
    | false =>
      simp only [Option.map_some, hk, resume]
      exact sim_stay hc hc.same rfl ⟨π, hd, hm⟩

theorem step_mkLocked {cur n rest k} : StepOK (.mkLocked cur n rest k) := by
  intro T0 progs s τ P th i hc hpc hinv h' r hs' hap
  obtain ⟨π, hd, hm⟩ := hinv
  obtain ⟨dd, hdd⟩ := hd.getDir
  rcases act_mkdirLocked hdd hap with ⟨o, hi, hk, rfl, rfl⟩ | ⟨o, hi, hk, rfl, rfl⟩ | ⟨hi, dd', hadd, rfl, rfl⟩
  · exact sim_mkOn hc hc.same (.inl rfl) (by rw [hpc]; rfl) hm
      (hd.child_dir hc.shape (by rw [edge_eq_index hdd]; exact hi) hk)
  · exact sim_mk_blocked hc hm hd (by rw [edge_eq_index hdd]; exact hi) hk
  · obtain ⟨hst, hd'⟩ := HeapStep.mkdir hc.shape hd.1 hdd hadd
    exact sim_mkOn hc hst (.inr rfl) (by rw [hpc]; rfl) hm hd'

theorem step_wLock {d n v} : StepOK (.wLock d n v) := by
  intro T0 progs s τ P th i hc hpc hinv h' r hs' hap
  obtain ⟨dd, hdd⟩ := hinv.choose_spec.1.getDir
  obtain ⟨_, rfl, rfl⟩ := act_outerLock hdd hap
  have hst := HeapStep.locks hc.shape hdd (d' := { dd with outer := some τ }) rfl rfl
  simp only [resume]
  exact sim_stay hc hst rfl (PcInv.step (pc := .wLook d n v) hc.shape hst nofun hinv)

theorem step_wLook {d n v} : StepOK (.wLook d n v) := by
  intro T0 progs s τ P th i hc hpc hinv h' r hs' hap
  obtain ⟨π, hd, hop⟩ := hinv
  subst hop
  obtain ⟨rfl, rfl⟩ := act_lookup hap
  have hown : absT s.heap (π ++ [n]) = T0 (π ++ [n]) :=
    hc.own_W rfl
  cases he : edge s.heap d n with
  | none =>
    simp only [Option.map_none, resume]
    refine sim_stay hc hc.same rfl ⟨π, hd, rfl, ?_⟩
    rw [← hown]; exact hd.abs_child_none he
  | some o =>
    cases hk : kindOf s.heap o with
    | true =>
      simp only [Option.map_some, hk, resume, if_true]
      have hT : T0 (π ++ [n]) = some .dir := by
        rw [← hown]; exact (hd.child_dir hc.shape he hk).abs
      have hns : ¬ succ T0 (.writeFile (π ++ [n]) v) := fun hw => hw.2.2 hT
      exact sim_same_noeff hc rfl (Or.inr ⟨hns, rfl⟩) (effOf_fail hns)
        fun _ _ _ hC hq _ => junk_of_target hc.hyp.wf rfl (by rw [hT]; simp) hC hq
    | false =>
      simp only [Option.map_some, hk, resume, Variant.fixed, Bool.false_eq_true, if_false]
      exact sim_stay hc hc.same rfl ⟨π, n, hd, rfl, hd.child_file hc.shape he hk⟩

theorem Cur.writeOk {π : Path} {n : Name} {v : Data}
    (hc : Cur T0 progs s τ P th (.writeFile (π ++ [n]) v)) {d : Oid} (hd : DirAt s.heap π d)
    (hT : T0 (π ++ [n]) ≠ some .dir) : succ T0 (.writeFile (π ++ [n]) v) := by
  refine ⟨by simp, ?_, hT⟩
  rw [List.dropLast_concat]
  exact hc.mkdirOk_parent hd (by simp [Op.C])

theorem step_wAdd {d n v} : StepOK (.wAdd d n v) := by
  intro T0 progs s τ P th i hc hpc hinv h' r hs' hap
  obtain ⟨π, hd, hop, hT⟩ := hinv
  subst hop
  obtain ⟨dd, hdd⟩ := hd.getDir
  have hown : absT s.heap (π ++ [n]) = T0 (π ++ [n]) := hc.own_W rfl
  rcases act_addNewFile hdd hap with ⟨hi, _, _⟩ | ⟨hi, dd', hadd, rfl, rfl⟩
  · exfalso
    cases hx : dd.index n with
    | none => exact hi hx
    | some c =>
      exact hd.abs_child_ne_none hc.shape (by rw [edge_eq_index hdd]; exact hx) (by rw [hown, hT])
  · have hsucc : succ T0 (.writeFile (π ++ [n]) v) := hc.writeOk hd (by rw [hT]; simp)
    simp only [resume]
    exact sim_graft hc (HeapStep.addLeaf hc.shape hd.1 hdd hadd (by intro m; simp [edgeObj]) (by intro _ h; cases h)) hd
      hsucc rfl rfl (Or.inl ⟨hsucc, rfl⟩)

/-- a thread whose operation is decided releases the directory -/
theorem step_wUnlockFin (hyp : Hyp T0 progs) (hs : Sim T0 progs s) (hP : progs[τ]? = some P)
    (hth : s.threads[τ]? = some th) (hcur : curOp P th = some i) {d : Oid} {res : Res}
    (hpc : th.pc = .wUnlockFin d res) (hinv : PcInv T0 s.heap i (.wUnlockFin d res))
    {h' : Heap} {r : Ret} (hap : applyAct s.heap τ (.outerUnlock d) = some (h', r)) {hs' : List Handle} :
    Sim T0 progs (s.after τ th h' (resume .fixed (.wUnlockFin d res) r) hs') := by
  have hst := HeapStep.unlock hs.shape hap
  simp only [resume]
  exact sim_act_mk hyp hs hP hth hcur (by rw [hpc]; simp) hst (by simp)
    (fun _ _ _ _ _ hr => hst.mono nofun hr) hinv (by simp [Pc.pending])
    (absOK_decided_step hs hP hth (by rw [hpc]; rfl) rfl hst.abs)

theorem step_wUnlockSet {d f v} : StepOK (.wUnlockSet d f v) := by
  intro T0 progs s τ P th i hc hpc hinv h' r hs' hap
  obtain ⟨π, n, hd, hop, hf⟩ := hinv
  have hst := HeapStep.unlock hc.shape hap
  simp only [resume]
  exact sim_stay hc hst rfl (PcInv.step (pc := .wSet f v) hc.shape hst nofun ⟨π ++ [n], hop, hf⟩)

theorem step_wSet {f v} : StepOK (.wSet f v) := by
  intro T0 progs s τ P th i hc hpc hinv h' r hs' hap
  obtain ⟨p, hop, hf⟩ := hinv
  subst hop
  obtain ⟨ff, hff⟩ := getFile_of_okind hf.2
  obtain ⟨⟨ff', hv, rfl⟩, rfl⟩ := act_setData hff hap
  have hp : p ≠ [] := by
    intro e; subst e
    have := hf.1; rw [resolve_nil] at this; cases this
    have := hf.2; rw [hc.shape.root] at this; cases this
  obtain ⟨π, n, rfl⟩ := (eq_nil_or_snoc p).resolve_left hp
  obtain ⟨dat, hdat⟩ := hf.abs
  obtain ⟨dπ, hdπ, hkπ⟩ := resolve_prefix_dir (q := []) hf.1
  have hsucc : succ T0 (.writeFile (π ++ [n]) v) :=
    hc.writeOk (d := dπ) ⟨hdπ, hkπ⟩ (by rw [← hc.own_W rfl, hdat]; simp)
  have hst := HeapStep.setData hc.shape hff ff' hf.1
  rw [hv] at hst
  simp only [resume]
  exact sim_graft hc hst ⟨hdπ, hkπ⟩ hsucc rfl rfl (Or.inl ⟨hsucc, rfl⟩)

end Goat.MemFSConc
