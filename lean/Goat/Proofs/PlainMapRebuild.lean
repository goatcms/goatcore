/-
`flatten` lists exactly the leaves of a key-unique tree under their dotted paths (`mem_flatten_iff_leafAt`,
`get_flatten`), and `rebuild` — a fold of `insert` in any order — builds a well-formed tree in which every key of
the flat map leads to its value (`rebuild_spec`).
-/
import Goat.Proofs.PlainMapTree

namespace Goat.PlainMap

namespace Tree
variable {α : Type}

/-- the leaves with their paths, in source order -/
def paths : Tree α → List (List Bytes × α)
  | nil => []
  | leaf k v rest => ([k], v) :: paths rest
  | node k c rest => (paths c).map (fun e => (k :: e.1, e.2)) ++ paths rest

theorem paths_ne_nil {t : Tree α} {p : List Bytes} {v : α} (h : (p, v) ∈ paths t) : p ≠ [] := by
  induction t with
  | nil => cases h
  | leaf k v0 rest ih =>
    rcases List.mem_cons.mp h with h | h
    · cases h; simp
    · exact ih h
  | node k c rest _ ih =>
    rcases List.mem_append.mp h with h | h
    · obtain ⟨e, _, he⟩ := List.mem_map.mp h
      cases he; simp
    · exact ih h

theorem paths_dotFree {t : Tree α} (hd : DotFreeKeys t) {p : List Bytes} {v : α} (h : (p, v) ∈ paths t) :
    ∀ k ∈ p, DotFree k := by
  induction t generalizing p with
  | nil => cases h
  | leaf k v0 rest ih =>
    rcases List.mem_cons.mp h with h | h
    · cases h; intro k' hk'; simp at hk'; subst hk'; exact hd.1
    · exact ih hd.2 h
  | node k c rest ihc ih =>
    rcases List.mem_append.mp h with h | h
    · obtain ⟨e, hm, he⟩ := List.mem_map.mp h
      cases he
      intro k' hk'
      rcases List.mem_cons.mp hk' with hk' | hk'
      · subst hk'; exact hd.1
      · exact ihc hd.2.1 (p := e.1) (by simpa using hm) k' hk'
    · exact ih hd.2.2 h

theorem flattenNode_eq (t : Tree α) : ∀ (base sep : Bytes),
    flattenNode base sep t = (paths t).map fun e => (base ++ sep ++ joinDot e.1, e.2) := by
  induction t with
  | nil => intros; rfl
  | leaf k v rest ih => intro base sep; simp [flattenNode, paths, ih, joinDot]
  | node k c rest ihc ih =>
    intro base sep
    rw [flattenNode, ihc, ih, paths, List.map_append, List.map_map]
    congr 1
    apply List.map_congr_left
    intro e he
    have hne : e.1 ≠ [] := paths_ne_nil (p := e.1) (v := e.2) (by simpa using he)
    simp [joinDot_cons_of_ne k hne]

theorem flatten_eq (t : Tree α) : flatten t = (paths t).map fun e => (joinDot e.1, e.2) := by
  rw [flatten, flattenNode_eq]; simp

theorem mem_paths_iff_leafAt {t : Tree α} (hu : Uniq t) {p : List Bytes} {v : α} :
    (p, v) ∈ paths t ↔ leafAt t p = some v := by
  induction t generalizing p with
  | nil => simp [paths, leafAt_nil_tree]
  | leaf k v0 rest ih =>
    cases p with
    | nil => simpa [leafAt_nil_path] using fun h => paths_ne_nil h rfl
    | cons k' p =>
      rw [paths, List.mem_cons, ih hu.2, leafAt_cons, leafAt_cons, find?]
      by_cases hk : k = k'
      · -- by `Uniq` no later entry is named `k`: the only path through `k` is `[k]`
        subst hk; simp [hu.1, eq_comm]
      · -- another name: both sides look at `rest`
        simp [hk, Ne.symm hk]
  | node k c rest ihc ih =>
    cases p with
    | nil => simpa [leafAt_nil_path] using fun h => paths_ne_nil h rfl
    | cons k' p =>
      rw [paths, List.mem_append, List.mem_map, ih hu.2.2, leafAt_cons (node k c rest), find?]
      by_cases hk : k = k'
      · -- by `Uniq` no later entry is named `k`: the paths through `k` are those of `c`
        subst hk; simp [leafAt_cons_of_none hu.1, ← ihc hu.2.1]
      · simp [hk, leafAt_cons]

theorem no_path_of_find_none {k : Bytes} {t : Tree α} (hu : Uniq t) (h : find? k t = none) (p : List Bytes) (v : α) :
    (k :: p, v) ∉ paths t := fun hm => by
  have := (mem_paths_iff_leafAt hu).mp hm
  rw [leafAt_cons_of_none h] at this
  cases this

theorem leafAt_prefix_none (p : List Bytes) : ∀ {t : Tree α} {v : α} {r : List Bytes}, leafAt t p = some v → r ≠ [] →
    leafAt t (p ++ r) = none := by
  induction p with
  | nil => intro t v r h; rw [leafAt_nil_path] at h; cases h
  | cons k p ih =>
    intro t v r h hr
    rw [List.cons_append]
    cases hf : find? k t with
    | none => exact leafAt_cons_of_none hf _
    | some e =>
      cases e with
      | inl v' => simp [leafAt_cons, hf, hr]
      | inr c =>
        rw [leafAt_cons_of_inr hf] at h ⊢
        exact ih h hr

theorem paths_nodup {t : Tree α} (hu : Uniq t) : ((paths t).map Prod.fst).Nodup := by
  induction t with
  | nil => simp [paths]
  | leaf k v rest ih =>
    simp only [paths, List.map_cons, List.nodup_cons]
    refine ⟨?_, ih hu.2⟩
    intro hm
    obtain ⟨e, he, hfe⟩ := List.mem_map.mp hm
    obtain ⟨p, v'⟩ := e
    simp at hfe; subst hfe
    exact no_path_of_find_none hu.2 hu.1 [] v' he
  | node k c rest ihc ih =>
    simp only [paths, List.map_append, List.map_map]
    rw [List.nodup_append]
    refine ⟨?_, ih hu.2.2, ?_⟩
    · have := nodup_map_on (fun p : List Bytes => k :: p) _ (ihc hu.2.1) (by intro a _ b _ h; injection h)
      rw [List.map_map] at this
      exact this
    · intro a ha b hb hab
      subst hab
      obtain ⟨e, _, he⟩ := List.mem_map.mp ha
      obtain ⟨e2, he2, hfe2⟩ := List.mem_map.mp hb
      obtain ⟨p2, v2⟩ := e2
      simp at he hfe2
      subst hfe2
      rw [← he] at he2
      exact no_path_of_find_none hu.2.2 hu.1 _ _ he2

theorem mem_flatten {t : Tree α} {key : Bytes} {v : α} :
    (key, v) ∈ flatten t ↔ ∃ p, (p, v) ∈ paths t ∧ joinDot p = key := by
  rw [flatten_eq, List.mem_map]
  constructor
  · rintro ⟨⟨p, v'⟩, hm, he⟩
    simp at he
    exact ⟨p, he.2 ▸ hm, he.1⟩
  · rintro ⟨p, hm, he⟩
    exact ⟨(p, v), hm, by simp [he]⟩

theorem flatten_keys_nodup {t : Tree α} (hu : Uniq t) (hd : DotFreeKeys t) : (flatten t).keys.Nodup := by
  rw [Flat.keys, flatten_eq, List.map_map,
    show (Prod.fst ∘ fun e : List Bytes × α => (joinDot e.1, e.2)) = joinDot ∘ Prod.fst from rfl, ← List.map_map]
  apply nodup_map_on _ _ (paths_nodup hu)
  intro a ha b hb hab
  obtain ⟨ea, hea, rfl⟩ := List.mem_map.mp ha
  obtain ⟨eb, heb, rfl⟩ := List.mem_map.mp hb
  rw [← splitDot_joinDot ea.1 (paths_ne_nil (v := ea.2) hea) (paths_dotFree hd (v := ea.2) hea), hab,
    splitDot_joinDot eb.1 (paths_ne_nil (v := eb.2) heb) (paths_dotFree hd (v := eb.2) heb)]

theorem mem_flatten_iff_leafAt {t : Tree α} (hu : Uniq t) (hd : DotFreeKeys t) {key : Bytes} {v : α} :
    (key, v) ∈ flatten t ↔ leafAt t (splitDot key) = some v := by
  constructor
  · intro h
    obtain ⟨p, hm, rfl⟩ := mem_flatten.mp h
    rw [splitDot_joinDot p (paths_ne_nil hm) (paths_dotFree hd hm)]
    exact (mem_paths_iff_leafAt hu).mp hm
  · intro h
    exact mem_flatten.mpr ⟨_, (mem_paths_iff_leafAt hu).mpr h, joinDot_splitDot key⟩

theorem get_flatten {t : Tree α} (hu : Uniq t) (hd : DotFreeKeys t) (key : Bytes) :
    (flatten t).get key = leafAt t (splitDot key) :=
  Option.ext fun _ => (Flat.get_eq_some_iff (flatten_keys_nodup hu hd)).trans (mem_flatten_iff_leafAt hu hd)

theorem flatten_prefixFree {t : Tree α} (hu : Uniq t) (hd : DotFreeKeys t) : PrefixFree (flatten t).keys := by
  intro a ha b hb r hbr
  obtain ⟨⟨_, va⟩, hma, rfl⟩ := List.mem_map.mp ha
  obtain ⟨⟨_, vb⟩, hmb, rfl⟩ := List.mem_map.mp hb
  have h1 := (mem_flatten_iff_leafAt hu hd).mp hma
  have h2 := (mem_flatten_iff_leafAt hu hd).mp hmb
  simp only at hbr
  rw [hbr, splitDot_append_dot, leafAt_prefix_none _ h1 (splitDot_ne_nil r)] at h2
  cases h2

theorem flatten_no_empty_key {t : Tree α} (hu : Uniq t) (hd : DotFreeKeys t) (he : leafAt t [[]] = none) :
    [] ∉ (flatten t).keys := by
  intro h
  obtain ⟨⟨k, v⟩, hm, hk⟩ := List.mem_map.mp h
  simp only at hk; subst hk
  have := (mem_flatten_iff_leafAt hu hd).mp hm
  rw [show splitDot [] = [[]] from rfl, he] at this
  cases this

theorem splitDot_joinDot_of_leafAt {t : Tree α} (hu : Uniq t) (hd : DotFreeKeys t) {p : List Bytes} {v : α}
    (h : leafAt t p = some v) : splitDot (joinDot p) = p :=
  have hm := (mem_paths_iff_leafAt hu).mpr h
  splitDot_joinDot p (paths_ne_nil hm) (paths_dotFree hd hm)

theorem leafAt_ext {s t : Tree α} (hs : WFNested s) (ht : WFNested t)
    (h : ∀ k, leafAt s (splitDot k) = leafAt t (splitDot k)) : Equiv s t := by
  intro p
  refine Option.ext fun v => ⟨fun hv => ?_, fun hv => ?_⟩
  · have e := splitDot_joinDot_of_leafAt hs.1 hs.2.1 hv
    rw [← e, ← h, e]; exact hv
  · have e := splitDot_joinDot_of_leafAt ht.1 ht.2.1 hv
    rw [← e, h, e]; exact hv

end Tree

section rebuild
variable {α : Type}

/-- one iteration of `ToRecursiveMap` -/
def rstep (out : Tree α) (kv : Bytes × α) : Option (Tree α) :=
  if kv.1 = [] then none else Tree.insert (splitDot kv.1) kv.2 out

theorem rebuild_eq (src : Flat α) : rebuild src = src.foldlM rstep Tree.nil := rfl

/-- the tree built so far is well formed and every key processed so far leads to its value -/
def RInv (t : Tree α) (S : Flat α) : Prop :=
  t.WFNested ∧ ∀ k, t.leafAt (splitDot k) = S.get k

theorem rebuild_fold (src : Flat α) : ∀ (t : Tree α) (S : Flat α), RInv t S →
    PrefixFree (S ++ src).keys → [] ∉ (S ++ src).keys →
    ∃ t', src.foldlM rstep t = some t' ∧ RInv t' (S ++ src) := by
  induction src with
  | nil => intro t S h _ _; exact ⟨t, rfl, by simpa using h⟩
  | cons e src ih =>
    intro t S ⟨hw, hl⟩ hpf hne
    obtain ⟨k, v⟩ := e
    have hkmem : k ∈ (S ++ (k, v) :: src).keys := by simp [Flat.keys]
    have hS : ∀ k' ∈ S.keys, k' ∈ (S ++ (k, v) :: src).keys := fun k' hm => by
      simp only [Flat.keys, List.map_append, List.mem_append] at hm ⊢; exact .inl hm
    obtain ⟨t1, ht1, hw1, _, hl1⟩ := Tree.insert_spec (splitDot k) v t (splitDot_ne_nil k) (splitDot_dotFree k) hw
      (by
        -- no leaf on the way: it would belong to an earlier key `q` with `k = q ++ "." ++ more`
        intro q r hqr _ hr
        cases hq : t.leafAt q with
        | none => rfl
        | some v' =>
          have e := Tree.splitDot_joinDot_of_leafAt hw.1 hw.2.1 hq
          have hm : (joinDot q, v') ∈ S := Flat.mem_of_get (by rw [← hl, e]; exact hq)
          exact absurd (splitDot_prefix hr (by rw [e, hqr])) (hpf _ (hS _ (List.mem_map.mpr ⟨_, hm, rfl⟩)) k hkmem _))
    have hinv1 : RInv t1 (S ++ [(k, v)]) := by
      refine ⟨hw1, fun k' => ?_⟩
      rw [hl1, hl, Flat.get_append]
      by_cases hk' : k' = k
      · subst hk'; simp [Flat.get]
      · have hne' : splitDot k' ≠ splitDot k := fun e => hk' (splitDot_inj e)
        by_cases hpre : splitDot k <+: splitDot k'
        · -- what the new leaf hides: `k' = k ++ "." ++ more` is no key
          obtain ⟨r, hr⟩ := hpre
          have hr0 : r ≠ [] := fun e => hne' (by rw [← hr, e, List.append_nil])
          have : S.get k' = none :=
            Flat.get_none_of_not_mem fun hm => hpf k hkmem k' (hS k' hm) _ (splitDot_prefix hr0 hr)
          simp [Flat.get, hne', this, Ne.symm hk']
        · simp [Flat.get, hne', hpre, Ne.symm hk']
    have happ : (S ++ [(k, v)]) ++ src = S ++ (k, v) :: src := by simp
    obtain ⟨t', ht', hinv'⟩ := ih t1 (S ++ [(k, v)]) hinv1 (happ ▸ hpf) (happ ▸ hne)
    refine ⟨t', ?_, happ ▸ hinv'⟩
    have hk : k ≠ [] := fun e => hne (e ▸ hkmem)
    rw [List.foldlM_cons, show rstep t (k, v) = some t1 by simp [rstep, hk, ht1]]
    exact ht'

theorem rebuild_spec (f : Flat α) (hp : PrefixFree f.keys) (he : [] ∉ f.keys) :
    ∃ t, rebuild f = some t ∧ RInv t f := by
  have h0 : RInv (Tree.nil : Tree α) [] := ⟨⟨trivial, trivial, trivial⟩, fun _ => Tree.leafAt_nil_tree _⟩
  obtain ⟨t, ht, hinv⟩ := rebuild_fold f Tree.nil [] h0 (by simpa using hp) (by simpa using he)
  exact ⟨t, ht, by simpa using hinv⟩

end rebuild

end Goat.PlainMap
