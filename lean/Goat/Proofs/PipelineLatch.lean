/-
For property C14: the defect of the pinned tree.  In the model of the code
before fix a91657e (`sysOld`) one rejected submission is enough for `TasksManager.Wait` never to
return: no schedule produces an `mwait` event.
-/
import Goat.Proofs.Pipeline

namespace Goat.Pipeline

/-- one top-level task whose wait list names a task that does not exist -/
def gLatch : Graph := ⟨[⟨.top, 0, 0, [900], [.probe]⟩], [], [0]⟩

theorem gLatch_wf : wf gLatch = true := by decide +kernel

/-- what is reachable in the pre-fix model of `gLatch` -/
def LatchInv (s : St) : Prop :=
  (∀ b, Ev.mwait b ∉ s.tr) ∧ (∀ y, s.tg y = .idle) ∧ (∀ t, t ≠ 0 → s.pc t = .idle) ∧
  (((s.mp = .sub 0 ∨ s.mp = .create 0) ∧ s.pc 0 = .idle) ∨ ((s.mp = .sub 1 ∨ s.mp = .wait) ∧ s.pc 0 = .rejected))

theorem latch_canCreate (s : St) : canCreate gLatch s 0 = false := by
  cases h : canCreate gLatch s 0
  · rfl
  · have := (canCreate_waits h 900 (by decide)).2
    simp [inTable, gLatch, Graph.n] at this

theorem latch_step {s s' : St} (hJ : LatchInv s) (l : Label) (h : stepOld gLatch s l = some s') :
    LatchInv s' := by
  obtain ⟨h1, h2, h3, h4⟩ := hJ
  have hnotask : ∀ t, stepTask gLatch s t = none := by
    intro t
    by_cases ht : t = 0
    · subst ht
      rcases h4 with ⟨_, hp⟩ | ⟨_, hp⟩ <;> simp [stepTask, hp]
    · simp [stepTask, h3 t ht]
  cases l with
  | task t => simp [stepOld, step, hnotask] at h
  | stop t =>
    simp only [stepOld, step, stepStop] at h
    by_cases ht : t = 0
    · subst ht
      rcases h4 with ⟨_, hp⟩ | ⟨_, hp⟩ <;> simp [hp] at h
    · simp [h3 t ht] at h
  | tryg y => simp [stepOld, step, stepTry, h2 y] at h
  | main =>
    simp only [stepOld, stepMainOld] at h
    rcases h4 with ⟨hm | hm, hp⟩ | ⟨hm | hm, hp⟩
    · -- sub 0
      simp [hm, stepMain, gLatch, emit] at h
      subst h
      refine ⟨?_, h2, h3, Or.inl ⟨Or.inr rfl, hp⟩⟩
      intro b hb; simp at hb; exact h1 b hb
    · -- create 0
      simp [hm, stepMain] at h
      have htop : gLatch.top[0]? = some 0 := rfl
      simp [htop, latch_canCreate, emit] at h
      subst h
      refine ⟨?_, h2, ?_, Or.inr ⟨Or.inl rfl, by simp [upd]⟩⟩
      · intro b hb; simp at hb; exact h1 b hb
      · intro t ht; simp [upd, ht]; exact h3 t ht
    · -- sub 1
      simp [hm, stepMain, gLatch] at h
      subst h
      exact ⟨h1, h2, h3, Or.inr ⟨Or.inr rfl, hp⟩⟩
    · -- wait: the rejected entry never releases its latch
      simp [hm, allFinishedOld, gLatch, Graph.n, hp, List.range, List.range.loop] at h

theorem latch_init : LatchInv init := by
  refine ⟨by simp [init], by simp [init], by simp [init], Or.inl ⟨Or.inl rfl, rfl⟩⟩

theorem latch_never_returns (sched : List Label) (b : Bool) :
    Ev.mwait b ∉ ((sysOld gLatch).run sched).tr :=
  (LTS.inv_run (sysOld gLatch) LatchInv latch_init (fun _ i _ hJ hs => latch_step hJ i hs) sched).1 b

end Goat.Pipeline
