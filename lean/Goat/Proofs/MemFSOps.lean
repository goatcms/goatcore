/-
Writer (`writer_eq`: it is WriteFile of the concatenation), Remove and RemoveAll (`rm_spec`) of the root filespace.
`MemFSHeap.appendV` stands here, below the heap level, because `writeChunks_eq` needs the function inside `handleWrite`
under a name and the heap level states its simulation of `Write` against the same one.
-/
import Goat.Proofs.MemFS

namespace Goat

namespace MemFSHeap
open Path (Name)

/-- the value-level function applied by `handleWrite`: what `FileHandler.Write` does inside the directory of its file -/
def appendV (name : Name) (chunk : Bytes) (k : Kids) : Option Kids :=
  match k.find name with
  | some (.file d) => some (k.set name (.file (d ++ chunk)))
  | _ => none

theorem handleWrite_eq (t : Node) (dir : List Name) (name : Name) (chunk : Bytes) :
    MemFS.handleWrite t dir name chunk = t.update dir (appendV name chunk) := rfl

end MemFSHeap

namespace MemFS

open Path (Name split join reduceAbsPath norm Reduced Plain NoSlash dotSeg slash)
open FS (Entry State Result Mut)
open MemAbs

theorem handleWrite_writeIn (t : Node) (init : List Name) (name : Name) (d c : Bytes)
    (h : t.lookup (init ++ [name]) = some (.file d)) :
    handleWrite t init name c = t.update init (Root.writeIn name (d ++ c)) := by
  obtain ⟨k, hk⟩ := Node.lookup_parent t init name _ h
  have hf : k.find name = some (.file d) := by rw [← Node.lookup_snoc t init name k hk, h]
  unfold handleWrite
  apply Node.update_congr t init _ _ k hk
  simp [Root.writeIn, hf]

theorem openWriter_eq (t : Node) (raw : Bytes) :
    Root.openWriter t raw = ((Root.writeFile t raw []).1,
      match (Root.writeFile t raw []).2 with
      | .ok => (reduceAbsPath raw).bind splitContainsPath
      | _ => none) := by
  have hopen : ∀ name, Root.openIn name = Root.writeIn name [] := fun _ => rfl
  simp only [Root.openWriter, Root.writeFile, hopen]
  cases reduceAbsPath raw with
  | none => rfl
  | some p =>
    dsimp only [Option.bind_some]
    rcases splitContainsPath p with _ | ⟨dir, name⟩
    · rfl
    · dsimp only
      cases t.mkdirs dir with
      | none => rfl
      | some t1 => dsimp only; cases t1.update dir (Root.writeIn name []) <;> rfl

theorem writeIn_append (name : Name) (d c : Bytes) (k : Kids) :
    (Root.writeIn name d k).bind (MemFSHeap.appendV name c) = Root.writeIn name (d ++ c) k := by
  simp only [Root.writeIn, Kids.add]
  cases hf : k.find name with
  | none => simp [MemFSHeap.appendV, Kids.find_set_same, Kids.set_set]
  | some n => cases n <;> simp [MemFSHeap.appendV, Kids.find_set_same, Kids.set_set]

theorem writeChunks_eq (dir : List Name) (name : Name) (cs : List Bytes) (t1 : Node) (d : Bytes) :
    ((t1.update dir (Root.writeIn name d)).bind fun t2 => Root.writeChunks t2 dir name cs)
      = t1.update dir (Root.writeIn name (d ++ cs.flatten)) := by
  induction cs generalizing d with
  | nil => simp [Root.writeChunks]
  | cons c cs ih =>
    have e : ∀ t2, Root.writeChunks t2 dir name (c :: cs)
        = (handleWrite t2 dir name c).bind fun t' => Root.writeChunks t' dir name cs := fun t2 => by
      simp only [Root.writeChunks]; cases handleWrite t2 dir name c <;> rfl
    simp only [e, MemFSHeap.handleWrite_eq, ← Option.bind_assoc, Node.update_update, writeIn_append, ih, List.flatten_cons,
      List.append_assoc]

theorem writeIn_isSome (name : Name) (d d' : Bytes) (k : Kids) :
    (Root.writeIn name d k).isSome = (Root.writeIn name d' k).isSome := by
  simp only [Root.writeIn, Kids.add]
  cases k.find name with
  | none => rfl
  | some n => cases n <;> rfl

theorem writer_eq (t : Node) (raw : Bytes) (chunks : List Bytes) :
    Root.writer t raw chunks = Root.writeFile t raw chunks.flatten := by
  -- Opening is `writeIn name []`, and `writeChunks_eq` at `d = []` fuses open-then-writes into the one update of
  -- `WriteFile`.  Left: once the open has succeeded the writes do (else the model would return the opened tree,
  -- `WriteFile` the one before it): `writeIn` accepts or refuses whatever the data (`writeIn_isSome`).
  have hopen : ∀ n, Root.openIn n = Root.writeIn n [] := fun _ => rfl
  simp only [Root.writer, Root.openWriter, Root.writeFile, hopen]
  cases reduceAbsPath raw with
  | none => rfl
  | some p =>
    dsimp only
    rcases splitContainsPath p with _ | ⟨dir, name⟩
    · rfl
    · dsimp only
      cases t.mkdirs dir with
      | none => rfl
      | some t1 =>
        dsimp only
        have E := writeChunks_eq dir name chunks t1 []
        rw [List.nil_append] at E
        rw [← E]
        cases h : t1.update dir (Root.writeIn name []) with
        | none => rfl
        | some t2 =>
          dsimp only [Option.bind_some]
          obtain ⟨k, k', h1, h2, _⟩ := Node.update_eq_some t1 t2 dir _ h
          obtain ⟨k3, h3⟩ := Option.isSome_iff_exists.mp
            ((writeIn_isSome name chunks.flatten [] k).trans (by rw [h2]; rfl))
          obtain ⟨t3, h4⟩ := Node.update_of_lookup t1 dir _ k k3 h1 h3
          rw [show Root.writeChunks t2 dir name chunks = some t3 by rw [← h4, ← E, h]; rfl]

theorem root_writer (t : Node) (ht : Inv t) (raw : Bytes) (chunks : List Bytes) (p : List Name)
    (hn : norm raw = some p) :
    MutOK (FS.writeOk (abs t) p) (FS.writeSt (abs t) p chunks.flatten) t p (Root.writer t raw chunks) := by
  rw [writer_eq]; exact root_writeFile t ht raw chunks.flatten p hn

/-- what `removeIn name eo` accepts under the name: any node, for `Remove` (`eo = true`) only a file or
an empty directory -/
def Removable (eo : Bool) (o : Option Node) : Prop :=
  ∃ n, o = some n ∧ (eo = true → (∃ d, n = .file d) ∨ n = .dir .nil)

theorem removeIn_eq (name : Name) (eo : Bool) (k : Kids) :
    (Removable eo (k.find name) ∧ removeIn name eo k = some (k.erase name))
    ∨ (¬ Removable eo (k.find name) ∧ removeIn name eo k = none) := by
  simp only [removeIn, removeNodeByName, Removable]
  cases hf : k.find name with
  | none => right; cases eo <;> simp
  | some n =>
    cases eo with
    | false => left; simp
    | true =>
      cases n with
      | file d => left; simp
      | dir k2 => cases k2 <;> simp [Kids.isEmpty]

theorem rm_spec (t : Node) (ht : Inv t) (init : List Name) (name : Name) (eo : Bool) :
    (Removable eo (t.lookup (init ++ [name])) ∧ ∃ t', t.update init (removeIn name eo) = some t'
      ∧ abs t' = FS.removeAllSt (abs t) (init ++ [name]) ∧ Keeps t t' [])
    ∨ (¬ Removable eo (t.lookup (init ++ [name])) ∧ t.update init (removeIn name eo) = none) := by
  have hshape : ∀ k0 k0', removeIn name eo k0 = some k0' → k0' = k0.erase name := fun k0 k0' he => by
    rcases removeIn_eq name eo k0 with ⟨_, e⟩ | ⟨_, e⟩ <;> rw [e] at he <;> cases he; rfl
  cases h : t.update init (removeIn name eo) with
  | none =>
    refine Or.inr ⟨fun ⟨n, hl, hn⟩ => ?_, rfl⟩
    obtain ⟨k, hk⟩ := Node.lookup_parent t init name n hl
    have hnone := Node.update_eq_none t init _ h k hk
    rw [Node.lookup_snoc t init name k hk] at hl
    rcases removeIn_eq name eo k with ⟨_, e⟩ | ⟨hr, _⟩
    · rw [e] at hnone; cases hnone
    · exact hr ⟨n, hl, hn⟩
  | some t' =>
    obtain ⟨k, k', hk, hfk, hk'⟩ := Node.update_eq_some t t' init _ h
    have hnd : k.NoDup := (Node.nodup_dir k).mp (Node.lookup_nodup t init _ ht.wf.1 hk)
    obtain rfl := hshape k k' hfk
    have hr : Removable eo (k.find name) := by
      rcases removeIn_eq name eo k with ⟨hr, _⟩ | ⟨_, e⟩
      · exact hr
      · rw [e] at hfk; cases hfk
    refine Or.inl ⟨by rw [Node.lookup_snoc t init name k hk]; exact hr, t', rfl,
      abs_rebind h hk hk' none fun m => Kids.find_erase k name m hnd,
      Node.update_isDir t t' init _ h, fun H hN _ => ?_⟩
    exact H.update t t' init _ hN (fun k0 k0' hk0 he => hshape k0 k0' he ▸ H.erase k0 name hk0) h

theorem removeAllOk_iff (t : Node) (init : List Name) (name : Name) :
    FS.removeAllOk (abs t) (init ++ [name]) ↔ Removable false (t.lookup (init ++ [name])) := by
  simp only [FS.removeAllOk, abs, Removable]
  cases t.lookup (init ++ [name]) <;> simp

theorem removeOk_iff (t : Node) (init : List Name) (name : Name) :
    FS.removeOk (abs t) (init ++ [name]) ↔ Removable true (t.lookup (init ++ [name])) := by
  simp only [FS.removeOk, ne_eq, List.append_eq_nil_iff, List.cons_ne_self, and_false,
    not_false_eq_true, true_and, abs_eq_file, abs_eq_dir, Removable]
  constructor
  · rintro (⟨d, h⟩ | ⟨⟨k, hk⟩, hall⟩)
    · exact ⟨_, h, fun _ => Or.inl ⟨d, rfl⟩⟩
    · refine ⟨_, hk, fun _ => Or.inr ?_⟩
      rw [Kids.eq_nil_of_find_none k fun n => by
        have := hall n
        rwa [abs_eq_none, Node.lookup_snoc t (init ++ [name]) n k hk] at this]
  · rintro ⟨n, hl, hn⟩
    rcases hn trivial with ⟨d, rfl⟩ | rfl
    · exact Or.inl ⟨d, hl⟩
    · exact Or.inr ⟨⟨_, hl⟩, fun n => by rw [abs_eq_none, Node.lookup_snoc t (init ++ [name]) n .nil hl]; rfl⟩

theorem removeSt_eq_removeAllSt (t : Node) (q : List Name) (h : Removable true (t.lookup q)) :
    FS.removeSt (abs t) q = FS.removeAllSt (abs t) q := by
  obtain ⟨n, hl, hn⟩ := h
  funext x
  simp only [FS.removeSt, FS.removeAllSt]
  by_cases hx : x = q
  · subst hx; simp
  · simp only [hx, if_false]
    split
    · next hp =>
      obtain ⟨r, rfl⟩ := hp
      have hr : r ≠ [] := fun e => hx (by simp [e])
      rcases hn rfl with ⟨d, rfl⟩ | rfl
      · exact (abs_closed t).below_none q r hr (by simp [abs, hl, Node.entry])
      · rw [abs_append, hl]
        cases r with
        | nil => exact absurd rfl hr
        | cons a b => simp [abs_dir_cons]
    · rfl

theorem root_removeAll (t : Node) (ht : Inv t) (raw : Bytes) (p : List Name) (hn : norm raw = some p) :
    MutOK (FS.removeAllOk (abs t) p) (FS.removeAllSt (abs t) p) t [] (Root.removeAll t raw) := by
  have hp := Path.norm_reduced raw p hn
  simp only [Root.removeAll, reduceAbsPath_of_norm hn]
  rcases eq_nil_or_snoc p with rfl | ⟨init, name, rfl⟩
  · simp only [removeNodeByPath_nil t ht]
    exact MutOK.refuse ht (by simp [FS.removeAllOk])
  · simp only [removeNodeByPath_concat t hp]
    rcases rm_spec t ht init name false with ⟨hr, t', e, habs, hkeep⟩ | ⟨hr, e⟩ <;> rw [e]
    · exact MutOK.done ((removeAllOk_iff t init name).mpr hr) hkeep habs
    · exact MutOK.refuse ht fun hok => hr ((removeAllOk_iff t init name).mp hok)

theorem root_remove (t : Node) (ht : Inv t) (raw : Bytes) (p : List Name) (hn : norm raw = some p) :
    MutOK (FS.removeOk (abs t) p) (FS.removeSt (abs t) p) t [] (Root.remove t raw) := by
  have hp := Path.norm_reduced raw p hn
  simp only [Root.remove, reduceAbsPath_of_norm hn]
  rcases eq_nil_or_snoc p with rfl | ⟨init, name, rfl⟩
  · simp only [removeNodeByPath_nil t ht]
    exact MutOK.refuse ht (by simp [FS.removeOk])
  · simp only [removeNodeByPath_concat t hp]
    rcases rm_spec t ht init name true with ⟨hr, t', e, habs, hkeep⟩ | ⟨hr, e⟩ <;> rw [e]
    · exact MutOK.done ((removeOk_iff t init name).mpr hr) hkeep (by rw [removeSt_eq_removeAllSt t _ hr]; exact habs)
    · exact MutOK.refuse ht fun hok => hr ((removeOk_iff t init name).mp hok)

end MemFS
end Goat
