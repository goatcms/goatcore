/-
What a call of the disk filespace model may change, in ANY state and for ANY arguments: `step_clean` proves `Clean`
of every outcome.  Read off from it: `step_frame` (no change outside the addressed paths), `step_outside_root` and
`step_keeps_root` (nothing outside the filespace's root directory changes, and it survives).
-/
import Goat.Proofs.DiskFSCopy

namespace Goat
namespace DiskFS

open Path (Name norm)
open FS (Op Result Entry State TreeLike)

/-- `H'` differs from `H` only at or below `a`, or at missing ancestors of `a` that became directories -/
def Touch (a : HPath) (H H' : Host) : Prop :=
  ∀ q, H'.get q = H.get q ∨ a <+: q ∨ (q <+: a ∧ H.get q = none ∧ H'.get q = some .dir)

theorem Touch.refl (a : HPath) (H : Host) : Touch a H H := fun _ => Or.inl rfl

theorem Touch.of_eq {a : HPath} {H H' : Host} (h : H'.get = H.get) : Touch a H H' :=
  fun q => Or.inl (congrFun h q)

theorem Touch.trans {a : HPath} {H H1 H2 : Host} (h1 : Touch a H H1) (h2 : Touch a H1 H2) : Touch a H H2 := by
  intro q
  rcases h2 q with e2 | u2 | ⟨p2, n2, d2⟩
  · rcases h1 q with e1 | u1 | ⟨p1, n1, d1⟩
    · exact Or.inl (e2.trans e1)
    · exact Or.inr (Or.inl u1)
    · exact Or.inr (Or.inr ⟨p1, n1, by rw [e2, d1]⟩)
  · exact Or.inr (Or.inl u2)
  · rcases h1 q with e1 | u1 | ⟨p1, n1, d1⟩
    · exact Or.inr (Or.inr ⟨p2, by rw [← e1]; exact n2, d2⟩)
    · exact Or.inr (Or.inl u1)
    · rw [d1] at n2; cases n2

theorem Touch.mono {a a' : HPath} {H H' : Host} (ha : a <+: a') (h : Touch a' H H') : Touch a H H' := by
  intro q
  rcases h q with e | u | ⟨p, n, d⟩
  · exact Or.inl e
  · exact Or.inr (Or.inl (ha.trans u))
  · rcases List.prefix_or_prefix_of_prefix ha p with h1 | h1
    · exact Or.inr (Or.inl h1)
    · exact Or.inr (Or.inr ⟨h1, n, d⟩)

theorem Touch.above {r p : HPath} {H H' : Host} (h : Touch (r ++ p) H H') (hp : p ≠ []) {q : HPath}
    (hq : q <+: r) (hd : H.get q = some .dir) : H'.get q = some .dir := by
  rcases h q with e | u | ⟨_, n, _⟩
  · rw [e]; exact hd
  · -- `r ++ p` with `p ≠ []` is longer than any prefix of `r`
    exfalso
    have h1 := (u.trans hq).length_le
    have h2 : p.length ≠ 0 := fun hz => hp (List.length_eq_zero_iff.mp hz)
    rw [List.length_append] at h1
    omega
  · rw [hd] at n; cases n

def DirKeep (H H' : Host) : Prop := ∀ q, H.get q = some .dir → H'.get q = some .dir

theorem dirKeep_of_eq {H H' : Host} (h : H'.get = H.get) : DirKeep H H' := fun q hq => by rw [h]; exact hq

/-- what successful system calls addressed at `a` make of a well-formed host -/
structure Chg (a : HPath) (H H' : Host) : Prop where
  wf : H'.WF
  touch : Touch a H H'
  keep : DirKeep H H'

theorem Chg.refl {a : HPath} {H : Host} (hwf : H.WF) : Chg a H H := ⟨hwf, Touch.refl _ _, fun _ h => h⟩

theorem Chg.trans {a : HPath} {H H1 H2 : Host} (h1 : Chg a H H1) (h2 : Chg a H1 H2) : Chg a H H2 :=
  ⟨h2.wf, h1.touch.trans h2.touch, fun q h => h2.keep q (h1.keep q h)⟩

theorem Chg.mono {a a' : HPath} {H H' : Host} (ha : a <+: a') (h : Chg a' H H') : Chg a H H' :=
  ⟨h.wf, h.touch.mono ha, h.keep⟩

theorem chg_put {H : Host} (hwf : H.WF) {p : HPath} (e : Entry) (hp : p ≠ [])
    (hpar : H.get p.dropLast = some .dir) (hnd : H.get p ≠ some .dir) : Chg p H (H.put p e) := by
  refine ⟨Host.wf_put hwf hp hpar (fun hc => absurd hc hnd), ?_, ?_⟩ <;> intro q <;> rw [Host.get_put _ _ _ hp]
  · by_cases hq : q = p
    · subst hq; exact Or.inr (Or.inl (List.prefix_refl _))
    · simp [hq]
  · intro hq
    have : q ≠ p := fun hc => hnd (hc ▸ hq)
    simp [this, hq]

theorem touch_del (H : Host) {p : HPath} (hp : p ≠ []) : Touch p H (H.del p) := by
  intro q
  rw [Host.get_del _ _ hp]
  by_cases hq : q = p
  · subst hq; exact Or.inr (Or.inl (List.prefix_refl _))
  · simp [hq]

theorem touch_delTree (H : Host) {p : HPath} (hp : p ≠ []) : Touch p H (H.delTree p) := by
  intro q
  rw [Host.get_delTree _ _ hp]
  by_cases hq : p <+: q
  · exact Or.inr (Or.inl hq)
  · simp [hq]

theorem chg_mkdirAll {H H' : Host} (hwf : H.WF) {a p : HPath} (h : osMkdirAll H p = some H')
    (hap : p <+: a ∨ a <+: p) : Chg a H H' := by
  obtain ⟨hok, hwf', hget'⟩ := osMkdirAll_some hwf h
  refine ⟨hwf', ?_, ?_⟩ <;> intro q <;> rw [hget'] <;> simp only [FS.mkdirSt] <;> split
  · -- touch, `q` on the way to `p`
    next hq =>
    cases hg : H.get q with
    | some e =>
      cases e with
      | dir => exact Or.inl rfl
      | file d => exact absurd hg (hok q hq d)
    | none =>
      rcases hap with h1 | h1
      · exact Or.inr (Or.inr ⟨hq.trans h1, rfl, rfl⟩)
      · rcases List.prefix_or_prefix_of_prefix h1 hq with h2 | h2
        · exact Or.inr (Or.inl h2)
        · exact Or.inr (Or.inr ⟨h2, rfl, rfl⟩)
  · exact Or.inl rfl  -- touch, elsewhere
  · exact fun _ => rfl  -- keep, on the way
  · exact id  -- keep, elsewhere

theorem chg_openTrunc {H H' : Host} (hwf : H.WF) {x : HP} (h : osOpenTrunc H x = some H') :
    Chg x.path H H' := by
  obtain ⟨hne, hpar, hnd, rfl⟩ := osOpenTrunc_some h
  exact chg_put hwf _ hne hpar hnd

theorem chg_append {H H' : Host} (hwf : H.WF) {p : HPath} (hp : p ≠ []) {c : Bytes}
    (h : osAppend H p c = some H') : Chg p H H' := by
  obtain ⟨d, hg, rfl⟩ := osAppend_some h
  exact chg_put hwf _ hp (Host.parent_dir hwf hp (by simp [hg])) (by rw [hg]; intro hc; cases hc)

theorem chg_appendAll {H H' : Host} (hwf : H.WF) {p : HPath} (hp : p ≠ []) {cs : List Bytes}
    (h : osAppendAll H p cs = some H') : Chg p H H' := by
  induction cs generalizing H with
  | nil => cases h; exact .refl hwf
  | cons c cs ih =>
    simp only [osAppendAll] at h
    split at h
    · cases h
    · next H1 h1 =>
      have c1 := chg_append hwf hp h1
      exact c1.trans (ih c1.wf h)

theorem touch_remove {H H' : Host} (hwf : H.WF) {x : HP} (h : osRemove H x = some H') :
    H'.WF ∧ Touch x.path H H' := by
  by_cases hok : RemoveOk H x
  · obtain ⟨h1, hwf'⟩ := (osRemove_spec hwf x).1 hok
    rw [h1] at h; cases h
    exact ⟨hwf', touch_del H hok.1⟩
  · rw [(osRemove_spec hwf x).2 hok] at h; cases h

theorem touch_removeAll {H H' : Host} (hwf : H.WF) {p : HPath} (hp : p ≠ []) (h : osRemoveAll H p = some H') :
    H'.WF ∧ Touch p H H' := by
  rw [osRemoveAll_eq] at h
  split at h
  · split at h
    · cases h
    · cases h; exact ⟨hwf, Touch.refl _ _⟩
  · cases h; exact ⟨Host.wf_delTree hwf hp, touch_delTree H hp⟩

theorem chg_copyFile {H : Host} (hwf : H.WF) (src dst : HP) : Chg dst.path H (copyFile H src dst).1 := by
  simp only [copyFile]
  split
  · exact .refl hwf
  · exact .refl hwf
  · split
    · exact .refl hwf
    · next H1 ho =>
      have c1 := chg_openTrunc hwf ho
      split
      · split
        · next H2 ha => exact c1.trans (chg_append c1.wf (osOpenTrunc_some ho).1 ha)
        · exact c1
      · exact c1

theorem chg_copyNodes (src dest : HP) (H : Host) (hwf : H.WF) (l : List (HPath × Bool)) :
    Chg dest.path H (copyNodes src dest H l).1 := by
  induction l generalizing H with
  | nil => exact .refl hwf
  | cons x rest ih =>
    obtain ⟨sub, _ | _⟩ := x <;> simp only [copyNodes]
    · have c1 : Chg dest.path H (copyFile H (src.join sub) (dest.join sub)).1 :=
        Chg.mono (a' := (dest.join sub).path) (List.prefix_append _ _) (chg_copyFile hwf _ _)
      split
      · next H1 hc => rw [hc] at c1; exact c1
      · next H1 hc => rw [hc] at c1; exact c1.trans (ih H1 c1.wf)
    · split
      · exact .refl hwf
      · next H1 hm =>
        have c1 := chg_mkdirAll (a := dest.path) hwf hm (Or.inr (List.prefix_append _ _))
        exact c1.trans (ih H1 c1.wf)

theorem dir_path_prefix (x : HP) : x.dir.path <+: x.path := by
  simp only [HP.dir]
  split
  · exact List.prefix_refl _
  · exact List.dropLast_prefix _

theorem chg_copyDir {H : Host} (hwf : H.WF) (src dest : HP) : Chg dest.path H (copyDir H src dest).1 := by
  simp only [copyDir]
  split
  · split
    · exact .refl hwf
    · next H1 hm =>
      have c1 := chg_mkdirAll (a := dest.path) hwf hm (Or.inl (dir_path_prefix dest))
      exact c1.trans (chg_copyNodes src dest H1 c1.wf _)
  · exact .refl hwf

theorem chg_copyAny {H : Host} (hwf : H.WF) (src dest : HP) : Chg dest.path H (copyAny H src dest).1 := by
  simp only [copyAny]
  split
  · exact chg_copyDir hwf src dest
  · exact chg_copyFile hwf src dest

theorem opArgs_below {r : HPath} {op : Op} {a : HPath} (h : a ∈ opArgs r op) : ∃ p, a = r ++ p := by
  unfold opArgs at h
  split at h <;> obtain ⟨p, _, rfl⟩ := List.mem_map.mp h <;> exact ⟨p, rfl⟩

/-- the outcome `x` of a call through the filespace rooted at `r`: well formed; no panic; the directories at or above
`r` still there; unchanged, or changed as `Touch` allows at one normalised argument -/
def Clean (r : HPath) (H : Host) (op : Op) (x : Host × Out) : Prop :=
  x.1.WF ∧ x.2 ≠ .panic ∧ (∀ q, q <+: r → H.get q = some .dir → x.1.get q = some .dir)
    ∧ (x.1.get = H.get ∨ ∃ a ∈ opArgs r op, Touch a H x.1)

theorem clean_same {r : HPath} {H : Host} {op : Op} (hwf : H.WF) (res : Result) : Clean r H op (H, .val res) :=
  ⟨hwf, by simp, fun _ _ h => h, Or.inl rfl⟩

theorem Chg.clean {r : HPath} {H H' : Host} {op : Op} {a : HPath} (c : Chg a H H') (ha : a ∈ opArgs r op)
    (res : Result) : Clean r H op (H', .val res) :=
  ⟨c.wf, by simp, fun q _ => c.keep q, Or.inr ⟨a, ha, c.touch⟩⟩

/-- `Remove`, `RemoveAll`: never of the filespace's root -/
theorem clean_removal {r p : HPath} {H H' : Host} {op : Op} (h : H'.WF ∧ Touch (r ++ p) H H') (hp : p ≠ [])
    (ha : r ++ p ∈ opArgs r op) (res : Result) : Clean r H op (H', .val res) :=
  ⟨h.1, by simp, fun _ => h.2.above hp, Or.inr ⟨_, ha, h.2⟩⟩

theorem step_clean (r : HPath) (H : Host) (hwf : H.WF) (op : Op) : Clean r H op (step r H op) := by
  cases op <;> dsimp only [step]
  case mkdirAll raw =>
    split
    · exact clean_same hwf _
    · next p hn =>
      split
      · next H1 hm =>
        exact (chg_mkdirAll hwf hm (Or.inl (List.prefix_refl _))).clean (by simp [opArgs, hn]) _
      · exact clean_same hwf _
  case writeFile raw data =>
    split
    · exact clean_same hwf _
    · next p hn =>
      have hta : r ++ p ∈ opArgs r (.writeFile raw data) := by simp [opArgs, hn]
      split
      · exact clean_same hwf _
      · next H1 hm =>
        have c1 := chg_mkdirAll (a := r ++ p) hwf hm (Or.inl (dir_path_prefix (full r p)))
        split
        · exact c1.clean hta _
        · next H2 ho =>
          have c2 := c1.trans (chg_openTrunc c1.wf ho)
          split
          · next H3 ha => exact (c2.trans (chg_append c2.wf (osOpenTrunc_some ho).1 ha)).clean hta _
          · exact c2.clean hta _
  case writer raw chunks =>
    split
    · exact clean_same hwf _
    · next p hn =>
      have hta : r ++ p ∈ opArgs r (.writer raw chunks) := by simp [opArgs, hn]
      split
      · exact clean_same hwf _
      · next H1 ho =>
        have c1 : Chg (r ++ p) H H1 := chg_openTrunc hwf ho
        split
        · next H2 ha => exact (c1.trans (chg_appendAll c1.wf (osOpenTrunc_some ho).1 ha)).clean hta _
        · exact c1.clean hta _
  case remove raw =>
    split
    · exact clean_same hwf _
    · next p hn =>
      split
      · exact clean_same hwf _
      · next hp =>
        split
        · next H1 hr => exact clean_removal (touch_remove hwf hr) hp (by simp [opArgs, hn]) _
        · exact clean_same hwf _
  case removeAll raw =>
    split
    · exact clean_same hwf _
    · next p hn =>
      split
      · exact clean_same hwf _
      · next hp =>
        split
        · next H1 hr =>
          exact clean_removal (touch_removeAll hwf (List.append_ne_nil_of_right_ne_nil _ hp) hr) hp (by simp [opArgs, hn]) _
        · exact clean_same hwf _
  case copyFile rs rd =>
    split
    · exact clean_same hwf _
    · split
      · exact clean_same hwf _
      · next d hd => exact (chg_copyFile hwf _ (full r d)).clean (by simp [opArgs, hd, full_path]) _
  case copyDirectory rs rd =>
    split
    · exact clean_same hwf _
    · next s _ =>
      split
      · exact clean_same hwf _
      · next d hd =>
        rw [copyDirectory_eq hwf]
        exact (chg_copyDir hwf (full r s) (full r d)).clean (by simp [opArgs, hd, full_path]) _
  case copy rs rd =>
    split
    · exact clean_same hwf _
    · next s _ =>
      split
      · exact clean_same hwf _
      · next d hd =>
        rw [copy_eq hwf]
        exact (chg_copyAny hwf (full r s) (full r d)).clean (by simp [opArgs, hd, full_path]) _
  -- the queries: every branch of their definitions hands back `H` itself
  all_goals
    repeat' split
    all_goals exact clean_same hwf _

theorem step_keeps_root (r0 b : HPath) (H : Host) (hwf : H.WF) (h0 : H.get r0 = some .dir) (op : Op) :
    (step (r0 ++ b) H op).1.get r0 = some .dir :=
  (step_clean (r0 ++ b) H hwf op).2.2.1 r0 (List.prefix_append _ _) h0

theorem step_outside_root (r0 b : HPath) (H : Host) (hwf : H.WF) (h0 : H.get r0 = some .dir) (op : Op)
    (q : HPath) (hq : ¬ r0 <+: q) : (step (r0 ++ b) H op).1.get q = H.get q := by
  obtain ⟨_, _, _, e | ⟨a, ha, ht⟩⟩ := step_clean (r0 ++ b) H hwf op
  · rw [e]
  · have hra : r0 <+: a := by
      obtain ⟨p, rfl⟩ := opArgs_below ha
      rw [List.append_assoc]; exact List.prefix_append _ _
    rcases ht q with e | u | ⟨p, n, _⟩
    · exact e
    · exact absurd (hra.trans u) hq
    · -- an ancestor of the argument that is not below `r0` is above it, and there already
      rcases List.prefix_or_prefix_of_prefix hra p with h1 | h1
      · exact absurd h1 hq
      · rw [(Host.wf_treeLike hwf).closed.prefix_of_dir h0 h1] at n; cases n

theorem step_frame (r : HPath) (H : Host) (hwf : H.WF) (op : Op) :
    (∀ q, ¬ Addressed (opArgs r op) q → ¬ Above (opArgs r op) q → (step r H op).1.get q = H.get q)
    ∧ (∀ q, ¬ Addressed (opArgs r op) q → Above (opArgs r op) q →
        (step r H op).1.get q = H.get q ∨ (H.get q = none ∧ (step r H op).1.get q = some .dir)) := by
  obtain ⟨_, _, _, e | ⟨a, ha, ht⟩⟩ := step_clean r H hwf op
  · exact ⟨fun q _ _ => by rw [e], fun q _ _ => Or.inl (by rw [e])⟩
  · constructor
    · intro q hna hnb
      rcases ht q with e | u | ⟨p, _, _⟩
      · exact e
      · exact absurd ⟨a, ha, u⟩ hna
      · by_cases hqa : q = a
        · exact absurd ⟨a, ha, hqa ▸ List.prefix_refl _⟩ hna
        · exact absurd ⟨a, ha, p, hqa⟩ hnb
    · intro q hna _
      rcases ht q with e | u | ⟨_, n, d⟩
      · exact Or.inl e
      · exact absurd ⟨a, ha, u⟩ hna
      · exact Or.inr ⟨n, d⟩

end DiskFS
end Goat
