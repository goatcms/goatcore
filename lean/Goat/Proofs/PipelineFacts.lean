/-
For properties C14/C16: what the graph says about a task by its role (`handler_facts`, `Submits.facts`,
`parentOf_cmd`) and what `Inv` says about ONE state: who is in the table, who is idle, who has closed
(`child_idle`, `handler_idle`, `top_idle`; `finished_of_parent_gone`, `child_closed`, `try_closed`), why a handler
is refused (`root_cause_of_refusal`).  No step is taken here; the analyses of a step — `inv_step`, `mu_step`,
`quiet_and_ok2_step`, `oinv_step`, deadlock freedom — each rest on these and not on one another.
-/
import Goat.Proofs.PipelineInv
import Goat.Proofs.PipelineTrace

namespace Goat.Pipeline

/-! ### What the graph says about a task by its role -/

theorem t_lt_of_cmd {g : Graph} {t i : Nat} {c : Cmd} (hcmd : g.cmdAt t i = some c) : t < g.n := by
  rcases Nat.lt_or_ge t g.n with h | h
  · exact h
  · have := cmdAt_lt hcmd; rw [body_out h] at this; simp at this

/-- a handler of try `y`: in the graph, in the owner's context, submitted by the owner's `pip:try` -/
structure HandlerFacts (g : Graph) (y h : Nat) : Prop where
  lt : h < g.n
  ctx : g.ctx h = g.ctx (g.tryd y).owner
  parentOf : parentOf g h = some ((g.tryd y).owner, (g.tryd y).idx)

theorem handler_facts {g : Graph} (hw : WF g) {y h : Nat} (hy : y < g.tries.length) (hh : h ∈ g.handlers y) :
    HandlerFacts g y h := by
  obtain ⟨k, hk⟩ := mem_handlers_kind.mp hh
  obtain ⟨a, b⟩ := hw.ofKind hy k hk
  exact ⟨a, (hw.ofRole a b).ctx, (role_kind b).parentOf⟩

/-- what the role of a task submitted by command `i` of `t` says about it (`HandlerRole` for the other two roles) -/
structure SubmitFacts (g : Graph) (t i c : Nat) : Prop where
  lt : c < g.n
  depth : g.depth c = g.depth t + 1
  parentOf : parentOf g c = some (t, i)
  created_iff : ∀ tr tgv, created g tr tgv c ↔ hasRet tr t i
  submitted_iff : ∀ tr, submitted g tr c ↔ Ev.cmd t i ∈ tr
  acceptedEv_iff : ∀ tr, acceptedEv g tr c ↔ Ev.ret t i true ∈ tr

theorem Submits.facts {g : Graph} (hw : WF g) {t i c : Nat} (h : Submits g t i c) : SubmitFacts g t i c := by
  rcases h with h | ⟨y, h, rfl⟩
  · obtain ⟨hc, hr⟩ := hw.spawn (t_lt_of_cmd h) h
    constructor <;> simp [parentOf, created, submitted, acceptedEv, hr, hc, (hw.child hc hr).2.1]
  · obtain ⟨hy, ho, hi⟩ := hw.tryc (t_lt_of_cmd h) h
    obtain ⟨_, _, hc, hr⟩ := hw.tryOwner hy
    constructor <;> simp [parentOf, created, submitted, acceptedEv, hr, hc, (hw.tbody hc hr).2.2.2.1, ho, hi]

theorem Submits.unique {g : Graph} {t i u c : Nat} (h : Submits g t i u) (h' : Submits g t i c) : u = c := by
  rcases h with h | ⟨y, h, rfl⟩ <;> rcases h' with h' | ⟨y', h', rfl⟩ <;> rw [h] at h' <;> cases h' <;> rfl

theorem parentOf_cmd {g : Graph} (hw : WF g) {u p i : Nat} (hp : parentOf g u = some (p, i)) :
    g.cmdAt p i = some (.spawn u) ∨
    ∃ y, y < g.tries.length ∧ g.cmdAt p i = some (.try_ y) ∧ (u = (g.tryd y).body ∨ u ∈ g.handlers y) := by
  have hu : u < g.n := lt_of_role_ne_top fun hr => by unfold parentOf at hp; rw [hr] at hp; cases hp
  have viaTry : ∀ y, y < g.tries.length → some ((g.tryd y).owner, (g.tryd y).idx) = some (p, i) →
      (u = (g.tryd y).body ∨ u ∈ g.handlers y) → g.cmdAt p i = some (.spawn u) ∨
      ∃ y, y < g.tries.length ∧ g.cmdAt p i = some (.try_ y) ∧ (u = (g.tryd y).body ∨ u ∈ g.handlers y) := by
    intro y hy he hm
    have := (hw.tryOwner hy).2.1
    cases he
    exact Or.inr ⟨y, hy, this, hm⟩
  rcases role_cases g u with hr | ⟨p', i', hr⟩ | ⟨y, hr⟩ | ⟨k, y, hr⟩
  · unfold parentOf at hp; rw [hr] at hp; cases hp
  · unfold parentOf at hp; rw [hr] at hp; cases hp
    exact Or.inl (hw.child hu hr).1
  · obtain ⟨hy, hb, _⟩ := hw.tbody hu hr
    unfold parentOf at hp; rw [hr] at hp
    exact viaTry y hy hp (Or.inl hb.symm)
  · rw [(role_kind hr).parentOf] at hp
    exact viaTry y (hw.ofRole hu hr).lt_tries hp (Or.inr (mem_handlers_kind.mpr ⟨k, (hw.ofRole hu hr).get⟩))

theorem guard_child {g : Graph} {s : St} (hw : WF g) {t i u : Nat} {c : Cmd}
    (hp : parentOf g u = some (t, i)) (hcmd : g.cmdAt t i = some c)
    (hg : cmdChildrenFinished g s c = true) (ha : (s.pc u).accepted = true) : s.pc u = .finished := by
  rcases parentOf_cmd hw hp with h | ⟨y, _, h, hm⟩ <;> rw [hcmd] at h <;> cases h
  · simpa [cmdChildrenFinished] using hg
  · rcases hm with rfl | hm
    · exact (guard_try hg).2.1
    · exact (guard_try hg).2.2 u hm ha

theorem touches_ret {g : Graph} (hw : WF g) {t i u : Nat} {b : Bool} (hne : u ≠ t)
    (h : touches g u (.ret t i b)) : Submits g t i u := by
  rcases h with h | h | ⟨y, h1, h2, h3⟩
  · exact absurd h.symm hne
  · have hu : u < g.n := lt_of_role_ne_top (by rw [h]; nofun)
    exact Or.inl (hw.child hu h).1
  · have hu : u < g.n := lt_of_role_ne_top (by rw [h1]; nofun)
    obtain ⟨hy, hb, _⟩ := hw.tbody hu h1
    exact Or.inr ⟨y, h2 ▸ h3 ▸ (hw.tryOwner hy).2.1, hb.symm⟩

/-! ### What `Inv` says about one state -/

theorem Inv.lt_of_accepted {g : Graph} {s : St} (hI : Inv g s) {u : Nat} (ha : (s.pc u).accepted = true) : u < g.n :=
  (hI.ti u).range (by intro h0; rw [h0] at ha; cases ha)

theorem child_accepted {g : Graph} {s : St} (hw : WF g) (hI : Inv g s) {t i c : Nat} (h : Submits g t i c)
    (hret : Ev.ret t i true ∈ s.tr) : (s.pc c).accepted = true :=
  (hI.ti c).accEv' (((h.facts hw).acceptedEv_iff _).mpr hret)

theorem done_true_of_finished {g : Graph} {s : St} (hI : Inv g s) {w : Nat} (hf : s.pc w = .finished)
    (hc : s.cerr (g.ctx w) = false) : Ev.done w true ∈ s.tr := by
  have W := hI.ti w
  rcases (W.fin hf).1 with h | h
  · exact h
  · have := W.df h; rw [hc] at this; cases this

theorem TI.no_ret {g : Graph} {t i : Nat} {tr : List Ev} {ce : Bool} {tgv : TG}
    (T : TI g t (.inCmd i) tr ce tgv) : ¬ hasRet tr t i :=
  fun h => h.elim (fun h => Nat.lt_irrefl _ (T.retB i rfl i _ h)) (fun h => Nat.lt_irrefl _ (T.retB i rfl i _ h))

/-- `X3` as its users need it -/
theorem finished_of_parent_gone {g : Graph} {s : St} (hI : Inv g s) {u p i : Nat} (hp : parentOf g u = some (p, i))
    (hna : s.pc p ≠ .afterCmd i) (ha : (s.pc u).accepted = true) : s.pc u = .finished :=
  Classical.byContradiction fun h => hna (hI.x3 u ha h p i hp)

theorem accepted_of_cmd {g : Graph} {s : St} (hI : Inv g s) {u j : Nat} (hc : Ev.cmd u j ∈ s.tr) :
    (s.pc u).accepted = true := by
  have U := hI.ti u
  unfold TIs at U
  -- idle, rejected: `cmdB` with bound 0 allows no `cmd` event
  cases hpc : s.pc u <;> first | rfl | (rw [hpc] at U; exact absurd (U.cmdB 0 rfl j hc) (Nat.not_lt_zero _))

/-- state form of the clause `hacc h ∈ pre → hasDone pre h` of `cmdClosed` -/
theorem accepted_closed_when_owner_leaves {g : Graph} (hw : WF g) {s : St} (hI : Inv g s) {y h : Nat} (hy : y < g.tries.length)
    (hh : h ∈ g.handlers y) (hna : s.pc (g.tryd y).owner ≠ .afterCmd (g.tryd y).idx)
    (hacc : Ev.hacc h ∈ s.tr) : hasDone s.tr h := by
  have ha := hI.ha h hacc
  exact ((hI.ti h).fin (finished_of_parent_gone hI (handler_facts hw hy hh).parentOf hna ha)).1

theorem child_closed {g : Graph} {s : St} (hw : WF g) (hI : Inv g s) {t i c : Nat} (h : Submits g t i c)
    (hret : Ev.ret t i true ∈ s.tr) (hna : s.pc t ≠ .afterCmd i) : hasDone s.tr c :=
  ((hI.ti c).fin (finished_of_parent_gone hI (h.facts hw).parentOf hna (child_accepted hw hI h hret))).1

theorem try_closed {g : Graph} {s : St} (hw : WF g) (hI : Inv g s) {t i y : Nat}
    (hcmd : g.cmdAt t i = some (.try_ y)) (hret : Ev.ret t i true ∈ s.tr) (hna : s.pc t ≠ .afterCmd i) :
    hasDone s.tr (g.tryd y).body ∧
    (∀ h ∈ g.handlers y, Ev.cmd h 0 ∈ s.tr → hasDone s.tr h) ∧
    (∀ h ∈ g.handlers y, Ev.hacc h ∈ s.tr → hasDone s.tr h) ∧
    (∀ h ∈ selected g s.tr y, handlerFate g s.tr y h) := by
  obtain ⟨hy, ho, hi⟩ := hw.tryc (t_lt_of_cmd hcmd) hcmd
  have hown : ¬ (s.pc (g.tryd y).owner = .afterCmd (g.tryd y).idx) := by rw [ho, hi]; exact hna
  have hfin : ∀ h ∈ g.handlers y, (s.pc h).accepted = true → s.pc h = .finished := fun h hh ha =>
    finished_of_parent_gone hI (handler_facts hw hy hh).parentOf hown ha
  refine ⟨child_closed hw hI (Or.inr ⟨y, hcmd, rfl⟩) hret hna, fun h hh hc => ((hI.ti h).fin (hfin h hh (accepted_of_cmd hI hc))).1,
    fun h hh hc => accepted_closed_when_owner_leaves hw hI hy hh hown hc, fun h hsel => ?_⟩
  -- the try goroutine is done
  have Y := hI.yi y hy
  have hst : s.tg y ≠ .idle := Y.started' (by rw [ho, hi]; exact hret)
  have hdn : s.tg y = .done := Classical.byContradiction fun h => hown (Y.active hst h)
  have hhand := selected_sub_handlers hsel
  rcases (Y.selected_handled hdn hsel).2 with ⟨ha, hac⟩ | hr
  · by_cases hc0 : Ev.cmd h 0 ∈ s.tr
    · exact Or.inl hc0
    · refine Or.inr (Or.inl ⟨hac, ?_⟩)
      rcases ((hI.ti h).fin (hfin h hhand ha)).1 with hd | hd
      · exact absurd (cmd0_of_done_true hw hI.ok (handler_facts hw hy hhand).lt hd) hc0
      · exact hd
  · exact Or.inr (Or.inr hr)

theorem cmdDoneOk_of_guard {g : Graph} {s : St} (hw : WF g) (hI : Inv g s) {t i : Nat} {c : Cmd}
    (hcmd : g.cmdAt t i = some c) (hret : Ev.ret t i true ∈ s.tr)
    (hg : cmdChildrenFinished g s c = true) (hce : s.cerr (g.ctx t) = false) :
    cmdDoneOk g s.tr t i := by
  have ht := t_lt_of_cmd hcmd
  refine ⟨hret, ?_⟩
  rw [hcmd]
  cases c with
  | spawn c =>
    have hc := hw.spawn ht hcmd
    apply done_true_of_finished hI (by simpa [cmdChildrenFinished] using hg)
    rw [(hw.child hc.1 hc.2).2.2]; exact hce
  | try_ y =>
    obtain ⟨hdn, hbf, hfin⟩ := guard_try hg
    obtain ⟨hy, ho, _⟩ := hw.tryc ht hcmd
    refine ⟨((hI.ti _).fin hbf).1, fun h hsel => ?_⟩
    have hhand := selected_sub_handlers hsel
    rcases ((hI.yi y hy).selected_handled hdn hsel).1 with ha | hc
    · apply done_true_of_finished hI (hfin h hhand ha)
      rw [(handler_facts hw hy hhand).ctx, ho]; exact hce
    · rw [ho, hce] at hc; cases hc
  | _ => trivial

theorem idle_of_not_created {g : Graph} {s : St} (hI : Inv g s) {c : Nat}
    (h : ¬ created g s.tr (s.tg (tryOf g c)) c) : s.pc c = .idle :=
  Classical.byContradiction fun h1 => h ((hI.ti c).once h1)

theorem child_idle {g : Graph} {s : St} (hw : WF g) (hI : Inv g s) {t i c : Nat}
    (hpc : s.pc t = .inCmd i) (h : Submits g t i c) : s.pc c = .idle ∧ c ≠ t := by
  have T := hI.ti t
  unfold TIs at T; rw [hpc] at T
  have hcidle : s.pc c = .idle :=
    idle_of_not_created hI fun hc => T.no_ret (((h.facts hw).created_iff _ _).mp hc)
  exact ⟨hcidle, by rintro rfl; rw [hpc] at hcidle; cases hcidle⟩

theorem tryg_idle {g : Graph} {s : St} (hw : WF g) (hI : Inv g s) {t i y : Nat}
    (hpc : s.pc t = .inCmd i) (hcmd : g.cmdAt t i = some (.try_ y)) : s.tg y = .idle := by
  have T := hI.ti t
  unfold TIs at T; rw [hpc] at T
  obtain ⟨hy, ho, hix⟩ := hw.tryc (t_lt_of_cmd hcmd) hcmd
  refine Classical.byContradiction fun h => T.no_ret (Or.inl ?_)
  have := (hI.yi y hy).started h
  rwa [ho, hix] at this

theorem top_idle {g : Graph} {s : St} (hw : WF g) (hI : Inv g s) {j t : Nat}
    (hmp : s.mp = .create j) (htop : g.top[j]? = some t) :
    s.pc t = .idle ∧ t < g.n ∧ ¬ (Ev.acc t ∈ s.tr ∨ Ev.rej t ∈ s.tr) := by
  obtain ⟨htn, htr⟩ := hw.top t (List.mem_of_getElem? htop)
  have hno : ¬ (Ev.acc t ∈ s.tr ∨ Ev.rej t ∈ s.tr) := by
    intro hh
    obtain ⟨j', hj', hj''⟩ := hI.mi.early j (Or.inr hmp) t hh
    have := (List.getElem?_inj (List.getElem?_eq_some_iff.mp hj'').1 hw.nodup).mp (hj''.trans htop.symm)
    omega
  refine ⟨?_, htn, hno⟩
  apply idle_of_not_created hI
  unfold created; rw [htr]; exact hno

theorem handler_idle {g : Graph} {s : St} (hw : WF g) (hI : Inv g s) {y hh : Nat} (hy : y < g.tries.length)
    (k : HKind) (hk : k.get (g.tryd y) = some hh) (hr : (s.tg y).rank < k.thr) : s.pc hh = .idle := by
  have b := (hw.ofKind hy k hk).2
  have htof := (role_kind b).tryOf
  have hcr := (role_kind b).created_iff
  exact idle_of_not_created hI (by rw [hcr, htof]; omega)

theorem waits_accepted_of_canCreate {g : Graph} {s : St} (hw : WF g) (hI : Inv g s) {c : Nat}
    (hc : c < g.n) (h : canCreate g s c = true) : ∀ w ∈ g.waits c, acceptedEv g s.tr w := by
  intro w hwm
  have := (canCreate_waits h w hwm).2
  simp only [inTable, Bool.and_eq_true, decide_eq_true_eq] at this
  obtain ⟨hwn, hwa⟩ := this
  rcases hw.wait_cases hc hwm with h2 | h2
  · omega
  · exact (hI.ti w).accEv hwa h2.1

/-- a handler has an empty wait list, so its submission is refused only when its scope or the root scope is done -/
theorem root_cause_of_refusal {g : Graph} {s : St} (hI : Inv g s) {h : Nat} (hnw : g.waits h = [])
    (hih : isHandler g h = true) (hcan : ¬ canCreate g s h = true) : causeFor g s.tr h := by
  unfold canCreate submitCtxOk at hcan
  rw [hnw, validWL_nil] at hcan
  unfold isHandler at hih
  cases hr : g.role h <;> simp [hr] at hih hcan
  -- the three handler roles are left
  all_goals
    cases h0 : s.cerr 0
    · exact hI.i2 _ (hcan h0)
    · rcases hI.i2 0 h0 with h1 | h1 <;> exact Or.inr h1

theorem finished_of_allFinished {g : Graph} {s : St} (hI : Inv g s) (h : allFinished g s = true) :
    ∀ u, (s.pc u).accepted = true → s.pc u = .finished := by
  intro u ha
  have hun : u < g.n := hI.lt_of_accepted ha
  unfold allFinished at h
  rw [List.all_eq_true] at h
  have := h u (List.mem_range.mpr hun)
  simp only [Bool.or_eq_true, Bool.not_eq_true', beq_iff_eq] at this
  rcases this with h1 | h1
  · rw [h1] at ha; cases ha
  · exact h1

theorem report_ok {g : Graph} {s : St} (hI : Inv g s) (X : Nat) :
    if (!s.cerr X) = true then ∀ u ∈ List.range g.n, Ev.done u false ∈ s.tr → g.ctx u ≠ X
    else causeIn g X s.tr ∨ causeIn g 0 s.tr := by
  cases hc : s.cerr X
  · simp only [Bool.not_false, if_true]
    intro u _ hd heq
    have := (hI.ti u).df hd
    rw [heq, hc] at this; cases this
  · simp only [Bool.not_true, Bool.false_eq_true, if_false]
    exact hI.i2 _ hc

end Goat.Pipeline
