/- Invariant of the concurrent-closers system with an atomic test-and-set. -/
import Goat.Model.ScopeClosers

namespace Goat.Closers

/-- nobody is between test and set; either nobody has called yet, or there is exactly one winner `w`
whose progress `i` accounts for everything fired, and everybody else is idle or refused -/
structure Inv (st : St) : Prop where
  open_ : st.closed = false → st.fired = [] ∧ ∀ g, st.pc g = .idle
  closed_ : st.closed = true → ∃ w i, i ≤ protoLen ∧ (st.pc w).progress = some i ∧ st.fired = List.range i ∧
      ∀ g, g ≠ w → st.pc g = .idle ∨ st.pc g = .refused

theorem inv_init : Inv {} :=
  ⟨fun _ => ⟨rfl, fun _ => rfl⟩, fun h => by cases h⟩

theorem setPc_same (st : St) (g : Nat) (p : Pc) : (st.setPc g p).pc g = p := by simp [St.setPc]

theorem setPc_ne (st : St) {g h : Nat} (p : Pc) (hne : h ≠ g) : (st.setPc g p).pc h = st.pc h := by
  simp [St.setPc, hne]

theorem Inv.pc {st : St} (h : Inv st) (g : Nat) :
    st.pc g = .idle ∨ st.pc g = .refused ∨
      ∃ i, st.closed = true ∧ i ≤ protoLen ∧ (st.pc g).progress = some i ∧ st.fired = List.range i ∧
        ∀ x, x ≠ g → st.pc x = .idle ∨ st.pc x = .refused := by
  cases hc : st.closed with
  | false => exact .inl ((h.open_ hc).2 g)
  | true =>
    obtain ⟨w, i, hi, hw, hf, ho⟩ := h.closed_ hc
    by_cases e : g = w
    · subst e; exact .inr (.inr ⟨i, rfl, hi, hw, hf, ho⟩)
    · exact (ho g e).imp_right .inl

theorem not_tested {st : St} (h : Inv st) (g : Nat) : st.pc g ≠ .tested := by
  intro ht
  rcases h.pc g with h1 | h1 | ⟨_, _, _, h1, _⟩ <;> rw [ht] at h1 <;> cases h1

theorem inv_step {st : St} (h : Inv st) (g : Nat) : Inv (step true st g) := by
  unfold step
  cases hpc : st.pc g with
  | idle =>
    cases hc : st.closed with
    | true =>  -- a late caller is refused
      simp only [if_true]
      obtain ⟨w, i, hi, hw, hf, ho⟩ := h.closed_ hc
      have hgw : g ≠ w := by
        intro e; subst e; rw [hpc] at hw; cases hw
      refine ⟨fun hcl => ?_, fun _ => ⟨w, i, hi, ?_, hf, fun x hx => ?_⟩⟩
      · exact absurd (hc.symm.trans hcl) (by decide)
      · rw [setPc_ne _ _ (Ne.symm hgw)]; exact hw
      · by_cases hxg : x = g
        · subst hxg; right; exact setPc_same _ _ _
        · rw [setPc_ne _ _ hxg]; exact ho x hx
    | false =>  -- the first caller wins the test-and-set
      simp only [Bool.false_eq_true, if_false, if_true]
      obtain ⟨hf, hidle⟩ := h.open_ hc
      refine ⟨fun hcl => (by simp [St.setPc] at hcl), fun _ => ⟨g, 0, Nat.zero_le _, ?_, ?_, fun x hx => ?_⟩⟩
      · rw [setPc_same]; rfl
      · exact hf
      · left; rw [setPc_ne _ _ hx]; exact hidle x
  | tested => exact absurd hpc (not_tested h g)
  | run i =>  -- the winner advances, `fired` grows by `i`
    by_cases hi : i < protoLen
    · simp only [hi, if_true]
      rcases h.pc g with h1 | h1 | ⟨j, hc, _, hw, hf, ho⟩
      · rw [hpc] at h1; cases h1
      · rw [hpc] at h1; cases h1
      · rw [hpc] at hw
        obtain rfl : i = j := by simpa [Pc.progress] using hw
        refine ⟨fun hcl => ?_, fun _ => ⟨g, i + 1, hi, ?_, ?_, fun x hx => ?_⟩⟩
        · exact absurd (hc.symm.trans hcl) (by decide)
        · rw [setPc_same]
          by_cases hl : i + 1 = protoLen <;> simp [hl, Pc.progress]
        · show st.fired ++ [i] = List.range (i + 1)
          rw [hf, List.range_succ]
        · rw [setPc_ne _ _ hx]; exact ho x hx
    · simp only [hi, if_false]; exact h
  | refused | done => exact h

theorem inv_run (sched : List Nat) : Inv (run true sched) :=
  List.foldlRecOn sched (step true) inv_init fun _ h g _ => inv_step h g

theorem fired_prefix {st : St} (h : Inv st) : st.fired <+: List.range protoLen := by
  cases hc : st.closed with
  | false => rw [(h.open_ hc).1]; exact List.nil_prefix
  | true =>
    obtain ⟨_, i, hi, _, hf, _⟩ := h.closed_ hc
    rw [hf, ← Nat.min_eq_left hi, ← List.take_range]; exact List.take_prefix _ _

theorem done_fired_all {st : St} (h : Inv st) {g : Nat} (hd : st.pc g = .done) : st.fired = List.range protoLen := by
  rcases h.pc g with h1 | h1 | ⟨i, _, _, hw, hf, _⟩
  · rw [hd] at h1; cases h1
  · rw [hd] at h1; cases h1
  · rw [hd] at hw
    obtain rfl : protoLen = i := by simpa [Pc.progress] using hw
    exact hf

theorem winner_unique {st : St} (h : Inv st) {g : Nat} (hg : (st.pc g).runs = true) :
    ∀ x, x ≠ g → st.pc x = .idle ∨ st.pc x = .refused := by
  rcases h.pc g with h1 | h1 | ⟨_, _, _, _, _, ho⟩
  · rw [h1] at hg; cases hg
  · rw [h1] at hg; cases hg
  · exact ho

end Goat.Closers
