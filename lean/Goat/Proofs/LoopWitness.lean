/-
Two explicit schedules.  (1) The consumer order of the tree tagged `pinned-base` (emptiness test first, step read
second) loses the last item: one consumer.  (2) The repaired order after a kill: with a full channel and every
consumer gone, a producer stays blocked in its send for ever (a goroutine leak; `Wait` has returned): one consumer,
three files, channel capacity 1.
-/
import Goat.Proofs.LoopStuck

namespace Goat.Loop
open Goat.LTS

def oldParams : Params := { capD := 1000, capF := 1000, failCb := fun _ _ => false, fixedOrder := false }

def newParams : Params := { oldParams with fixedOrder := true }

def plainCfg : WalkCfg := { fileFilter := none, dirFilter := none, onFile := true, onDir := true }

def oneFile : List PAct := [.list "./" false true 0, .send false "./a", .chk 0]

theorem oneFile_eq : rootProg plainCfg (fun _ => false) "./" true (.cons "a" .file .nil) = oneFile := by
  rfl

/-- the consumer finds both queues empty (3 actions) and is then held in the gap before its step
read; the producer lists the root, sends the file, tests the kill flag and signs off; the closer
sees the producer pool empty and announces; the consumer reads the step, sees `StepClose`, returns
and signs off -/
def lostSchedule : List Label :=
  [.cons 0, .cons 0, .cons 0, .prod 0, .prod 0, .prod 0, .prod 0, .closer, .closer, .cons 0, .cons 0]

theorem lost_item_state :
    let s := (sys oldParams oneFile 1).run lostSchedule
    s.poolCtr = 0 ∧ s.cons = [PC.exited] ∧ s.qf = ["./a"] ∧ s.done = [] ∧ errorsOf s = [] ∧ s.killed = false := by
  decide +kernel

/-- the same schedule under the repaired order: the consumer is held after its step read (which
saw "not closed"), then finds the file -/
theorem same_schedule_repaired :
    let s := (sys newParams oneFile 1).run (lostSchedule ++ List.replicate 12 (.cons 0))
    s.poolCtr = 0 ∧ s.cons = [PC.exited] ∧ s.qf = [] ∧ s.done = [(false, "./a")] ∧ errorsOf s = [] := by
  decide +kernel

def tinyParams : Params := { capD := 1, capF := 1, failCb := fun _ p => p == "./a", fixedOrder := true }

def threeFiles : List PAct :=
  [.list "./" false true 0, .send false "./a", .chk 4, .send false "./b", .chk 2, .send false "./c", .chk 0]

theorem threeFiles_eq : rootProg plainCfg (fun _ => false) "./" true
    (.cons "a" .file (.cons "b" .file (.cons "c" .file .nil))) = threeFiles := by
  rfl

/-- the producer lists the root and sends `a`; the consumer receives it and is inside the callback;
the producer sends `b` (the channel is full again) and blocks sending `c`; the callback fails, the
consumer reports the error (which kills the lifecycle), sees the kill at the top of its loop,
leaves and signs off -/
def stuckSchedule : List Label :=
  [.prod 0, .prod 0, .prod 0] ++ List.replicate 7 (.cons 0) ++ [.prod 0, .prod 0, .prod 0]
    ++ List.replicate 4 (.cons 0)

theorem stuck_state :
    let s := (sys tinyParams threeFiles 1).run stuckSchedule
    s.poolCtr = 0 ∧ s.cons = [PC.exited] ∧ s.killed = true ∧ s.qf = ["./b"] ∧ s.done = [(false, "./a")]
      ∧ errorsOf s = [.cb false "./a", .canceled] ∧ s.closer = .waiting ∧ s.ppool = 1
      ∧ ∃ pr ∈ s.prods[0]?, BlockedSend tinyParams s pr := by
  decide +kernel

theorem stuck_forever (more : List Label) :
    let t := (sys tinyParams threeFiles 1).runFrom ((sys tinyParams threeFiles 1).run stuckSchedule) more
    (∃ pr, t.prods[0]? = some pr ∧ BlockedSend tinyParams t pr) ∧ t.ppool ≠ 0 ∧ t.closer = .waiting := by
  intro t
  obtain ⟨_, hcons, _, _, _, _, _, _, pr, hj, hb⟩ := stuck_state
  have hall : AllExited ((sys tinyParams threeFiles 1).run stuckSchedule) := by
    intro pc hpc; rw [hcons] at hpc; simpa using hpc
  obtain ⟨h1, h2, _⟩ := blocked_forever (P := tinyParams) (prog := threeFiles) (n := 1) _ hall 0 pr hj hb more
  have hI : Inv tinyParams threeFiles 1 t :=
    inv_reachable rfl _ _ _ (runFrom_reachable _ (run_reachable _ stuckSchedule) more)
  have hw := waiting_of_live hI (List.mem_of_getElem? h1) (by obtain ⟨_, _, _, rfl, _⟩ := blockedSend_send hb; rfl)
  exact ⟨⟨pr, h1, h2⟩, hw.1, hw.2.1⟩

end Goat.Loop
