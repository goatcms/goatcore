/-
C17, `argscope.SeparateArgs`/`InjectArgs`: the vocabulary of the statements in `Goat/Props/C17.lean` (`positionals`,
`namedKey`, `Dashes`) and the lemmas behind them.
-/
import Goat.Model.Args
import Goat.Proofs.Lists
import Std.Data.String.ToNat  -- `Nat.repr_injective`, for `natKey_injective`

namespace Goat.Args

/-! core has no lemmas on `ByteArray.toList`; the few that `str` and `natKey` need -/

theorem byteArray_toList_loop (bs : ByteArray) (i : Nat) (r : List UInt8) :
    ByteArray.toList.loop bs i r = r.reverse ++ bs.data.toList.drop i := by
  fun_induction ByteArray.toList.loop bs i r with
  | case1 i r h ih =>
    rw [ih]
    cases bs with
    | mk d =>
      have hi : i < d.toList.length := by rw [Array.length_toList]; exact h
      rw [List.drop_eq_getElem_cons hi]
      have : ByteArray.get! ⟨d⟩ i = d.toList[i] := by
        have hi' : i < d.size := h
        simp [ByteArray.get!, hi']
      rw [this]; simp
  | case2 i r h =>
    cases bs with
    | mk d =>
      have hi : d.toList.length ≤ i := by rw [Array.length_toList]; exact Nat.le_of_not_lt h
      rw [List.drop_eq_nil_of_le hi]; simp

theorem byteArray_toList (bs : ByteArray) : bs.toList = bs.data.toList := by
  simp [ByteArray.toList, byteArray_toList_loop]

theorem str_injective {a b : String} (h : str a = str b) : a = b := by
  unfold str at h
  rw [byteArray_toList, byteArray_toList] at h
  have h2 : a.toUTF8 = b.toUTF8 := ByteArray.ext (Array.toList_inj.1 h)
  exact String.toByteArray_inj.1 h2

theorem natKey_injective {m n : Nat} (h : natKey m = natKey n) : m = n := by
  unfold natKey at h
  have h1 := str_injective h
  have h2 : toString m = toString n := (String.append_right_inj "$").1 h1
  exact Nat.repr_injective h2

theorem str_append (a b : String) : str (a ++ b) = str a ++ str b := by
  unfold str
  rw [byteArray_toList, byteArray_toList, byteArray_toList]
  simp

/-- every positional key starts with `$` -/
theorem natKey_head (i : Nat) : (natKey i).head? = some 36 := by
  unfold natKey
  have dollar : str "$" = [36] := by unfold str; rw [byteArray_toList]; decide
  rw [str_append, dollar]; rfl

theorem span_all {α} (p : α → Bool) (a : List α) (h : ∀ x ∈ a, p x = true) :
    a.span p = (a, []) := by
  rw [span_eq_takeWhile_dropWhile, takeWhile_eq_self h, dropWhile_eq_nil h]

theorem span_first {α} (p : α → Bool) (a : List α) (b : α) (s : List α)
    (h : ∀ x ∈ a, p x = true) (hb : p b = false) :
    (a ++ b :: s).span p = (a, b :: s) := by
  rw [span_eq_takeWhile_dropWhile, takeWhile_append_stop h hb, dropWhile_append_stop h hb]

/-- the positional arguments: those without `=` -/
def positionals (args : List Bytes) : List Bytes := args.filter (fun a => !a.contains eq)

/-- the key under which a named argument (one containing `=`) is stored -/
def namedKey (a : Bytes) : Bytes := (splitEq (trimDash (trimDash a))).1

theorem positionals_named (a : Bytes) (l : List Bytes) (h : a.contains eq = true) :
    positionals (a :: l) = positionals l := by
  unfold positionals
  rw [List.filter_cons_of_neg (by rw [h]; simp)]

theorem positionals_pos (a : Bytes) (l : List Bytes) (h : ¬ a.contains eq = true) :
    positionals (a :: l) = a :: positionals l := by
  unfold positionals
  rw [List.filter_cons_of_pos (by rw [Bool.not_eq_true] at h; rw [h]; simp)]

theorem lookupLast_cons (k : Bytes) (p : Bytes × Bytes) (l : List (Bytes × Bytes)) :
    lookupLast k (p :: l) = (lookupLast k l).or (if p.1 = k then some p.2 else none) := by
  rw [lookupLast]
  cases lookupLast k l <;> rfl

theorem lookupLast_append (k : Bytes) (l1 l2 : List (Bytes × Bytes)) :
    lookupLast k (l1 ++ l2) = (lookupLast k l2).or (lookupLast k l1) := by
  induction l1 with
  | nil => simp [lookupLast]
  | cons p l ih => rw [List.cons_append, lookupLast_cons, lookupLast_cons, ih, Option.or_assoc]

theorem lookupLast_none (k : Bytes) (l : List (Bytes × Bytes)) (h : ∀ p ∈ l, p.1 ≠ k) :
    lookupLast k l = none := by
  induction l with
  | nil => rfl
  | cons p l ih =>
    rw [lookupLast_cons, ih fun q hq => h q (List.mem_cons_of_mem _ hq), if_neg (h p List.mem_cons_self)]
    rfl

theorem lookupLast_append_none (k : Bytes) (l1 l2 : List (Bytes × Bytes))
    (h : lookupLast k l2 = none) : lookupLast k (l1 ++ l2) = lookupLast k l1 := by
  rw [lookupLast_append, h]
  rfl

theorem injectSets_named (i : Nat) (a : Bytes) (rest : List Bytes) (h : a.contains eq = true) :
    injectSets i (a :: rest) = splitEq (trimDash (trimDash a)) :: injectSets i rest := by
  rw [injectSets, if_pos h]

theorem injectSets_pos (i : Nat) (a : Bytes) (rest : List Bytes) (h : ¬ a.contains eq = true) :
    injectSets i (a :: rest) = (natKey i, a) :: injectSets (i + 1) rest := by
  rw [injectSets, if_neg h]

theorem injectSets_append (i : Nat) (l1 l2 : List Bytes) :
    injectSets i (l1 ++ l2) = injectSets i l1 ++ injectSets (i + (positionals l1).length) l2 := by
  induction l1 generalizing i with
  | nil => simp [injectSets, positionals]
  | cons a l ih =>
    by_cases h : a.contains eq = true
    · rw [List.cons_append, injectSets_named _ _ _ h, injectSets_named _ _ _ h, ih,
        positionals_named _ _ h]
      rfl
    · rw [List.cons_append, injectSets_pos _ _ _ h, injectSets_pos _ _ _ h, ih,
        positionals_pos _ _ h, List.length_cons, Nat.add_assoc, Nat.add_comm 1]
      rfl

theorem length_injectSets (i : Nat) (l : List Bytes) : (injectSets i l).length = l.length := by
  induction l generalizing i with
  | nil => rfl
  | cons a l ih =>
    by_cases h : a.contains eq = true
    · rw [injectSets_named _ _ _ h]; simp [ih]
    · rw [injectSets_pos _ _ _ h]; simp [ih]

/-- `j`: the number of positional arguments already consumed; `injectSets j` produces the keys `$j, $(j+1), …`, so `$n`
with `n < j` is not among them. -/
theorem lookup_natKey (n : Nat) (args : List Bytes)
    (hcol : ∀ a ∈ args, a.contains eq = true → namedKey a ≠ natKey n) (j : Nat) :
    lookupLast (natKey n) (injectSets j args)
      = if n < j then none else (positionals args)[n - j]? := by
  induction args generalizing j with
  | nil => rw [injectSets, lookupLast]; split <;> rfl
  | cons a rest ih =>
    have ih' := ih (fun b hb => hcol b (by simp [hb]))
    by_cases h : a.contains eq = true
    · rw [injectSets_named _ _ _ h, lookupLast_cons, if_neg (show ¬ (splitEq _).1 = _ from hcol a (by simp) h),
        Option.or_none, ih' j, positionals_named _ _ h]
    · rw [injectSets_pos _ _ _ h, positionals_pos _ _ h, lookupLast_cons, ih' (j + 1)]
      by_cases hnj : n = j
      · subst hnj
        simp
      · rw [if_neg (fun e => hnj (natKey_injective e).symm), Option.or_none]
        by_cases hlt : n < j
        · rw [if_pos hlt, if_pos (by omega)]
        · rw [if_neg hlt, if_neg (by omega)]
          have : n - j = (n - (j + 1)) + 1 := by omega
          rw [this, List.getElem?_cons_succ]

theorem trimDash_cons (c : Byte) (r : Bytes) : trimDash (c :: r) = if c = 45 then r else c :: r := by
  unfold trimDash
  split
  · next h => cases h; simp
  · next h =>
    rw [if_neg]
    intro hc; subst hc; exact h _ rfl

theorem splitEq_key (k v : Bytes) (hk : eq ∉ k) : splitEq (k ++ eq :: v) = (k, v) := by
  unfold splitEq
  rw [span_first (fun x => decide (x ≠ eq)) k eq v
    (fun x hx => decide_eq_true (show x ≠ eq from fun e => hk (e ▸ hx)))
    (decide_eq_false (fun h => h rfl))]

/-- the three spellings `k=v`, `-k=v`, `--k=v` -/
def Dashes (d : Bytes) : Prop := d = [] ∨ d = [45] ∨ d = [45, 45]

instance (d : Bytes) : Decidable (Dashes d) := by unfold Dashes; infer_instance

theorem named_split (d k v : Bytes) (hd : Dashes d) (hk : eq ∉ k) (h45 : k.head? ≠ some 45) :
    splitEq (trimDash (trimDash (d ++ k ++ eq :: v))) = (k, v) := by
  have hnd : trimDash (k ++ eq :: v) = k ++ eq :: v := by
    cases k with
    | nil => rw [List.nil_append, trimDash_cons, if_neg (by decide)]
    | cons c k => rw [List.cons_append, trimDash_cons, if_neg (by simpa using h45)]
  rcases hd with rfl | rfl | rfl
  · rw [List.nil_append, hnd, hnd, splitEq_key k v hk]
  · rw [List.append_assoc, List.singleton_append, trimDash_cons, if_pos rfl, hnd, splitEq_key k v hk]
  · have : [45, 45] ++ k ++ eq :: v = 45 :: 45 :: (k ++ eq :: v) := by simp
    rw [this, trimDash_cons, if_pos rfl, trimDash_cons, if_pos rfl, splitEq_key k v hk]

end Goat.Args
