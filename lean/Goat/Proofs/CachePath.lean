/-
Path lemmas for the cache model: Go `path.Dir` and the `overlaps` of cache.go (as modelled in `Goat/Model/Cache.lean`)
against the normal form `Path.norm` (= `ReduceAbsPath`), and the string a `SubFS` hands to the cache.
-/
import Goat.Proofs.Path
import Goat.Model.Cache

namespace Goat
namespace Cache
open Path

theorem dirPart_append_lastSeg (p : Bytes) : dirPart p ++ lastSeg p = p := by
  unfold dirPart lastSeg
  rw [← List.reverse_append, List.takeWhile_append_dropWhile, List.reverse_reverse]

theorem lastSeg_noSlash (p : Bytes) : NoSlash (lastSeg p) := by
  unfold lastSeg NoSlash
  intro hm
  have := mem_takeWhile_imp (List.mem_reverse.mp hm)
  simp at this

theorem dirPart_cases (p : Bytes) : dirPart p = [] ∨ ∃ x, dirPart p = x ++ [slash] := by
  unfold dirPart
  cases h : p.reverse.dropWhile (· ≠ slash) with
  | nil => left; rfl
  | cons c rest =>
    right
    have hc : c = slash := by
      have := List.head?_dropWhile_not (· ≠ slash) p.reverse
      rw [h] at this
      simpa using this
    exact ⟨rest.reverse, by simp [hc]⟩

theorem norm_pathDir (p : Bytes) (q : List Name) (h : norm p = some q) (hl : Plain (lastSeg p)) :
    norm (pathDir p) = some q.dropLast := by
  have hd : norm (dirPart p) = some q.dropLast := by
    have hp := dirPart_append_lastSeg p
    have hpush : ∀ acc : List Name, reduceGo [lastSeg p] acc = some (acc.reverse ++ [lastSeg p]) := fun acc =>
      reduceGo_of_plain [lastSeg p] acc (by intro s hs; simp at hs; subst hs; exact hl)
    rcases dirPart_cases p with e | ⟨x, e⟩
    · rw [e] at hp ⊢
      simp only [List.nil_append] at hp
      rw [← hp] at h
      unfold norm reduceSegs at h
      rw [split_noSlash _ (lastSeg_noSlash p), hpush] at h
      simp at h; subst h; rfl
    · rw [e, norm_append_slash]
      rw [← hp, e, List.append_assoc, List.singleton_append, norm_cons_slash, split_noSlash _ (lastSeg_noSlash p)] at h
      cases hx : norm x with
      | none => rw [hx] at h; cases h
      | some r =>
        rw [hx, Option.bind_some, hpush, List.reverse_reverse] at h
        cases h; simp
  unfold pathDir
  exact norm_clean _ _ hd

theorem noSlash_reverse {l : Bytes} (hl : NoSlash l) : ∀ x ∈ l.reverse, decide (x ≠ slash) = true := by
  intro x hx
  have : x ≠ slash := fun e => hl (by rw [← e]; exact List.mem_reverse.mp hx)
  simpa using this

theorem lastSeg_append_slash (a l : Bytes) (hl : NoSlash l) : lastSeg (a ++ slash :: l) = l := by
  unfold lastSeg
  rw [List.reverse_append, List.reverse_cons, List.append_assoc]
  rw [List.takeWhile_append_of_pos (noSlash_reverse hl)]
  simp

theorem lastSeg_of_noSlash (l : Bytes) (hl : NoSlash l) : lastSeg l = l := by
  unfold lastSeg
  rw [takeWhile_eq_self (noSlash_reverse hl)]
  simp

theorem lastSeg_join (q : List Name) (hq : Reduced q) (hne : q ≠ []) :
    lastSeg (join q) = q.getLast hne := by
  induction q with
  | nil => exact absurd rfl hne
  | cons s rest ih =>
    cases rest with
    | nil => simpa [join] using lastSeg_of_noSlash s (hq s (by simp)).2
    | cons s' r =>
      have hr : Reduced (s' :: r) := fun x hx => hq x (List.mem_cons_of_mem _ hx)
      have := ih hr (by simp)
      simp only [join, List.getLast_cons_cons] at this ⊢
      rw [← this]
      -- `join (s' :: r) = dirPart ++ lastSeg`, and prefixing `s ++ "/"` keeps the last segment
      have hsplit := dirPart_append_lastSeg (join (s' :: r))
      conv => lhs; rw [← hsplit]
      rcases dirPart_cases (join (s' :: r)) with e | ⟨x, e⟩
      · rw [e]; simp only [List.nil_append]
        exact lastSeg_append_slash s _ (lastSeg_noSlash _)
      · rw [e]
        have : s ++ slash :: (x ++ [slash] ++ lastSeg (join (s' :: r)))
            = (s ++ slash :: x) ++ slash :: lastSeg (join (s' :: r)) := by simp
        rw [this]
        exact lastSeg_append_slash _ _ (lastSeg_noSlash _)

theorem norm_pathDir_join (q : List Name) (hq : Reduced q) (hne : q ≠ []) :
    norm (pathDir (join q)) = some q.dropLast :=
  norm_pathDir (join q) q (norm_join q hq) (lastSeg_join q hq hne ▸ (hq _ (List.getLast_mem hne)).1)

theorem norm_pathDir_cleanPath (raw : Bytes) (P : List Name) (hn : norm raw = some P) (hne : P ≠ []) :
    norm (pathDir (cleanPath raw)) = some P.dropLast := by
  rw [cleanPath_of_norm raw P hn hne]
  exact norm_pathDir_join P (norm_reduced raw P hn) hne

/-- `base0 ++ "/" ++ join p`: the string a `SubFS` with base `base0/` hands to the cache for `p`. -/
theorem norm_sub (base0 : Bytes) (b p : List Name) (hb : norm (base0 ++ [slash]) = some b) (hp : Reduced p) :
    norm (base0 ++ [slash] ++ join p) = some (b ++ p) := by
  rw [norm_append_slash] at hb
  rw [show base0 ++ [slash] ++ join p = base0 ++ slash :: join p by simp, norm_cons_slash, hb]
  exact reduceGo_join p hp b

theorem prefix_of_join_slash (P Q : List Name) (hP : Reduced P) (hQ : Reduced Q) (hPn : P ≠ []) (hQn : Q ≠ [])
    (h : join P ++ [slash] <+: join Q ++ [slash]) : P <+: Q := by
  obtain ⟨t, ht⟩ := h
  -- split both sides: `P ++ split t = Q ++ [[]]`, and no segment of `P` is empty
  have e := congrArg split ht
  rw [List.append_assoc, List.singleton_append, split_append_slash, split_append_slash,
    split_join P (fun s hs => (hP s hs).2) hPn, split_join Q (fun s hs => (hQ s hs).2) hQn] at e
  have hp : P <+: Q ++ [[]] := ⟨split t, e⟩
  rcases List.prefix_concat_iff.mp hp with h' | h'
  · exact absurd (hP [] (h' ▸ by simp)).1.1 (fun h => h rfl)
  · exact h'

theorem overlaps_join (P Q : List Name) (hP : Reduced P) (hQ : Reduced Q) (hPn : P ≠ []) (hQn : Q ≠ [])
    (h : overlaps (join P) (join Q) = true) : P <+: Q ∨ Q <+: P := by
  unfold overlaps at h
  simp only [if_neg (join_ne_dotSeg P hP), if_neg (join_ne_dotSeg Q hQ)] at h
  have e : ∀ P, Reduced P → P ≠ [] → (join P).isEmpty = false := fun P hP hPn => by
    cases hj : join P with
    | nil => exact absurd ((join_eq_nil_iff P hP).mp hj) hPn
    | cons _ _ => rfl
  simp only [e P hP hPn, e Q hQ hQn, Bool.false_or, Bool.or_eq_true, List.isPrefixOf_iff_prefix] at h
  exact h.symm.imp (prefix_of_join_slash P Q hP hQ hPn hQn) (prefix_of_join_slash Q P hQ hP hQn hPn)

end Cache
end Goat
