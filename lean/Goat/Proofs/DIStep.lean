/-
What one `Get` does: the proofs go by the two equations `construct_eq` and `get_succ`.  The fuel never runs out
(`get_ok`): the names on the stack are distinct keys, so there are never more of them than keys.
-/
import Goat.Proofs.DIBasic

namespace Goat.DI

@[simp] theorem push_blocked (s : St) (n : Name) : (push s n).blocked = s.blocked := rfl
@[simp] theorem push_callstack (s : St) (n : Name) : (push s n).callstack = s.callstack ++ [n] := rfl
@[simp] theorem push_keys (s : St) (n : Name) : (push s n).keys = s.keys := rfl
@[simp] theorem push_instances (s : St) (n : Name) : (push s n).instances = s.instances := rfl
@[simp] theorem push_factories (s : St) (n : Name) : (push s n).factories = s.factories := rfl
@[simp] theorem push_defaultFactories (s : St) (n : Name) :
    (push s n).defaultFactories = s.defaultFactories := rfl
@[simp] theorem push_autoclean (s : St) (n : Name) : (push s n).autoclean = s.autoclean := rfl
@[simp] theorem push_injectors (s : St) (n : Name) : (push s n).injectors = s.injectors := rfl
@[simp] theorem push_nextId (s : St) (n : Name) : (push s n).nextId = s.nextId := rfl
@[simp] theorem push_log (s : St) (n : Name) : (push s n).log = s.log ++ [.start n] := rfl
@[simp] theorem push_exhausted (s : St) (n : Name) : (push s n).exhausted = s.exhausted := rfl

/-- leaving a factory: the stack is cut back to its depth at entry -/
def unwind (s2 : St) (depth : Nat) : St := { s2 with callstack := s2.callstack.take depth }

/-- a construction of `n` delivered `i`: stored and logged, next id `k`, tables cleaned up at `n` -/
def store (u : St) (n : Name) (i : Inst) (k : Nat) (b1 b2 : Bool) : St :=
  { u with nextId := k, factories := u.factories.delIf b1 n, defaultFactories := u.defaultFactories.delIf b2 n,
           instances := u.instances.set n i, log := u.log ++ [.done n i] }

/-- Each relation a `Get` keeps is shown to survive `push`, the body, `unwind` and `store`: `unwind_step`/`store_step`
here, `Rel.push/unwind/store` in `DIGood`, `Sim.push/unwind/store` in `DIStatic`. -/
theorem construct_eq (g : St → Name → St × Res) (s : St) (n : Name) (f : Factory) (dflt : Bool) :
    construct g s n f dflt =
      let r := runDeps g (push s n) f.deps
      if r.2 = none ∧ f.out = .ok then
        (store (unwind r.1 s.callstack.length) n (.built r.1.nextId) (r.1.nextId + 1)
          (!dflt && r.1.autoclean) r.1.autoclean, .inst (.built r.1.nextId))
      else
        (unwind r.1 s.callstack.length, .err (if r.2 = none ∧ f.out = .nilInst then .nilInstance else .failed)) := by
  simp only [construct, runFactory]
  cases runDeps g (push s n) f.deps with
  | mk s1 e =>
    cases e with
    | some e => simp [unwind]
    | none =>
      cases f.out with
      | fail => simp [unwind]
      | nilInst => simp [unwind]
      | ok => cases dflt <;> cases hac : s1.autoclean <;> simp [clean_eq, hac, Tab.delIf, store, unwind]

theorem source_eq (s : St) (n : Name) :
    source s n = orElse ((s.instances n).map .inst) ((mergedFactories s n).map .fac) := by
  unfold source mergedFactories
  cases s.instances n <;> cases s.factories n <;> cases s.defaultFactories n <;> rfl

theorem source_of_inst {s : St} {n : Name} {i : Inst} (h : s.instances n = some i) :
    source s n = some (.inst i) := by
  rw [source_eq, h]; rfl

theorem source_inst {s : St} {n : Name} {i : Inst} (h : source s n = some (.inst i)) :
    s.instances n = some i := by
  rw [source_eq] at h
  cases hi : s.instances n <;> rw [hi] at h
  · cases hm : mergedFactories s n <;> rw [hm] at h <;> cases h
  · exact congrArg _ (Src.inst.inj (Option.some.inj h))

theorem source_of_no_inst {s : St} {n : Name} (h : s.instances n = none) :
    source s n = (mergedFactories s n).map .fac := by
  rw [source_eq, h]; rfl

theorem source_fac {s : St} {n : Name} {f : Factory} (h : source s n = some (.fac f)) :
    s.instances n = none ∧ mergedFactories s n = some f := by
  rw [source_eq] at h
  cases hi : s.instances n <;> rw [hi] at h
  · cases hm : mergedFactories s n <;> rw [hm] at h <;> cases h; exact ⟨rfl, rfl⟩
  · cases h

theorem get_succ (fuel : Nat) (s0 : St) (n : Name) :
    get (fuel + 1) s0 n =
      if n ∈ (block s0).callstack then (block s0, .err .cyclic)
      else
        match source (block s0) n with
        | some (.inst i) => (block s0, .inst i)
        | some (.fac f) => construct (get fuel) (block s0) n f ((block s0).factories n).isNone
        | none => (block s0, .err .missing) := by
  rw [get]
  simp only [source]
  split
  · rfl
  · cases (block s0).instances n with
    | some i => rfl
    | none =>
      cases (block s0).factories n with
      | some f => rfl
      | none => cases (block s0).defaultFactories n <;> rfl

theorem get_block (fuel : Nat) (s : St) (n : Name) : get fuel (block s) n = get fuel s n := by
  cases fuel with
  | zero => simp [get]
  | succ fuel => simp [get_succ]

theorem get_succ_cases {motive : St × Res → Prop} (fuel : Nat) (s0 : St) (n : Name)
    (cyclic : n ∈ (block s0).callstack → motive (block s0, .err .cyclic))
    (inst : ∀ i, source (block s0) n = some (.inst i) → motive (block s0, .inst i))
    (fac : ∀ f, n ∉ (block s0).callstack → source (block s0) n = some (.fac f) →
      motive (construct (get fuel) (block s0) n f ((block s0).factories n).isNone))
    (missing : motive (block s0, .err .missing)) : motive (get (fuel + 1) s0 n) := by
  rw [get_succ]
  by_cases hc : n ∈ (block s0).callstack
  · rw [if_pos hc]; exact cyclic hc
  · rw [if_neg hc]
    cases hs : source (block s0) n with
    | none => exact missing
    | some src =>
      cases src with
      | inst i => exact inst i hs
      | fac f => exact fac f hc hs

theorem get_of_inst {fuel : Nat} {s : St} {n : Name} {i : Inst} (hc : n ∉ s.callstack)
    (hb : (block s).instances n = some i) : get (fuel + 1) s n = (block s, .inst i) := by
  rw [get_succ, block_callstack, if_neg hc, source_of_inst hb]

theorem LogOK.start {s s' : St} {n : Name} (hi : s.instances n = none) : LogOK s s' [.start n] where
  no_start := fun m hm h => by
    simp only [List.mem_singleton, Ev.start.injEq] at h
    exact hm (h ▸ hi)
  done_inst := fun _ _ h => by simp at h
  norerun := trivial
  nodup := List.nodup_nil

theorem LogOK.done {s s' : St} {n : Name} {i : Inst} (hi : s.instances n = none)
    (hi' : s'.instances n = some i) : LogOK s s' [.done n i] where
  no_start := fun _ _ h => by simp at h
  done_inst := fun m j h => by
    simp only [List.mem_singleton, Ev.done.injEq] at h
    exact h.1 ▸ h.2 ▸ ⟨hi, hi'⟩
  norerun := ⟨by simp, trivial⟩
  nodup := List.nodup_cons.2 ⟨List.not_mem_nil, List.nodup_nil⟩

theorem unwind_step {s s2 : St} {n : Name} (hi : s.instances n = none) (h : Step (push s n) s2) :
    Step s (unwind s2 s.callstack.length) where
  callstack := by simp [unwind, h.callstack]
  keys := h.keys
  blocked := h.blocked
  autoclean := h.autoclean
  injectors := h.injectors
  inst_mono := h.inst_mono
  tabs := h.tabs
  fac_sub := h.fac_sub
  dfac_sub := h.dfac_sub
  stack_inst := fun m hm => h.stack_inst m (by simp [hm])
  log := by
    obtain ⟨d, hd, l⟩ := h.log
    have l' := (LogOK.start hi).append l (fun _ _ h => h) h.inst_mono
    exact ⟨.start n :: d, by simp [unwind, hd], l'.no_start, l'.done_inst, l'.norerun, l'.nodup⟩

theorem store_step {u : St} {n : Name} (i : Inst) (k : Nat) (b1 b2 : Bool) (hb : u.blocked = true)
    (hi : u.instances n = none) (hn : n ∉ u.callstack) : Step u (store u n i k b1 b2) where
  callstack := rfl
  keys := rfl
  blocked := hb
  autoclean := rfl
  injectors := rfl
  inst_mono := fun m j hm => (Tab.set_ne _ _ fun e => by rw [e, hi] at hm; cases hm).trans hm
  tabs := fun m hm => ⟨Tab.delIf_ne _ _ (Tab.set_none hm).1, Tab.delIf_ne _ _ (Tab.set_none hm).1⟩
  fac_sub := fun _ _ h => Tab.delIf_some h
  dfac_sub := fun _ _ h => Tab.delIf_some h
  stack_inst := fun m hm => Tab.set_ne _ _ fun e => hn (e ▸ hm)
  log := ⟨[.done n i], rfl, LogOK.done hi (Tab.set_eq ..)⟩

theorem runDeps_step {g : St → Name → St × Res} {P : St → Prop}
    (hg : ∀ s n, P s → P (g s n).1 ∧ Step s (g s n).1) (hb : ∀ s, P s → s.blocked = true)
    (ds : List Dep) {s : St} (hs : P s) : P (runDeps g s ds).1 ∧ Step s (runDeps g s ds).1 :=
  (runDeps_calls g ds s).lift (fun s h => Step.refl (hb s h)) (fun _ _ _ => Step.trans) hg hs

theorem construct_step {g : St → Name → St × Res} {s : St} {n : Name} (f : Factory) (dflt : Bool)
    (h2 : Step (push s n) (runDeps g (push s n) f.deps).1) (hn : n ∉ s.callstack)
    (hi : s.instances n = none) : Step s (construct g s n f dflt).1 := by
  have hu := unwind_step hi h2
  rw [construct_eq]
  simp only
  split
  · exact hu.trans (store_step _ _ _ _ hu.blocked ((h2.stack_inst n (by simp)).trans hi)
      (by rw [hu.callstack]; exact hn))
  · exact hu

theorem construct_inst {g : St → Name → St × Res} {s : St} {n : Name} {f : Factory} {dflt : Bool}
    {i : Inst} (h : (construct g s n f dflt).2 = .inst i) :
    (construct g s n f dflt).1.instances n = some i := by
  rw [construct_eq] at h ⊢
  simp only at h ⊢
  split
  · rename_i hc
    rw [if_pos hc] at h
    injection h with h
    rw [← h]; exact Tab.set_eq ..
  · rename_i hc
    rw [if_neg hc] at h; cases h

theorem get_inst {fuel : Nat} {s : St} {n : Name} {i : Inst} (h : (get fuel s n).2 = .inst i) :
    (get fuel s n).1.instances n = some i := by
  cases fuel with
  | zero => cases h
  | succ fuel =>
    revert h
    exact get_succ_cases (motive := fun r => r.2 = .inst i → r.1.instances n = some i) fuel s n
      (fun _ h => nomatch h) (fun j hs h => by injection h with h; exact h ▸ source_inst hs)
      (fun f _ _ h => construct_inst h) (fun h => nomatch h)

theorem construct_ne_fuel {g : St → Name → St × Res} {s : St} {n : Name} {f : Factory} {dflt : Bool} :
    (construct g s n f dflt).2 ≠ .err .fuel := by
  rw [construct_eq]
  simp only
  split
  · exact fun h => nomatch h
  · split <;> exact fun h => nomatch h

theorem get_succ_ne_fuel (fuel : Nat) (s : St) (n : Name) : (get (fuel + 1) s n).2 ≠ .err .fuel :=
  get_succ_cases (motive := fun r => r.2 ≠ .err .fuel) fuel s n (fun _ h => nomatch h)
    (fun _ _ h => nomatch h) (fun _ _ _ => construct_ne_fuel) (fun h => nomatch h)

theorem construct_exhausted (g : St → Name → St × Res) (s : St) (n : Name) (f : Factory) (dflt : Bool) :
    (construct g s n f dflt).1.exhausted = (runDeps g (push s n) f.deps).1.exhausted := by
  rw [construct_eq]
  simp only
  split <;> rfl

/-- `fuel` is enough for `s`: the names on the stack are distinct keys, every name that can still be pushed is a
key, and `fuel` exceeds the number of keys not yet on the stack -/
structure FuelOK (fuel : Nat) (s : St) : Prop where
  pre : Pre s
  fac_keys : ∀ n f, s.factories n = some f → n ∈ s.keys
  dfac_keys : ∀ n f, s.defaultFactories n = some f → n ∈ s.keys
  nodup : s.callstack.Nodup
  stack_keys : ∀ n, n ∈ s.callstack → n ∈ s.keys
  notex : s.exhausted = false
  bound : s.keys.length + 1 ≤ fuel + s.callstack.length

theorem FuelOK.of_step {fuel : Nat} {s s' : St} (h : FuelOK fuel s) (hs : Step s s')
    (he : s'.exhausted = false) : FuelOK fuel s' where
  pre := Or.inl hs.blocked
  fac_keys := fun n f hf => hs.keys ▸ h.fac_keys n f (hs.fac_sub n f hf)
  dfac_keys := fun n f hf => hs.keys ▸ h.dfac_keys n f (hs.dfac_sub n f hf)
  nodup := hs.callstack ▸ h.nodup
  stack_keys := fun n hn => hs.keys ▸ h.stack_keys n (hs.callstack ▸ hn)
  notex := he
  bound := by rw [hs.keys, hs.callstack]; exact h.bound

theorem FuelOK.push {fuel : Nat} {s : St} {n : Name} (h : FuelOK (fuel + 1) s) (hb : s.blocked = true)
    (hn : n ∉ s.callstack) (hk : n ∈ s.keys) : FuelOK fuel (push s n) where
  pre := Or.inl hb
  fac_keys := h.fac_keys
  dfac_keys := h.dfac_keys
  nodup := by
    refine List.nodup_append.2 ⟨h.nodup, by simp, ?_⟩
    intro x hx y hy hxy
    simp at hy
    subst hy; subst hxy
    exact hn hx
  stack_keys := by
    intro m hm
    rcases List.mem_append.1 hm with hm | hm
    · exact h.stack_keys m hm
    · simp at hm; subst hm; exact hk
  notex := h.notex
  bound := by
    have := h.bound
    simp only [push_keys, push_callstack, List.length_append, List.length_cons, List.length_nil]
    omega

theorem FuelOK.block {fuel : Nat} {s : St} (h : FuelOK fuel s) : FuelOK fuel (block s) :=
  h.of_step (block_step h.pre) (by simp [h.notex])

theorem FuelOK.pos {fuel : Nat} {s : St} (h : FuelOK fuel s) : 0 < fuel := by
  have h1 := h.nodup.length_le_of_subset h.stack_keys
  have h2 := h.bound
  omega

theorem FuelOK.merged_keys {fuel : Nat} {s : St} (h : FuelOK fuel s) {n : Name} {f : Factory}
    (hm : mergedFactories s n = some f) : n ∈ s.keys := by
  unfold mergedFactories at hm
  cases hf : s.factories n with
  | some g => exact h.fac_keys n g hf
  | none =>
    rw [hf] at hm
    exact h.dfac_keys n f hm

theorem get_ok : ∀ (fuel : Nat) (s : St) (n : Name), FuelOK fuel s →
    Step s (get fuel s n).1 ∧ FuelOK fuel (get fuel s n).1 := by
  intro fuel
  induction fuel with
  | zero => intro s n h; exact absurd h.pos (Nat.lt_irrefl 0)
  | succ fuel ih =>
    intro s0 n h0
    have h := h0.block
    have hb := block_blocked s0
    suffices hs : Step (block s0) (get (fuel + 1) s0 n).1 ∧ (get (fuel + 1) s0 n).1.exhausted = false from
      have st := (block_step h0.pre).trans hs.1
      ⟨st, h0.of_step st hs.2⟩
    exact get_succ_cases (motive := fun r => Step (block s0) r.1 ∧ r.1.exhausted = false) fuel s0 n
      (fun _ => ⟨Step.refl hb, h.notex⟩) (fun _ _ => ⟨Step.refl hb, h.notex⟩)
      (fun f hn hf => by
        have hr := runDeps_step (P := fun x => FuelOK fuel x ∧ x.blocked = true)
          (fun x m hx => ⟨⟨(ih x m hx.1).2, (ih x m hx.1).1.blocked⟩, (ih x m hx.1).1⟩) (fun _ hx => hx.2) f.deps
          ⟨h.push hb hn (h.merged_keys (source_fac hf).2), hb⟩
        exact ⟨construct_step f _ hr.2 hn (source_fac hf).1, by rw [construct_exhausted]; exact hr.1.1.notex⟩)
      ⟨Step.refl hb, h.notex⟩

theorem get_step (fuel : Nat) (s : St) (n : Name) (h : FuelOK fuel s) : Step s (get fuel s n).1 :=
  (get_ok fuel s n h).1

theorem get_fuelOK {fuel : Nat} {s : St} (n : Name) (h : FuelOK fuel s) : FuelOK fuel (get fuel s n).1 :=
  (get_ok fuel s n h).2

end Goat.DI
