/-
Histories.  The invariant of every history (`Inv`), what a definition call may do (`DefStep`), growth
across several operations (`Grow`); then what these give for a `Get` from outside.
-/
import Goat.Proofs.DIStep

namespace Goat.DI

theorem mem_addKey_self (keys : List Name) (n : Name) : n ∈ addKey keys n := by
  unfold addKey; split <;> simp_all

theorem mem_addKey_of_mem {keys : List Name} {m : Name} (n : Name) (h : m ∈ keys) : m ∈ addKey keys n := by
  unfold addKey; split <;> simp_all

theorem step_def_blocked {s : St} {o : Op} (hb : s.blocked = true) (ho : o.isDef = true) :
    step s o = (s, .refused) := by
  cases o <;> simp_all [Op.isDef, step, accepted, set, setDefault, addFactory, addDefaultFactory, addInjectors]

/-- the name a definition call is about; `0` for `addInjectors`, which is about none (the value is never used for
calls that define nothing) -/
def Op.target : Op → Name
  | .set m _ | .setDefault m _ | .addFactory m _ | .addDefaultFactory m _ => m
  | .setNil m | .setDefaultNil m => m
  | _ => 0

/-- what an accepted definition call for `t` may do -/
structure DefStep (t : Name) (s s' : St) : Prop where
  unblocked : s.blocked = false
  blocked : s'.blocked = s.blocked
  callstack : s'.callstack = s.callstack
  log : s'.log = s.log
  exhausted : s'.exhausted = s.exhausted
  keys : ∀ m, m ∈ s.keys → m ∈ s'.keys
  inst_mono : ∀ m i, s.instances m = some i → s'.instances m = some i
  fac : ∀ m f, s'.factories m = some f → s.factories m = some f ∨ m ∈ s'.keys
  dfac : ∀ m f, s'.defaultFactories m = some f → s.defaultFactories m = some f ∨ m ∈ s'.keys
  frame : ∀ m, m ≠ t → s'.instances m = s.instances m ∧ s'.factories m = s.factories m ∧
    s'.defaultInstances m = s.defaultInstances m ∧ s'.defaultFactories m = s.defaultFactories m

theorem defStep_guard {t : Name} {s : St} {c : Prop} [Decidable c] {b : Bool} {r : St × Bool}
    (h : ¬c → r.1 = s ∨ DefStep t s r.1) :
    (if c then (s, b) else r).1 = s ∨ DefStep t s (if c then (s, b) else r).1 := by
  by_cases hc : c
  · rw [if_pos hc]; exact .inl rfl
  · rw [if_neg hc]; exact h hc

theorem set_def (s : St) (n : Name) (v : Inst) : (set s n v).1 = s ∨ DefStep n s (set s n v).1 := by
  unfold set
  refine defStep_guard fun hb => defStep_guard fun hi => defStep_guard fun _ => ?_
  refine .inr ⟨by simpa using hb, rfl, rfl, rfl, rfl, fun m hm => mem_addKey_of_mem n hm, ?_,
    fun _ _ h => .inl h, fun _ _ h => .inl h, fun m hm => ⟨Tab.set_ne _ _ hm, rfl, rfl, rfl⟩⟩
  intro m i hm
  have hne : m ≠ n := by intro e; subst e; simp [hm] at hi
  exact (Tab.set_ne _ _ hne).trans hm

theorem setDefault_def (s : St) (n : Name) (v : Inst) :
    (setDefault s n v).1 = s ∨ DefStep n s (setDefault s n v).1 := by
  unfold setDefault
  refine defStep_guard fun hb => defStep_guard fun _ => defStep_guard fun _ => ?_
  exact .inr ⟨by simpa using hb, rfl, rfl, rfl, rfl, fun m hm => mem_addKey_of_mem n hm, fun _ _ h => h,
    fun _ _ h => .inl h, fun _ _ h => .inl h, fun m hm => ⟨rfl, rfl, Tab.set_ne _ _ hm, rfl⟩⟩

theorem addFactory_def (s : St) (n : Name) (f : Factory) :
    (addFactory s n f).1 = s ∨ DefStep n s (addFactory s n f).1 := by
  unfold addFactory
  refine defStep_guard fun hb => defStep_guard fun _ => ?_
  rw [clean_eq]
  refine .inr ⟨by simpa using hb, rfl, rfl, rfl, rfl, fun m hm => mem_addKey_of_mem n hm, fun _ _ h => h,
    ?_, fun _ _ h => .inl (Tab.delIf_some h),
    fun m hm => ⟨rfl, (Tab.set_ne _ _ hm).trans (Tab.delIf_ne _ _ hm), rfl, Tab.delIf_ne _ _ hm⟩⟩
  intro m g hg
  by_cases hm : m = n
  · exact .inr (hm ▸ mem_addKey_self _ _)
  · exact .inl (Tab.delIf_some ((Tab.set_ne _ _ hm).symm.trans hg))

theorem addDefaultFactory_def (s : St) (n : Name) (f : Factory) :
    (addDefaultFactory s n f).1 = s ∨ DefStep n s (addDefaultFactory s n f).1 := by
  unfold addDefaultFactory
  refine defStep_guard fun hb => defStep_guard fun _ => defStep_guard fun _ => ?_
  refine .inr ⟨by simpa using hb, rfl, rfl, rfl, rfl, fun m hm => mem_addKey_of_mem n hm, fun _ _ h => h,
    fun _ _ h => .inl h, ?_, fun m hm => ⟨rfl, rfl, rfl, Tab.set_ne _ _ hm⟩⟩
  intro m g hg
  by_cases hm : m = n
  · exact .inr (hm ▸ mem_addKey_self _ _)
  · exact .inl ((Tab.set_ne _ _ hm).symm.trans hg)

theorem addInjectors_def (t : Name) (s : St) (l : List Injector) :
    (addInjectors s l).1 = s ∨ DefStep t s (addInjectors s l).1 := by
  unfold addInjectors
  exact defStep_guard fun hb => .inr ⟨by simpa using hb, rfl, rfl, rfl, rfl, fun _ h => h, fun _ _ h => h,
    fun _ _ h => .inl h, fun _ _ h => .inl h, fun _ _ => ⟨rfl, rfl, rfl, rfl⟩⟩

theorem step_def (s : St) {o : Op} (ho : o.isDef = true) :
    (step s o).1 = s ∨ DefStep o.target s (step s o).1 := by
  cases o with
  | set n v => exact set_def s n _
  | setNil n => exact set_def s n _
  | setDefault n v => exact setDefault_def s n _
  | setDefaultNil n => exact setDefault_def s n _
  | addFactory n f => exact addFactory_def s n f
  | addDefaultFactory n f => exact addDefaultFactory_def s n f
  | addInjectors l => exact addInjectors_def _ s l
  | _ => cases ho

/-- The invariant of histories.  `log` reads the whole log as the events since `NewProvider`: what was
delivered is in the table, once, and was not started again. -/
structure Inv (s : St) : Prop where
  stack : s.callstack = []
  fac_keys : ∀ n f, s.factories n = some f → n ∈ s.keys
  dfac_keys : ∀ n f, s.defaultFactories n = some f → n ∈ s.keys
  notex : s.exhausted = false
  log : LogOK St.empty s s.log

theorem Inv.empty : Inv St.empty where
  stack := rfl
  fac_keys := fun _ _ h => nomatch h
  dfac_keys := fun _ _ h => nomatch h
  notex := rfl
  log := LogOK.nil _ _

theorem Inv.pre {s : St} (h : Inv s) : Pre s := Or.inr h.stack

theorem fuelFor_idle {s : St} (h : s.callstack = []) : fuelFor s = s.keys.length + 1 := by
  simp [fuelFor, h]

theorem Inv.fuelOK {s : St} (h : Inv s) : FuelOK (fuelFor s) s where
  pre := h.pre
  fac_keys := h.fac_keys
  dfac_keys := h.dfac_keys
  nodup := by rw [h.stack]; exact List.nodup_nil
  stack_keys := by intro n hn; rw [h.stack] at hn; cases hn
  notex := h.notex
  bound := by simp [fuelFor, h.stack]

theorem Inv.of_step {s s' : St} (h : Inv s) (hs : Step s s') (he : s'.exhausted = false) : Inv s' where
  stack := by rw [hs.callstack, h.stack]
  fac_keys := fun n f hf => hs.keys ▸ h.fac_keys n f (hs.fac_sub n f hf)
  dfac_keys := fun n f hf => hs.keys ▸ h.dfac_keys n f (hs.dfac_sub n f hf)
  notex := he
  log := by
    obtain ⟨d, hd, l⟩ := hs.log
    rw [hd]
    exact h.log.append l (fun _ _ h => nomatch h) hs.inst_mono

theorem Inv.block {s : St} (h : Inv s) : Inv (block s) :=
  h.of_step (block_step h.pre) (by simp [h.notex])

theorem Inv.of_def {t : Name} {s s' : St} (h : Inv s) (d : DefStep t s s') : Inv s' where
  stack := by rw [d.callstack, h.stack]
  fac_keys := fun n f hf => (d.fac n f hf).elim (fun hf => d.keys n (h.fac_keys n f hf)) id
  dfac_keys := fun n f hf => (d.dfac n f hf).elim (fun hf => d.keys n (h.dfac_keys n f hf)) id
  notex := by rw [d.exhausted, h.notex]
  log := d.log ▸ ⟨h.log.no_start, fun n i hm => ⟨(h.log.done_inst n i hm).1, d.inst_mono n i (h.log.done_inst n i hm).2⟩,
    h.log.norerun, h.log.nodup⟩

/-- instances stay, and no factory of a name that already has an instance is started -/
structure Grow (s s' : St) : Prop where
  inst_mono : ∀ n i, s.instances n = some i → s'.instances n = some i
  blocked_mono : s.blocked = true → s'.blocked = true
  keys_frozen : s.blocked = true → s'.keys = s.keys
  inj_frozen : s.blocked = true → s'.injectors = s.injectors
  log : ∃ d, s'.log = s.log ++ d ∧ ∀ n, s.instances n ≠ none → Ev.start n ∉ d

theorem Grow.refl (s : St) : Grow s s :=
  ⟨fun _ _ h => h, fun h => h, fun _ => rfl, fun _ => rfl, [], by simp, fun _ _ h => nomatch h⟩

theorem Grow.trans {a b c : St} (h1 : Grow a b) (h2 : Grow b c) : Grow a c := by
  obtain ⟨d1, e1, l1⟩ := h1.log
  obtain ⟨d2, e2, l2⟩ := h2.log
  refine ⟨fun n i h => h2.inst_mono n i (h1.inst_mono n i h), fun h => h2.blocked_mono (h1.blocked_mono h),
    fun h => (h2.keys_frozen (h1.blocked_mono h)).trans (h1.keys_frozen h),
    fun h => (h2.inj_frozen (h1.blocked_mono h)).trans (h1.inj_frozen h), d1 ++ d2, by rw [e2, e1, List.append_assoc], ?_⟩
  intro n hn hm
  rcases List.mem_append.1 hm with hm | hm
  · exact l1 n hn hm
  · exact l2 n (fun h => hn (inst_none_of_mono h1.inst_mono h)) hm

theorem Grow.of_step {s s' : St} (h : Step s s') : Grow s s' := by
  obtain ⟨d, hd, l⟩ := h.log
  exact ⟨h.inst_mono, fun _ => h.blocked, fun _ => h.keys, fun _ => h.injectors, d, hd, l.no_start⟩

theorem Grow.of_def {t : Name} {s s' : St} (d : DefStep t s s') : Grow s s' :=
  have hnb : ¬ s.blocked = true := by simp [d.unblocked]
  ⟨d.inst_mono, fun h => absurd h hnb, fun h => absurd h hnb, fun h => absurd h hnb, [], by simp [d.log],
    fun _ _ h => nomatch h⟩

theorem get_calls {fuel : Nat} {s s' : St} (hc : Calls (get fuel) s s') (h : Inv s ∧ FuelOK fuel s) :
    (Inv s' ∧ FuelOK fuel s') ∧ Grow s s' ∧ s'.injectors = s.injectors :=
  hc.lift (P := fun x => Inv x ∧ FuelOK fuel x) (R := fun a b => Grow a b ∧ b.injectors = a.injectors)
    (fun a _ => ⟨Grow.refl a, rfl⟩)
    (fun _ _ _ h1 h2 => ⟨h1.1.trans h2.1, h2.2.trans h1.2⟩)
    (fun x n hx =>
      have st := get_step fuel x n hx.2
      have ne := (get_fuelOK n hx.2).notex
      ⟨⟨hx.1.of_step st ne, hx.2.of_step st ne⟩, Grow.of_step st, st.injectors⟩) h

theorem InjectTo_fst (s : St) (fs : List Field) : (InjectTo s fs).1 = (InjectOwn s fs).1 :=
  injectAll_fst _ s fs

theorem InjectOwn_calls {s : St} (h : Inv s) (fs : List Field) :
    (Inv (InjectOwn s fs).1 ∧ FuelOK (fuelFor s) (InjectOwn s fs).1) ∧ Grow s (InjectOwn s fs).1 ∧
      (InjectOwn s fs).1.injectors = s.injectors :=
  get_calls (injectFields_calls _ fs s) ⟨h, h.fuelOK⟩

theorem step_inv_grow {s : St} (h : Inv s) (o : Op) : Inv (step s o).1 ∧ Grow s (step s o).1 := by
  by_cases ho : o.isDef = true
  · rcases step_def s ho with e | d
    · rw [e]; exact ⟨h, Grow.refl _⟩
    · exact ⟨h.of_def d, Grow.of_def d⟩
  · cases o with
    | get n =>
      have st : Step s (Get s n).1 := get_step _ s n h.fuelOK
      exact ⟨h.of_step st (get_fuelOK n h.fuelOK).notex, Grow.of_step st⟩
    | injectTo fs =>
      show Inv (InjectTo s fs).1 ∧ Grow s (InjectTo s fs).1
      rw [InjectTo_fst]
      exact ⟨(InjectOwn_calls h fs).1.1, (InjectOwn_calls h fs).2.1⟩
    | keys => exact ⟨h, Grow.refl _⟩
    | injectBad => exact ⟨h, Grow.refl _⟩
    | _ => exact absurd rfl ho

theorem exec_inv_grow {s : St} (h : Inv s) (ops : List Op) : Inv (exec s ops) ∧ Grow s (exec s ops) := by
  induction ops generalizing s with
  | nil => exact ⟨h, Grow.refl _⟩
  | cons o rest ih =>
    have ⟨h1, g1⟩ := step_inv_grow h o
    exact ⟨(ih h1).1, g1.trans (ih h1).2⟩

theorem inv_step {s : St} (h : Inv s) (o : Op) : Inv (step s o).1 := (step_inv_grow h o).1

theorem inv_exec {s : St} (h : Inv s) (ops : List Op) : Inv (exec s ops) := (exec_inv_grow h ops).1

theorem grow_exec {s : St} (h : Inv s) (ops : List Op) : Grow s (exec s ops) := (exec_inv_grow h ops).2

theorem exec_append (s : St) (a b : List Op) : exec s (a ++ b) = exec (exec s a) b := by
  induction a generalizing s with
  | nil => rfl
  | cons o rest ih => exact ih _

theorem Grow.invocations_eq {s s' : St} (h : Grow s s') {n : Name} (hn : s.instances n ≠ none) :
    invocations n s'.log = invocations n s.log := by
  obtain ⟨d, hd, l⟩ := h.log
  rw [hd, invocations_append, invocations_eq_zero (l n hn)]; simp

theorem Get_of_block_inst {s : St} (h : Inv s) {n : Name} {i : Inst}
    (hb : (block s).instances n = some i) : (Get s n).2 = .inst i := by
  rw [Get, fuelFor_idle h.stack, get_of_inst (by simp [h.stack]) hb]

theorem Get_of_inst {s : St} (h : Inv s) {n : Name} {i : Inst} (hi : s.instances n = some i) :
    (Get s n).2 = .inst i :=
  Get_of_block_inst h ((block_step h.pre).inst_mono n i hi)

theorem exec_get_inst {s : St} (hs : Inv s) (h : List Op) {n : Name} {i : Inst}
    (hg : (Get (exec s h) n).2 = .inst i) (h' : List Op) : (exec s (h ++ .get n :: h')).instances n = some i := by
  rw [exec_append]
  exact (grow_exec (inv_step (inv_exec hs h) (.get n)) h').inst_mono n i (get_inst hg)

theorem Get_ne_fuel {s : St} (h : Inv s) (n : Name) : (Get s n).2 ≠ .err .fuel := by
  rw [Get, fuelFor_idle h.stack]
  exact get_succ_ne_fuel _ _ _

end Goat.DI
