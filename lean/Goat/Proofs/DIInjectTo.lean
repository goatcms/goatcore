/-
One `InjectTo` from outside, field by field: what a field holds is the answer of the `Get` it made
(`injectFields_getElem`), overwritten by the registered injectors in order (`InjectTo_pick`); a request
that reaches `Get` blocks the provider; the only call that panics.
-/
import Goat.Proofs.DIHist

namespace Goat.DI

theorem injectFields_getElem (g : St → Name → St × Res) : ∀ (fs : List Field) (s : St) (k : Nat)
    (fld : Field) (v : Option Inst), fs[k]? = some fld → (injectFields g s fs).2.1[k]? = some v →
    ∃ sk, Calls g s sk ∧ v = (visit g sk fld).2.1 ∧ Calls g (visit g sk fld).1 (injectFields g s fs).1 := by
  intro fs
  induction fs with
  | nil => intro s k fld v hk; simp at hk
  | cons f rest ih =>
    intro s k fld v hk hv
    rw [injectFields_cons] at hv ⊢
    cases he : (visit g s f).2.2 with
    | some e =>
      rw [he] at hv
      cases k with
      | zero =>
        simp only [List.getElem?_cons_zero, Option.some.injEq] at hk hv
        subst hk
        exact ⟨s, .refl s, hv ▸ (visit_err he).symm, .refl _⟩
      | succ k => simp at hv
    | none =>
      rw [he] at hv
      cases k with
      | zero =>
        simp only [List.getElem?_cons_zero, Option.some.injEq] at hk hv
        subst hk
        exact ⟨s, .refl s, hv.symm, injectFields_calls g rest _⟩
      | succ k =>
        simp only [List.getElem?_cons_succ] at hk hv
        obtain ⟨sk, h1, h2, h3⟩ := ih _ k fld v hk hv
        exact ⟨sk, (visit_calls g s f).trans h1, h2, h3⟩

theorem InjectOwn_of_inst {s : St} (h : Inv s) {n : Name} {i : Inst} (hi : s.instances n = some i)
    (hnil : i ≠ .nil)
    (fs : List Field) (k : Nat) (fld : Field) (opt : Bool) (v : Option Inst) (hk : fs[k]? = some fld)
    (hname : fld.dep = some (n, opt)) (hv : (InjectOwn s fs).2.1[k]? = some v) : v = some i := by
  obtain ⟨sk, h1, h2, _⟩ := injectFields_getElem _ fs s k fld v hk hv
  obtain ⟨⟨hk, hf⟩, hr, _⟩ := get_calls h1 ⟨h, h.fuelOK⟩
  have hc : n ∉ sk.callstack := by simp [hk.stack]
  have hb := (block_step hf.pre).inst_mono n i (hr.inst_mono n i hi)
  rw [h2, fuelFor_idle h.stack, visit_some hname]
  simp [get_of_inst hc hb, fieldOut, hnil]

theorem InjectOwn_val_inst {s : St} (h : Inv s) (fs : List Field) (k : Nat) (fld : Field) (i : Inst)
    (hk : fs[k]? = some fld) (hv : (InjectOwn s fs).2.1[k]? = some (some i)) :
    ∃ n opt, fld.dep = some (n, opt) ∧ (InjectOwn s fs).1.instances n = some i := by
  obtain ⟨sk, h1, h2, h3⟩ := injectFields_getElem _ fs s k fld _ hk hv
  obtain ⟨⟨hk, hf⟩, _⟩ := get_calls h1 ⟨h, h.fuelOK⟩
  cases hd : fld.dep with
  | none => rw [visit_none hd] at h2; cases h2
  | some p =>
    obtain ⟨n, opt⟩ := p
    rw [visit_some hd] at h2 h3
    have st := get_step (fuelFor s) sk n hf
    have ne := (get_fuelOK n hf).notex
    refine ⟨n, opt, rfl, (get_calls h3 ⟨hk.of_step st ne, hf.of_step st ne⟩).2.1.inst_mono n i (get_inst ?_)⟩
    cases hr : (get (fuelFor s) sk n).2 with
    | inst j =>
      rw [hr] at h2
      by_cases hj : j = .nil <;> simp [fieldOut, hj] at h2
      rw [h2]
    | err e => rw [hr] at h2; cases h2

theorem blocked_of_resolution {s : St} (h : Inv s) {o : Op} (ho : o.isResolution = true) :
    (step s o).1.blocked = true := by
  cases o with
  | get n => exact (get_step _ s n h.fuelOK).blocked
  | injectTo fs =>
    show (InjectTo s fs).1.blocked = true
    rw [InjectTo_fst]
    -- the first field that carries the provider's tag calls `Get`
    have hany : fs.any (fun f => f.dep.isSome) = true := ho
    unfold InjectOwn
    have hf := h.fuelOK
    -- the fuel is that of the state the request started in; it stays while `s` moves from field to field
    generalize fuelFor s = fuel at hf ⊢
    clear h ho
    induction fs generalizing s with
    | nil => cases hany
    | cons f rest ih =>
      rw [injectFields_cons]
      cases hd : f.dep with
      | none =>
        rw [visit_none hd]
        exact ih (by simpa [hd] using hany) hf
      | some p =>
        have hv : FuelOK fuel (visit (get fuel) s f).1 ∧ (visit (get fuel) s f).1.blocked = true := by
          rw [visit_some hd]; exact ⟨get_fuelOK p.1 hf, (get_step fuel s p.1 hf).blocked⟩
        split
        · exact hv.2
        · exact ((injectFields_calls _ rest _).inv (P := fun x => FuelOK fuel x ∧ x.blocked = true)
            (fun x m hx => ⟨get_fuelOK m hx.1, (get_step fuel x m hx.1).blocked⟩) hv).2
  | _ => cases ho

theorem InjectTo_snd (s : St) (fs : List Field) :
    (InjectTo s fs).2 =
      match (InjectOwn s fs).2.2 with
      | some e => (pad fs.length (InjectOwn s fs).2.1, some e)
      | none => runInjectors 0 (InjectOwn s fs).1.injectors fs (InjectOwn s fs).2.1 :=
  injectAll_snd _ s fs

theorem own_ok_of_InjectTo_ok {s : St} {fs : List Field} (h : (InjectTo s fs).2.2 = none) :
    (InjectOwn s fs).2.2 = none := by
  rw [InjectTo_snd] at h
  cases he : (InjectOwn s fs).2.2 with
  | none => rfl
  | some e => rw [he] at h; cases h

theorem InjectTo_pick {s : St} (h : Inv s) (fs : List Field) (hok : (InjectTo s fs).2.2 = none)
    (k : Nat) (fld : Field) (hk : fs[k]? = some fld) :
    (InjectTo s fs).2.1[k]? = some (pickAll s.injectors fld ((InjectOwn s fs).2.1[k]?.join)) := by
  have hown := own_ok_of_InjectTo_ok hok
  rw [InjectTo_snd, hown] at hok ⊢
  rw [runInjectors_pick _ _ _ _ hok k fld hk, (InjectOwn_calls h fs).2.2]

theorem InjectTo_pick_inst {s : St} (h : Inv s) {n : Name} {i : Inst} (hi : s.instances n = some i)
    (hnil : i ≠ .nil) (fs : List Field) (k : Nat) (fld : Field) (opt : Bool) (hk : fs[k]? = some fld)
    (hname : fld.dep = some (n, opt)) (hok : (InjectTo s fs).2.2 = none) :
    (InjectTo s fs).2.1[k]? = some (pickAll s.injectors fld (some i)) := by
  have hlt : k < (InjectOwn s fs).2.1.length := by
    rw [InjectOwn, injectFields_length_ok fs s (own_ok_of_InjectTo_ok hok)]
    exact (List.getElem?_eq_some_iff.1 hk).1
  rw [InjectTo_pick h fs hok k fld hk, List.getElem?_eq_getElem hlt,
    InjectOwn_of_inst h hi hnil fs k fld opt _ hk hname (List.getElem?_eq_getElem hlt)]
  rfl

theorem InjectTo_nil_head {s : St} (h : Inv s) {n : Name} {opt : Bool} {fld : Field}
    (hd : fld.dep = some (n, opt)) (hn : s.instances n = some .nil) (rest : List Field) :
    (InjectTo s (fld :: rest)).2 = (pad (rest.length + 1) [], some .nilDependency) := by
  have hv : (visit (get (fuelFor s)) s fld).2 = (none, some .nilDependency) := by
    have hg : (get (fuelFor s) s n).2 = .inst .nil := Get_of_inst h hn
    rw [visit_some hd]; simp [hg, fieldOut]
  have hown : (InjectOwn s (fld :: rest)).2 = ([none], some .nilDependency) := by
    rw [InjectOwn, injectFields_cons, hv]
  rw [InjectTo_snd, hown]
  simp [pad]

theorem accepted_ne_panic (r : St × Bool) : (accepted r).2 ≠ .panic := by
  unfold accepted
  cases r.2 <;> exact fun h => nomatch h

theorem step_panic_iff (s : St) (o : Op) : (step s o).2 = .panic ↔ o = .injectBad := by
  cases o with
  | injectBad => exact ⟨fun _ => rfl, fun _ => rfl⟩
  | get n => exact ⟨fun h => (nomatch h), fun h => (nomatch h)⟩
  | injectTo fs => exact ⟨fun h => (nomatch h), fun h => (nomatch h)⟩
  | keys => exact ⟨fun h => (nomatch h), fun h => (nomatch h)⟩
  | _ => exact ⟨fun h => absurd h (accepted_ne_panic _), fun h => (nomatch h)⟩

end Goat.DI
