/-
For properties C14/C16: consequences of `TraceOk` that relate several positions of a trace (uniqueness of return
and close events, commands in script order).
-/
import Goat.Proofs.Pipeline

namespace Goat.Pipeline

theorem two_mem_split {α : Type} {l : List α} {a b : α} (ha : a ∈ l) (hb : b ∈ l) (hne : a ≠ b) :
    (∃ pre post, l = pre ++ b :: post ∧ a ∈ pre) ∨ (∃ pre post, l = pre ++ a :: post ∧ b ∈ pre) := by
  obtain ⟨p, q, rfl⟩ := List.append_of_mem ha
  rcases List.mem_append.mp hb with h | h
  · exact Or.inr ⟨p, q, rfl, h⟩
  · rcases List.mem_cons.mp h with h | h
    · exact absurd h.symm hne
    · obtain ⟨p', q', rfl⟩ := List.append_of_mem h
      exact Or.inl ⟨p ++ a :: p', q', by simp, by simp⟩

theorem ret_unique {g : Graph} {tr : List Ev} (h : TraceOk g tr) {t i : Nat}
    (h1 : Ev.ret t i true ∈ tr) (h2 : Ev.ret t i false ∈ tr) : False := by
  rcases two_mem_split h1 h2 (by simp) with ⟨p, q, hs, hm⟩ | ⟨p, q, hs, hm⟩
  · exact h.ret_fresh hs (Or.inl hm)
  · exact h.ret_fresh hs (Or.inr hm)

theorem done_unique {g : Graph} {tr : List Ev} (h : TraceOk g tr) {t : Nat}
    (h1 : Ev.done t true ∈ tr) (h2 : Ev.done t false ∈ tr) : False := by
  rcases two_mem_split h1 h2 (by simp) with ⟨p, q, hs, hm⟩ | ⟨p, q, hs, hm⟩
  · exact h.done_fresh hs (Or.inl hm)
  · exact h.done_fresh hs (Or.inr hm)

theorem cmd_prev {g : Graph} {t : Nat} : ∀ (i : Nat) {tr pre post : List Ev}, TraceOk g tr →
    tr = pre ++ Ev.cmd t i :: post → ∀ j, j < i → Ev.cmd t j ∈ pre ∧ Ev.ret t j true ∈ pre := by
  intro i
  induction i with
  | zero => intro tr pre post _ _ j hj; omega
  | succ i ih =>
    intro tr pre post h hs j hj
    have hret : Ev.ret t i true ∈ pre := (h.next hs).1
    have hpre : TraceOk g pre := h.pre hs
    have hcmd : Ev.cmd t i ∈ pre := cmd_of_ret hpre hret
    rcases Nat.lt_succ_iff_lt_or_eq.mp hj with h1 | rfl
    · obtain ⟨p2, q2, hs2⟩ := List.append_of_mem hcmd
      have := ih hpre hs2 j h1
      rw [hs2]
      exact ⟨List.mem_append_left _ this.1, List.mem_append_left _ this.2⟩
    · exact ⟨hcmd, hret⟩

theorem no_cmd_after_failure {g : Graph} {tr : List Ev} (h : TraceOk g tr) {t j i : Nat}
    (hf : Ev.ret t j false ∈ tr) (hji : j < i) : Ev.cmd t i ∉ tr := by
  intro hc
  obtain ⟨p, q, hs⟩ := List.append_of_mem hc
  have := (cmd_prev i h hs j hji).2
  exact ret_unique h (by rw [hs]; exact List.mem_append_left _ this) hf

theorem no_done_true_after_failure {g : Graph} {tr : List Ev} (h : TraceOk g tr) {t j : Nat}
    (hf : Ev.ret t j false ∈ tr) : Ev.done t true ∉ tr := by
  intro hd
  obtain ⟨pre, post, hs⟩ := List.append_of_mem hd
  have h3 := h.doneTrue hs
  have hcmd : Ev.cmd t j ∈ tr := cmd_of_ret h hf
  obtain ⟨p3, q3, hs3⟩ := List.append_of_mem hcmd
  have hjl : j < (g.body t).length := h.cmd_lt hs3
  have key : cmdDoneOk g pre t j → False := fun hdn =>
    ret_unique h (by rw [hs]; exact List.mem_append_left _ hdn.1) hf
  rcases h3.2 with h4 | h4
  · exact key (h4 j (List.mem_range.mpr hjl))
  · -- the command was entered before the close (no command event after the close)
    have hin : Ev.cmd t j ∈ pre := by
      rw [hs] at hcmd
      rcases List.mem_append.mp hcmd with hm | hm
      · exact hm
      · exfalso
        rcases List.mem_cons.mp hm with hm | hm
        · cases hm
        · obtain ⟨a, b, hab⟩ := List.append_of_mem hm
          have hs' : tr = (pre ++ Ev.done t true :: a) ++ Ev.cmd t j :: b := by rw [hs, hab]; simp
          exact h.cmd_open hs' (Or.inl (by simp))
    exact key (h4.2 j (List.mem_range.mpr hjl) hin)

theorem cmd_zero_of_cmd {g : Graph} {tr : List Ev} (h : TraceOk g tr) {t i : Nat}
    (hc : Ev.cmd t i ∈ tr) : Ev.cmd t 0 ∈ tr := by
  cases i with
  | zero => exact hc
  | succ i =>
    obtain ⟨p, q, hs⟩ := List.append_of_mem hc
    rw [hs]
    exact List.mem_append_left _ (cmd_prev (i + 1) h hs 0 (by omega)).1

theorem failed_prereq {g : Graph} {tr : List Ev} (h : TraceOk g tr) {t w : Nat} (hw : w ∈ g.waits t)
    (hf : Ev.done w false ∈ tr) : (∀ i, Ev.cmd t i ∉ tr) ∧ Ev.done t true ∉ tr := by
  constructor
  · intro i hc
    have h0 := cmd_zero_of_cmd h hc
    obtain ⟨p, q, hs⟩ := List.append_of_mem h0
    exact done_unique h (by rw [hs]; exact List.mem_append_left _ ((h.start hs).2 w hw)) hf
  · intro hd
    obtain ⟨p, q, hs⟩ := List.append_of_mem hd
    exact done_unique h (by rw [hs]; exact List.mem_append_left _ ((h.doneTrue hs).1 w hw)) hf

theorem cmd0_of_done_true {g : Graph} (hw : WF g) {tr : List Ev} (hok : TraceOk g tr) {h : Nat} (hn : h < g.n)
    (hd : Ev.done h true ∈ tr) : Ev.cmd h 0 ∈ tr := by
  obtain ⟨pre, post, hs⟩ := List.append_of_mem hd
  have h0 : 0 < (g.body h).length := List.length_pos_iff.mpr (hw.body h hn)
  have hpre : TraceOk g pre := hok.pre hs
  rw [hs]
  rcases (hok.doneTrue hs).2 with h4 | h4
  · exact List.mem_append_left _ (cmd_of_ret hpre (h4 0 (List.mem_range.mpr h0)).1)
  · exact List.mem_append_left _ h4.1.1

end Goat.Pipeline
