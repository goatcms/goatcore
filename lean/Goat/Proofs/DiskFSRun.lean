/-
Whole histories: the memory model (`Goat.MemFS.World`, C01) and the disk model (`Goat.DiskFS.World`) run side by
side on the same calls — the simulation relation, the precondition along a history, agreement of the answers —
and the views opened on the two sides stay in step.
-/
import Goat.Proofs.DiskFSSys
import Goat.Proofs.MemFSRun

namespace Goat
namespace DiskFS

open Path (Name norm)
open FS (Op Result Entry State TreeLike Mut Step ResEq)

/-- `Pre` of a call through handle `h`, in the state of the memory world (a handle never opened: no condition) -/
def PreAt (w : MemFS.World) (h : Nat) (op : Op) : Prop :=
  match w.views[h]? with
  | some ref => Pre (MemFS.baseOf ref) (abs w.root) op
  | none => True

/-- every call meets `Pre` in the state in which it is made (the memory model's, which by C01 is the state the
specification prescribes) -/
def AllPre : MemFS.World → List (Nat × Op) → Prop
  | _, [] => True
  | w, (h, op) :: rest => PreAt w h op ∧ AllPre (w.step h op).1 rest

instance (w : MemFS.World) (h : Nat) (op : Op) : Decidable (PreAt w h op) := by
  unfold PreAt; split <;> exact inferInstance

def decAllPre : (w : MemFS.World) → (ops : List (Nat × Op)) → Decidable (AllPre w ops)
  | _, [] => isTrue trivial
  | w, (h, op) :: rest =>
    match (inferInstance : Decidable (PreAt w h op)), decAllPre (w.step h op).1 rest with
    | isTrue a, isTrue b => isTrue ⟨a, b⟩
    | isFalse a, _ => isFalse fun hc => a hc.1
    | _, isFalse b => isFalse fun hc => b hc.2

instance (w : MemFS.World) (ops : List (Nat × Op)) : Decidable (AllPre w ops) := decAllPre w ops

/-- the two worlds show the same tree (the disk one below its root `r0`) and have the same views open -/
structure Sim (r0 : HPath) (w : MemFS.World) (dw : World) : Prop where
  mem : MemFS.WorldOK w
  wf : dw.host.WF
  state : ∀ q, abs w.root q = dw.host.get (r0 ++ q)
  views : dw.views = (w.views.map MemFS.baseOf).map (r0 ++ ·)

/-- the disk call did not panic and returned the same result (up to `ResEq`) -/
def Agree (rm : Result) (o : Out) : Prop := ∃ rd, o = .val rd ∧ ResEq rm rd

def AllAgree : List Result → List Out → Prop
  | [], [] => True
  | rm :: rms, o :: os => Agree rm o ∧ AllAgree rms os
  | _, _ => False

/-- the disk-side views after a call through the filespace rooted at `r` -/
def viewsNext (r : HPath) (H : Host) (views : List HPath) (op : Op) : List HPath :=
  match op with
  | .filespace raw =>
    match openView r H raw with
    | some v => views ++ [v]
    | none => views
  | _ => views

theorem world_step_none (dw : World) (h : Nat) (op : Op) (hh : dw.views[h]? = none) :
    dw.step h op = (dw, .val .err) := by
  simp [World.step, hh]

theorem world_step_some (dw : World) (h : Nat) (op : Op) (r : HPath) (hh : dw.views[h]? = some r) :
    (dw.step h op).1.host = (step r dw.host op).1 ∧ (dw.step h op).2 = (step r dw.host op).2
    ∧ (dw.step h op).1.views = viewsNext r dw.host dw.views op := by
  simp only [World.step, hh, viewsNext]
  cases op with
  | filespace raw => cases hv : openView r dw.host raw <;> simp [hv]
  | _ => exact ⟨rfl, rfl, rfl⟩

theorem World.run_cons (dw : World) (h : Nat) (op : Op) (rest : List (Nat × Op)) :
    dw.run ((h, op) :: rest)
      = (((dw.step h op).1.run rest).1, (dw.step h op).2 :: ((dw.step h op).1.run rest).2) := rfl

theorem World.view_under {dw : World} {r0 : HPath} (hu : ∀ v ∈ dw.views, r0 <+: v) {h : Nat} {r : HPath}
    (hh : dw.views[h]? = some r) : ∃ b, r = r0 ++ b :=
  (hu r (List.mem_of_getElem? hh)).imp fun _ hb => hb.symm

theorem viewsNext_under {r0 b : HPath} {H : Host} {views : List HPath} {op : Op}
    (hu : ∀ v ∈ views, r0 <+: v) : ∀ v ∈ viewsNext (r0 ++ b) H views op, r0 <+: v := by
  unfold viewsNext
  split
  · next raw =>
    split
    · next v hv =>
      intro v' hv'
      rcases List.mem_append.mp hv' with h1 | h1
      · exact hu v' h1
      · simp only [openView] at hv
        split at hv
        · cases hv
        · split at hv
          · cases hv; cases List.mem_singleton.mp h1
            rw [List.append_assoc]; exact List.prefix_append _ _
          · cases hv
    · exact hu
  · exact hu

theorem views_step (r0 : HPath) (mviews : List HPath) (h : Nat) (b : HPath) (hb : mviews[h]? = some b)
    (H : Host) (op : Op) (hpre : Pre (r0 ++ b) H.get op) :
    viewsNext (r0 ++ b) H (mviews.map (r0 ++ ·)) op = (FS.viewsAfter mviews h op).map (r0 ++ ·) := by
  cases op with
  | filespace raw =>
    simp only [viewsNext, FS.viewsAfter, hb, openView]
    cases hn : norm raw with
    | none => simp
    | some q =>
      have hdir : H.get (r0 ++ b ++ q) = some .dir := by simpa [hn] using hpre.2
      have : isDir H (full (r0 ++ b) q) = true := (isDir_full hpre.1 q).mpr hdir
      simp [this, List.append_assoc]
  | _ => rfl

theorem sim_init (H0 : Host) (r0 : HPath) (hwf : H0.WF) (hroot : H0.get r0 = some .dir)
    (hempty : ∀ q, q ≠ [] → H0.get (r0 ++ q) = none) : Sim r0 MemFS.World.init (World.init H0 r0) := by
  refine ⟨MemFS.worldOK_init, hwf, ?_, ?_⟩
  · intro q
    show abs Node.empty q = H0.get (r0 ++ q)
    rw [MemFS.abs_empty]
    by_cases hq : q = []
    · subst hq; simp [FS.State.empty, hroot]
    · simp [FS.State.empty, hq, hempty q hq]
  · simp [World.init, MemFS.World.init, MemFS.baseOf]

end DiskFS
end Goat
