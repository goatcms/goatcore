/-
The view-stack model (`Goat/Model/Views.lean`) against the specification.  A layer prefixes its stored base, is the
read-only mask, or passes everything on (`layer_cases`).  `Down D op op'`: the call `op'` is, for the specification,
the call `op` made through a view rooted `D` deeper.  A prefixing layer hands down such a call, or refuses one that
fails in the specification too (`prefixOp_spec`); `Down` composes along `rootPlus`.  So what reaches the bottom through
a stack is the caller's call through ONE view rooted at `rootOf ls` (`downAll_down`), and when nothing reaches it the
call fails in the specification too (`downAll_refused`).  `Filespace` through a stack: `openView_root`.
-/
import Goat.Proofs.Path
import Goat.Proofs.ViewsSpec

namespace Goat
namespace Views

open Path (Name norm join reduceAbsPath clean slash Reduced norm_dir_join)
open FS

/-! What a prefixing layer computes is decided by the normal form of the caller's argument, as the specification's
answer is: `rebase`, `rebaseNonRoot`, `rebase2` in closed form, and where the string they build resolves. -/

theorem rebase_eq (base raw : Bytes) : rebase base raw = (norm raw).map fun p => base ++ join p := by
  unfold rebase reduceAbsPath
  cases norm raw <;> rfl

theorem rebaseNonRoot_eq (base raw : Bytes) :
    rebaseNonRoot base raw = (norm raw).bind fun p => if p = [] then none else some (base ++ join p) := by
  unfold rebaseNonRoot reduceAbsPath
  cases hn : norm raw with
  | none => rfl
  | some p => simp [Path.join_eq_nil_iff p (Path.norm_reduced raw p hn)]

theorem norm_prefixed (dir : Bytes) {raw : Bytes} {p : List Name} (hn : norm raw = some p) :
    norm (dir ++ [slash] ++ join p) = (norm dir).map (· ++ p) := by
  rw [List.append_assoc, List.singleton_append]
  exact norm_dir_join dir p (Path.norm_reduced raw p hn)

section
variable {k : Bytes → Op}

namespace OnePath

theorem down (hk : OnePath k) (b x : Bytes) : prefixOp b (k x) = (rebase b x).map k := by
  cases hk <;> rfl

theorem same (hk : OnePath k) (x y : Bytes) :
    failResult (k x) = failResult (k y) ∧ isMutator (k x) = isMutator (k y) ∧ NotFilespace (k x) := by
  cases hk <;> exact ⟨rfl, rfl, fun _ e => by cases e⟩

end OnePath

namespace NonRoot

theorem down (hk : NonRoot k) (b x : Bytes) : prefixOp b (k x) = (rebaseNonRoot b x).map k := by
  cases hk <;> rfl

theorem same (hk : NonRoot k) (x y : Bytes) :
    failResult (k x) = failResult (k y) ∧ isMutator (k x) = isMutator (k y) ∧ NotFilespace (k x) := by
  cases hk <;> exact ⟨rfl, rfl, fun _ e => by cases e⟩

end NonRoot

end

namespace TwoPath
variable {k : Bytes → Bytes → Op}

theorem down (hk : TwoPath k) (base s d : Bytes) : prefixOp base (k s d) = rebase2 base s d k := by
  cases hk <;> rfl

theorem same (hk : TwoPath k) (s d s' d' : Bytes) :
    failResult (k s d) = failResult (k s' d') ∧ isMutator (k s d) = isMutator (k s' d') ∧ NotFilespace (k s d) := by
  cases hk <;> exact ⟨rfl, rfl, fun _ e => by cases e⟩

end TwoPath

theorem failResult_mutator {op : Op} (h : isMutator op = true) : failResult op = .err := by
  cases op <;> simp [isMutator] at h <;> rfl

theorem rebase2_eq (base s d : Bytes) (k : Bytes → Bytes → Op) :
    rebase2 base s d k = (norm s).bind fun a => (norm d).map fun b => k (base ++ join a) (base ++ join b) := by
  unfold rebase2
  rw [rebase_eq, rebase_eq]
  cases norm s <;> cases norm d <;> rfl

/-- where a raw argument given to a view rooted at `root` lies, in coordinates of the bottom filespace.  The same
function as `rootPlus` (append under `Option`): `argAt_argAt`, `argAt_map`, `rootPlus_map` are its associativity,
`argAt_nil`, `rootPlus_nil` its unit laws. -/
def argAt (root : Option (List Name)) (n : Option (List Name)) : Option (List Name) :=
  root.bind fun b => n.map (b ++ ·)

theorem argAt_argAt (R D n : Option (List Name)) : argAt R (argAt D n) = argAt (rootPlus R D) n := by
  cases R <;> cases D <;> cases n <;> simp [argAt, rootPlus]

theorem argAt_nil (n : Option (List Name)) : argAt (some []) n = n := by
  cases n <;> simp [argAt]

theorem argAt_map (D : Option (List Name)) (q : List Name) : D.map (· ++ q) = argAt D (some q) := by
  cases D <;> rfl

theorem rootOf_cons (l : Layer) (ls : List Layer) : rootOf (l :: ls) = rootPlus (rootOf ls) l.segs := rfl

theorem rootPlus_nil (root : Option (List Name)) : rootPlus root (some []) = root := by
  cases root <;> simp [rootPlus]

theorem rootPlus_some {R D : Option (List Name)} {b' : List Name} (h : rootPlus R D = some b') :
    ∃ b d, R = some b ∧ D = some d ∧ b' = b ++ d := by
  cases R <;> cases D <;> simp [rootPlus] at h
  exact ⟨_, _, rfl, rfl, h.symm⟩

/-- the call `op'` is, for the specification, the call `op` made through a view rooted `D` deeper; when `D = none`
(a stored base climbs: a dead view) `op'` fails (`dead` left to right only: `C03.stack_refines` needs no more) -/
structure Down (D : Option (List Name)) (op op' : Op) : Prop where
  fail : failResult op' = failResult op
  mutates : isMutator op' = isMutator op
  notFs : NotFilespace op → NotFilespace op'
  live : ∀ d, D = some d → ∀ c S r S', Step c S op' r S' ↔ Step (c ++ d) S op r S'
  dead : D = none → ∀ c S r S', Step c S op' r S' → r = failResult op ∧ S' = S
  args : (opArgs op').map norm = (opArgs op).map fun raw => argAt D (norm raw)

theorem Down.refl (op : Op) : Down (some []) op op where
  fail := rfl
  mutates := rfl
  notFs := id
  live := fun d hd c S r S' => by cases hd; rw [List.append_nil]
  dead := fun h => nomatch h
  args := by simp [argAt_nil]

theorem Down.trans {R D : Option (List Name)} {op op1 op' : Op} (h2 : Down R op1 op') (h1 : Down D op op1) :
    Down (rootPlus R D) op op' := by
  refine ⟨h2.fail.trans h1.fail, h2.mutates.trans h1.mutates, fun h => h2.notFs (h1.notFs h), ?_, ?_, ?_⟩
  · intro b' hb' c S r S'
    obtain ⟨b, d, rfl, rfl, rfl⟩ := rootPlus_some hb'
    rw [h2.live b rfl, h1.live d rfl, List.append_assoc]
  · intro hn c S r S' hs
    cases R with
    | none => exact h1.fail ▸ h2.dead rfl c S r S' hs
    | some b =>
      cases D with
      | none => exact h1.dead rfl _ S r S' ((h2.live b rfl c S r S').mp hs)
      | some d => simp [rootPlus] at hn
  · rw [h2.args, show (opArgs op1).map (fun raw => argAt R (norm raw)) = ((opArgs op1).map norm).map (argAt R) by simp,
      h1.args, List.map_map]
    exact List.map_congr_left fun raw _ => argAt_argAt R D (norm raw)

/-- a prefixing layer (memory wrapper, sub-path view, cache child, disk) with stored base `dir` (`base = dir/`).  What
it refuses — a climbing argument, removal of the view's own root — fails in the specification at every root.  One
split on the normal form of the argument decides both what the layer does and what the specification says. -/
theorem prefixOp_spec (base : Bytes) (op : Op) :
    match prefixOp base op with
    | some op' => ∀ dir, base = dir ++ [slash] → Down (norm dir) op op'
    | none => NotFilespace op → ∀ (b : List Name) (S : State), Step b S op (failResult op) S := by
  rcases op_cases op with ⟨k, raw, hk, rfl⟩ | ⟨k, raw, hk, rfl⟩ | ⟨k, s, d, hk, rfl⟩ | ⟨raw, rfl⟩
  · rw [hk.down, rebase_eq]
    cases hn : norm raw with
    | none => exact fun _ b S => (hk.step_none hn).mpr ⟨rfl, rfl⟩
    | some p =>
      rintro dir rfl
      have hnx := norm_prefixed dir hn
      obtain ⟨hf, hm, hnf⟩ := hk.same (dir ++ [slash] ++ join p) raw
      refine ⟨hf, hm, fun _ => hnf, fun dd hdd c S r S' => ?_, fun hdd c S r S' hs => ?_, ?_⟩
      · rw [hdd] at hnx
        exact hk.step_congr hnx hn (List.append_assoc ..).symm
      · rw [hdd] at hnx
        exact hf ▸ (hk.step_none hnx).mp hs
      · simp only [hk.args, List.map_cons, List.map_nil, hnx, hn, argAt_map]
  · rw [hk.down, rebaseNonRoot_eq]
    cases hn : norm raw with
    | none => exact fun _ b S => (hk.step_none (.inl hn)).mpr ⟨rfl, rfl⟩
    | some p =>
      by_cases hp : p = []
      · rw [Option.bind_some, if_pos hp]
        exact fun _ b S => (hk.step_none (.inr (hp ▸ hn))).mpr ⟨rfl, rfl⟩
      · rw [Option.bind_some, if_neg hp]
        rintro dir rfl
        have hnx := norm_prefixed dir hn
        obtain ⟨hf, hm, hnf⟩ := hk.same (dir ++ [slash] ++ join p) raw
        refine ⟨hf, hm, fun _ => hnf, fun dd hdd c S r S' => ?_, fun hdd c S r S' hs => ?_, ?_⟩
        · rw [hdd] at hnx
          exact hk.step_congr hnx hn (by simp [hp]) hp (List.append_assoc ..).symm
        · rw [hdd] at hnx
          exact hf ▸ (hk.step_none (.inl hnx)).mp hs
        · simp only [hk.args, List.map_cons, List.map_nil, hnx, hn, argAt_map]
  · rw [hk.down, rebase2_eq]
    cases hns : norm s with
    | none => exact fun _ b S => (hk.step_none (.inl hns)).mpr ⟨rfl, rfl⟩
    | some ps =>
      cases hnd : norm d with
      | none => exact fun _ b S => (hk.step_none (.inr hnd)).mpr ⟨rfl, rfl⟩
      | some pd =>
        rintro dir rfl
        have hxs := norm_prefixed dir hns
        have hxd := norm_prefixed dir hnd
        obtain ⟨hf, hm, hnf⟩ := hk.same (dir ++ [slash] ++ join ps) (dir ++ [slash] ++ join pd) s d
        refine ⟨hf, hm, fun _ => hnf, fun dd hdd c S r S' => ?_, fun hdd c S r S' hs => ?_, ?_⟩
        · rw [hdd] at hxs hxd
          exact hk.step_congr hxs hxd hns hnd (List.append_assoc ..).symm (List.append_assoc ..).symm
        · rw [hdd] at hxs
          exact hf ▸ (hk.step_none (.inl hxs)).mp hs
        · simp only [hk.args, List.map_cons, List.map_nil, hxs, hxd, hns, hnd, argAt_map]
  · exact fun hop => absurd rfl (hop raw)

theorem prefixOp_step (dir : Bytes) (op op' : Op) (h : prefixOp (dir ++ [slash]) op = some op') :
    Down (norm dir) op op' := by
  have := prefixOp_spec (dir ++ [slash]) op
  rw [h] at this
  exact this dir rfl

theorem prefixOp_refused (base : Bytes) (op : Op) (hop : NotFilespace op) (h : prefixOp base op = none)
    (b : List Name) (S : State) : Step b S op (failResult op) S := by
  have := prefixOp_spec base op
  rw [h] at this
  exact this hop b S

/-- `isMutator` and `ReadOnly.down` each list the eight mutators: this lemma and the next connect them -/
theorem readOnly_down_query (op op' : Op) (h : ReadOnly.down op = some op') :
    op' = op ∧ isMutator op = false ∧ NotFilespace op := by
  cases op <;> simp [ReadOnly.down] at h <;> subst h <;> exact ⟨rfl, rfl, fun _ e => by cases e⟩

/-- `hop`: `Filespace` is not handed down either -/
theorem readOnly_down_none (op : Op) (hop : NotFilespace op) (h : ReadOnly.down op = none) :
    isMutator op = true := by
  cases op <;> simp [ReadOnly.down, isMutator] at h ⊢
  exact hop _ rfl

/-- the four prefixing kinds, the mask, the encrypted view.  The kind is tested as `hasReadOnly` tests it (`==`). -/
theorem layer_cases (l : Layer) :
    ((l.kind == .readOnly) = false ∧ l.down = prefixOp (l.dir ++ [slash]) ∧ l.segs = norm l.dir)
      ∨ ((l.kind == .readOnly) = true ∧ l.down = ReadOnly.down ∧ l.segs = some [])
      ∨ ((l.kind == .readOnly) = false ∧ l.down = some ∧ l.segs = some []) := by
  obtain ⟨kind, dir⟩ := l
  cases kind
  case readOnly => exact .inr (.inl ⟨rfl, rfl, rfl⟩)
  case encrypted => exact .inr (.inr ⟨rfl, rfl, rfl⟩)
  all_goals exact .inl ⟨rfl, rfl, rfl⟩

theorem hasReadOnly_cons (l : Layer) (ls : List Layer) :
    hasReadOnly (l :: ls) = (l.kind == .readOnly || hasReadOnly ls) := rfl

theorem layer_down (l : Layer) (op op' : Op) (h : l.down op = some op') :
    Down l.segs op op' ∧ ((l.kind == .readOnly) = true → isMutator op = false) := by
  rcases layer_cases l with ⟨hk, hd, hsegs⟩ | ⟨_, hd, hsegs⟩ | ⟨hk, hd, hsegs⟩ <;> rw [hd] at h <;> rw [hsegs]
  · exact ⟨prefixOp_step _ op op' h, fun e => by rw [hk] at e; cases e⟩
  · obtain ⟨rfl, hq, _⟩ := readOnly_down_query op op' h
    exact ⟨.refl _, fun _ => hq⟩
  · cases h
    exact ⟨.refl _, fun e => by rw [hk] at e; cases e⟩

theorem downAll_down (ls : List Layer) : ∀ (op op' : Op), downAll ls op = some op' →
    Down (rootOf ls) op op' ∧ (hasReadOnly ls = true → isMutator op = false) := by
  induction ls with
  | nil => intro op op' h; cases h; exact ⟨.refl op, fun e => by cases e⟩
  | cons l ls ih =>
    intro op op' h
    simp only [downAll] at h
    split at h
    · cases h
    · next op1 h1 =>
      obtain ⟨d1, q1⟩ := layer_down l op op1 h1
      obtain ⟨d2, q2⟩ := ih op1 op' h
      refine ⟨d2.trans d1, fun hro => ?_⟩
      rw [hasReadOnly_cons, Bool.or_eq_true] at hro
      exact hro.elim q1 fun e => d1.mutates ▸ q2 e

/-- why nothing reaches the bottom: the stack is dead; a mutation meets a mask; or the call fails in the
specification at every root that ends in the root of the stack -/
theorem downAll_refused (ls : List Layer) : ∀ (op : Op), NotFilespace op → downAll ls op = none →
    ∀ b, rootOf ls = some b →
      (hasReadOnly ls = true ∧ isMutator op = true) ∨ ∀ c S, Step (c ++ b) S op (failResult op) S := by
  induction ls with
  | nil => intro op _ h; cases h
  | cons l ls ih =>
    intro op hop h b' hb'
    obtain ⟨b, d, hb, hd, rfl⟩ := rootPlus_some hb'
    rw [hasReadOnly_cons]
    simp only [downAll] at h
    cases h1 : l.down op with
    | none =>
      rcases layer_cases l with ⟨_, hdn, _⟩ | ⟨hk, hdn, _⟩ | ⟨_, hdn, _⟩ <;> rw [hdn] at h1
      · exact .inr fun c S => prefixOp_refused _ op hop h1 _ S
      · exact .inl ⟨by rw [hk, Bool.true_or], readOnly_down_none op hop h1⟩
      · cases h1
    | some op1 =>
      rw [h1] at h
      have d1 := (layer_down l op op1 h1).1
      rcases ih op1 (d1.notFs hop) h b hb with ⟨hro, hm⟩ | hf
      · exact .inl ⟨by rw [hro, Bool.or_true], d1.mutates ▸ hm⟩
      · refine .inr fun c S => ?_
        have := (d1.live d hd (c ++ b) S _ S).mp (hf c S)
        rwa [d1.fail, List.append_assoc] at this

/-- the bottom filespace behaves, seen through the abstraction `α`, as the specification says a filespace rooted at
`b0` does (`b0 = []`: a root filespace) — in the states `Good`, the bottom's own invariant (`MemFS.Inv` for memory) -/
structure Refines {σ : Type} (B : Bottom σ) (b0 : List Name) (Good : σ → Prop) (α : σ → State) : Prop where
  step : ∀ s op, Good s → Step b0 (α s) op (B.step s op).2 (α (B.step s op).1)
  good : ∀ s op, Good s → Good (B.step s op).1

/-- what a call through a stack rooted at `root` (`none`: dead), with a read-only mask or without, is.  Every call
through a stack over a refining bottom has this outcome: `C03.stack_refines`, from `run_eq_downAll`, `downAll_down`,
`downAll_refused`. -/
def Outcome (root : Option (List Name)) (ro : Bool) (b0 : List Name) (S : State) (op : Op) (r : Result)
    (S' : State) : Prop :=
  match root with
  | none => Fails S op r S'
  | some b => if ro = true ∧ isMutator op = true then Fails S op r S' else Step (b0 ++ b) S op r S'

theorem Outcome.elim {root : Option (List Name)} {ro : Bool} {b0 : List Name} {S S' : State} {op : Op} {r : Result}
    {P : Prop} (h : Outcome root ro b0 S op r S') (hf : Fails S op r S' → P)
    (hs : ∀ b, root = some b → Step (b0 ++ b) S op r S' → P) : P := by
  cases root with
  | none => exact hf h
  | some b =>
    simp only [Outcome] at h
    split at h
    · exact hf h
    · exact hs b rfl h

theorem outcome_confined {root : Option (List Name)} {ro : Bool} {b0 : List Name} {S S' : State} {op : Op}
    {r : Result} (h : Outcome root ro b0 S op r S')
    (hroot : ∀ b, root = some b → RootDirs (b0 ++ b) S) (q : List Name)
    (hq : ∀ b, root = some b → ¬ (b0 ++ b) <+: q) : S' q = S q :=
  h.elim (fun f => by rw [f.2]) fun b hb hs => step_confined (b0 ++ b) S op r S' hs (hroot b hb) q (hq b hb)

theorem run_eq_downAll {σ : Type} (B : Bottom σ) (ls : List Layer) : ∀ (s : σ) (op : Op),
    run B ls s op = match downAll ls op with
      | none => (s, failResult op)
      | some op' => B.step s op' := by
  induction ls with
  | nil => intro s op; rfl
  | cons l ls ih =>
    intro s op
    simp only [run, downAll]
    cases hd : l.down op with
    | none => rfl
    | some op1 =>
      simp only [ih s op1]
      cases downAll ls op1 with
      | none => simp [(layer_down l op op1 hd).1.fail]
      | some op' => rfl

theorem run_single {σ : Type} (B : Bottom σ) (l : Layer) (s : σ) (op : Op) :
    run B [l] s op = match l.down op with | none => (s, failResult op) | some op' => B.step s op' := rfl

theorem readonly_refuses (ls : List Layer) (op : Op) (hro : hasReadOnly ls = true) (hm : isMutator op = true) :
    downAll ls op = none := by
  cases h : downAll ls op with
  | none => rfl
  | some op' => rw [(downAll_down ls op op' h).2 hro] at hm; cases hm

/-- disk layers store what `filepath.Abs` returned: a path that does not climb -/
def DisksLive (ls : List Layer) : Prop := ∀ l ∈ ls, l.kind = .diskRoot → norm l.dir ≠ none

theorem rootPlus_map (R D : Option (List Name)) (q : List Name) :
    rootPlus R (D.map (· ++ q)) = rootPlus (rootPlus R D) (some q) := by
  cases R <;> cases D <;> simp [rootPlus]

theorem openView_prefixing {σ : Type} (B : Bottom σ) (s : σ) (l : Layer) (ls : List Layer) (raw : Bytes)
    (ls' : List Layer) (hro : l.kind ≠ .readOnly) (henc : l.kind ≠ .encrypted)
    (hlive : l.kind = .diskRoot → norm l.dir ≠ none) (h : openView B s (l :: ls) raw = some ls') :
    ∃ l' q, ls' = l' :: ls ∧ l'.kind = l.kind ∧ l'.segs = l.segs.map (· ++ q) := by
  obtain ⟨kind, dir⟩ := l
  cases kind <;> simp only [openView, reduceAbsPath] at h
  case readOnly => exact absurd rfl hro
  case encrypted => exact absurd rfl henc
  all_goals
    obtain ⟨q, hn⟩ : ∃ q, norm raw = some q := by
      cases hn : norm raw with
      | none => simp [hn] at h
      | some q => exact ⟨q, rfl⟩
    simp only [hn, Option.map_some] at h
    have hnb := norm_prefixed dir hn
  case memWrapper =>
    obtain ⟨l', hl', rfl⟩ := Option.map_eq_some_iff.mp h
    unfold newWrapper reduceAbsPath at hl'
    cases hx : norm (dir ++ [slash] ++ join q) with
    | none => rw [hx] at hl'; cases hl'
    | some p =>
      rw [hx] at hl'
      cases hl'
      refine ⟨_, q, rfl, rfl, ?_⟩
      show norm (join p) = (norm dir).map (· ++ q)
      rw [Path.norm_join p (Path.norm_reduced _ p hx), ← hx, hnb]
  case subPath | cacheChild =>
    cases h
    exact ⟨_, q, rfl, rfl, hnb⟩
  case diskRoot =>
    split at h
    · cases h
      -- `newDisk` cleans the joined path, and `norm_clean` needs a path that does not climb: hence `DisksLive`
      obtain ⟨d, hd⟩ := Option.ne_none_iff_exists'.mp (hlive rfl)
      refine ⟨_, q, rfl, rfl, ?_⟩
      show norm (clean _) = (norm dir).map (· ++ q)
      rw [hd] at hnb ⊢
      exact Path.norm_clean _ _ hnb
    · cases h

/-- The new stack is rooted at the old root plus something (`rootPlus`: at or below it, or dead), and its disk layers
are live again, so that the statement applies to its views in turn.  `hview`: the bottom's own `Filespace` does not
hand out a disk layer. -/
theorem openView_root {σ : Type} (B : Bottom σ) (s : σ)
    (hview : ∀ raw l, B.view s raw = some l → l.kind ≠ .diskRoot) (ls : List Layer) :
    ∀ (raw : Bytes) (ls' : List Layer), DisksLive ls → openView B s ls raw = some ls' →
      (∃ Q, rootOf ls' = rootPlus (rootOf ls) Q) ∧ DisksLive ls' := by
  have top : ∀ l0 : Layer, (l0.kind = .diskRoot → norm l0.dir ≠ none) → ∀ ls0, DisksLive ls0 →
      DisksLive (l0 :: ls0) := by
    intro l0 h0 ls0 hls0 l' hl' hk'
    rcases List.mem_cons.mp hl' with rfl | hl'
    · exact h0 hk'
    · exact hls0 l' hl' hk'
  induction ls with
  | nil =>
    intro raw ls' _ h
    simp only [openView, Option.map_eq_some_iff] at h
    obtain ⟨l, hl, rfl⟩ := h
    exact ⟨⟨l.segs, rfl⟩, top l (fun hk => absurd hk (hview raw l hl)) [] (fun _ h => nomatch h)⟩
  | cons l ls ih =>
    intro raw ls' hlive h
    have hlive' : DisksLive ls := fun l' hl' => hlive l' (List.mem_cons_of_mem _ hl')
    obtain ⟨kind, dir⟩ := l
    cases kind
    case readOnly =>
      -- a mask over a sub-path view of the same tail
      cases h
      refine ⟨⟨norm (clean raw), ?_⟩, top _ (by simp [newReadOnly]) _ (top _ (by simp [newSubFS]) _ hlive')⟩
      simp only [rootOf_cons, newReadOnly, newSubFS, Layer.segs, rootPlus_nil]
    case encrypted =>
      simp only [openView, Option.map_eq_some_iff] at h
      obtain ⟨ls1, h1, rfl⟩ := h
      obtain ⟨hQ, hl1⟩ := ih raw ls1 hlive' h1
      refine ⟨?_, top _ (by simp) _ hl1⟩
      simpa only [rootOf_cons, Layer.segs, rootPlus_nil] using hQ
    all_goals
      have hd := hlive _ (List.mem_cons_self ..)
      obtain ⟨l', q, rfl, hk', hseg⟩ := openView_prefixing B s _ ls raw ls' (by simp) (by simp) hd h
      refine ⟨⟨some q, by rw [rootOf_cons, hseg, rootPlus_map]; rfl⟩, top l' (fun hk0 => ?_) ls hlive'⟩
      -- a disk child of a live disk layer: rooted below it
      have e : l'.segs = norm l'.dir := by unfold Layer.segs; rw [hk0]
      rw [← e, hseg]
      show Option.map _ (norm dir) ≠ none
      cases hn : norm dir with
      | none => exact absurd hn (hd (hk'.symm.trans hk0))
      | some d => simp

end Views
end Goat
