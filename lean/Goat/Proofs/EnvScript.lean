/-
C18: the vocabulary of the statements, the recogniser `nameOk` against it, and `sh_prefix`: header and variable
blocks of either builder are exactly `afterHeader` followed by `deliverAll`, whatever follows.
-/
import Goat.Model.EnvScript
import Goat.Proofs.Lists

namespace Goat.EnvScript

/-- a plain identifier in the sense of the property -/
def Ident (k : Bytes) : Prop :=
  ∃ b rest, k = b :: rest ∧ isAlpha b = true ∧ ∀ c ∈ rest, isAlphaU c = true

/-- the language of `^[a-zA-Z]+([_a-zA-Z]+)?$`, read off the expression -/
def RegexLang (k : Bytes) : Prop :=
  ∃ a r, k = a ++ r ∧ a ≠ [] ∧ (∀ b ∈ a, isAlpha b = true) ∧ (∀ b ∈ r, isAlphaU b = true)

/-- a here-document delimiter the builders can produce -/
def TagOk (tag : Bytes) : Prop := tag ≠ [] ∧ ∀ b ∈ tag, isNameChar b = true

/-- keys as they come out of `Environments` (every one passed `Set`), minus the two names whose assignment changes
how the shell itself runs the script -/
def ValidKeys (envs : Env) : Prop := ∀ kv ∈ envs, Ident kv.1 ∧ kv.1 ∉ reserved

def TagFree (tag : Bytes) (envs : Env) : Prop := ∀ kv ∈ envs, tag ∉ splitLines kv.2

def NoNul (envs : Env) : Prop := ∀ kv ∈ envs, (0 : Byte) ∉ kv.2

/-- the defect class of KF-C18-1 is avoided: dash keeps every line of every value -/
def DashSafe (tag : Bytes) (envs : Env) : Prop := ∀ kv ∈ envs, ∀ l ∈ splitLines kv.2, dashLine tag l = l

theorem isAlpha_isAlphaU {b : Byte} (h : isAlpha b = true) : isAlphaU b = true := by
  simp [isAlphaU, h]

theorem isAlphaU_isNameChar {b : Byte} (h : isAlphaU b = true) : isNameChar b = true := by
  simp only [isAlphaU, Bool.or_eq_true] at h
  simp only [isNameChar, Bool.or_eq_true]
  cases h with
  | inl h => exact Or.inl (Or.inl h)
  | inr h => exact Or.inr h

theorem isAlpha_not_digit {b : Byte} (h : isAlpha b = true) : isDigit b = false := by
  have h65 : 65 ≤ b := by
    simp only [isAlpha, Bool.or_eq_true, Bool.and_eq_true, decide_eq_true_eq] at h
    exact h.elim (·.1) fun h => UInt8.le_trans (by decide) h.1
  have : ¬ b ≤ 57 := fun h57 => absurd (UInt8.le_trans h65 h57) (by decide)
  simp [isDigit, this]

theorem takeWhile_all {p : Byte → Bool} {k : Bytes} (h : ∀ b ∈ k, p b = true) : k.takeWhile p = k :=
  takeWhile_eq_self h

theorem dropWhile_all {p : Byte → Bool} {k : Bytes} (h : ∀ b ∈ k, p b = true) : k.dropWhile p = [] :=
  dropWhile_eq_nil h

theorem regexLang_iff_ident (k : Bytes) : RegexLang k ↔ Ident k := by
  constructor
  · rintro ⟨a, r, rfl, hne, ha, hr⟩
    cases a with
    | nil => exact absurd rfl hne
    | cons b a' =>
      refine ⟨b, a' ++ r, rfl, ha b (by simp), ?_⟩
      intro c hc
      simp only [List.mem_append] at hc
      cases hc with
      | inl h => exact isAlpha_isAlphaU (ha c (by simp [h]))
      | inr h => exact hr c h
  · rintro ⟨b, rest, rfl, hb, hrest⟩
    exact ⟨[b], rest, rfl, by simp, by simpa using hb, hrest⟩

/-- the two runs of the expression are `takeWhile isAlpha k` and `dropWhile isAlpha k` -/
theorem nameOk_iff_ident (k : Bytes) : nameOk k = true ↔ Ident k := by
  unfold nameOk
  simp only [Bool.and_eq_true, Bool.not_eq_true', Bool.or_eq_true, List.all_eq_true]
  constructor
  · rintro ⟨hne, hr⟩
    refine (regexLang_iff_ident k).mp ⟨k.takeWhile isAlpha, k.dropWhile isAlpha, List.takeWhile_append_dropWhile.symm,
      (fun e => by rw [e] at hne; cases hne), fun _ hb => mem_takeWhile_imp hb, ?_⟩
    rcases hr with h | h
    · rw [List.isEmpty_iff.mp h]; nofun
    · exact h
  · rintro ⟨b, rest, rfl, hb, hrest⟩
    refine ⟨by simp [List.takeWhile, hb], Or.inr fun c hc => ?_⟩
    rcases List.mem_cons.mp ((List.dropWhile_suffix _).subset hc) with rfl | h
    · exact isAlpha_isAlphaU hb
    · exact hrest c h

theorem validKeys_of_nameOk {envs : Env}
    (h : ∀ kv ∈ envs, nameOk kv.1 = true ∧ kv.1 ∉ reserved) : ValidKeys envs :=
  fun kv hkv => ⟨(nameOk_iff_ident _).mp (h kv hkv).1, (h kv hkv).2⟩

theorem ident_all_nameChar {k : Bytes} (h : Ident k) : ∀ b ∈ k, isNameChar b = true := by
  obtain ⟨b, rest, rfl, hb, hrest⟩ := h
  intro c hc
  simp only [List.mem_cons] at hc
  cases hc with
  | inl h => rw [h]; exact isAlphaU_isNameChar (isAlpha_isAlphaU hb)
  | inr h => exact isAlphaU_isNameChar (hrest c h)

theorem ident_isShellName {k : Bytes} (h : Ident k) : isShellName k = true := by
  have hall := ident_all_nameChar h
  obtain ⟨b, rest, rfl, hb, _⟩ := h
  simp only [isShellName, Bool.and_eq_true, Bool.not_eq_true', List.all_eq_true]
  exact ⟨isAlpha_not_digit hb, hall⟩

theorem ident_ne_nil {k : Bytes} (h : Ident k) : k ≠ [] := by
  obtain ⟨b, rest, rfl, _, _⟩ := h
  simp

theorem splitLines_cons_nl (s : Bytes) : splitLines (nl :: s) = [] :: splitLines s := by
  simp [splitLines]

theorem splitLines_cons_ne {b : Byte} {s l : Bytes} {ls : List Bytes} (hb : b ≠ nl) (hs : splitLines s = l :: ls) :
    splitLines (b :: s) = (b :: l) :: ls := by
  simp [splitLines, hb, hs]

theorem splitLines_ne_nil (s : Bytes) : splitLines s ≠ [] := split_ne_nil rfl splitLines_cons_nl splitLines_cons_ne s

theorem splitLines_append_nl (a rest : Bytes) : splitLines (a ++ nl :: rest) = splitLines a ++ splitLines rest :=
  split_append_sep rfl splitLines_cons_nl splitLines_cons_ne a rest

theorem splitLines_no_nl {l : Bytes} : nl ∉ l → splitLines l = [l] :=
  split_of_free rfl splitLines_cons_nl splitLines_cons_ne

theorem splitLines_line {l : Bytes} (h : nl ∉ l) (rest : Bytes) :
    splitLines (l ++ nl :: rest) = l :: splitLines rest := by
  rw [splitLines_append_nl, splitLines_no_nl h]
  rfl

theorem catLines_splitLines (v : Bytes) : catLines (splitLines v) = v ++ [nl] :=
  split_induction rfl splitLines_cons_nl splitLines_cons_ne (P := fun s r => catLines r = s ++ [nl]) rfl
    (fun _ _ _ ih => congrArg (nl :: ·) ih) (fun b _ _ _ _ ih => congrArg (b :: ·) ih) v

theorem joinLines_splitLines (s : Bytes) : joinLines (splitLines s) = s :=
  split_induction rfl splitLines_cons_nl splitLines_cons_ne (P := fun s r => joinLines r = s) rfl
    (fun _ _ _ ih => congrArg (nl :: ·) ih) (fun b _ _ ls _ ih => by cases ls <;> exact congrArg (b :: ·) ih) s

theorem strip_append_nl (v : Bytes) : stripTrailingNewlines (v ++ [nl]) = stripTrailingNewlines v := by
  simp [stripTrailingNewlines]

theorem strip_cat_split (v : Bytes) :
    stripTrailingNewlines (catLines (splitLines v)) = stripTrailingNewlines v := by
  rw [catLines_splitLines, strip_append_nl]

theorem strip_idem (v : Bytes) : stripTrailingNewlines (stripTrailingNewlines v) = stripTrailingNewlines v := by
  simp only [stripTrailingNewlines, List.reverse_reverse]
  congr 1
  induction v.reverse with
  | nil => simp
  | cons b l ih =>
    simp only [List.dropWhile]
    split
    · exact ih
    · rename_i hb
      simp [List.dropWhile, hb]

theorem mem_catLines {b : Byte} {ls : List Bytes} (h : b ∈ catLines ls) : b = nl ∨ ∃ l ∈ ls, b ∈ l := by
  induction ls with
  | nil => simp [catLines] at h
  | cons l ls ih =>
    simp only [catLines, List.mem_append, List.mem_cons] at h
    rcases h with h | h | h
    · exact Or.inr ⟨l, by simp, h⟩
    · exact Or.inl h
    · rcases ih h with h | ⟨l', hl', hb⟩
      · exact Or.inl h
      · exact Or.inr ⟨l', by simp [hl'], hb⟩

theorem classify_blank : classify [] = .blank := by decide
theorem classify_setE : classify (setKw ++ space :: dashE) = .setE := by decide
theorem classify_setPlusX : classify (setKw ++ space :: plusX) = .setPlusX := by decide

theorem dropPrefix?_append (p r : Bytes) : dropPrefix? p (p ++ r) = some r := by
  induction p with
  | nil => cases r <;> simp [dropPrefix?]
  | cons a p ih => simp [dropPrefix?, ih]

theorem classify_exportLine {k : Bytes} (hk : isShellName k = true) :
    classify (exportLine k) = .export k := by
  have h1 : (exportLine k).takeWhile isNameChar = exportKw := by
    unfold exportLine
    exact takeWhile_append_stop (by decide) (by decide)
  have h2 : (exportLine k).dropWhile isNameChar = space :: k := by
    unfold exportLine
    exact dropWhile_append_stop (by decide) (by decide)
  unfold classify
  simp only [h1, h2]
  have : exportKw ≠ setKw := by decide
  simp [this, hk]

theorem classify_assignLine {k tag : Bytes} (hk : Ident k) (ht : TagOk tag) :
    classify (assignLine k tag) = .assign k tag true := by
  have hkn := ident_all_nameChar hk
  have h1 : (assignLine k tag).takeWhile isNameChar = k := by
    unfold assignLine assignMid
    exact takeWhile_append_stop hkn (by decide)
  have h2 : (assignLine k tag).dropWhile isNameChar
      = eqSign :: ([36, 40, 99, 97, 116, 32, 60, 60] ++ (squote :: (tag ++ [squote]))) := by
    unfold assignLine assignMid
    exact dropWhile_append_stop hkn (by decide)
  have h3 : (tag ++ [squote]).takeWhile isNameChar = tag := takeWhile_append_stop ht.2 (by decide)
  have h4 : (tag ++ [squote]).dropWhile isNameChar = [squote] := dropWhile_append_stop ht.2 (by decide)
  unfold classify
  simp only [h1, h2]
  have e1 : eqSign ≠ space := by decide
  simp only [e1, if_false, if_true, ident_isShellName hk, dropPrefix?_append, h3, h4]
  have : tag.isEmpty = false := by
    cases tag with
    | nil => exact absurd rfl ht.1
    | cons _ _ => rfl
  simp [this]

theorem ident_no_nl {k : Bytes} (h : Ident k) : nl ∉ k :=
  not_mem_of_all (ident_all_nameChar h) (by decide)

theorem tag_no_nl {tag : Bytes} (h : TagOk tag) : nl ∉ tag :=
  not_mem_of_all h.2 (by decide)

theorem assignLine_no_nl {k tag : Bytes} (hk : Ident k) (ht : TagOk tag) : nl ∉ assignLine k tag := by
  unfold assignLine
  simp only [List.mem_append, List.mem_cons, List.not_mem_nil, not_or]
  exact ⟨ident_no_nl hk, by decide, by decide, tag_no_nl ht, by decide, not_false⟩

theorem exportLine_no_nl {k : Bytes} (hk : Ident k) : nl ∉ exportLine k := by
  unfold exportLine
  simp only [List.mem_append, List.mem_cons, not_or]
  exact ⟨by decide, by decide, ident_no_nl hk⟩

theorem splitLines_varBlock {tag : Bytes} {kv : Bytes × Bytes} (hk : Ident kv.1) (ht : TagOk tag) (rest : Bytes) :
    splitLines (varBlock tag kv ++ rest)
      = assignLine kv.1 tag :: (splitLines kv.2 ++ (tag :: rparenLine :: exportLine kv.1 :: splitLines rest)) := by
  unfold varBlock
  simp only [List.append_assoc, List.cons_append, List.nil_append]
  rw [splitLines_line (assignLine_no_nl hk ht), splitLines_append_nl, splitLines_line (tag_no_nl ht),
    splitLines_line (by decide : nl ∉ rparenLine), splitLines_line (exportLine_no_nl hk)]

theorem splitLines_header (rest : Bytes) :
    splitLines (header ++ rest) = [] :: (setKw ++ space :: dashE) :: (setKw ++ space :: plusX) :: splitLines rest :=
  rfl

theorem go_body (d : Dialect) (k tag : Bytes) (q : Bool) (st : State) (rest : List Bytes) :
    ∀ (ls acc : List Bytes), tag ∉ ls →
      go d (.body k tag q acc) st (ls ++ tag :: rest)
        = go d (.close k q (acc ++ ls.map (fixLine d tag))) st rest := by
  intro ls
  induction ls with
  | nil => intro acc _; simp [go]
  | cons l ls ih =>
    intro acc h
    have hl : l ≠ tag := fun e => h (by simp [e])
    have hls : tag ∉ ls := fun m => h (by simp [m])
    simp only [List.cons_append, go, hl, if_false]
    rw [ih _ hls]
    simp

theorem heredocValue_quoted {v : Bytes} (st : State) (h0 : (0 : Byte) ∉ v) :
    heredocValue st true (splitLines v) = some (stripTrailingNewlines v) := by
  have hmem : (0 : Byte) ∉ catLines (splitLines v) := by
    rw [catLines_splitLines]
    simp only [List.mem_append, List.mem_cons, List.not_mem_nil, or_false, not_or]
    exact ⟨h0, by decide⟩
  simp [heredocValue, hmem, strip_cat_split]

/-- what the mini-shell of dialect `d` needs of one variable to deliver it from its block -/
structure Deliverable (d : Dialect) (tag : Bytes) (kv : Bytes × Bytes) : Prop where
  ident : Ident kv.1
  free : kv.1 ∉ reserved
  tagFree : tag ∉ splitLines kv.2
  noNul : (0 : Byte) ∉ kv.2
  kept : ∀ l ∈ splitLines kv.2, fixLine d tag l = l

theorem go_varBlock (d : Dialect) {tag : Bytes} {kv : Bytes × Bytes} (st : State) (rest : Bytes)
    (ht : TagOk tag) (h : Deliverable d tag kv) :
    go d .normal st (splitLines (varBlock tag kv ++ rest)) = go d .normal (st.deliver kv) (splitLines rest) := by
  rw [splitLines_varBlock h.ident ht]
  have hres : reserved.contains kv.1 = false := by
    simpa using h.free
  -- the assignment line, then the value's lines up to the tag
  simp only [go, classify_assignLine h.ident ht]
  rw [go_body d _ _ _ _ _ _ _ h.tagFree, List.map_congr_left h.kept, List.map_id']
  -- the `)` line assigns, the `export` line exports
  simp only [List.nil_append, go, if_true, hres, heredocValue_quoted st h.noNul,
    classify_exportLine (ident_isShellName h.ident)]
  rfl

theorem go_blocks (d : Dialect) {tag : Bytes} (ht : TagOk tag) :
    ∀ (envs : Env) (st : State) (rest : Bytes), (∀ kv ∈ envs, Deliverable d tag kv) →
      go d .normal st (splitLines (blocks tag envs ++ rest))
        = go d .normal (st.deliverAll envs) (splitLines rest) := by
  intro envs
  induction envs with
  | nil => intro st rest _; rfl
  | cons kv envs ih =>
    intro st rest h
    rw [blocks, List.append_assoc, go_varBlock d st _ ht (h kv List.mem_cons_self)]
    exact ih _ _ fun x hx => h x (List.mem_cons_of_mem _ hx)

theorem go_header (d : Dialect) (st : State) (rest : Bytes) :
    go d .normal st (splitLines (header ++ rest)) = go d .normal st.afterHeader (splitLines rest) := by
  rw [splitLines_header]
  simp only [go, classify_blank, classify_setE, classify_setPlusX]
  rfl

theorem sh_prefix (d : Dialect) {tag : Bytes} (envs : Env) (st : State) (rest : Bytes)
    (ht : TagOk tag) (hv : ValidKeys envs) (hf : TagFree tag envs) (h0 : NoNul envs)
    (hs : ∀ kv ∈ envs, ∀ l ∈ splitLines kv.2, fixLine d tag l = l) :
    sh d st (header ++ (blocks tag envs ++ rest)) = sh d (st.afterHeader.deliverAll envs) rest := by
  unfold sh
  rw [go_header, go_blocks d ht envs _ _ fun kv hkv => ⟨(hv kv hkv).1, (hv kv hkv).2, hf kv hkv, h0 kv hkv, hs kv hkv⟩]

theorem sh_nil (d : Dialect) (st : State) : sh d st [] = .stop st [] := rfl

theorem get_assign_same (st : State) (k v : Bytes) : (st.assign k v).get k = some v := by
  simp [State.get, State.assign]

theorem find?_filter_ne (l : Env) (k k' : Bytes) (h : k' ≠ k) :
    (l.filter (fun kv => kv.1 != k)).find? (fun kv => kv.1 == k') = l.find? (fun kv => kv.1 == k') := by
  rw [List.find?_filter]
  congr 1
  funext kv
  cases e : kv.1 == k'
  · exact decide_eq_false fun h => nomatch h.2
  · exact decide_eq_true ⟨bne_iff_ne.mpr (eq_of_beq e ▸ h), rfl⟩

theorem get_assign_other (st : State) (k k' v : Bytes) (h : k' ≠ k) : (st.assign k v).get k' = st.get k' := by
  have h2 : ((k, v).1 == k') = false := by
    simp only [beq_eq_false_iff_ne, ne_eq]
    exact fun e => h e.symm
  simp only [State.get, State.assign, List.find?, h2]
  rw [find?_filter_ne _ _ _ h]

theorem get_export (st : State) (k k' : Bytes) : (st.export k).get k' = st.get k' := rfl

theorem exported_export_self (st : State) (k : Bytes) : (st.export k).exported.contains k = true := by
  simp only [State.export]
  split
  · assumption
  · simp

theorem exported_export_mono (st : State) (k k' : Bytes) (h : st.exported.contains k' = true) :
    (st.export k).exported.contains k' = true := by
  simp only [State.export]
  split
  · exact h
  · rw [List.contains_cons, h, Bool.or_true]

theorem exported_export_other (st : State) (k k' : Bytes) (h : k' ≠ k) :
    (st.export k).exported.contains k' = st.exported.contains k' := by
  simp only [State.export]
  split
  · rfl
  · simp [h]

theorem exported_assign (st : State) (k v : Bytes) : (st.assign k v).exported = st.exported := rfl

theorem deliver_self (st : State) (kv : Bytes × Bytes) :
    (st.deliver kv).get kv.1 = some (stripTrailingNewlines kv.2) ∧ (st.deliver kv).exported.contains kv.1 = true :=
  ⟨get_assign_same _ _ _, exported_export_self _ _⟩

theorem deliver_other (st : State) (kv : Bytes × Bytes) {k' : Bytes} (h : k' ≠ kv.1) :
    (st.deliver kv).get k' = st.get k' ∧ (st.deliver kv).exported.contains k' = st.exported.contains k' :=
  ⟨get_assign_other _ _ _ _ h, exported_export_other _ _ _ h⟩

theorem deliverAll_get_other (envs : Env) : ∀ (st : State) (k' : Bytes), (∀ kv ∈ envs, kv.1 ≠ k') →
    (st.deliverAll envs).get k' = st.get k' ∧
    (st.deliverAll envs).exported.contains k' = st.exported.contains k' := by
  induction envs with
  | nil => intro st k' _; exact ⟨rfl, rfl⟩
  | cons kv envs ih =>
    intro st k' h
    have h1 := deliver_other st kv (h kv List.mem_cons_self).symm
    have h2 := ih (st.deliver kv) k' fun x hx => h x (List.mem_cons_of_mem _ hx)
    exact ⟨h2.1.trans h1.1, h2.2.trans h1.2⟩

theorem deliverAll_environ (envs : Env) : ∀ (st : State), (envs.map (·.1)).Nodup →
    ∀ kv ∈ envs, (st.deliverAll envs).environ kv.1 = some (stripTrailingNewlines kv.2) := by
  induction envs with
  | nil => intro _ _ _ h; cases h
  | cons a envs ih =>
    intro st hnd kv hkv
    have hnd := List.nodup_cons.mp hnd
    rcases List.mem_cons.mp hkv with rfl | h
    · -- the later blocks set other names
      have h2 := deliverAll_get_other envs (st.deliver kv) kv.1 fun x hx e =>
        hnd.1 (List.mem_map.mpr ⟨x, hx, e⟩)
      have h1 := deliver_self st kv
      rw [State.deliverAll, State.environ, h2.1, h2.2, h1.1, h1.2, if_pos rfl]
    · exact ih _ hnd.2 kv h

theorem dashLineAux_ascii : ∀ (l t : Bytes) (m : Bool), (∀ b ∈ l, b < 128) → dashLineAux l t m = l := by
  intro l
  induction l with
  | nil => intro t m _; cases t <;> rfl
  | cons c r ih =>
    intro t m h
    have hc : ¬ (c ≥ 128) := by
      have := h c (by simp)
      exact UInt8.not_le.mpr this
    have hr : ∀ b ∈ r, b < 128 := fun b hb => h b (by simp [hb])
    cases t with
    | nil => simp [dashLineAux, hc]
    | cons t ts =>
      simp only [dashLineAux]
      split
      · rw [ih _ _ hr]
      · simp [hc]

theorem dashLine_ascii (tag l : Bytes) (h : ∀ b ∈ l, b < 128) : dashLine tag l = l :=
  dashLineAux_ascii l tag false h

theorem dashLine_head_ne (tag l : Bytes) (h : l.head? ≠ tag.head? ∨ tag = []) : dashLine tag l = l := by
  unfold dashLine
  cases l with
  | nil => cases tag <;> rfl
  | cons c r =>
    cases tag with
    | nil => simp [dashLineAux]
    | cons t ts =>
      have : c ≠ t := by
        cases h with
        | inl h => intro e; apply h; simp [e]
        | inr h => cases h
      simp [dashLineAux, this]

end Goat.EnvScript
