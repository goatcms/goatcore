/-
`get_or_create_once`: the invariant behind "all callers of the lock / Value / create-if-nil / SetValue /
Commit idiom obtain the same instance".
-/
import Goat.Proofs.DataScopeLTS

namespace Goat.DataScope

def Agree (c : Key) (s : Nat) (ss ss' : Scopes) : Prop :=
  (∀ q, value ss' q c = value ss q c) ∧ dataGet ss' s c = dataGet ss s c

theorem Agree.refl (c : Key) (s : Nat) (ss : Scopes) : Agree c s ss ss := ⟨fun _ => rfl, rfl⟩

theorem Agree_setHeld (c : Key) (s : Nat) (ss : Scopes) (x : Nat) (b : Bool) : Agree c s ss (setHeld ss x b) :=
  ⟨fun q => value_setHeld ss x q b c, dataGet_setHeld ss x s b c⟩

theorem Agree_dataSet_other (c : Key) (s : Nat) (ss : Scopes) (x : Nat) (k : Key) (v : Val) (hk : c ≠ k) :
    Agree c s ss (dataSet ss x k v) :=
  ⟨fun q => value_dataSet_other_key ss x q k c v hk, dataGet_dataSet_other ss x s k c v (Or.inr hk)⟩

/-- where a thread of the get-or-create scenario can be -/
inductive GPhase (ss : Scopes) (s : Nat) (c : Key) : Bool → Thread → Prop where
  | noise {th : Thread} (hl : th.lks = []) (hp : isKeyNoise c th.prog = true) : GPhase ss s c false th
  | idle {th : Thread} (hp : th.prog = getOrCreate s c) (hl : th.lks = []) (hw : th.walk = none) : GPhase ss s c true th
  | locked {th : Thread} (hp : th.prog = [.lget c, .lcreate c, .commit]) (hl : th.lks = [s]) (hw : th.walk = none) :
      GPhase ss s c true th
  | walking {th : Thread} (p : Nat) (hp : th.prog = [.lcreate c, .commit]) (hl : th.lks = [s])
      (hw : th.walk = some (p, c)) (hval : value ss p c = value ss s c) : GPhase ss s c true th
  | read {th : Thread} (hp : th.prog = [.lcreate c, .commit]) (hl : th.lks = [s]) (hw : th.walk = none)
      (hr : th.reg = value ss s c) : GPhase ss s c true th
  | created {th : Thread} (hp : th.prog = [.commit]) (hl : th.lks = [s]) (hw : th.walk = none)
      (hr : th.reg = value ss s c) (hne : th.reg ≠ none) : GPhase ss s c true th
  | done {th : Thread} (hp : th.prog = []) (hl : th.lks = []) (hw : th.walk = none)
      (hr : th.reg = value ss s c) (hne : th.reg ≠ none) : GPhase ss s c true th

theorem GPhase.change {ss ss' : Scopes} {s : Nat} {c : Key} {r : Bool} {th : Thread}
    (h : GPhase ss s c r th) (ha : Agree c s ss ss') : GPhase ss' s c r th := by
  cases h with
  | noise hl hp => exact .noise hl hp
  | idle hp hl hw => exact .idle hp hl hw
  | locked hp hl hw => exact .locked hp hl hw
  | walking p hp hl hw hval => exact .walking p hp hl hw (by rw [ha.1, ha.1]; exact hval)
  | read hp hl hw hr => exact .read hp hl hw (by rw [ha.1]; exact hr)
  | created hp hl hw hr hne => exact .created hp hl hw (by rw [ha.1]; exact hr) hne
  | done hp hl hw hr hne => exact .done hp hl hw (by rw [ha.1]; exact hr) hne

/-- `role i`: caller of the idiom or plain traffic; `f0`: the instance counter at the start.  `once` is "at most
one instance": nothing was created yet, or exactly one was and `s` now resolves to non-nil, which is why every
later caller reads non-nil and creates nothing -/
structure GInv (s : Nat) (c : Key) (role : Nat → Bool) (f0 : Nat) (st : St) : Prop where
  wf : WF st.scopes
  slt : s < st.scopes.length
  lock : LockInv st
  phase : ∀ (i : Nat) (th : Thread), st.threads[i]? = some th → GPhase st.scopes s c (role i) th
  once : st.fresh = f0 ∨ (st.fresh = f0 + 1 ∧ value st.scopes s c ≠ none)

theorem GPhase.afterRead {ss : Scopes} {s : Nat} {c : Key} (hwf : WF ss) {th : Thread} {x : Nat}
    (hp : th.prog = [.lcreate c, .commit]) (hl : th.lks = [s]) (hval : value ss x c = value ss s c) :
    GPhase ss s c true (afterRead th c (readLevel ss x c)) := by
  rw [value_unfold hwf x c] at hval
  cases hr : readLevel ss x c with
  | hit v | bottom => exact .read hp hl rfl (by rw [← hval, hr]; rfl)
  | up q => exact .walking q hp hl rfl (by rw [← hval, hr])

/-- either every `Value(c)` is answered as before, or the thread is the caller that holds `s`, found nil, and has
now created the instance -/
theorem GPhase.step {s : Nat} {c : Key} {r : Bool} {st t : St} {i : Nat} {th : Thread}
    (hwf : WF st.scopes) (hslt : s < st.scopes.length)
    (hph : GPhase st.scopes s c r th) (hrel : StepRel st i th t) :
    ∃ th', t.threads = st.threads.set i th' ∧ GPhase t.scopes s c r th' ∧
      ((Agree c s st.scopes t.scopes ∧ t.fresh = st.fresh) ∨
       (s ∈ th.lks ∧ value st.scopes s c = none ∧ t.fresh = st.fresh + 1 ∧ value t.scopes s c ≠ none)) := by
  obtain ⟨prog, lks, reg, walk⟩ := th
  cases hph with
  | noise hl hn =>
    obtain ⟨th', ht, hl', hf, hn', hsc⟩ := plain_step keyNoiseOK_plain hl hn hrel
    refine ⟨th', ht, .noise hl' hn', Or.inl ⟨?_, hf⟩⟩
    rcases hsc with hsc | ⟨s', k, v, hok, hsc⟩
    · rw [hsc]; exact Agree.refl ..
    · -- the write is a `SetValue` of the program, which is not one of key `c`
      simp only [keyNoiseOK, Bool.not_eq_true', beq_eq_false_iff_ne] at hok
      rw [hsc]; exact Agree_dataSet_other c s _ _ _ _ (Ne.symm hok)
  | idle hp hl hw =>
    cases hp; cases hl; cases hw; cases hrel
    exact ⟨_, rfl, .locked rfl rfl rfl, Or.inl ⟨Agree_setHeld .., rfl⟩⟩
  | locked hp hl hw =>
    cases hp; cases hl; cases hw; cases hrel
    exact ⟨_, rfl, GPhase.afterRead hwf rfl rfl rfl, Or.inl ⟨Agree.refl .., rfl⟩⟩
  | walking p hp hl hw hval =>
    cases hp; cases hl; cases hw; cases hrel
    exact ⟨_, rfl, GPhase.afterRead hwf rfl rfl hval, Or.inl ⟨Agree.refl .., rfl⟩⟩
  | read hp hl hw hr =>
    cases hp; cases hl; cases hw; cases hrel with
    | lcreateSome => exact ⟨_, rfl, .created rfl rfl rfl hr (by simp), Or.inl ⟨Agree.refl .., rfl⟩⟩
    | lcreateNone =>
      have hnew : value (dataSet st.scopes s c (some st.fresh)) s c = some st.fresh :=
        value_dataSet_same s c _ hslt
      exact ⟨_, rfl, .created rfl rfl rfl hnew.symm (by simp),
        Or.inr ⟨List.mem_cons_self, hr.symm, rfl, by simp [setThread, hnew]⟩⟩
  | created hp hl hw hr hne =>
    cases hp; cases hl; cases hw; cases hrel
    exact ⟨_, rfl, .done rfl rfl rfl (hr.trans (value_setHeld ..).symm) hne, Or.inl ⟨Agree_setHeld .., rfl⟩⟩
  | done hp hl hw hr hne =>
    cases hp; cases hw; cases hrel

theorem GInv_step {s : Nat} {c : Key} {role : Nat → Bool} {f0 : Nat} {st t : St} {i : Nat}
    (hinv : GInv s c role f0 st) (hs : step st i = some t) : GInv s c role f0 t := by
  obtain ⟨th, hth, hrel⟩ := step_rel hs
  obtain ⟨th', ht, hph', hcase⟩ := GPhase.step hinv.wf hinv.slt (hinv.phase i th hth) hrel
  refine ⟨(step_keeps hs).2 hinv.wf, (step_keeps hs).1 ▸ hinv.slt, LockInv_step hinv.lock hs, ?_, ?_⟩
  · intro j x hj
    rcases getElem?_set_cases (ht ▸ hj) with ⟨rfl, rfl⟩ | ⟨hji, hj'⟩
    · exact hph'
    · have old := hinv.phase j x hj'
      rcases hcase with ⟨ha, -⟩ | ⟨hmem, hnil, -, -⟩
      · exact old.change ha
      · -- the caller creates: nobody else holds the lock, and nobody has returned yet
        have notmine : s ∉ x.lks := fun hx => hji (hinv.lock.uniq j i s (mem_lksOf hj' hx) (mem_lksOf hth hmem))
        generalize role j = r at old ⊢
        cases old with
        | noise hl hp => exact .noise hl hp
        | idle hp hl hw => exact .idle hp hl hw
        | locked hp hl hw | walking p hp hl hw hval | read hp hl hw hr | created hp hl hw hr hne' =>
          exact absurd (hl ▸ List.mem_cons_self) notmine
        | done hp hl hw hr hne' => rw [hnil] at hr; exact absurd hr hne'
  · rcases hcase with ⟨ha, hf⟩ | ⟨-, hnil, hf, hne⟩
    · rw [hf, ha.1]; exact hinv.once
    · rcases hinv.once with h0 | ⟨_, h1⟩
      · exact Or.inr ⟨by rw [hf, h0], hne⟩
      · exact absurd hnil h1

theorem GInv_run {ss : Scopes} {s : Nat} {c : Key} {n fresh : Nat} {others : List (List Instr)}
    (hwf : WF ss) (hs : s < ss.length) (hn : ∀ p ∈ others, isKeyNoise c p = true) (sched : List Nat) :
    GInv s c (fun i => decide (i < n)) fresh ((sys (initSt ss n (getOrCreate s c) others fresh)).run sched) :=
  LTS.inv_run (sys _) _
    ⟨hwf, hs, LockInv_init (initSt_lks _ _ _ _ _),
      initSt_forall (P := GPhase ss s c) (.idle rfl rfl rfl) fun p hp => .noise rfl (hn p hp), Or.inl rfl⟩
    (fun _ _ _ hinv h => GInv_step hinv h) sched

theorem GInv_done {s : Nat} {c : Key} {role : Nat → Bool} {f0 : Nat} {st : St} (hinv : GInv s c role f0 st)
    {i : Nat} {th : Thread} (hi : role i = true) (hth : st.threads[i]? = some th) (hp : th.prog = []) :
    th.reg = value st.scopes s c ∧ th.reg ≠ none := by
  have := hinv.phase i th hth
  rw [hi] at this
  cases this with
  | idle hp' hl hw => rw [hp] at hp'; simp [getOrCreate] at hp'
  | locked hp' hl hw | walking p hp' hl hw hval | read hp' hl hw hr | created hp' hl hw hr hne =>
    rw [hp] at hp'; cases hp'
  | done hp' hl hw hr hne => exact ⟨hr, hne⟩

end Goat.DataScope
