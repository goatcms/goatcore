/-
One call through any handle (root filespace or child view) refines `FS.Step`: the root filespace method by method
(`step_root`, from the `root_*` lemmas); a child view (`wraper.go`) prefixes the paths and calls the root filespace
(`step_wrap`), so it is one prefixing layer of `Proofs/ViewsStack`, and what such a layer hands down is the same call
rooted deeper (`Views.prefixOp_step`).
-/
import Goat.Proofs.MemFSOps
import Goat.Proofs.MemFSCopy
import Goat.Proofs.ViewsStack

namespace Goat
namespace MemFS

open Path (Name split join reduceAbsPath norm Reduced Plain NoSlash dotSeg slash)
open FS (Entry State Result Mut CopyKind Op)
open MemAbs

/-- `ViewOK ref b`: the handle `ref` is a view rooted at the reduced path `b` (`[]` for the root
filespace; a wrapper's `basePath` is `join b ++ "/"`) -/
def ViewOK : FSRef → List Name → Prop
  | .root, b => b = []
  | .wrap base, b => Reduced b ∧ base = join b ++ [slash]

theorem ViewOK.reduced {ref : FSRef} {b : List Name} (h : ViewOK ref b) : Reduced b := by
  cases ref with
  | root => simp only [ViewOK] at h; subst h; exact Reduced.nil
  | wrap base => exact h.1

/-- the real names of a raw path: the segments of its normal form (none if it climbs) -/
def segsOf (raw : Bytes) : List Name := (norm raw).getD []

theorem segsOf_literal (raw : Bytes) (s : Name) (h : s ∈ segsOf raw) : Plain s ∧ s ∈ split raw := by
  cases hn : norm raw with
  | none => simp [segsOf, hn] at h
  | some q => exact (Path.norm_mem raw q hn s (by simpa [segsOf, hn] using h)).symm

/-- the path arguments of a call, in order -/
def opPaths : Op → List Bytes
  | .copy s d => [s, d]
  | .copyDirectory s d => [s, d]
  | .copyFile s d => [s, d]
  | .readDir p => [p]
  | .isExist p => [p]
  | .isFile p => [p]
  | .isDir p => [p]
  | .mkdirAll p => [p]
  | .readFile p => [p]
  | .writeFile p _ => [p]
  | .filespace p => [p]
  | .reader p _ => [p]
  | .writer p _ => [p]
  | .remove p => [p]
  | .removeAll p => [p]
  | .lstat p => [p]

/-- every real name a call supplies: those of its path argument, for the copies of the destination only (the names
of the copied subtree are names of the tree already) -/
def opSegs (op : Op) : List Name := segsOf ((opPaths op).getLast?.getD [])

theorem opSegs_sub (op : Op) (s : Name) (h : s ∈ opSegs op) : ∃ raw ∈ opPaths op, s ∈ segsOf raw := by
  unfold opSegs at h
  cases hl : (opPaths op).getLast? with
  | none => rw [hl] at h; cases h
  | some raw => exact ⟨raw, List.mem_of_getLast? hl, by rwa [hl] at h⟩

theorem opSegs_plain (op : Op) : ∀ s ∈ opSegs op, Plain s := fun s hs =>
  let ⟨raw, _, h⟩ := opSegs_sub op s hs
  (segsOf_literal raw s h).1

theorem openView_some (ref : FSRef) (b : List Name) (hv : ViewOK ref b) (raw : Bytes) (q : List Name)
    (hn : norm raw = some q) : ∃ v, openView ref raw = some v ∧ ViewOK v (b ++ q) := by
  have hq := Path.norm_reduced raw q hn
  cases ref with
  | root =>
    simp only [ViewOK] at hv; subst hv
    refine ⟨.wrap (join q ++ [slash]), by simp [openView, newWrapper, reduceAbsPath_of_norm hn], ?_⟩
    exact ⟨by simpa using hq, by simp⟩
  | wrap base =>
    obtain ⟨hb, rfl⟩ := hv
    have hn' : norm (join b ++ slash :: join q) = some (b ++ q) := Path.norm_base_join b q hb hq
    refine ⟨.wrap (join (b ++ q) ++ [slash]), ?_, hb.append hq, rfl⟩
    simp [openView, newWrapper, reduceAbsPath_of_norm hn, reduceAbsPath_of_norm hn']

theorem openView_none (ref : FSRef) (raw : Bytes) (hn : norm raw = none) : openView ref raw = none := by
  cases ref <;> simp [openView, newWrapper, reduceAbsPath_none hn]

/-- the outcome of a call `op` through a view rooted at `b`: its clause of `FS.Step`; the names it may add are the
view's root and those it supplies -/
def Ref (b : List Name) (t : Node) (op : Op) (r : Node × Result) : Prop :=
  Outcome (FS.Step b (abs t) op) t (b ++ opSegs op) r

theorem Ref.same {b : List Name} {t : Node} (ht : Inv t) {op : Op} {r : Result}
    (h : FS.Step b (abs t) op r (abs t)) : Ref b t op (t, r) := ⟨h, Keeps.refl ht _, fun _ => rfl⟩

theorem step_filespace (ref : FSRef) (b : List Name) (hv : ViewOK ref b) {t : Node} (ht : Inv t) (raw : Bytes) :
    Ref b t (.filespace raw) (step ref t (.filespace raw)) := by
  rw [show step ref t (.filespace raw) = (t, if (openView ref raw).isSome then .ok else .err) by cases ref <;> rfl]
  refine Ref.same (op := .filespace raw) ht ⟨rfl, ?_⟩
  cases hn : norm raw with
  | none => simp [openView_none ref raw hn]
  | some q => obtain ⟨v, hv', _⟩ := openView_some ref b hv raw q hn; simp [hv']

section Root
variable {t : Node} (ht : Inv t)
include ht

/-- the clause `FS.Step []` has for a one-path mutating method (at each use the statement unfolds to
`Ref [] t op call`), from its `root_*` lemma and the climbing case -/
theorem root_mut (raw : Bytes) (call : Node × Result) {pre : List Name → Prop} {post : List Name → State}
    (hclimb : norm raw = none → call = (t, .err))
    (hroot : ∀ p, norm raw = some p → MutOK (pre p) (post p) t p call) :
    Outcome (fun r S' => match norm raw with
      | none => r = .err ∧ S' = abs t
      | some p => Mut (pre p) (post p) (abs t) r S') t (segsOf raw) call := by
  cases hn : norm raw with
  | none => rw [hclimb hn]; exact ⟨⟨rfl, rfl⟩, Keeps.refl ht _, fun _ => rfl⟩
  | some p => simpa [segsOf, hn] using hroot p hn

theorem root_rd (op : Op) (raw : Bytes) (h : op.readPath = some raw) : Ref [] t op (step .root t op) := by
  have e : step .root t op = (t, (step .root t op).2) := by cases op <;> cases h <;> rfl
  rw [e]
  exact Ref.same ht ((FS.Step_read [] _ _ op _ raw h).mpr ⟨rfl, by simpa using root_read t ht op raw h⟩)

theorem root_copy (kind : CopyKind) (rs rd : Bytes) :
    Outcome (fun r S' => match norm rs, norm rd with
      | some s, some d => Mut (FS.copyOk kind (abs t) s d) (FS.copySt (abs t) s d) (abs t) r S'
      | _, _ => r = .err ∧ S' = abs t) t (segsOf rd) (Root.copyWith (acceptOf kind) t rs rd) := by
  cases hs : norm rs with
  | none => rw [copyWith_none _ t rs rd (.inl hs)]; exact ⟨⟨rfl, rfl⟩, Keeps.refl ht _, fun _ => rfl⟩
  | some s =>
    cases hd : norm rd with
    | none => rw [copyWith_none _ t rs rd (.inr hd)]; exact ⟨⟨rfl, rfl⟩, Keeps.refl ht _, fun _ => rfl⟩
    | some d => simpa [segsOf, hd] using root_copyWith kind t ht rs rd s d hs hd

theorem step_root (op : Op) : Ref [] t op (step .root t op) := by
  cases op with
  | mkdirAll raw =>
    exact root_mut ht raw _ (fun h => by simp [step, Root.mkdirAll, reduceAbsPath_none h]) (root_mkdirAll t ht raw)
  | writeFile raw data =>
    exact root_mut ht raw _ (fun h => by simp [step, Root.writeFile, reduceAbsPath_none h]) (root_writeFile t ht raw data)
  | writer raw chunks =>
    exact root_mut ht raw _ (fun h => by simp [step, Root.writer, Root.openWriter, reduceAbsPath_none h])
      (root_writer t ht raw chunks)
  -- `FS.Step` repeats "not the root" in front of `removeOk`/`removeAllOk`, which say it themselves
  | remove raw =>
    exact root_mut ht raw _ (fun h => by simp [step, Root.remove, reduceAbsPath_none h])
      (fun p hn => have h := root_remove t ht raw p hn
        ⟨h.spec.congr_pre (and_iff_right_of_imp (·.1)).symm, h.keeps.mono (by simp), h.err_same⟩)
  | removeAll raw =>
    exact root_mut ht raw _ (fun h => by simp [step, Root.removeAll, reduceAbsPath_none h])
      (fun p hn => have h := root_removeAll t ht raw p hn
        ⟨h.spec.congr_pre (and_iff_right_of_imp (·.1)).symm, h.keeps.mono (by simp), h.err_same⟩)
  | copy rs rd => exact root_copy ht .any rs rd
  | copyDirectory rs rd => exact root_copy ht .dirOnly rs rd
  | copyFile rs rd => exact root_copy ht .fileOnly rs rd
  | filespace raw => exact step_filespace .root [] rfl ht raw
  | _ => exact root_rd ht _ _ rfl

end Root

section Wrap
open Views (prefixOp rebase rebase2 rebaseNonRoot failResult NotFilespace op_cases OnePath NonRoot TwoPath)

theorem step_on1 {k : Bytes → Op} (hk : OnePath k) (b p : Bytes) (t : Node) :
    step (.wrap b) t (k p) = Wrap.on1 b p (failResult (k p)) (fun x => step .root t (k x)) t := by
  cases hk <;> rfl

theorem step_on2 {k : Bytes → Bytes → Op} (hk : TwoPath k) (b s d : Bytes) (t : Node) :
    step (.wrap b) t (k s d) = Wrap.on2 b s d (fun x y => step .root t (k x y)) t := by
  cases hk <;> rfl

theorem step_nonRoot {k : Bytes → Op} (hk : NonRoot k) (b p : Bytes) (t : Node) :
    step (.wrap b) t (k p) = match reduceAbsPath p with
      | none => (t, .err)
      | some j => if j = [] then (t, .err) else step .root t (k (b ++ j)) := by
  cases hk <;> rfl

theorem step_wrap (base : Bytes) (t : Node) (op : Op) (hop : NotFilespace op) :
    step (.wrap base) t op = match prefixOp base op with
      | none => (t, failResult op)
      | some op' => step .root t op' := by
  rcases op_cases op with ⟨k, p, hk, rfl⟩ | ⟨k, p, hk, rfl⟩ | ⟨k, s, d, hk, rfl⟩ | ⟨raw, rfl⟩
  -- both sides are the same `match` on `reduceAbsPath` of the argument(s), once `step` and `prefixOp` show their shape
  · rw [step_on1 hk, hk.down]; unfold Wrap.on1 rebase; cases reduceAbsPath p <;> rfl
  · rw [step_nonRoot hk, hk.down, show failResult (k p) = Result.err by cases hk <;> rfl]; unfold rebaseNonRoot
    cases reduceAbsPath p with
    | none => rfl
    | some j => by_cases e : j = [] <;> simp only [e, if_true, if_false] <;> rfl
  · rw [step_on2 hk, hk.down, show failResult (k s d) = Result.err by cases hk <;> rfl]
    unfold Wrap.on2 rebase2 rebase; cases reduceAbsPath s <;> cases reduceAbsPath d <;> rfl
  · exact absurd rfl (hop raw)

theorem opPaths_eq : opPaths = Views.opArgs := by funext op; cases op <;> rfl

theorem prefixOp_segs {b : List Name} (hb : Reduced b) {op op' : Op}
    (h : prefixOp (join b ++ [slash]) op = some op') : opSegs op' = b ++ opSegs op := by
  have seg : ∀ {raw : Bytes} {q : List Name}, norm raw = some q →
      segsOf (join b ++ [slash] ++ join q) = b ++ segsOf raw := fun hn => by
    unfold segsOf; rw [Views.norm_prefixed (join b) hn, Path.norm_join b hb, hn]; rfl
  unfold opSegs
  rw [opPaths_eq]
  rcases op_cases op with ⟨k, p, hk, rfl⟩ | ⟨k, p, hk, rfl⟩ | ⟨k, s, d, hk, rfl⟩ | ⟨raw, rfl⟩
  · rw [hk.down, Views.rebase_eq, Option.map_eq_some_iff] at h
    obtain ⟨x, hx, rfl⟩ := h
    obtain ⟨q, hn, rfl⟩ := Option.map_eq_some_iff.mp hx
    rw [hk.args, hk.args]; exact seg hn
  · rw [hk.down, Views.rebaseNonRoot_eq, Option.map_eq_some_iff] at h
    obtain ⟨x, hx, rfl⟩ := h
    obtain ⟨q, hn, hx⟩ := Option.bind_eq_some_iff.mp hx
    split at hx
    · cases hx
    · cases hx; rw [hk.args, hk.args]; exact seg hn
  · rw [hk.down, Views.rebase2_eq] at h
    obtain ⟨ps, _, h⟩ := Option.bind_eq_some_iff.mp h
    obtain ⟨pd, hnd, rfl⟩ := Option.map_eq_some_iff.mp h
    rw [hk.args, hk.args]; exact seg hnd
  · simp [prefixOp] at h

theorem step_refines (ref : FSRef) (b : List Name) (hv : ViewOK ref b) (t : Node) (ht : Inv t) (op : Op) :
    Ref b t op (step ref t op) := by
  by_cases hop : NotFilespace op
  · cases ref with
    | root => cases hv; exact step_root ht op
    | wrap base =>
      obtain ⟨hb, rfl⟩ := hv
      rw [step_wrap _ t op hop]
      cases h : prefixOp (join b ++ [slash]) op with
      | none => exact Ref.same ht (Views.prefixOp_refused _ op hop h b (abs t))
      | some op' =>
        have R := step_root ht op'
        refine ⟨?_, ?_, R.err_same⟩
        -- `Down.live` at the outer root `[]`: the call `op'` handed down, rooted at `[]`, is `op` rooted at `[] ++ b`
        · simpa using ((Views.prefixOp_step (join b) op op' h).live b (Path.norm_join b hb) [] _ _ _).mp R.spec
        · rw [← prefixOp_segs hb h]; exact R.keeps
  · obtain ⟨raw, rfl⟩ : ∃ raw, op = .filespace raw := by
      cases op <;> first | exact ⟨_, rfl⟩ | exact absurd (fun _ e => by cases e) hop
    exact step_filespace ref b hv ht raw

end Wrap

theorem step_inv (ref : FSRef) (b : List Name) (hv : ViewOK ref b) (t : Node) (ht : Inv t) (op : Op) :
    Inv (step ref t op).1 :=
  (step_refines ref b hv t ht op).keeps.inv ht fun s hs => by
    rcases List.mem_append.mp hs with h | h
    · exact (hv.reduced s h).1
    · exact opSegs_plain op s h

end MemFS
end Goat
