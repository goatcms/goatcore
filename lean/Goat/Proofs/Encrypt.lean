/-
The notions `Cipher.Sound`, `Cipher.Invertible` and `deliver` that the statements of `Goat/Props/C05.lean` use.  Both
cipher properties are proved for the raw cipher and preserved by the tag dispatch of `extcfs` for ANY mapping and
default tag; the four write/read path pairs then follow generically.
-/
import Goat.Model.Encrypt

namespace Goat.Enc

@[simp] theorem Res.map_ok {α β : Type} (f : α → β) (v : α) : (Res.ok v).map f = .ok (f v) := rfl
@[simp] theorem Res.map_err {α β : Type} (f : α → β) (k : ErrKind) : (Res.err k : Res α).map f = .err k := rfl
@[simp] theorem Res.map_panic {α β : Type} (f : α → β) : (Res.panic : Res α).map f = .panic := rfl
@[simp] theorem Res.bind_ok {α β : Type} (f : α → Res β) (v : α) : (Res.ok v).bind f = f v := rfl
@[simp] theorem Res.bind_err {α β : Type} (f : α → Res β) (k : ErrKind) : (Res.err k : Res α).bind f = .err k := rfl
@[simp] theorem Res.bind_panic {α β : Type} (f : α → Res β) : (Res.panic : Res α).bind f = .panic := rfl

theorem Res.map_map {α β γ : Type} (f : α → β) (g : β → γ) (r : Res α) : (r.map f).map g = r.map (g ∘ f) := by
  cases r <;> rfl

theorem Res.map_ne_panic {α β : Type} {f : α → β} {r : Res α} (h : r ≠ .panic) : r.map f ≠ .panic := by
  cases r <;> simp_all [Res.map]

theorem Res.map_eq_ok {α β : Type} {f : α → β} {r : Res α} {w : β} (h : r.map f = .ok w) :
    ∃ v, r = .ok v ∧ f v = w := by
  cases r with
  | ok v => exact ⟨v, rfl, by simpa [Res.map] using h⟩
  | err k => simp [Res.map] at h
  | panic => simp [Res.map] at h

theorem sliceTo_ok {d : Bytes} {n : Nat} (h : n ≤ d.length) : sliceTo d n = some (d.take n) := by
  simp [sliceTo, h]

theorem sliceFrom_ok {d : Bytes} {n : Nat} (h : n ≤ d.length) : sliceFrom d n = some (d.drop n) := by
  simp [sliceFrom, h]

theorem readerRead_ok (data : Bytes) (n : Nat) :
    readerRead data n
      = .ok (data.take (min n data.length), (data.drop (min n data.length)).isEmpty,
             data.drop (min n data.length)) := by
  unfold readerRead
  simp only []
  rw [sliceFrom_ok (Nat.min_le_right _ _)]

theorem serve_ok : ∀ (sizes : List Nat) (data : Bytes),
    ∃ cs rest, serve data sizes = .ok (cs, rest) ∧ content cs ++ rest = data
  | [], data => ⟨[], data, rfl, by simp [content]⟩
  | n :: ns, data => by
    obtain ⟨cs, rest, h1, h2⟩ := serve_ok ns (data.drop (min n data.length))
    refine ⟨(data.take (min n data.length), (data.drop (min n data.length)).isEmpty) :: cs, rest, ?_, ?_⟩
    · simp only [serve, readerRead_ok, h1]
    · simp only [content, List.map_cons, List.flatten_cons, List.append_assoc] at h2 ⊢
      rw [h2, List.take_append_drop]

/-- what a successful read of content `d` delivers -/
def deliver (rp : Path2) (d : Bytes) (sizes : List Nat) : Res (List (Bytes × Bool)) :=
  match rp with
  | .whole => .ok [(d, true)]
  | .stream => (serve d sizes).map fun (cs, rest) => cs ++ [(rest, true)]

theorem deliver_ok (rp : Path2) (d : Bytes) (sizes : List Nat) :
    ∃ cs, deliver rp d sizes = .ok cs ∧ content cs = d := by
  cases rp with
  | whole => exact ⟨[(d, true)], rfl, by simp [content]⟩
  | stream =>
    obtain ⟨cs, rest, h1, h2⟩ := serve_ok sizes d
    refine ⟨cs ++ [(rest, true)], by simp [deliver, h1], ?_⟩
    simpa [content] using h2

theorem toyAEAD_lawful : toyAEAD.Lawful where
  open_seal := by
    intro k n p _
    have hlen : (p ++ toyTag k n p).length = p.length + 4 := List.length_append
    simp [toyAEAD, hlen]
  len_seal := fun _ _ _ => List.length_append

theorem tagBytes_length (t : UInt32) : (tagBytes t).length = 4 := rfl

theorem le32_digits {n : Nat} (h : n < 4294967296) :
    n % 256 + 256 * (n / 256 % 256) + 65536 * (n / 65536 % 256) + 16777216 * (n / 16777216 % 256) = n := by
  omega

theorem tagOf_tagBytes (t : UInt32) : tagOf (tagBytes t) = some t := by
  simp only [tagBytes, tagOf, UInt8.toNat_ofNat', Nat.mod_mod]
  rw [le32_digits t.toNat_lt]
  exact congrArg some UInt32.ofNat_toNat

theorem tagOf_of_length {p : Bytes} (h : 4 ≤ p.length) : ∃ t, tagOf p = some t := by
  match p, h with
  | a :: b :: c :: d :: _, _ => exact ⟨_, rfl⟩

/-- total, reader = decrypt, writer = encrypt, source always closed; needs NO law of the AEAD -/
structure Cipher.Sound (c : Cipher) : Prop where
  dec_total : ∀ km d, c.decrypt km d ≠ .panic
  enc_total : ∀ km ent pt, c.encrypt km ent pt ≠ .panic
  reader_closed : ∀ km s, (c.decryptReader km s).src.closed = true
  reader_eq : ∀ km s, s.bad = false → (c.decryptReader km s).res = c.decrypt km s.data
  reader_bad : ∀ km s, s.bad = true → ∃ e, (c.decryptReader km s).res = .err e
  writer_eq : ∀ (km : Bytes) (sink : Sink) (ent : Bytes) (chunks : List Bytes), ∃ w, c.encryptWriter km sink = .ok w ∧
    c.closeWriter (chunks.foldl WriterSt.write w) ent
      = (c.encrypt km ent chunks.flatten).map (fun st => ({ data := sink.data ++ st, closed := true } : Sink))

/-- decrypt ∘ encrypt = id (needs `AEAD.Lawful`).  `ns`: how many bytes of `crypto/rand` `encrypt` needs (the nonce
size); the tag dispatch leaves it unchanged. -/
structure Cipher.Invertible (c : Cipher) (ns : Nat) : Prop where
  enc_ok : ∀ km ent pt, ns ≤ ent.length → ∃ st, c.encrypt km ent pt = .ok st
  dec_enc : ∀ km ent pt st, c.encrypt km ent pt = .ok st → c.decrypt km st = .ok pt

theorem foldl_write (chunks : List Bytes) (w : WriterSt) :
    chunks.foldl WriterSt.write w = { w with buf := w.buf ++ chunks.flatten } := by
  induction chunks generalizing w with
  | nil => simp
  | cons c cs ih => simp [ih, WriterSt.write]

section raw
variable (a : AEAD) (H : Bytes → Bytes)

theorem aesEncrypt_shape (km ent pt : Bytes) (h : a.nonceSize ≤ ent.length) :
    aesEncrypt a H km ent pt
      = .ok (ent.take a.nonceSize ++ a.seal (H km) (ent.take a.nonceSize) pt) := by
  simp [aesEncrypt, Nat.not_lt.mpr h, AEAD.sealGo, List.length_take_of_le h]

theorem aesEncrypt_ne_panic (km ent pt : Bytes) :
    aesEncrypt a H km ent pt ≠ .panic := by
  by_cases h : a.nonceSize ≤ ent.length
  · rw [aesEncrypt_shape a H km ent pt h]; exact fun h => by cases h
  · simp [aesEncrypt, Nat.lt_of_not_le h]

theorem aesDecrypt_fixed (km data : Bytes) :
    aesDecrypt Rev.fixed a H km data
      = if data.length < a.nonceSize then .err .short
        else ofOpen (a.open (H km) (data.take a.nonceSize) (data.drop a.nonceSize)) := by
  by_cases h : data.length < a.nonceSize
  · simp [aesDecrypt, Rev.fixed, h]
  · have hle : a.nonceSize ≤ data.length := Nat.le_of_not_lt h
    simp only [aesDecrypt, Rev.fixed, h, decide_false, Bool.and_false, Bool.false_eq_true, if_false,
      sliceTo_ok hle, sliceFrom_ok hle, AEAD.openGo, List.length_take_of_le hle, if_true]

theorem aesDecrypt_frame (km n c : Bytes) (hn : n.length = a.nonceSize) :
    aesDecrypt Rev.fixed a H km (n ++ c)
      = ofOpen (a.open (H km) n c) := by
  rw [aesDecrypt_fixed]
  have h : ¬ (n ++ c).length < a.nonceSize := by simp [hn]
  rw [if_neg h, ← hn, List.take_left', List.drop_left'] <;> rfl

theorem aes_sound : (aesCipher Rev.fixed a H).Sound where
  dec_total := by
    intro km d
    show aesDecrypt Rev.fixed a H km d ≠ .panic
    rw [aesDecrypt_fixed]
    split
    · exact fun h => by cases h
    · cases a.open (H km) (d.take a.nonceSize) (d.drop a.nonceSize) <;> exact fun h => by cases h
  enc_total := fun km ent pt => aesEncrypt_ne_panic a H km ent pt
  reader_closed := by
    intro km s
    show (aesNewReader Rev.fixed a H km s).src.closed = true
    unfold aesNewReader Src.readAll
    by_cases hb : s.bad = true <;> simp [hb, Rev.fixed, Src.close]
  reader_eq := by
    intro km s hb
    show (aesNewReader Rev.fixed a H km s).res = aesDecrypt Rev.fixed a H km s.data
    simp [aesNewReader, Src.readAll, hb]
  reader_bad := by
    intro km s hb
    refine ⟨.io, ?_⟩
    show (aesNewReader Rev.fixed a H km s).res = .err .io
    simp [aesNewReader, Src.readAll, hb]
  writer_eq := by
    intro km sink ent chunks
    refine ⟨aesNewWriter km sink, rfl, ?_⟩
    show aesCloseWriter a H (chunks.foldl WriterSt.write (aesNewWriter km sink)) ent = _
    rw [foldl_write]
    simp [aesCloseWriter, aesNewWriter, aesCipher, Sink.write, Sink.close]

theorem aes_invertible (hl : a.Lawful) :
    (aesCipher Rev.fixed a H).Invertible a.nonceSize where
  enc_ok := fun km ent pt h => ⟨_, aesEncrypt_shape a H km ent pt h⟩
  dec_enc := by
    intro km ent pt st h
    change aesEncrypt a H km ent pt = .ok st at h
    show aesDecrypt Rev.fixed a H km st = .ok pt
    by_cases hle : a.nonceSize ≤ ent.length
    · rw [aesEncrypt_shape a H km ent pt hle] at h
      injection h with h
      subst h
      have hn := List.length_take_of_le hle
      rw [aesDecrypt_frame a H km _ _ hn, hl.open_seal _ _ _ hn]; rfl
    · simp [aesEncrypt, Nat.lt_of_not_le hle] at h

end raw

section ext
variable {dflt : UInt32} {d : Cipher} {mapping : List (UInt32 × Cipher)}

theorem ext_short (km : Bytes) (s : Src) (h : s.data.length < 4) :
    (extCipherOf Rev.fixed dflt d mapping).decrypt km s.data = .err .short ∧
    (extCipherOf Rev.fixed dflt d mapping).decryptReader km s
      = { res := .err (if s.bad then .io else .short), src := { s with data := [], closed := true } } := by
  simp [extCipherOf, Src.readFull, Nat.not_le.mpr h, h, Rev.fixed, Src.close]

theorem ext_dispatch (km : Bytes) (s : Src) (h : 4 ≤ s.data.length) :
    ∃ t, tagOf (s.data.take 4) = some t ∧
      (extCipherOf Rev.fixed dflt d mapping).decrypt km s.data
        = (match lookupTag t mapping with
          | none => .err .unknownTag
          | some c => c.decrypt km (s.data.drop 4)) ∧
      (extCipherOf Rev.fixed dflt d mapping).decryptReader km s
        = (match lookupTag t mapping with
          | none => { res := .err .unknownTag, src := { s with data := s.data.drop 4, closed := true } }
          | some c => c.decryptReader km { s with data := s.data.drop 4 }) := by
  obtain ⟨t, ht⟩ := tagOf_of_length (p := s.data.take 4) (by rw [List.length_take_of_le h]; exact Nat.le_refl 4)
  refine ⟨t, ht, ?_, ?_⟩
  · simp only [extCipherOf, Rev.fixed, Nat.not_lt.mpr h, decide_false, Bool.and_false, Bool.false_eq_true,
      if_false, sliceTo_ok h, sliceFrom_ok h, ht]
    cases lookupTag t mapping <;> rfl
  · simp only [extCipherOf, Src.readFull, h, if_true, ht, Rev.fixed, Src.close]
    cases lookupTag t mapping <;> rfl

theorem ext_decrypt_tag (km x : Bytes) (t : UInt32) :
    (extCipherOf Rev.fixed dflt d mapping).decrypt km (tagBytes t ++ x)
      = match lookupTag t mapping with
        | none => .err .unknownTag
        | some c => c.decrypt km x := by
  obtain ⟨t', ht, h, _⟩ := ext_dispatch (dflt := dflt) (d := d) (mapping := mapping) km
    ⟨tagBytes t ++ x, false, false⟩ (by simp [tagBytes_length])
  rw [List.take_left' (tagBytes_length t), tagOf_tagBytes] at ht
  cases ht
  rw [h, List.drop_left' (tagBytes_length t)]

theorem ext_sound (hd : d.Sound) (hm : ∀ t c, lookupTag t mapping = some c → c.Sound) :
    (extCipherOf Rev.fixed dflt d mapping).Sound := by
  -- the four read-side clauses at one key and source: an error with the source closed, or the clauses of the cipher
  -- dispatched to at the source advanced past the tag
  have rd : ∀ km (s : Src), let e := extCipherOf Rev.fixed dflt d mapping
      e.decrypt km s.data ≠ .panic ∧ (e.decryptReader km s).src.closed = true ∧
      (s.bad = false → (e.decryptReader km s).res = e.decrypt km s.data) ∧
      (s.bad = true → ∃ k, (e.decryptReader km s).res = .err k) := by
    intro km s
    dsimp only
    by_cases h : s.data.length < 4
    · obtain ⟨h1, h2⟩ := ext_short (dflt := dflt) (d := d) (mapping := mapping) km s h
      rw [h1, h2]
      exact ⟨nofun, rfl, fun hb => by rw [hb]; rfl, fun _ => ⟨_, rfl⟩⟩
    · obtain ⟨t, _, h1, h2⟩ := ext_dispatch (dflt := dflt) (d := d) (mapping := mapping) km s (Nat.le_of_not_lt h)
      rw [h1, h2]
      cases hc : lookupTag t mapping with
      | none => exact ⟨nofun, rfl, fun _ => rfl, fun _ => ⟨_, rfl⟩⟩
      | some c =>
        have hc := hm t c hc
        let s' : Src := { s with data := s.data.drop 4 }
        exact ⟨hc.dec_total _ _, hc.reader_closed km s', hc.reader_eq km s', hc.reader_bad km s'⟩
  exact {
    dec_total := fun km data => (rd km ⟨data, false, false⟩).1
    enc_total := fun km ent pt => Res.map_ne_panic (hd.enc_total km ent pt)
    reader_closed := fun km s => (rd km s).2.1
    reader_eq := fun km s => (rd km s).2.2.1
    reader_bad := fun km s => (rd km s).2.2.2
    writer_eq := by
      intro km sink ent chunks
      obtain ⟨w, h1, h2⟩ := hd.writer_eq km (sink.write (tagBytes dflt)) ent chunks
      refine ⟨w, h1, ?_⟩
      show d.closeWriter (chunks.foldl WriterSt.write w) ent
        = ((d.encrypt km ent chunks.flatten).map (fun c => tagBytes dflt ++ c)).map _
      rw [h2, Res.map_map]
      congr 1
      funext st
      simp [Sink.write] }

theorem ext_invertible {ns : Nat} (hl : lookupTag dflt mapping = some d) (hd : d.Invertible ns) :
    (extCipherOf Rev.fixed dflt d mapping).Invertible ns where
  enc_ok := by
    intro km ent pt h
    obtain ⟨st, hst⟩ := hd.enc_ok km ent pt h
    exact ⟨tagBytes dflt ++ st, by show (d.encrypt km ent pt).map _ = _; rw [hst]; rfl⟩
  dec_enc := by
    intro km ent pt st h
    change (d.encrypt km ent pt).map (fun c => tagBytes dflt ++ c) = .ok st at h
    obtain ⟨st', h1, h2⟩ := Res.map_eq_ok h
    subst h2
    rw [ext_decrypt_tag, hl]
    exact hd.dec_enc km ent pt st' h1

theorem extCipher_eq_some {rev : Rev} {dflt : UInt32} {mapping : List (UInt32 × Cipher)} {e : Cipher}
    (h : extCipher rev dflt mapping = some e) :
    ∃ d, lookupTag dflt mapping = some d ∧ e = extCipherOf rev dflt d mapping := by
  unfold extCipher at h
  cases hd : lookupTag dflt mapping with
  | none => rw [hd] at h; cases h
  | some d => rw [hd] at h; cases h; exact ⟨d, rfl, rfl⟩

end ext

section std
variable (a : AEAD) (H : Bytes → Bytes)

theorem lookup_std (t : UInt32) (c : Cipher)
    (h : lookupTag t (stdMapping Rev.fixed a H) = some c) : c = aesCipher Rev.fixed a H := by
  simp only [stdMapping, lookupTag] at h
  split at h
  · injection h with h; exact h.symm
  · cases h

theorem lookup_std_zero :
    lookupTag 0 (stdMapping Rev.fixed a H) = some (aesCipher Rev.fixed a H) := by
  simp [stdMapping, lookupTag]

theorem mk_sound (k : Kind) : (mkCipher a H k).Sound := by
  cases k with
  | raw => exact aes_sound a H
  | tagged =>
    refine ext_sound (aes_sound a H) ?_
    intro t c h
    rw [lookup_std a H t c h]
    exact aes_sound a H

theorem mk_invertible (hl : a.Lawful) (k : Kind) :
    (mkCipher a H k).Invertible a.nonceSize := by
  cases k with
  | raw => exact aes_invertible a H hl
  | tagged => exact ext_invertible (lookup_std_zero a H) (aes_invertible a H hl)

end std

theorem extCipher_std (a : AEAD) (H : Bytes → Bytes) :
    extCipher Rev.fixed 0 (stdMapping Rev.fixed a H) = some (mkCipher a H .tagged) := by
  simp [extCipher, lookup_std_zero, mkCipher, mkCipherRev]

theorem writeVia_eq {c : Cipher} (hs : c.Sound) (wp : Path2) (km ent : Bytes) (chunks : List Bytes) :
    c.writeVia wp km ent chunks = c.encrypt km ent chunks.flatten := by
  cases wp with
  | whole => rfl
  | stream =>
    obtain ⟨w, h1, h2⟩ := hs.writer_eq km { data := [], closed := false } ent chunks
    simp only [Cipher.writeVia, h1, Res.bind_ok, h2, Res.map_map]
    cases c.encrypt km ent chunks.flatten <;> simp [Res.map]

theorem readVia_eq {c : Cipher} (hs : c.Sound) (rp : Path2) (km stored : Bytes) (sizes : List Nat) :
    c.readVia rp km stored false sizes
      = { res := (c.decrypt km stored).bind fun d => deliver rp d sizes, leak := false } := by
  cases rp with
  | whole =>
    simp only [Cipher.readVia, deliver]
    cases c.decrypt km stored <;> rfl
  | stream =>
    have h1 := hs.reader_eq km { data := stored, bad := false, closed := false } rfl
    have h2 := hs.reader_closed km { data := stored, bad := false, closed := false }
    simp only [Cipher.readVia, h1, Opened.leak, h2, deliver]
    rfl

theorem readVia_total {c : Cipher} (hs : c.Sound) (rp : Path2) (km stored : Bytes) (bad : Bool)
    (sizes : List Nat) :
    (c.readVia rp km stored bad sizes).res ≠ .panic ∧ (c.readVia rp km stored bad sizes).leak = false := by
  cases bad with
  | false =>
    rw [readVia_eq hs]
    refine ⟨?_, rfl⟩
    cases hd : c.decrypt km stored with
    | ok d =>
      obtain ⟨cs, h, _⟩ := deliver_ok rp d sizes
      simp [h]
    | err k => simp
    | panic => exact absurd hd (hs.dec_total km stored)
  | true =>
    cases rp with
    | whole =>
      exact ⟨Res.map_ne_panic (hs.dec_total km stored), rfl⟩
    | stream =>
      obtain ⟨e, he⟩ := hs.reader_bad km { data := stored, bad := true, closed := false } rfl
      have h2 := hs.reader_closed km { data := stored, bad := true, closed := false }
      simp [Cipher.readVia, he, Opened.leak, h2]

theorem roundtrip_of {c : Cipher} {ns : Nat} (hs : c.Sound) (hi : c.Invertible ns)
    (wp rp : Path2) (km ent : Bytes) (chunks : List Bytes) (sizes : List Nat) (hent : ns ≤ ent.length) :
    ∃ stored cs, c.writeVia wp km ent chunks = .ok stored ∧
      c.readVia rp km stored false sizes = { res := .ok cs, leak := false } ∧
      content cs = chunks.flatten := by
  obtain ⟨st, hst⟩ := hi.enc_ok km ent chunks.flatten hent
  obtain ⟨cs, hcs, hcont⟩ := deliver_ok rp chunks.flatten sizes
  refine ⟨st, cs, by rw [writeVia_eq hs, hst], ?_, hcont⟩
  rw [readVia_eq hs, hi.dec_enc km ent _ st hst, Res.bind_ok, hcs]

section shape
variable (a : AEAD) (H : Bytes → Bytes)

theorem encrypt_shape (k : Kind) (km ent pt : Bytes)
    (h : a.nonceSize ≤ ent.length) :
    (mkCipher a H k).encrypt km ent pt
      = .ok (k.header ++ (ent.take a.nonceSize ++ a.seal (H km) (ent.take a.nonceSize) pt)) := by
  cases k with
  | raw => exact aesEncrypt_shape a H km ent pt h
  | tagged =>
    show (aesEncrypt a H km ent pt).map _ = _
    rw [aesEncrypt_shape a H km ent pt h]
    rfl

theorem write_shape (k : Kind) (wp : Path2) (km ent : Bytes)
    (chunks : List Bytes) (h : a.nonceSize ≤ ent.length) :
    (mkCipher a H k).writeVia wp km ent chunks
      = .ok (k.header ++ (ent.take a.nonceSize ++ a.seal (H km) (ent.take a.nonceSize) chunks.flatten)) := by
  rw [writeVia_eq (mk_sound a H k), encrypt_shape a H k km ent _ h]

theorem decrypt_frame (k : Kind) (km n c : Bytes) (hn : n.length = a.nonceSize) :
    (mkCipher a H k).decrypt km (k.header ++ (n ++ c))
      = ofOpen (a.open (H km) n c) := by
  cases k with
  | raw => exact aesDecrypt_frame a H km n c hn
  | tagged =>
    show (extCipherOf Rev.fixed 0 _ _).decrypt km (tagBytes 0 ++ (n ++ c)) = _
    rw [ext_decrypt_tag, lookup_std_zero]
    exact aesDecrypt_frame a H km n c hn

theorem read_frame (k : Kind) (rp : Path2) (km n c : Bytes)
    (sizes : List Nat) (hn : n.length = a.nonceSize) :
    (mkCipher a H k).readVia rp km (k.header ++ (n ++ c)) false sizes
      = { res := (ofOpen (a.open (H km) n c)).bind fun p => deliver rp p sizes,
          leak := false } := by
  rw [readVia_eq (mk_sound a H k), decrypt_frame a H k km n c hn]

theorem decrypt_short (k : Kind) (km data : Bytes)
    (h : data.length < k.header.length + a.nonceSize) :
    ∃ e, (mkCipher a H k).decrypt km data = .err e := by
  have aes_short : ∀ x : Bytes, x.length < a.nonceSize → aesDecrypt Rev.fixed a H km x = .err .short :=
    fun x hx => by rw [aesDecrypt_fixed, if_pos hx]
  cases k with
  | raw => exact ⟨_, aes_short data (by simpa [Kind.header] using h)⟩
  | tagged =>
    have h' : data.length < 4 + a.nonceSize := by simpa [Kind.header, tagBytes_length] using h
    by_cases h4 : data.length < 4
    · exact ⟨_, (ext_short km ⟨data, false, false⟩ h4).1⟩
    · obtain ⟨t, _, hd, _⟩ := ext_dispatch (dflt := 0) (d := aesCipher Rev.fixed a H)
        (mapping := stdMapping Rev.fixed a H) km ⟨data, false, false⟩ (Nat.le_of_not_lt h4)
      show ∃ e, (extCipherOf Rev.fixed 0 _ _).decrypt km data = .err e
      rw [hd]
      cases hc : lookupTag t (stdMapping Rev.fixed a H) with
      | none => exact ⟨_, rfl⟩
      | some c =>
        rw [lookup_std a H t c hc]
        exact ⟨_, aes_short (data.drop 4) (by rw [List.length_drop]; omega)⟩

theorem decrypt_unknown_tag (km x : Bytes) (t : UInt32) (ht : t ≠ 0) :
    (mkCipher a H .tagged).decrypt km (tagBytes t ++ x) = .err .unknownTag := by
  show (extCipherOf Rev.fixed 0 _ _).decrypt km (tagBytes t ++ x) = _
  rw [ext_decrypt_tag]
  have : lookupTag t (stdMapping Rev.fixed a H) = none := by
    simp [stdMapping, lookupTag, Ne.symm ht]
  rw [this]

end shape

/-! The `EncryptFS` layer: the load/store law assumed of the base, round trip and totality through `EncFS.write` /
`EncFS.read`, and two settings with equal key material (KF-C05-1). -/

section fs
variable {β σ ρ : Type}

/-- the one law assumed of the underlying filespace: what was stored under a path is what is loaded from it
(property C01/C02/C04 territory; a hypothesis here) -/
def BaseOps.LoadStore (O : BaseOps β σ ρ) : Prop :=
  ∀ b p d s s', O.store b p d s = some s' → O.load b p s' = some d

theorem fs_roundtrip (O : BaseOps β σ ρ) (hO : O.LoadStore) {c : Cipher} {ns : Nat}
    (hs : c.Sound) (hi : c.Invertible ns) (host : Bytes) (base : β) (set₁ set₂ : Settings)
    (hkm : keyMaterial host set₁ = keyMaterial host set₂)
    (wp rp : Path2) (p ent : Bytes) (chunks : List Bytes) (sizes : List Nat) (s : σ)
    (hent : ns ≤ ent.length) (hacc : ∀ d, ∃ s', O.store base p d s = some s') :
    ∃ s' cs, (newEncryptFS host base set₁ c).write O wp p ent chunks s = .ok s' ∧
      (newEncryptFS host base set₂ c).read O rp p sizes s' = { res := .ok cs, leak := false } ∧
      content cs = chunks.flatten := by
  obtain ⟨stored, cs, hw, hr, hc⟩ := roundtrip_of hs hi wp rp (keyMaterial host set₁) ent chunks sizes hent
  obtain ⟨s', hs'⟩ := hacc stored
  refine ⟨s', cs, ?_, ?_, hc⟩
  · simp [EncFS.write, newEncryptFS, hw, hs']
  · simp [EncFS.read, newEncryptFS, hO _ _ _ _ _ hs', ← hkm, hr]

theorem fs_read_total (O : BaseOps β σ ρ) (fs : EncFS β) (hs : fs.cipher.Sound)
    (rp : Path2) (p : Bytes) (sizes : List Nat) (s : σ) :
    (fs.read O rp p sizes s).res ≠ .panic ∧ (fs.read O rp p sizes s).leak = false := by
  unfold EncFS.read
  cases O.load fs.base p s with
  | none => exact ⟨nofun, rfl⟩
  | some stored => exact readVia_total hs rp fs.hash stored false sizes

/-- the byte strings behind the known finding: `"st"`, `""`, `"s"`, `"t"` -/
def kfA : Settings := { secret := [115, 116], salt := [], hostOnly := false }
def kfB : Settings := { secret := [115], salt := [116], hostOnly := false }

theorem kf_same_material (host : Bytes) : keyMaterial host kfA = keyMaterial host kfB := rfl

end fs

end Goat.Enc
