/-
C11: a goroutine parked inside a gated listener holds no lock another goroutine needs: which acts are enabled does not
depend on a scope's `park` field, except for its own closing goroutine and `On` on the event scope that owns the listener.
-/
import Goat.Proofs.Scope

namespace Goat.Scope

theorem isSome_guard {α : Type} {g : Prop} [Decidable g] (x : Option α) :
    (if g then x else none).isSome = (decide g && x.isSome) := by
  by_cases h : g <;> simp [h]

theorem isSome_refuse {α : Type} {g : Prop} [Decidable g] (x : α) (y : Option α) :
    (if g then some x else y).isSome = (decide g || y.isSome) := by
  by_cases h : g <;> simp [h]

theorem isSome_block {α : Type} {b : Bool} (x : α) : (if b = true then none else some x).isSome = !b := by
  cases b <;> rfl

/-- the closing goroutine of a scope with record `x` can move -/
def menabled (x : Scp) (gates : Nat → Bool) : Bool :=
  match x.park with
  | some p => gates p.gate && (evOf x.phase x.rolled).isSome
  | none =>
    (evOf x.phase x.rolled).isSome ||
      match x.phase with
      | .closing => decide (x.wg = 0)
      | .signing | .signed => true
      | _ => false

theorem micro_isSome (st : State) (s : Nat) : (micro st s).isSome = menabled (st.scp s) st.gates := by
  unfold micro menabled
  cases (st.scp s).park with
  | some p =>
    dsimp only
    cases evOf (st.scp s).phase (st.scp s).rolled <;> cases st.gates p.gate <;> rfl
  | none =>
    cases evOf (st.scp s).phase (st.scp s).rolled with
    | some ev => rfl
    | none =>
      cases (st.scp s).phase with
      | closing => exact (isSome_guard _).trans (Bool.and_true _)
      | _ => rfl

/-- which acts are enabled: the guards of `exec`, copied; `exec_isSome` fails to check if the two drift apart -/
def enabled (st : State) : Act → Bool
  | .new | .release _ => true
  | .child p _ => decide (p < st.nScopes ∧ (st.scp p).phase.live = true)
  | .on s _ _ => decide (s < st.nScopes) && (!(st.scp s).phase.live || !st.busy s)
  | .onGated s ev _ _ => decide (s < st.nScopes ∧ ev.isClose = true) && (!(st.scp s).phase.live || !st.busy s)
  | .addTasks s _ | .appErr s | .kill s | .stop s | .close s => decide (s < st.nScopes)
  | .doneTask s => decide (s < st.nScopes ∧ (st.scp s).dones < (st.scp s).adds)
  | .finish s => decide (s < st.nScopes ∧ (st.scp s).phase = .closing ∧ (st.scp s).park.isNone = true ∧
      (st.scp s).wg = 0)
  | .step s => decide (s < st.nScopes) && menabled (st.scp s) st.gates
  | .propagate c asKill =>
    match (st.ctx c).parent with
    | some pc => decide (c < st.nCtxs ∧ (st.ctx c).watch ∧ (st.ctx pc).done ∧ (asKill → (st.ctx pc).errors ≠ 0))
    | none => false
  | .watcherExit c => decide (c < st.nCtxs ∧ (st.ctx c).parent.isSome ∧ (st.ctx c).watch ∧ (st.ctx c).done)

theorem exec_isSome (st : State) (a : Act) : (exec st a).isSome = enabled st a := by
  cases a <;> dsimp only [exec, execWith, enabled]
  case propagate c k =>
    cases (st.ctx c).parent <;> simp only [isSome_guard, Option.isSome_some, Option.isSome_none, Bool.and_true]
  all_goals simp only [isSome_guard, isSome_refuse, isSome_block, Option.isSome_some, Bool.and_true, Bool.or_true,
    micro_isSome, Bool.decide_eq_false]

/-- the same state with the closing goroutine of `c` not inside a listener -/
def State.unpark (st : State) (c : Nat) : State := st.modScp c fun x => { x with park := none }

theorem unpark_scp_ne (st : State) {c t : Nat} (h : t ≠ c) : (st.unpark c).scp t = st.scp t :=
  modScp_scp_ne st _ h

theorem busy_unpark {st : State} {c : Nat} {pk : Park} (hp : (st.scp c).park = some pk) {s : Nat}
    (hs : s ≠ pk.owner) : (st.unpark c).busy s = st.busy s := by
  show (List.range st.nScopes).any _ = _
  congr 1
  funext t
  by_cases ht : t = c
  · subst ht
    simp only [State.unpark, modScp_scp_same, hp]
    have : (pk.owner == s) = false := by simpa using fun e => hs e.symm
    rw [this]
  · rw [unpark_scp_ne st ht]

theorem enabled_unpark {st : State} {c : Nat} {pk : Park} (hp : (st.scp c).park = some pk) (a : Act)
    (h1 : a ≠ .step c) (h2 : a ≠ .finish c) (h3 : ∀ ev f, a ≠ .on pk.owner ev f)
    (h4 : ∀ ev f g, a ≠ .onGated pk.owner ev f g) :
    (exec st a).isSome = (exec (st.unpark c) a).isSome := by
  have hf : ∀ t, ((st.unpark c).scp t).phase = (st.scp t).phase ∧
      ((st.unpark c).scp t).dones = (st.scp t).dones ∧ ((st.unpark c).scp t).adds = (st.scp t).adds :=
    upd_rel (R := fun (y x : Scp) => y.phase = x.phase ∧ y.dones = x.dones ∧ y.adds = x.adds)
      (fun _ => ⟨rfl, rfl, rfl⟩) ⟨rfl, rfl, rfl⟩
  have hn : (st.unpark c).nScopes = st.nScopes := rfl
  have hcx : (st.unpark c).ctx = st.ctx := rfl
  have hnc : (st.unpark c).nCtxs = st.nCtxs := rfl
  rw [exec_isSome, exec_isSome]
  cases a with
  | on s ev f => simp only [enabled, hn, hf, busy_unpark hp fun e : s = pk.owner => h3 ev f (by rw [e])]
  | onGated s ev f g => simp only [enabled, hn, hf, busy_unpark hp fun e : s = pk.owner => h4 ev f g (by rw [e])]
  | finish s => simp only [enabled, hn, unpark_scp_ne st fun e : s = c => h2 (by rw [e])]
  | step s => simp only [enabled, hn, unpark_scp_ne st fun e : s = c => h1 (by rw [e])]; rfl
  | _ => simp only [enabled, hn, hnc, hcx, hf]

end Goat.Scope
