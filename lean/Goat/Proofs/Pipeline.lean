/-
For properties C14/C16, over the model `Goat/Model/Pipeline.lean`: the clauses of `TraceOk` by name, the monitor
`accepts` as `TraceOk ∧ TraceOk2`, what `wf` says of each role, the three kinds of handler of a try block
(`HKind`), guards and error reports unfolded.
-/
import Goat.Model.Pipeline

namespace Goat.Pipeline

@[simp] theorem upd_same {α : Type} (f : Nat → α) (k : Nat) (v : α) : upd f k v k = v := by
  simp [upd]

theorem upd_other {α : Type} (f : Nat → α) {k x : Nat} (v : α) (h : x ≠ k) : upd f k v x = f x := by
  simp [upd, h]

theorem upd_apply {α : Type} (f : Nat → α) (k x : Nat) (v : α) :
    upd f k v x = if x = k then v else f x := rfl

theorem upd_le {α : Type} (w : Nat → α → Nat) {f : Nat → α} {k : Nat} {v : α} (h : w k v ≤ w k (f k)) (x : Nat) :
    w x (upd f k v x) ≤ w x (f x) := by
  rw [upd_apply]; split
  · rename_i e; subst e; exact h
  · exact Nat.le_refl _

theorem split_snoc {α : Type} {tr pre post : List α} {e e' : α}
    (h : tr ++ [e] = pre ++ e' :: post) :
    (pre = tr ∧ e' = e ∧ post = []) ∨ ∃ post', post = post' ++ [e] ∧ tr = pre ++ e' :: post' := by
  rcases List.eq_nil_or_concat post with hp | ⟨post', b, hp⟩
  · subst hp
    have := List.append_singleton_inj.mp (by simpa using h : tr ++ [e] = pre ++ [e'])
    exact Or.inl ⟨this.1.symm, this.2.symm, rfl⟩
  · rw [List.concat_eq_append] at hp
    subst hp
    have h' : tr ++ [e] = (pre ++ e' :: post') ++ [b] := by simpa using h
    have := List.append_singleton_inj.mp h'
    exact Or.inr ⟨post', by rw [this.2], this.1⟩

theorem mem_old {α : Type} {tr es : List α} {e : α} (hn : e ∉ es) (h : e ∈ tr ++ es) : e ∈ tr :=
  (List.mem_append.mp h).resolve_right hn

theorem mem_snoc_ne {α : Type} {tr : List α} {e e' : α} (hne : e' ≠ e) : e' ∈ tr ++ [e] ↔ e' ∈ tr := by
  simp [List.mem_append, hne]

theorem each_snoc {α : Type} {P : List α → α → Prop} {tr : List α} {e : α}
    (h : ∀ pre e' post, tr = pre ++ e' :: post → P pre e') (he : P tr e) :
    ∀ pre e' post, tr ++ [e] = pre ++ e' :: post → P pre e' := by
  intro pre e' post hs
  rcases split_snoc hs with ⟨h1, h2, _⟩ | ⟨post', _, h2⟩
  · subst h1; subst h2; exact he
  · exact h pre e' post' h2

theorem each_nil {α : Type} {P : List α → α → Prop} : ∀ pre e post, ([] : List α) = pre ++ e :: post → P pre e := by
  intro pre e post h
  cases pre <;> simp at h

theorem traceOk_nil (g : Graph) : TraceOk g [] := each_nil

theorem traceOk_snoc {g : Graph} {tr : List Ev} {e : Ev} (h : TraceOk g tr) (he : Ok g tr e) :
    TraceOk g (tr ++ [e]) :=
  each_snoc h he

section Clauses
variable {g : Graph} {tr p q : List Ev} (h : TraceOk g tr)
include h

theorem TraceOk.pre {e : Ev} (hs : tr = p ++ e :: q) : TraceOk g p :=
  fun pre e' post hp => h pre e' (post ++ e :: q) (by simp [hs, hp])

theorem TraceOk.cmd_lt {t i : Nat} (hs : tr = p ++ Ev.cmd t i :: q) : i < (g.body t).length :=
  (h p _ q hs).1

theorem TraceOk.cmd_fresh {t i : Nat} (hs : tr = p ++ Ev.cmd t i :: q) : Ev.cmd t i ∉ p :=
  (h p _ q hs).2.1

theorem TraceOk.cmd_open {t i : Nat} (hs : tr = p ++ Ev.cmd t i :: q) : ¬ hasDone p t :=
  (h p _ q hs).2.2.1

theorem TraceOk.ret_fresh {t i : Nat} {b : Bool} (hs : tr = p ++ Ev.ret t i b :: q) : ¬ hasRet p t i :=
  (h p _ q hs).2.1

theorem TraceOk.ret_ok {t i : Nat} {b : Bool} (hs : tr = p ++ Ev.ret t i b :: q) : retOk g p t i b :=
  (h p _ q hs).2.2.2

theorem TraceOk.done_fresh {t : Nat} {b : Bool} (hs : tr = p ++ Ev.done t b :: q) : ¬ hasDone p t :=
  (h p _ q hs).1

theorem TraceOk.acc_waits {t : Nat} (hs : tr = p ++ Ev.acc t :: q) : ∀ w ∈ g.waits t, acceptedEv g p w :=
  (h p _ q hs).2

theorem TraceOk.mwait_closed {ok : Bool} (hs : tr = p ++ Ev.mwait ok :: q) :
    ∀ t ∈ List.range g.n, acceptedEv g p t → hasDone p t :=
  (h p _ q hs).1

theorem TraceOk.mwait_verdict {ok : Bool} (hs : tr = p ++ Ev.mwait ok :: q) :
    if ok then ∀ e ∈ p, isDoneFail e = false else anyCause p :=
  (h p _ q hs).2

theorem TraceOk.hrej_cause {x : Nat} (hs : tr = p ++ Ev.hrej x :: q) : causeFor g p x :=
  (h p _ q hs).2.2

end Clauses

theorem cmd_of_ret {g : Graph} {tr : List Ev} (h : TraceOk g tr) {t i : Nat} {b : Bool}
    (hr : Ev.ret t i b ∈ tr) : Ev.cmd t i ∈ tr := by
  obtain ⟨pre, post, hs⟩ := List.append_of_mem hr
  rw [hs]; exact List.mem_append_left _ (h pre _ post hs).1

theorem TraceOk.start {g : Graph} {tr pre post : List Ev} (h : TraceOk g tr) {t : Nat}
    (hs : tr = pre ++ Ev.cmd t 0 :: post) : submitted g pre t ∧ waitsOk g pre t :=
  (h pre _ post hs).2.2.2

theorem TraceOk.next {g : Graph} {tr pre post : List Ev} (h : TraceOk g tr) {t i : Nat}
    (hs : tr = pre ++ Ev.cmd t (i + 1) :: post) : cmdDoneOk g pre t i := by
  have := (h pre _ post hs).2.2.2
  simpa using this

theorem TraceOk.spawned {g : Graph} {tr pre post : List Ev} (h : TraceOk g tr) {p i c : Nat}
    (hs : tr = pre ++ Ev.ret p i true :: post) (hc : g.cmdAt p i = some (.spawn c)) :
    ∀ w ∈ g.waits c, acceptedEv g pre w := by
  have := (h pre _ post hs).2.2.2
  unfold retOk at this
  rw [hc] at this
  exact this rfl

theorem TraceOk.doneTrue {g : Graph} {tr pre post : List Ev} (h : TraceOk g tr) {t : Nat}
    (hs : tr = pre ++ Ev.done t true :: post) :
    waitsOk g pre t ∧ ((∀ i ∈ List.range (g.body t).length, cmdDoneOk g pre t i) ∨
      (selfStop g pre t ∧ ∀ i ∈ List.range (g.body t).length, Ev.cmd t i ∈ pre → cmdDoneOk g pre t i)) :=
  (h pre _ post hs).2.2

theorem TraceOk.doneFalse {g : Graph} {tr pre post : List Ev} (h : TraceOk g tr) {t : Nat}
    (hs : tr = pre ++ Ev.done t false :: post) : causeFor g pre t :=
  (h pre _ post hs).2.2

theorem TraceOk.closed {g : Graph} {tr pre post : List Ev} (h : TraceOk g tr) {t i : Nat} {ok : Bool}
    (hs : tr = pre ++ Ev.done t ok :: post) (hi : i < (g.body t).length) (hret : Ev.ret t i true ∈ pre) :
    match g.cmdAt t i with
    | some (.spawn c) => hasDone pre c
    | some (.try_ y) => hasDone pre (g.tryd y).body ∧
        (∀ h ∈ g.handlers y, Ev.cmd h 0 ∈ pre → hasDone pre h) ∧
        (∀ h ∈ g.handlers y, Ev.hacc h ∈ pre → hasDone pre h) ∧
        (∀ h ∈ selected g pre y, handlerFate g pre y h)
    | _ => True :=
  ((h pre _ post hs).2.1 i (List.mem_range.mpr hi) (cmd_of_ret (h.pre hs) hret)).2 hret

theorem traceOk2_nil (g : Graph) : TraceOk2 g [] := each_nil

theorem traceOk2_snoc {g : Graph} {tr : List Ev} {e : Ev} (h : TraceOk2 g tr) (he : Ok2 g tr e) :
    TraceOk2 g (tr ++ [e]) :=
  each_snoc h he

theorem acceptsFrom_iff (g : Graph) (pre tr : List Ev) :
    acceptsFrom g pre tr = true ↔ ∀ a e b, tr = a ++ e :: b → Ok g (pre ++ a) e ∧ Ok2 g (pre ++ a) e := by
  induction tr generalizing pre with
  | nil =>
    simp only [acceptsFrom, true_iff]
    intro a e b h
    cases a <;> simp at h
  | cons x rest ih =>
    simp only [acceptsFrom, Bool.and_eq_true, decide_eq_true_eq, ih]
    constructor
    · rintro ⟨h1, h2⟩ a e b hs
      cases a with
      | nil =>
        simp only [List.nil_append, List.cons.injEq] at hs
        rw [← hs.1]; simpa using h1
      | cons y a' =>
        simp only [List.cons_append, List.cons.injEq] at hs
        have := h2 a' e b hs.2
        rw [← hs.1]
        simpa [List.append_assoc] using this
    · intro h
      refine ⟨by simpa using h [] x rest rfl, ?_⟩
      intro a e b hs
      have := h (x :: a) e b (by simp [hs])
      simpa [List.append_assoc] using this

theorem accepts_iff (g : Graph) (tr : List Ev) : accepts g tr = true ↔ TraceOk g tr ∧ TraceOk2 g tr := by
  unfold accepts TraceOk TraceOk2
  rw [acceptsFrom_iff]
  exact ⟨fun h => ⟨fun a e b hs => (h a e b hs).1, fun a e b hs => (h a e b hs).2⟩,
    fun h a e b hs => ⟨h.1 a e b hs, h.2 a e b hs⟩⟩

theorem accepts_false_of_last {g : Graph} {tr : List Ev} (h : tr ≠ [])
    (hb : decide (Ok g tr.dropLast (tr.getLast h) ∧ Ok2 g tr.dropLast (tr.getLast h)) = false) :
    accepts g tr = false := by
  cases hacc : accepts g tr
  · rfl
  · obtain ⟨h1, h2⟩ := (accepts_iff g tr).mp hacc
    have hs := (List.dropLast_concat_getLast h).symm
    exact absurd ⟨h1 _ _ [] hs, h2 _ _ [] hs⟩ (decide_eq_false_iff_not.mp hb)

theorem allIdx_iff {α : Type} (l : List α) (p : Nat → α → Bool) :
    allIdx l p = true ↔ ∀ i a, l[i]? = some a → p i a = true := by
  unfold allIdx
  rw [List.all_eq_true]
  constructor
  · intro h i a hi
    have hlt : i < l.length := (List.getElem?_eq_some_iff.mp hi).1
    have := h i (List.mem_range.mpr hlt)
    simpa [hi] using this
  · intro h i _
    cases hi : l[i]? with
    | none => rfl
    | some a => simpa using h i a hi

theorem validWL_nil (acc : Nat → Bool) (wo : Nat → List Nat) (self f : Nat) :
    validWL acc wo self (f + 1) [] = true := by
  simp [validWL]

theorem canCreate_waits {g : Graph} {s : St} {c : Nat} (h : canCreate g s c = true) :
    ∀ w ∈ g.waits c, w ≠ c ∧ inTable g s w = true := by
  intro w hw
  unfold canCreate at h
  simp only [Bool.and_eq_true] at h
  have h1 := h.1.1
  -- one level of `validWL`; its fuel has to be in successor form to unfold
  rw [show (101 : Nat) = 100 + 1 from rfl, validWL, List.all_eq_true] at h1
  have := h1 w hw
  simp only [Bool.and_eq_true, bne_iff_ne] at this
  exact ⟨this.1.1, this.1.2⟩

structure WF (g : Graph) : Prop where
  role : ∀ t, t < g.n → roleOk g t = true
  body : ∀ t, t < g.n → (g.body t) ≠ []
  waits : ∀ t, t < g.n → ∀ w ∈ g.waits t, waitOk g t w = true
  cmd : ∀ t, t < g.n → ∀ i c, g.cmdAt t i = some c → cmdOk g t i c = true
  tryd : ∀ y, y < g.tries.length → tryOk g y = true
  top : ∀ t ∈ g.top, t < g.n ∧ g.role t = .top
  nodup : g.top.Nodup

theorem wf_iff (g : Graph) : wf g = true ↔ WF g := by
  unfold wf
  simp only [Bool.and_eq_true, List.all_eq_true, List.mem_range, decide_eq_true_eq, Bool.not_eq_true',
    List.isEmpty_eq_false_iff, beq_iff_eq]
  constructor
  · rintro ⟨⟨⟨h1, h2⟩, h3⟩, h4⟩
    refine ⟨fun t ht => (h1 t ht).1.1.1, fun t ht => (h1 t ht).1.1.2, fun t ht => (h1 t ht).1.2,
      fun t ht i c hc => ?_, h2, h3, h4⟩
    exact (allIdx_iff _ _).mp (h1 t ht).2 i c hc
  · intro h
    refine ⟨⟨⟨fun t ht => ⟨⟨⟨h.role t ht, h.body t ht⟩, h.waits t ht⟩, ?_⟩, h.tryd⟩, h.top⟩, h.nodup⟩
    exact (allIdx_iff _ _).mpr (h.cmd t ht)

theorem task_out {g : Graph} {t : Nat} (h : g.n ≤ t) : g.task t = TaskDef.dflt := by
  unfold Graph.task Graph.n at *
  rw [List.getD_eq_getElem?_getD, List.getElem?_eq_none h]
  rfl

theorem body_out {g : Graph} {t : Nat} (h : g.n ≤ t) : g.body t = [] := by
  unfold Graph.body; rw [task_out h]; rfl

theorem cmdAt_lt {g : Graph} {t i : Nat} {c : Cmd} (h : g.cmdAt t i = some c) : i < (g.body t).length :=
  (List.getElem?_eq_some_iff.mp h).1

theorem cmdAt_some_of_lt {g : Graph} {t i : Nat} (h : i < (g.body t).length) : ∃ c, g.cmdAt t i = some c :=
  ⟨(g.body t)[i], List.getElem?_eq_getElem h⟩

/-- tasks that can be named in a wait list -/
def nameable (g : Graph) (t : Nat) : Prop := g.role t = .top ∨ ∃ p i, g.role t = .child p i

theorem WF.wait_cases {g : Graph} (h : WF g) {t w : Nat} (ht : t < g.n) (hw : w ∈ g.waits t) :
    g.n ≤ w ∨ (nameable g w ∧ g.depth w = g.depth t ∧ g.ctx w = g.ctx t) := by
  have := h.waits t ht w hw
  unfold waitOk at this
  simp only [Bool.or_eq_true, decide_eq_true_eq, Bool.and_eq_true, beq_iff_eq] at this
  rcases this with h1 | ⟨⟨h2, h3⟩, h4⟩
  · exact Or.inl h1
  · refine Or.inr ⟨?_, h3, h4⟩
    unfold nameable
    cases hr : g.role w <;> simp [hr] at h2 ⊢

theorem WF.spawn {g : Graph} (h : WF g) {t i c : Nat} (ht : t < g.n) (hc : g.cmdAt t i = some (.spawn c)) :
    c < g.n ∧ g.role c = .child t i := by
  have := h.cmd t ht i _ hc
  simpa [cmdOk] using this

theorem WF.tryc {g : Graph} (h : WF g) {t i y : Nat} (ht : t < g.n) (hc : g.cmdAt t i = some (.try_ y)) :
    y < g.tries.length ∧ (g.tryd y).owner = t ∧ (g.tryd y).idx = i := by
  have := h.cmd t ht i _ hc
  simpa [cmdOk, and_assoc] using this

theorem WF.child {g : Graph} (h : WF g) {t p i : Nat} (ht : t < g.n) (hr : g.role t = .child p i) :
    g.cmdAt p i = some (.spawn t) ∧ g.depth t = g.depth p + 1 ∧ g.ctx t = g.ctx p := by
  have := h.role t ht
  unfold roleOk at this
  unfold Graph.role at hr
  simp only [hr, Bool.and_eq_true, beq_iff_eq] at this
  exact ⟨this.1.1, this.1.2, this.2⟩

theorem WF.topRole {g : Graph} (h : WF g) {t : Nat} (ht : t < g.n) (hr : g.role t = .top) :
    t ∈ g.top ∧ g.ctx t = 0 := by
  have := h.role t ht
  unfold roleOk at this
  unfold Graph.role at hr
  simp only [hr, Bool.and_eq_true, beq_iff_eq, List.contains_eq_mem, decide_eq_true_eq] at this
  exact ⟨this.2, this.1.2⟩

theorem role_out {g : Graph} {t : Nat} (h : g.n ≤ t) : g.role t = .top := by
  unfold Graph.role; rw [task_out h]; rfl

theorem lt_of_role_ne_top {g : Graph} {u : Nat} (h : g.role u ≠ .top) : u < g.n :=
  Nat.lt_of_not_le fun hu => h (role_out hu)

theorem WF.tryOwner {g : Graph} (h : WF g) {y : Nat} (hy : y < g.tries.length) :
    (g.tryd y).owner < g.n ∧ g.cmdAt (g.tryd y).owner (g.tryd y).idx = some (.try_ y) ∧
    (g.tryd y).body < g.n ∧ g.role (g.tryd y).body = .tbody y := by
  have := h.tryd y hy
  unfold tryOk at this
  simp only [Bool.and_eq_true, decide_eq_true_eq, beq_iff_eq] at this
  obtain ⟨⟨⟨⟨⟨⟨ho, hc⟩, hb⟩, hbr⟩, _⟩, _⟩, _⟩ := this
  exact ⟨ho, hc, hb, hbr⟩

theorem WF.tbody {g : Graph} (h : WF g) {t y : Nat} (ht : t < g.n) (hr : g.role t = .tbody y) :
    y < g.tries.length ∧ (g.tryd y).body = t ∧ g.ctx t = y + 1 ∧
    g.depth t = g.depth (g.tryd y).owner + 1 ∧ g.waits t = [] := by
  have := h.role t ht
  unfold roleOk at this
  unfold Graph.role at hr
  simp only [hr, Bool.and_eq_true, beq_iff_eq, decide_eq_true_eq, List.isEmpty_iff] at this
  obtain ⟨⟨⟨⟨hy, hb⟩, hc⟩, hd⟩, hwt⟩ := this
  exact ⟨hy, hb, hc, hd, hwt⟩

def TG.rank : TG → Nat
  | .idle => 0
  | .waitBody => 1
  | .subFin _ => 2
  | .subFail _ => 3
  | .subSucc _ => 4
  | .done => 5

/-- The try goroutine deals with the handlers one after the other:

| kind   | role      | `TG` before | `TG` after (`next`) | `thr` | has to run (`sel`, `run v`)        |
|--------|-----------|-------------|---------------------|-------|------------------------------------|
| `fin`  | `hfin y`  | `subFin v`  | `subFail v`         | 3     | always                             |
| `fail` | `hfail y` | `subFail v` | `subSucc v`         | 4     | the body closed with an error (`!v`) |
| `succ` | `hsucc y` | `subSucc v` | `done`              | 5     | the body closed without error (`v`)  |

`thr` is the rank (`TG.rank`) of the state after, from which on the handler has been dealt with: the 3, 4, 5 of
`created` and `YI`. -/
inductive HKind where
  | fin | fail | succ

namespace HKind

def role (y : Nat) : HKind → Role
  | fin => .hfin y
  | fail => .hfail y
  | succ => .hsucc y

def get (d : TryDef) : HKind → Option Nat
  | fin => d.fin
  | fail => d.fail
  | succ => d.succ

def cur (v : Bool) : HKind → TG
  | fin => .subFin v
  | fail => .subFail v
  | succ => .subSucc v

def next (v : Bool) : HKind → TG
  | fin => .subFail v
  | fail => .subSucc v
  | succ => .done

def thr : HKind → Nat
  | fin => 3
  | fail => 4
  | succ => 5

/-- `v`: the body closed without error, as the try goroutine computes it -/
def run (v : Bool) : HKind → Bool
  | fin => true
  | fail => !v
  | succ => v

/-- the same, read off the trace -/
def sel (g : Graph) (tr : List Ev) (y : Nat) : HKind → Prop
  | fin => True
  | fail => Ev.done (g.tryd y).body false ∈ tr
  | succ => Ev.done (g.tryd y).body true ∈ tr

theorem cur_ne_idle (k : HKind) (v : Bool) : k.cur v ≠ .idle := by cases k <;> nofun

theorem cur_ne_done (k : HKind) (v : Bool) : k.cur v ≠ .done := by cases k <;> nofun

theorem rank_cur (k : HKind) (v : Bool) : (k.cur v).rank + 1 = k.thr := by cases k <;> rfl

theorem rank_next (k : HKind) (v : Bool) : (k.next v).rank = k.thr := by cases k <;> rfl

theorem three_le_thr (k : HKind) : 3 ≤ k.thr := by cases k <;> decide

theorem thr_le_five (k : HKind) : k.thr ≤ 5 := by cases k <;> decide

theorem thr_inj {k k' : HKind} (h : k.thr = k'.thr) : k = k' := by cases k <;> cases k' <;> first | rfl | cases h

theorem role_inj {k k' : HKind} {y y' : Nat} (h : k.role y = k'.role y') : k = k' ∧ y = y' := by
  cases k <;> cases k' <;> cases h <;> exact ⟨rfl, rfl⟩

end HKind

theorem role_cases (g : Graph) (t : Nat) :
    g.role t = .top ∨ (∃ p i, g.role t = .child p i) ∨ (∃ y, g.role t = .tbody y) ∨
    ∃ (k : HKind) (y : Nat), g.role t = k.role y := by
  cases g.role t with
  | top => exact .inl rfl
  | child p i => exact .inr (.inl ⟨p, i, rfl⟩)
  | tbody y => exact .inr (.inr (.inl ⟨y, rfl⟩))
  | hsucc y => exact .inr (.inr (.inr ⟨.succ, y, rfl⟩))
  | hfail y => exact .inr (.inr (.inr ⟨.fail, y, rfl⟩))
  | hfin y => exact .inr (.inr (.inr ⟨.fin, y, rfl⟩))

theorem WF.ofKind {g : Graph} (h : WF g) {y : Nat} (hy : y < g.tries.length) (k : HKind) {x : Nat}
    (hx : k.get (g.tryd y) = some x) : x < g.n ∧ g.role x = k.role y := by
  have := h.tryd y hy
  unfold tryOk at this
  simp only [Bool.and_eq_true, decide_eq_true_eq, beq_iff_eq] at this
  obtain ⟨⟨⟨_, hs⟩, hf⟩, hfin⟩ := this
  cases k <;> simp only [HKind.get] at hx <;> simp only [hx] at hs hf hfin
  · simpa [HKind.role] using hfin
  · simpa [HKind.role] using hf
  · simpa [HKind.role] using hs

/-- what `wf` says of a task with the role of a handler of kind `k` of try `y` -/
structure HandlerDef (g : Graph) (t y : Nat) (k : HKind) : Prop where
  lt_tries : y < g.tries.length
  get : k.get (g.tryd y) = some t
  ctx : g.ctx t = g.ctx (g.tryd y).owner
  depth : g.depth t = g.depth (g.tryd y).owner + 1
  waits_nil : g.waits t = []

theorem WF.ofRole {g : Graph} (h : WF g) {t y : Nat} {k : HKind} (ht : t < g.n) (hr : g.role t = k.role y) :
    HandlerDef g t y k := by
  have := h.role t ht
  unfold roleOk at this
  unfold Graph.role at hr
  cases k <;> simp only [HKind.role] at hr <;>
    simp only [hr, Bool.and_eq_true, beq_iff_eq, decide_eq_true_eq, List.isEmpty_iff] at this <;>
    (obtain ⟨⟨⟨⟨hy, hb⟩, hc⟩, hd⟩, hwt⟩ := this; exact ⟨hy, hb, hc, hd, hwt⟩)

theorem mem_handlers {g : Graph} {y h : Nat} :
    h ∈ g.handlers y ↔ (g.tryd y).fin = some h ∨ (g.tryd y).fail = some h ∨ (g.tryd y).succ = some h := by
  unfold Graph.handlers
  simp only [List.mem_append, Option.mem_toList, or_assoc]

theorem mem_handlers_kind {g : Graph} {y h : Nat} :
    h ∈ g.handlers y ↔ ∃ k : HKind, k.get (g.tryd y) = some h := by
  refine mem_handlers.trans ⟨fun hm => ?_, fun ⟨k, e⟩ => ?_⟩
  · rcases hm with e | e | e
    · exact ⟨.fin, e⟩
    · exact ⟨.fail, e⟩
    · exact ⟨.succ, e⟩
  · cases k
    · exact Or.inl e
    · exact Or.inr (Or.inl e)
    · exact Or.inr (Or.inr e)

theorem mem_selected_kind {g : Graph} {tr : List Ev} {y h : Nat} (hsel : h ∈ selected g tr y) :
    ∃ k : HKind, k.get (g.tryd y) = some h ∧ k.sel g tr y := by
  unfold selected at hsel
  simp only [List.mem_append, Option.mem_toList] at hsel
  rcases hsel with (h1 | h1) | h1
  · exact ⟨.fin, h1, trivial⟩
  · split at h1
    · rename_i hd; exact ⟨.fail, by simpa [HKind.get] using h1, hd⟩
    · simp at h1
  · split at h1
    · rename_i hd; exact ⟨.succ, by simpa [HKind.get] using h1, hd⟩
    · simp at h1

theorem mem_selected_of_kind {g : Graph} {tr : List Ev} {y h : Nat} (k : HKind) (hk : k.get (g.tryd y) = some h)
    (hs : k.sel g tr y) : h ∈ selected g tr y := by
  unfold selected
  cases k <;> simp only [HKind.get] at hk <;> simp only [HKind.sel] at hs <;> simp [hk, hs]

theorem selected_sub_handlers {g : Graph} {pre : List Ev} {y h : Nat} (hsel : h ∈ selected g pre y) :
    h ∈ g.handlers y :=
  let ⟨k, hk, _⟩ := mem_selected_kind hsel
  mem_handlers_kind.mpr ⟨k, hk⟩

/-- command `i` of `t` submits the task `c` itself: a `pip:run`, or the body of a `pip:try` -/
def Submits (g : Graph) (t i c : Nat) : Prop :=
  g.cmdAt t i = some (.spawn c) ∨ ∃ y, g.cmdAt t i = some (.try_ y) ∧ c = (g.tryd y).body

theorem unfinished_of_not_all {s : St} {l : List Nat}
    (h : ¬ (l.all fun t => !(s.pc t).accepted || s.pc t == .finished) = true) :
    ∃ t ∈ l, (s.pc t).accepted = true ∧ s.pc t ≠ .finished := by
  obtain ⟨t, ht, hn⟩ := List.all_eq_false.mp (Bool.not_eq_true _ ▸ h)
  refine ⟨t, ht, ?_⟩
  cases ha : (s.pc t).accepted <;> simp [ha] at hn ⊢
  exact hn

theorem guard_try {g : Graph} {s : St} {y : Nat} (hg : cmdChildrenFinished g s (.try_ y) = true) :
    s.tg y = .done ∧ s.pc (g.tryd y).body = .finished ∧
    ∀ h ∈ g.handlers y, (s.pc h).accepted = true → s.pc h = .finished := by
  simp only [cmdChildrenFinished, Bool.and_eq_true, beq_iff_eq, List.all_eq_true, Bool.or_eq_true,
    Bool.not_eq_true'] at hg
  refine ⟨hg.1.1, hg.1.2, fun h hh ha => ?_⟩
  rcases hg.2 h hh with h1 | h1
  · rw [h1] at ha; cases ha
  · exact h1

theorem causeIn_iff {g : Graph} {X : Nat} {tr : List Ev} :
    causeIn g X tr ↔ ∃ u i, Ev.ret u i false ∈ tr ∧ g.ctx u = X := by
  constructor
  · rintro ⟨e, he, hc⟩
    cases e <;> simp [isCause] at hc
    rename_i u i b
    cases b <;> simp at hc
    exact ⟨u, i, he, hc⟩
  · rintro ⟨u, i, he, hc⟩
    exact ⟨_, he, by simp [isCause, hc]⟩

theorem isDoneFail_iff {e : Ev} : isDoneFail e = true ↔ ∃ u, e = .done u false := by
  cases e <;> simp [isDoneFail]
  rename_i u b
  cases b <;> rfl

theorem anyCause_of_causeIn {g : Graph} {X : Nat} {tr : List Ev} (h : causeIn g X tr) : anyCause tr :=
  let ⟨_, _, he, _⟩ := causeIn_iff.mp h
  ⟨_, he, rfl⟩

theorem tableOk_false {g : Graph} {s : St} (h : tableOk g s = false) :
    ∃ u, u < g.n ∧ (s.pc u).accepted = true ∧ s.cerr (g.ctx u) = true := by
  obtain ⟨u, hu, hn⟩ := List.all_eq_false.mp h
  refine ⟨u, List.mem_range.mp hu, ?_⟩
  cases ha : (s.pc u).accepted <;> cases hc : s.cerr (g.ctx u) <;> simp [ha, hc] at hn ⊢

end Goat.Pipeline
