/-
C19, sequential part: the algebra of template sets (`over` is a monoid action, `load` and the fresh builds
`spec*` factor through it) and the view-cache key (`KeyP`, injectivity of `mkKey`).
-/
import Goat.Model.Templates
import Goat.Proofs.Lists

namespace Goat.Tmpl

theorem pick_none_left (b : Option Body) : pick none b = b := rfl

theorem pick_none_right (a : Option Body) : pick a none = a := by
  cases a with
  | none => rfl
  | some x => simp only [pick]; split <;> rfl

/-- a chain of `pick`s yields the topmost non-blank body, else the bottom-most defined one; the cases are none /
blank / non-blank per argument -/
theorem pick_assoc (a b c : Option Body) : pick a (pick b c) = pick (pick a b) c := by
  cases a with
  | none => rfl
  | some x =>
    cases b with
    | none =>
      cases c with
      | none => simp [pick]
      | some z => by_cases hx : blank x = true <;> simp [pick, hx]
    | some y =>
      cases c with
      | none => by_cases hx : blank x = true <;> by_cases hy : blank y = true <;> simp [pick, hx, hy]
      | some z => by_cases hx : blank x = true <;> by_cases hy : blank y = true <;> simp [pick, hx, hy]

theorem over_empty_left (t : TSet) : over TSet.empty t = t := rfl

theorem over_empty_right (t : TSet) : over t TSet.empty = t := by
  funext n; exact pick_none_right (t n)

theorem over_assoc (a b c : TSet) : over a (over b c) = over (over a b) c := by
  funext n; exact pick_assoc (a n) (b n) (c n)

theorem pick_eq_orElse (a b : Option Body) (h : ∀ x, a = some x → blank x = false) :
    pick a b = (a <|> b) := by
  cases a with
  | none => rfl
  | some x => simp [pick, h x rfl]

theorem load_over (t : TSet) (fs : List File) :
    load t fs = (load TSet.empty fs).map (fun d => over d t) := by
  induction fs generalizing t with
  | nil => simp [load, over_empty_left]
  | cons f fs ih =>
    by_cases hf : f.tmpl = true
    · simp only [load, hf, if_true, parseInto]
      cases hft : fileTrees f with
      | none => simp
      | some tr =>
        simp only [over_empty_right]
        rw [ih (over tr t), ih tr]
        cases load TSet.empty fs with
        | none => rfl
        | some d => simp [over_assoc]
    · simp only [load, hf]
      exact ih t

theorem load_nil (t : TSet) : load t [] = some t := rfl

theorem layerDefs_none : layerDefs none = some TSet.empty := rfl

theorem specBase_eq (src : Src) : specBase src = layerDefs src.helpers := by
  unfold specBase layerDefs
  cases src.helpers <;> rfl

theorem specLayout_eq (src : Src) (l : Name) :
    specLayout src l =
      (layerDefs src.helpers).bind fun H => (layerDefs (src.layout l)).map fun L => over L H := by
  unfold specLayout
  rw [specBase_eq]
  cases layerDefs src.helpers with
  | none => rfl
  | some H =>
    cases hl : src.layout l with
    | none => simp [layerDefs, load, over_empty_left]
    | some fs => simp [layerDefs, load_over H fs]

theorem specView_eq (src : Src) (l v : Name) :
    specView src l v =
      (layerDefs src.helpers).bind fun H => (layerDefs (src.layout l)).bind fun L =>
        (layerDefs (src.view v)).map fun W => over W (over L H) := by
  unfold specView
  rw [specLayout_eq]
  cases layerDefs src.helpers with
  | none => rfl
  | some H =>
    cases layerDefs (src.layout l) with
    | none => rfl
    | some L =>
      simp only [Option.bind_some, Option.map_some]
      rw [load_over]
      rfl

/-- the layout name cannot be confused with another one inside a joined key -/
def KeyP (V : Variant) (l : Name) : Prop := V.pairKey = true ∨ colon ∉ l

theorem mkKey_inj {V : Variant} {l l' v v' : Name} (h1 : KeyP V l) (h2 : KeyP V l')
    (h : mkKey V l v = mkKey V l' v') : l = l' ∧ v = v' := by
  unfold mkKey at h
  by_cases hp : V.pairKey = true
  · simp only [hp, if_true, Prod.mk.injEq] at h
    exact h
  · simp only [hp] at h
    have a1 : colon ∉ l := h1.resolve_left hp
    have a2 : colon ∉ l' := h2.resolve_left hp
    exact append_cons_inj a1 a2 (by simpa using h)

theorem keyP_default (V : Variant) : KeyP V defaultLayout := by
  right; decide

instance (V : Variant) (l : Name) : Decidable (KeyP V l) := by unfold KeyP; infer_instance

end Goat.Tmpl
