/-
For properties C14/C16: deadlock freedom, under every steering policy of the harness's gate controller
(`Model/Pipeline.lean`, "Steered schedules"), so in particular without steering: in every reachable state in which the
main thread has not finished some thread can move.  The argument follows the waits-for chain: a task waits for an
entry of its wait list (same nesting depth, accepted strictly earlier) or for something it submitted itself (one level
deeper), so the chain ends.  A handler held in its first command waits for a handler of the SAME try block that is
itself never held.
-/
import Goat.Proofs.PipelineFacts

namespace Goat.Pipeline

/-- the event that shows the acceptance of a task submitted by name (`acceptedEv` for `nameable` tasks) -/
def accEvOf (g : Graph) (u : Nat) : Ev :=
  match g.role u with
  | .child p i => .ret p i true
  | _ => .acc u

theorem acceptedEv_iff_nameable {g : Graph} {tr : List Ev} {u : Nat} (h : nameable g u) :
    acceptedEv g tr u ↔ accEvOf g u ∈ tr := by
  unfold acceptedEv accEvOf
  rcases h with h | ⟨p, i, h⟩ <;> rw [h]

theorem wait_earlier {g : Graph} {s : St} (hw : WF g) (hI : Inv g s) {u w : Nat}
    (hu : (s.pc u).accepted = true) (hwm : w ∈ g.waits u) :
    nameable g w ∧ (s.pc w).accepted = true ∧ g.depth w = g.depth u ∧
    s.tr.idxOf (accEvOf g w) < s.tr.idxOf (accEvOf g u) := by
  have U := hI.ti u
  have hun : u < g.n := hI.lt_of_accepted hu
  -- a task with a wait list is submitted by name
  have hnu : nameable g u := by
    rcases role_cases g u with hr | ⟨p, i, hr⟩ | ⟨y, hr⟩ | ⟨k, y, hr⟩
    · exact Or.inl hr
    · exact Or.inr ⟨p, i, hr⟩
    · rw [(hw.tbody hun hr).2.2.2.2] at hwm; cases hwm
    · rw [(hw.ofRole hun hr).waits_nil] at hwm; cases hwm
  have hacc := (acceptedEv_iff_nameable hnu).mp (U.accEv hu hnu)
  obtain ⟨pre, post, hs, hnp⟩ := List.eq_append_cons_of_mem hacc
  have hok := hI.ok pre _ post hs
  -- at its acceptance event the wait list was checked
  have hwacc : acceptedEv g pre w := by
    unfold accEvOf at hok hs
    rcases hnu with hr | ⟨p, i, hr⟩
    · rw [hr] at hok; exact hok.2 w hwm
    · rw [hr] at hs
      exact hI.ok.spawned hs (hw.child hun hr).1 w hwm
  have hwacc' : acceptedEv g s.tr w := by rw [hs]; exact acceptedEv_mono _ hwacc
  have hwa : (s.pc w).accepted = true := (hI.ti w).accEv' hwacc'
  have hwn : w < g.n := hI.lt_of_accepted hwa
  rcases hw.wait_cases hun hwm with h1 | ⟨hnw, hd, _⟩
  · omega
  · refine ⟨hnw, hwa, hd, ?_⟩
    have hwin : accEvOf g w ∈ pre := (acceptedEv_iff_nameable hnw).mp hwacc
    rw [hs, List.idxOf_append, List.idxOf_append, if_pos hwin, if_neg hnp, List.idxOf_cons_self, Nat.zero_add]
    exact List.idxOf_lt_length_of_mem hwin

/-- what an open runner waits for: nothing, an entry of its wait list, a task it submitted, the try goroutine of its
`pip:try` -/
theorem open_task_cases {g : Graph} {s : St} (hw : WF g) (hI : Inv g s) {u : Nat} (ha : (s.pc u).accepted = true)
    (hf : s.pc u ≠ .finished) :
    (stepTask g s u).isSome = true ∨ (∃ w ∈ g.waits u, s.pc w ≠ .finished) ∨
    (∃ c, c < g.n ∧ g.depth c = g.depth u + 1 ∧ (s.pc c).accepted = true ∧ s.pc c ≠ .finished) ∨
    ∃ y, (step g s (.tryg y)).isSome = true := by
  have U := hI.ti u
  have hun : u < g.n := hI.lt_of_accepted ha
  cases hpc : s.pc u with
  | idle => rw [hpc] at ha; cases ha
  | rejected => rw [hpc] at ha; cases ha
  | finished => exact absurd hpc hf
  | closing f => exact Or.inl (by simp [stepTask, hpc])
  | run i =>
    refine Or.inl ?_
    simp only [stepTask, hpc]
    split <;> rfl
  | inCmd i =>
    unfold TIs at U; rw [hpc] at U
    obtain ⟨c, hc⟩ := cmdAt_some_of_lt (U.inc i rfl).1
    refine Or.inl ?_
    simp only [stepTask, hpc, hc]
    cases c <;> simp <;> split <;> rfl
  | waiting k =>
    cases hk : (g.waits u)[k]? with
    | none => exact Or.inl (by simp [stepTask, hpc, hk])
    | some w =>
      by_cases hwf : s.pc w = .finished
      · refine Or.inl ?_
        simp only [stepTask, hpc, hk, hwf, beq_self_eq_true, if_true]
        split <;> rfl
      · exact Or.inr (Or.inl ⟨w, List.mem_of_getElem? hk, hwf⟩)
  | afterCmd i =>
    unfold TIs at U; rw [hpc] at U
    obtain ⟨hil, hret⟩ := U.aft i rfl
    obtain ⟨c, hc⟩ := cmdAt_some_of_lt hil
    by_cases hg : cmdChildrenFinished g s c = true
    · refine Or.inl ?_
      simp only [stepTask, hpc, hc, hg, if_true]
      split <;> rfl
    · cases c with
      | probe => simp [cmdChildrenFinished] at hg
      | fail => simp [cmdChildrenFinished] at hg
      | stop => simp [cmdChildrenFinished] at hg
      | spawn c =>
        simp only [cmdChildrenFinished, beq_iff_eq] at hg
        have hch : Submits g u i c := Or.inl hc
        exact Or.inr (Or.inr (Or.inl ⟨c, (hch.facts hw).lt, (hch.facts hw).depth, child_accepted hw hI hch hret, hg⟩))
      | try_ y =>
        obtain ⟨hy, ho, hix⟩ := hw.tryc hun hc
        have Y := hI.yi y hy
        have hch : Submits g u i (g.tryd y).body := Or.inr ⟨y, hc, rfl⟩
        by_cases hbf : s.pc (g.tryd y).body = .finished
        · by_cases hdn : s.tg y = .done
          · simp only [cmdChildrenFinished, hdn, hbf, beq_self_eq_true, Bool.true_and] at hg
            obtain ⟨h, hh, hha, hhf⟩ := unfinished_of_not_all hg
            obtain ⟨k, hk⟩ := mem_handlers_kind.mp hh
            obtain ⟨hhn, hhr⟩ := hw.ofKind hy k hk
            have hhd : g.depth h = g.depth u + 1 := by rw [(hw.ofRole hhn hhr).depth, ho]
            exact Or.inr (Or.inr (Or.inl ⟨h, hhn, hhd, hha, hhf⟩))
          · refine Or.inr (Or.inr (Or.inr ⟨y, ?_⟩))
            cases htg : s.tg y with
            | idle => exact absurd htg (Y.started' (by rw [ho, hix]; exact hret))
            | done => exact absurd htg hdn
            | _ => simp [step, stepTry, htg, hbf]
        · exact Or.inr (Or.inr (Or.inl ⟨_, (hch.facts hw).lt, (hch.facts hw).depth, child_accepted hw hI hch hret, hbf⟩))

def Enabled (g : Graph) (s : St) : Prop := ∃ l, (step g s l).isSome = true

section Steered

variable {g : Graph} {pol : Nat → Steer}

/-- some label is enabled and not held back by the controller -/
def EnabledS (g : Graph) (pol : Nat → Steer) (s : St) : Prop :=
  ∃ l, blocked g pol s l = false ∧ (step g s l).isSome = true

theorem blocked_tryg (s : St) (y : Nat) : blocked g pol s (.tryg y) = false := rfl
theorem blocked_main (s : St) : blocked g pol s .main = false := rfl

theorem not_blocked_of_pc {s : St} {u : Nat} (h : s.pc u ≠ .inCmd 0) : blocked g pol s (.task u) = false := by
  have : (s.pc u == PC.inCmd 0) = false := by
    cases hq : s.pc u == PC.inCmd 0
    · rfl
    · exact absurd (by simpa using hq) h
  simp only [blocked, this, Bool.false_and]

theorem blocked_task {s : St} {h : Nat} (hb : blocked g pol s (.task h) = true) :
    s.pc h = .inCmd 0 ∧ ∃ y w d, heldFor g pol s.tr h = some (y, w, d) ∧ fateSeen g s.tr y w d = false := by
  unfold blocked at hb
  simp only [Bool.and_eq_true, beq_iff_eq] at hb
  refine ⟨hb.1, ?_⟩
  have h2 := hb.2
  split at h2
  · rename_i y w d heq
    exact ⟨y, w, d, heq, by simpa using h2⟩
  · cases h2

theorem selectedH_kind {tr : List Ev} {y w : Nat} (h : selectedH g tr y = some w) :
    ∃ k : HKind, k ≠ .fin ∧ k.get (g.tryd y) = some w ∧ k.sel g tr y := by
  unfold selectedH at h
  split at h
  · rename_i hd; exact ⟨.fail, nofun, h, hd⟩
  · split at h
    · rename_i hd; exact ⟨.succ, nofun, h, hd⟩
    · cases h

/-- `kh`: the held handler; `kw`: the one it is made to wait for: `finally` waits for the selected handler or the other
way round -/
theorem heldFor_cases {tr : List Ev} {h y w : Nat} {d : Bool} (hh : heldFor g pol tr h = some (y, w, d)) :
    ∃ kh kw : HKind, g.role h = kh.role y ∧ kw.get (g.tryd y) = some w ∧ kw.sel g tr y ∧
      ((kh = .fin ∧ kw ≠ .fin ∧ pol y = .holdFin d) ∨ (kh ≠ .fin ∧ kw = .fin ∧ pol y = .holdSel d)) := by
  unfold heldFor at hh
  split at hh
  · rename_i y' hr
    split at hh
    · rename_i d' hp
      obtain ⟨w', hs, he⟩ := Option.map_eq_some_iff.mp hh
      cases he
      obtain ⟨k, hkf, hk, hks⟩ := selectedH_kind hs
      exact ⟨.fin, k, hr, hk, hks, Or.inl ⟨rfl, hkf, hp⟩⟩
    · cases hh
  · rename_i y' hr
    split at hh
    · rename_i d' hp
      obtain ⟨w', hs, he⟩ := Option.map_eq_some_iff.mp hh
      cases he
      exact ⟨.fail, .fin, hr, hs, trivial, Or.inr ⟨nofun, rfl, hp⟩⟩
    · cases hh
  · rename_i y' hr
    split at hh
    · rename_i d' hp
      obtain ⟨w', hs, he⟩ := Option.map_eq_some_iff.mp hh
      cases he
      exact ⟨.succ, .fin, hr, hs, trivial, Or.inr ⟨nofun, rfl, hp⟩⟩
    · cases hh
  · cases hh

theorem not_blocked_of_nameable {s : St} {u : Nat} (hn : nameable g u) : blocked g pol s (.task u) = false := by
  cases hb : blocked g pol s (.task u)
  · rfl
  · obtain ⟨_, y, w, d, hh, _⟩ := blocked_task hb
    obtain ⟨kh, _, hr, _⟩ := heldFor_cases hh
    exact absurd hn (role_kind hr).not_nameable

/-- a policy holds the finally handler or the selected handler of a try block, never both -/
theorem not_blocked_other {s : St} {w y : Nat} {kw : HKind} (hr : g.role w = kw.role y)
    (h : (kw ≠ .fin ∧ ∃ d, pol y = .holdFin d) ∨ (kw = .fin ∧ ∃ d, pol y = .holdSel d)) :
    blocked g pol s (.task w) = false := by
  cases hbw : blocked g pol s (.task w)
  · rfl
  · obtain ⟨_, y', w', d', hh', _⟩ := blocked_task hbw
    obtain ⟨kh', _, hr', _, _, hp'⟩ := heldFor_cases hh'
    obtain ⟨rfl, rfl⟩ := HKind.role_inj (hr.symm.trans hr')
    rcases h with ⟨hk, d, hp⟩ | ⟨hk, d, hp⟩ <;> rcases hp' with ⟨hk', _, hp'⟩ | ⟨hk', _, hp'⟩ <;>
      first | exact absurd hk' hk | exact absurd hk hk' | (rw [hp] at hp'; cases hp')

theorem fateSeen_false {tr : List Ev} {y w : Nat} {d : Bool} (h : fateSeen g tr y w d = false) :
    ¬ hasDone tr w ∧ ∀ h' ∈ g.handlers y, Ev.hrej h' ∉ tr := by
  unfold fateSeen at h
  simp only [Bool.or_eq_false_iff, decide_eq_false_iff_not, List.any_eq_false, decide_eq_true_eq] at h
  exact ⟨h.1.2, fun h' hm => h.2 h' hm⟩

/-- the handler a held one waits for: same try, same depth, never held, and open as soon as the try goroutine has got
to it -/
theorem awaited {s : St} (hw : WF g) (hI : Inv g s) {h : Nat} (hb : blocked g pol s (.task h) = true) :
    ∃ y w, y < g.tries.length ∧ w < g.n ∧ g.depth w = g.depth h ∧ blocked g pol s (.task w) = false ∧
      ((step g s (.tryg y)).isSome = true ∨ ((s.pc w).accepted = true ∧ s.pc w ≠ .finished)) := by
  obtain ⟨hpc, y, w, d, hh, hfs⟩ := blocked_task hb
  obtain ⟨hnd, hnr⟩ := fateSeen_false hfs
  have H := hI.ti h
  have hn : h < g.n := H.range (by rw [hpc]; simp)
  obtain ⟨kh, kw, hr, hk, hks, hpol⟩ := heldFor_cases hh
  have hy := (hw.ofRole hn hr).lt_tries
  have hdh := (hw.ofRole hn hr).depth
  have htof := (role_kind hr).tryOf
  have hcr := (role_kind hr).created_iff
  -- the held handler exists, so the try goroutine has dealt with it
  have hrk : kh.thr ≤ (s.tg y).rank := by
    unfold TIs at H; rw [htof] at H
    exact (hcr _ _).mp (H.once (by rw [hpc]; simp))
  obtain ⟨a, b⟩ := hw.ofKind hy kw hk
  refine ⟨y, w, hy, a, by rw [(hw.ofRole a b).depth, hdh],
    not_blocked_other b (hpol.imp (fun h => ⟨h.2.1, d, h.2.2⟩) (fun h => ⟨h.2.1, d, h.2.2⟩)), ?_⟩
  by_cases hlt : kw.thr ≤ (s.tg y).rank
  · right
    rcases ((hI.yi y hy).handled kw hlt hks hk).2 with ⟨ha, _⟩ | ⟨h', hm', hr'⟩
    · exact ⟨ha, fun hf => hnd ((hI.ti w).fin hf).1⟩
    · exact absurd hr' (hnr h' hm')
  · -- … and not yet with the awaited one: it is about to submit the fail or the success handler
    left
    have h3 : 3 ≤ (s.tg y).rank := Nat.le_trans kh.three_le_thr hrk
    have h5 : (s.tg y).rank < 5 := Nat.lt_of_lt_of_le (Nat.lt_of_not_le hlt) kw.thr_le_five
    cases htg : s.tg y <;> rw [htg] at h3 h5 <;> simp [TG.rank] at h3 h5 <;> simp [step, stepTry, htg]

/-- `D`: any bound on the nesting depths -/
theorem enabledS_of_unfinished {s : St} (hw : WF g) (hI : Inv g s) {D : Nat} (hD : ∀ t, t < g.n → g.depth t ≤ D) :
    ∀ d u, D - g.depth u = d → (s.pc u).accepted = true → s.pc u ≠ .finished → EnabledS g pol s := by
  intro d
  induction d using Nat.strongRecOn with
  | _ d ihd =>
  -- first: tasks that are not held, by the position of their acceptance event
  have free : ∀ n u, D - g.depth u = d → s.tr.idxOf (accEvOf g u) = n →
      (s.pc u).accepted = true → s.pc u ≠ .finished → blocked g pol s (.task u) = false → EnabledS g pol s := by
    intro n
    induction n using Nat.strongRecOn with
    | _ n ihn =>
    intro u hd hn ha hf hnb
    rcases open_task_cases hw hI ha hf with h | ⟨w, hwm, hwf⟩ | ⟨c, hc, hdc, hca, hcf⟩ | ⟨y, h⟩
    · exact ⟨.task u, hnb, h⟩
    · obtain ⟨hnw, hwa, hdw, hlt⟩ := wait_earlier hw hI ha hwm
      exact ihn _ (by rw [← hn]; exact hlt) w (by rw [hdw]; exact hd) rfl hwa hwf (not_blocked_of_nameable hnw)
    · have hdc' := hD c hc
      exact ihd (D - g.depth c) (by omega) c rfl hca hcf
    · exact ⟨.tryg y, blocked_tryg s y, h⟩
  -- then: a held task waits for one that is not held, at the same depth
  intro u hd ha hf
  cases hb : blocked g pol s (.task u) with
  | false => exact free _ u hd rfl ha hf hb
  | true =>
    obtain ⟨y, w, hy, hwn, hdw, hbw, hor⟩ := awaited hw hI hb
    rcases hor with h | ⟨hwa, hwf⟩
    · exact ⟨.tryg y, blocked_tryg s y, h⟩
    · exact free _ w (by rw [hdw]; exact hd) rfl hwa hwf hbw

theorem progressS {s : St} (hw : WF g) (hI : Inv g s) (hm : s.mp ≠ .finished) : EnabledS g pol s := by
  cases hmp : s.mp with
  | finished => exact absurd hmp hm
  | sub j =>
    refine ⟨.main, blocked_main s, ?_⟩
    simp only [step, stepMain, hmp]
    split <;> rfl
  | create j =>
    obtain ⟨t, ht, _⟩ := hI.mi.cr j hmp
    refine ⟨.main, blocked_main s, ?_⟩
    simp only [step, stepMain, hmp, ht]
    split <;> rfl
  | fins t =>
    refine ⟨.main, blocked_main s, ?_⟩
    simp only [step, stepMain, hmp]
    split
    · split <;> rfl
    · rfl
  | wait =>
    by_cases hall : allFinished g s = true
    · exact ⟨.main, blocked_main s, by simp [step, stepMain, hmp, hall]⟩
    · obtain ⟨u, _, hua, huf⟩ := unfinished_of_not_all (l := List.range g.n) hall
      -- the bound on the depths: their sum
      exact enabledS_of_unfinished hw hI (fun t ht => LTS.le_sum_map g.depth (List.mem_range.2 ht)) _ u rfl hua huf

end Steered

theorem progress {g : Graph} {s : St} (hw : WF g) (hI : Inv g s) (hm : s.mp ≠ .finished) : Enabled g s :=
  let ⟨l, _, h⟩ := progressS (pol := fun _ => .free) hw hI hm
  ⟨l, h⟩

end Goat.Pipeline
