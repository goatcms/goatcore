/-
Handles, the journal invariant `JInv`, the view invariant (and, without removes, `JInv`) along every history of the
class of `ryw_partial` (`class_run`), and read-your-writes for a read-type call through the cache or a child view.
-/
import Goat.Proofs.CacheCopy
import Goat.Proofs.ViewsSpec

namespace Goat
namespace Cache

open Path (Name norm join slash Reduced Plain cleanPath reduceAbsPath)
open FS (Op Result Entry Mut)
open MemFS MemAbs

/-- the normal form of the handle's base path: where the view is rooted -/
def handleBase : Handle → Option (List Name)
  | .cache => some []
  | .sub base => norm base

/-- the cache itself, or a child view whose base string ends in `/` and normalises to `b` -/
def HandleShape (h : Handle) (b : List Name) : Prop :=
  h = .cache ∧ b = [] ∨ ∃ base0, h = .sub (base0 ++ [slash]) ∧ norm (base0 ++ [slash]) = some b

/-- `h` is an ok handle rooted at `b`, in the three forms its users need (`spec`: the memory filespace handle that direct
application goes through). -/
structure Rooted (h : Handle) (b : List Name) : Prop where
  base : handleBase h = some b
  spec : ∃ ref, specRef h = some ref ∧ ViewOK ref b
  shape : HandleShape h b

theorem handle_ok {h : Handle} (hok : h.ok = true) : ∃ b, Rooted h b := by
  cases h with
  | cache => exact ⟨[], rfl, ⟨.root, rfl, rfl⟩, Or.inl ⟨rfl, rfl⟩⟩
  | sub base =>
    simp only [Handle.ok, Bool.and_eq_true, beq_iff_eq, nf] at hok
    obtain ⟨hl, hn⟩ := hok
    obtain ⟨base0, rfl⟩ := List.getLast?_eq_some_iff.mp hl
    cases hb : norm (base0 ++ [slash]) with
    | none => simp [hb] at hn
    | some b =>
      have hr := Path.norm_reduced _ b hb
      refine ⟨b, hb, ⟨.wrap (join b ++ [slash]), ?_, ⟨hr, rfl⟩⟩, Or.inr ⟨base0, rfl, hb⟩⟩
      simp [specRef, newWrapper, reduceAbsPath_of_norm hb]

theorem rooted_of_base {h : Handle} {b : List Name} (hok : h.ok = true) (hb : handleBase h = some b) : Rooted h b := by
  obtain ⟨b', R⟩ := handle_ok hok
  rw [R.base] at hb; cases hb
  exact R

/-- the path string that reaches the cache for an argument `raw` of normal form `p` given through the handle -/
def cachePath : Handle → List Name → Bytes → Bytes
  | .cache, _, raw => raw
  | .sub base, p, _ => base ++ join p

theorem norm_cachePath {h : Handle} {b : List Name}
    (hs : HandleShape h b)
    (raw : Bytes) (p : List Name) (hn : norm raw = some p) : norm (cachePath h p raw) = some (b ++ p) := by
  rcases hs with ⟨rfl, rfl⟩ | ⟨base0, rfl, hb⟩
  · simpa [cachePath] using hn
  · exact norm_sub base0 b p hb (Path.norm_reduced raw p hn)

/-- On the class of `commit_equiv_partial`: a journalled mkdir is a directory of the buffer, a journalled write a file of
the buffer whose `path.Dir` is its parent; nothing is journalled for removal. -/
def EntryOK (buffer : Node) : JEntry → Prop
  | .mk m => ∃ M, norm m = some M ∧ abs buffer M = some .dir
  | .wr w => ∃ W d, norm w = some W ∧ abs buffer W = some (.file d) ∧ norm (pathDir w) = some W.dropLast
  | _ => False

/-- every journal entry is `EntryOK`, and every node of the buffer lies on the way to a journalled path (`covJ`) -/
structure JInv (s : State) : Prop where
  rmJ : s.remove = []
  rmaJ : s.removeAll = []
  wrJ : ∀ w ∈ s.write, EntryOK s.buffer (.wr w)
  mkJ : ∀ m ∈ s.mkdirAll, EntryOK s.buffer (.mk m)
  covJ : ∀ q, abs s.buffer q ≠ none → q = []
    ∨ (∃ w ∈ s.write, ∃ W, norm w = some W ∧ q <+: W) ∨ (∃ m ∈ s.mkdirAll, ∃ M, norm m = some M ∧ q <+: M)

theorem jinv_new (r : Node) : JInv (State.new r) := by
  refine ⟨rfl, rfl, by simp [State.new], by simp [State.new], fun q hq => Or.inl ?_⟩
  cases q with
  | nil => rfl
  | cons a rest => simp [State.new, abs, Node.empty, Node.lookup, Kids.find] at hq

theorem JInv.remote {s : State} (J : JInv s) (t : Node) : JInv { s with remote := t } :=
  ⟨J.rmJ, J.rmaJ, J.wrJ, J.mkJ, J.covJ⟩

/-- `k`: the key a successful `WriteFile` / `Writer` journals -/
theorem jinv_write_like {s : State} (J : JInv s) (s' : State) (P : List Name) (data k : Bytes)
    (hk : norm k = some P) (hkd : norm (pathDir k) = some P.dropLast) (hpre : FS.writeOk (abs s.buffer) P)
    (hb : abs s'.buffer = FS.writeSt (abs s.buffer) P data) (hw : s'.write = jadd s.write k)
    (hm : s'.mkdirAll = s.mkdirAll) (hr : s'.remove = s.remove) (hra : s'.removeAll = s.removeAll) : JInv s' := by
  have hat : abs s'.buffer P = some (.file data) := by rw [hb]; exact FS.writeSt_at _ _ _
  -- an old entry keeps its value unless it lies on the way to P
  have hkeep : ∀ q e, abs s.buffer q = some e → ¬ (q <+: P.dropLast ∧ ∃ d, e = .file d) →
      (e = .dir → q ≠ P) → abs s'.buffer q = some e ∨ q = P := by
    intro q e hq hnf hnd
    by_cases hqP : q = P
    · exact Or.inr hqP
    · left
      rw [hb]; simp only [FS.writeSt, if_neg hqP, FS.mkdirSt]
      by_cases hq' : q <+: P.dropLast
      · rw [if_pos hq']
        cases e with
        | dir => rfl
        | file d => exact absurd ⟨hq', d, rfl⟩ hnf
      · rw [if_neg hq']; exact hq
  refine ⟨by rw [hr]; exact J.rmJ, by rw [hra]; exact J.rmaJ, ?_, ?_, ?_⟩
  · intro w hw'
    rw [hw, mem_jadd] at hw'
    rcases hw' with hw' | rfl
    · obtain ⟨W, d, h1, h2, h3⟩ := J.wrJ w hw'
      rcases hkeep W _ h2 (fun ⟨hq, _⟩ => hpre.2.1 W hq d h2) (fun e => by cases e) with h | h
      · exact ⟨W, d, h1, h, h3⟩
      · subst h; exact ⟨W, data, h1, hat, h3⟩
    · exact ⟨P, data, hk, hat, hkd⟩
  · intro m hm'
    rw [hm] at hm'
    obtain ⟨M, h1, h2⟩ := J.mkJ m hm'
    rcases hkeep M _ h2 (fun ⟨_, d, e⟩ => by cases e) (fun _ e => hpre.2.2 (e ▸ h2)) with h | h
    · exact ⟨M, h1, h⟩
    · exact absurd (h ▸ h2) hpre.2.2
  · intro q hq
    by_cases hqP : q <+: P
    · exact Or.inr (Or.inl ⟨k, by rw [hw, mem_jadd]; exact Or.inr rfl, P, hk, hqP⟩)
    · have hold : abs s.buffer q ≠ none := by
        rw [hb, FS.writeSt_frame _ _ _ _ hqP] at hq; exact hq
      rcases J.covJ q hold with h | ⟨w, hw', W, h1, h2⟩ | ⟨m, hm', M, h1, h2⟩
      · exact Or.inl h
      · exact Or.inr (Or.inl ⟨w, by rw [hw, mem_jadd]; exact Or.inl hw', W, h1, h2⟩)
      · exact Or.inr (Or.inr ⟨m, by rw [hm]; exact hm', M, h1, h2⟩)

theorem jinv_mkdir_like {s : State} (J : JInv s) (s' : State) (P : List Name) (k : Bytes)
    (hk : norm k = some P) (hpre : FS.mkdirOk (abs s.buffer) P)
    (hb : abs s'.buffer = FS.mkdirSt (abs s.buffer) P) (hm : s'.mkdirAll = jadd s.mkdirAll k)
    (hw : s'.write = s.write) (hr : s'.remove = s.remove) (hra : s'.removeAll = s.removeAll) : JInv s' := by
  refine ⟨by rw [hr]; exact J.rmJ, by rw [hra]; exact J.rmaJ, ?_, ?_, ?_⟩
  · intro w hw'
    rw [hw] at hw'
    obtain ⟨W, d, h1, h2, h3⟩ := J.wrJ w hw'
    refine ⟨W, d, h1, ?_, h3⟩
    rw [hb]; simp only [FS.mkdirSt]
    by_cases hq : W <+: P
    · exact absurd h2 (hpre W hq d)
    · rw [if_neg hq]; exact h2
  · intro m hm'
    rw [hm, mem_jadd] at hm'
    rcases hm' with hm' | rfl
    · obtain ⟨M, h1, h2⟩ := J.mkJ m hm'
      refine ⟨M, h1, ?_⟩
      rw [hb]; simp only [FS.mkdirSt]
      by_cases hq : M <+: P
      · rw [if_pos hq]
      · rw [if_neg hq]; exact h2
    · exact ⟨P, hk, by rw [hb]; simp [FS.mkdirSt]⟩
  · intro q hq
    by_cases hqP : q <+: P
    · exact Or.inr (Or.inr ⟨k, by rw [hm, mem_jadd]; exact Or.inr rfl, P, hk, hqP⟩)
    · have hold : abs s.buffer q ≠ none := by
        rw [hb] at hq; simp only [FS.mkdirSt, if_neg hqP] at hq; exact hq
      rcases J.covJ q hold with h | ⟨w, hw', W, h1, h2⟩ | ⟨m, hm', M, h1, h2⟩
      · exact Or.inl h
      · exact Or.inr (Or.inl ⟨w, by rw [hw]; exact hw', W, h1, h2⟩)
      · exact Or.inr (Or.inr ⟨m, by rw [hm, mem_jadd]; exact Or.inl hm', M, h1, h2⟩)

theorem step_eq_cacheOp (h : Handle) (s : State) (op : Op) :
    step h s op = match cacheOp h op with | some op' => stepCache s op' | none => (s, failResult op) := by
  cases h <;> rfl

/-! A call through a handle reaches the cache as the same call at `cachePath` (by the method classes of ViewsSpec);
a `SubFS` refuses `Remove` / `RemoveAll` of its own root, and a climbing argument. -/

section
open Views (OnePath NonRoot TwoPath)
variable {h : Handle} {b : List Name} (hs : HandleShape h b)
include hs

theorem cacheOp_one {k : Bytes → Op} (hk : OnePath k) (raw : Bytes) (p : List Name) (hn : norm raw = some p) :
    cacheOp h (k raw) = some (k (cachePath h p raw)) := by
  rcases hs with ⟨rfl, rfl⟩ | ⟨base0, rfl, _⟩
  · rfl
  · cases hk <;> simp only [cacheOp, subOp, reduceAbsPath_of_norm hn, Option.map_some, cachePath]

theorem cacheOp_nonRoot {k : Bytes → Op} (hk : NonRoot k) (raw : Bytes) (p : List Name) (hn : norm raw = some p)
    (hp : p ≠ []) : cacheOp h (k raw) = some (k (cachePath h p raw)) := by
  rcases hs with ⟨rfl, rfl⟩ | ⟨base0, rfl, _⟩
  · rfl
  · obtain ⟨c, tl, e⟩ := List.exists_cons_of_ne_nil
      (mt (Path.join_eq_nil_iff p (Path.norm_reduced raw p hn)).mp hp)
    cases hk <;> simp only [cacheOp, subOp, reduceAbsPath_of_norm hn, cachePath, e, Option.map_some]

theorem cacheOp_two {k : Bytes → Bytes → Op} (hk : TwoPath k) (rs rd : Bytes) (ps pd : List Name)
    (hns : norm rs = some ps) (hnd : norm rd = some pd) :
    cacheOp h (k rs rd) = some (k (cachePath h ps rs) (cachePath h pd rd)) := by
  rcases hs with ⟨rfl, rfl⟩ | ⟨base0, rfl, _⟩
  · rfl
  · cases hk <;> simp [cacheOp, subOp, reduceAbsPath_of_norm hns, reduceAbsPath_of_norm hnd, cachePath]

theorem step_one {k : Bytes → Op} (hk : OnePath k) (s : State) (raw : Bytes) (p : List Name) (hn : norm raw = some p) :
    step h s (k raw) = stepCache s (k (cachePath h p raw)) := by
  rw [step_eq_cacheOp, cacheOp_one hs hk raw p hn]

end

theorem cacheOp_climb {k : Bytes → Op} (hk : Views.OnePath k) (base raw : Bytes) (hn : norm raw = none) :
    cacheOp (.sub base) (k raw) = none := by
  cases hk <;> simp [cacheOp, subOp, reduceAbsPath_none hn]

theorem read_onePath {op : Op} (h : isRead op = true) : ∃ k raw, Views.OnePath k ∧ op = k raw := by
  rcases Views.op_cases op with h1 | ⟨k, p, hk, rfl⟩ | ⟨k, s, d, hk, rfl⟩ | ⟨raw, rfl⟩
  · exact h1
  · cases hk <;> cases h
  · cases hk <;> cases h
  · cases h

/-- the remote-side condition of `removesBufferOnly`, for one call -/
def bufferOnlyAt (remote : Node) (h : Handle) (op : Op) : Bool :=
  match cacheOp h op with
  | some (.remove raw) | some (.removeAll raw) => !has remote (cleanPath raw)
  | _ => true

theorem cacheOp_writeFile {h : Handle} {b : List Name}
    (hs : h = .cache ∧ b = [] ∨ ∃ base0, h = .sub (base0 ++ [slash]) ∧ norm (base0 ++ [slash]) = some b)
    (raw data : Bytes) (p : List Name) (hn : norm raw = some p) :
    cacheOp h (.writeFile raw data) = some (.writeFile (cachePath h p raw) data) :=
  cacheOp_one hs (.writeFile data) raw p hn

theorem has_eq (t : Node) (ht : Inv t) (src : Bytes) (Q : List Name) (hn : norm src = some Q) :
    has t src = (abs t Q).isSome := by
  simp [has, root_isExist_eq t ht src Q hn, isTrue]

theorem class_write {s : State} {D D' : Node} (V : VInv s D) {raw d : Bytes} {P : List Name} {y : State × Result}
    (W : IsWrite s raw P d y) (hn : norm raw = some P) (hok : FS.writeOk (abs D) P) (hD' : Inv D')
    (hpost : abs D' = FS.writeSt (abs D) P d) : y.2 = .ok ∧ VInv y.1 D' ∧ (JInv s → JInv y.1) := by
  have hw := vinv_write V W hok hD' hpost
  exact ⟨hw.1, hw.2.1, fun J => jinv_write_like J _ P d _ (Path.norm_cleanPath _ _ hn)
    (norm_pathDir_cleanPath _ _ hn hok.1) (V.fits.buffer_writeSt d hok).1 hw.2.2.1 hw.2.2.2 W.rest.1 W.rest.2.1 W.rest.2.2⟩

theorem class_step {s : State} {D : Node} (V : VInv s D) (h : Handle) (op : Op)
    (hc : rywClass (h, op) = true) (hdir : (directStep D h op).2 = .ok)
    (honly : bufferOnlyAt s.remote h op = true) :
    (step h s op).2 = .ok ∧ VInv (step h s op).1 (directStep D h op).1
    ∧ (writeClass (h, op) = true → JInv s → JInv (step h s op).1) := by
  have hok : h.ok = true := by
    cases op <;> simp [rywClass, writeClass] at hc <;> first | exact hc | exact hc.1
  obtain ⟨b, R⟩ := handle_ok hok
  obtain ⟨ref, hsr, hv⟩ := R.spec
  have hshape := R.shape
  have hD' := step_inv ref b hv D V.hd op
  have hstep := (step_refines ref b hv D V.hd op).spec
  simp only [directStep, hsr] at hdir ⊢
  rw [hdir] at hstep
  -- a call that succeeded directly has no climbing argument
  have hnorm : ∀ raw ∈ Views.opArgs op, ∃ p, norm raw = some p := fun raw hraw => by
    cases hn : norm raw with
    | some p => exact ⟨p, rfl⟩
    | none =>
      have := (Views.step_climbing raw hraw hn hstep).1
      cases op <;> cases this
  cases op with
  | writeFile raw data =>
    obtain ⟨p, hn⟩ := hnorm raw (.head _)
    simp only [FS.Step, hn] at hstep
    obtain ⟨hpre, hpost⟩ := hstep.ok rfl
    have hnc := norm_cachePath hshape raw p hn
    rw [step_one hshape (.writeFile data) s raw p hn]
    have hw := class_write V (isWrite_writeFile s V.hb _ data _ hnc) hnc hpre hD' hpost
    exact ⟨hw.1, hw.2.1, fun _ => hw.2.2⟩
  | writer raw cs =>
    obtain ⟨p, hn⟩ := hnorm raw (.head _)
    simp only [FS.Step, hn] at hstep
    obtain ⟨hpre, hpost⟩ := hstep.ok rfl
    have hnc := norm_cachePath hshape raw p hn
    rw [step_one hshape (.writer cs) s raw p hn]
    have hw := class_write V (isWrite_writer s V.hb _ cs _ hnc) hnc hpre hD' hpost
    exact ⟨hw.1, hw.2.1, fun _ => hw.2.2⟩
  | mkdirAll raw =>
    obtain ⟨p, hn⟩ := hnorm raw (.head _)
    simp only [FS.Step, hn] at hstep
    obtain ⟨hpre, hpost⟩ := hstep.ok rfl
    have hnc := norm_cachePath hshape raw p hn
    rw [step_one hshape .mkdirAll s raw p hn]
    have hw := vinv_mkdirAll V (cachePath h p raw) (b ++ p) hnc hpre hD' hpost
    exact ⟨hw.1, hw.2.1, fun _ J => jinv_mkdir_like J _ (b ++ p) _ (Path.norm_cleanPath _ _ hnc)
      (V.fits.buffer_mkdirSt hpre).1 hw.2.2 rfl rfl rfl rfl⟩
  | remove raw =>
    obtain ⟨p, hn⟩ := hnorm raw (.head _)
    simp only [FS.Step, hn] at hstep
    obtain ⟨⟨hp, hpre⟩, hpost⟩ := hstep.ok rfl
    have hco := cacheOp_nonRoot hshape .remove raw p hn hp
    rw [step_eq_cacheOp, hco]
    have hnc := norm_cachePath hshape raw p hn
    have hr : abs s.remote (b ++ p) = none := by
      simp only [bufferOnlyAt, hco] at honly
      rw [has_eq s.remote V.hr _ _ (Path.norm_cleanPath _ _ hnc)] at honly
      simpa using honly
    have hw := vinv_remove V (cachePath h p raw) (b ++ p) hnc hpre hr hD' hpost
    exact ⟨hw.1, hw.2, fun hw => by cases hw⟩
  | removeAll raw =>
    obtain ⟨p, hn⟩ := hnorm raw (.head _)
    simp only [FS.Step, hn] at hstep
    obtain ⟨⟨hp, hpre⟩, hpost⟩ := hstep.ok rfl
    have hco := cacheOp_nonRoot hshape .removeAll raw p hn hp
    rw [step_eq_cacheOp, hco]
    have hnc := norm_cachePath hshape raw p hn
    have hr : abs s.remote (b ++ p) = none := by
      simp only [bufferOnlyAt, hco] at honly
      rw [has_eq s.remote V.hr _ _ (Path.norm_cleanPath _ _ hnc)] at honly
      simpa using honly
    have hw := vinv_removeAll V (cachePath h p raw) (b ++ p) hnc hpre hr hD' hpost
    exact ⟨hw.1, hw.2, fun hw => by cases hw⟩
  | copyFile rs rd =>
    obtain ⟨ps, hns⟩ := hnorm rs (.head _)
    obtain ⟨pd, hnd⟩ := hnorm rd (.tail _ (.head _))
    simp only [FS.Step, hns, hnd] at hstep
    obtain ⟨hpre, hpost⟩ := hstep.ok rfl
    rw [step_eq_cacheOp, cacheOp_two hshape .copyFile rs rd ps pd hns hnd]
    have hncd := norm_cachePath hshape rd pd hnd
    obtain ⟨d0, W, hwok, hcopy⟩ := isWrite_copyFile V (cachePath h ps rs) (cachePath h pd rd) (b ++ ps) (b ++ pd)
      (norm_cachePath hshape rs ps hns) hncd hpre
    have hw := class_write V W hncd hwok hD' (hpost.trans hcopy)
    exact ⟨hw.1, hw.2.1, fun _ => hw.2.2⟩
  | _ => simp [rywClass, writeClass] at hc

theorem removesBufferOnly_cons (r : Node) (h : Handle) (op : Op) (rest : List (Handle × Op)) :
    removesBufferOnly r ((h, op) :: rest) = (bufferOnlyAt r h op && removesBufferOnly r rest) := rfl

theorem class_run {s : State} {D : Node} (V : VInv s D) (ops : List (Handle × Op))
    (hclass : ops.all rywClass = true) (hdirect : allDirectOk D ops = true)
    (honly : removesBufferOnly s.remote ops = true) :
    VInv (run s ops) (directRun D ops) ∧ (∀ r ∈ runResults s ops, r = .ok)
    ∧ (ops.all writeClass = true → JInv s → JInv (run s ops)) := by
  induction ops generalizing s D with
  | nil => exact ⟨V, by simp [runResults], fun _ J => J⟩
  | cons x rest ih =>
    obtain ⟨h, op⟩ := x
    simp only [List.all_cons, Bool.and_eq_true] at hclass
    simp only [allDirectOk, directResults, List.all_cons, Bool.and_eq_true, beq_iff_eq] at hdirect
    rw [removesBufferOnly_cons, Bool.and_eq_true] at honly
    obtain ⟨hr, V', hJ⟩ := class_step V h op hclass.1 hdirect.1 honly.1
    have := ih V' hclass.2 (by simpa [allDirectOk] using hdirect.2) (by rw [step_remote]; exact honly.2)
    refine ⟨this.1, ?_, fun hw J => ?_⟩
    · intro r hr'
      simp only [runResults, List.mem_cons] at hr'
      rcases hr' with rfl | hr'
      · exact hr
      · exact this.2.1 r hr'
    · simp only [List.all_cons, Bool.and_eq_true] at hw
      exact this.2.2 hw.2 (hJ hw.1 J)

/-- `hnc`: the negation of KF-C07-6 (a climbing path given to the cache itself must still climb after `CleanPath`). -/
theorem ryw_step {s : State} {D : Node} (V : VInv s D) (h : Handle) (hok : h.ok = true) (op : Op)
    (hread : isRead op = true)
    (hnc : h = .cache → ∀ raw ∈ opArgs op, norm raw = none → norm (cleanPath raw) = none) :
    ∃ b, handleBase h = some b ∧ FS.Step b (abs D) op (step h s op).2 (abs D) := by
  obtain ⟨b, R⟩ := handle_ok hok
  have hshape := R.shape
  refine ⟨b, R.base, ?_⟩
  obtain ⟨k, raw, hk, rfl⟩ := read_onePath hread
  have ha : ∀ x, opArgs (k x) = [x] := fun x => by cases hk <;> rfl
  rw [Step_read b _ _ _ _ raw (readPath_of hread (ha raw)), step_eq_cacheOp]
  refine ⟨rfl, ?_⟩
  cases hn : norm raw with
  | none =>
    rcases hshape with ⟨rfl, rfl⟩ | ⟨base0, rfl, hb⟩
    · have := cache_read V (k raw) raw hread (ha raw)
      rwa [hnc rfl raw (by simp [ha]) hn] at this
    · rw [cacheOp_climb hk _ raw hn]; exact (readAns_none hread).mpr rfl
  | some p =>
    rw [cacheOp_one hshape hk raw p hn]
    have := cache_read V (k (cachePath h p raw)) _ (by cases hk <;> first | rfl | cases hread) (ha _)
    rw [Path.norm_cleanPath _ _ (norm_cachePath hshape raw p hn)] at this
    cases hk <;> first | exact this | cases hread

end Cache
end Goat
