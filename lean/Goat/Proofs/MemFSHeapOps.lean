/-
What each method of the heap model does inside one directory (`writeIn`, `openIn`, `writeChunkIn`, `removeIn`, `copyIn`)
against the value-level function of `Goat/Model/MemFS.lean`: a `DSpec` each.  Only `WriteFile` (`takeIn`) depends on
`cfg.old`.
-/
import Goat.Proofs.MemFSHeapTree
import Goat.Proofs.MemFSOps

namespace Goat
namespace MemFSHeap

open Path (Name)

theorem copyNode_isDir (h : Heap) (n : HNode) : (copyNode h n).2.isDir = n.isDir := by
  cases n <;> simp [copyNode, HNode.isDir]

/-- a deep copy only allocates; dereferenced it is the source; its objects are fresh and pairwise different; its
arrays are in step -/
theorem copy_spec_both :
    (∀ (n : HNode) (h : Heap), (∀ id : Nat, 0 < n.cnt id → id < h.next) →
      Grew h (copyNode h n).1 ∧ (copyNode h n).2.deref (copyNode h n).1 = n.deref h
      ∧ FreshIds h (copyNode h n).1 (copyNode h n).2.cnt ∧ (copyNode h n).2.Sync (copyNode h n).1)
    ∧ (∀ (k : HKids) (h : Heap), (∀ id : Nat, 0 < k.cnt id → id < h.next) →
      Grew h (copyKids h k).1 ∧ (copyKids h k).2.deref (copyKids h k).1 = k.deref h
      ∧ FreshIds h (copyKids h k).1 (copyKids h k).2.cnt ∧ (copyKids h k).2.Sync (copyKids h k).1
      ∧ (copyKids h k).2.entries = k.entries ∧ (copyKids h k).2.length = k.length) := by
  refine HNode.induct₂ (fun b h hall => ?_) (fun l k ih h hall => ?_) (fun h hall => ?_)
    (fun name x r ihx ihr h hall => ?_)
  · simp only [copyNode, Heap.copyB]
    refine ⟨frame_allocB h _, by simp, fun id => ?_, by simp⟩
    rw [cnt_file]; simp only [allocB_id, allocB_next]
    by_cases e : id = h.next <;> simp only [e, if_true, if_false] <;> omegab
  · simp only [copyNode]
    obtain ⟨F, D, C, S, E, L⟩ := ih (h.allocL k.entries).1 (fun id hid => by
      have := hall id (by rw [cnt_dir]; omegab)
      simp only [allocL_next]; omegab)
    have hn := F.next_le
    simp only [allocL_next] at hn
    refine ⟨(frame_allocL h _).trans F, ?_, fun id => ?_, ?_⟩
    · simp only [deref_dir, D]
      rw [derefK_congr h (h.allocL k.entries).1 k (fun id hid => by simp)]
    · have := C id
      rw [cnt_dir]; simp only [allocL_id, allocL_next] at this ⊢
      by_cases e : id = h.next <;> simp only [e, if_true, if_false] at this ⊢ <;> omegab
    · rw [sync_dir]
      refine ⟨?_, S⟩
      simp only [allocL_id]
      -- the directory's new array (id `h.next`) is not overwritten while its children are copied
      rw [(F.same h.next (by simp) (fun f => f)).2, L, E]
      simp [List.take_of_length_le, HKids.entries_length]
  · simp only [copyKids]
    exact ⟨Frame.refl _ _, trivial, fun id => by simp [cnt_nil], by simp, trivial, trivial⟩
  · simp only [copyKids]
    obtain ⟨F1, D1, C1, S1⟩ := ihx h (fun id hid => hall id (by rw [cnt_cons]; omegab))
    obtain ⟨F2, D2, C2, S2, E2, L2⟩ := ihr (copyNode h x).1 (fun id hid => by
      have := hall id (by rw [cnt_cons]; omegab)
      have := F1.next_le; omegab)
    have n1 := F1.next_le
    have n2 := F2.next_le
    -- the copy of `x` lies below what the copy of `r` allocates, so it is untouched by it
    obtain ⟨D1', S1'⟩ := Frame.untouched F2 (copyNode h x).2 (fun id hid => ⟨((C1 id).2 hid).2, fun f => f⟩)
    refine ⟨F1.trans F2, ?_, fun id => ?_, ?_, by simp [HKids.entries, E2, copyNode_isDir],
      by simp [HKids.length, L2]⟩
    · simp only [deref_cons, D2, D1', D1]
      rw [derefK_congr h _ r (fun id hid => (F1.same id (hall id (by rw [cnt_cons]; omegab)) (fun f => f)).1)]
    · have := C1 id; have := C2 id
      rw [cnt_cons]; omegab
    · rw [sync_cons]; exact ⟨S1' S1, S2⟩

/-- a file whose array is overwritten in place or replaced by a fresh one -/
theorem tx_file {h h' : Heap} {b b' : BufId} (hb : Bound h (.file b)) (F : Frame (· = b) h h')
    (alt : InPlaceOrFresh h h' b b') :
    Tx h (.file b) h' (.file b') := by
  have hbl : b < h.next := hb.lt b (by rw [cnt_file]; simp)
  unfold InPlaceOrFresh at alt
  refine ⟨⟨F.weaken (fun id _ e => by subst e; rw [cnt_file]; simp), fun id hid => ?_,
    .intro (fun id => ?_) (fun id hp => ?_)⟩, fun _ => by simp, rfl⟩
  · rw [cnt_file, cnt_file]; split <;> split <;> omegab
  · rw [cnt_file]; split <;> omegab
  · rw [cnt_file] at hp; split at hp <;> omegab

/-- create-or-replace a file whose content is the fresh array holding `d` (`WriteFile` of the
repaired code, `Writer` on opening) -/
def putIn (cfg : Cfg) (name : Name) (d : Bytes) (h : Heap) (l : BufId) (k : HKids) :
    Option (Heap × BufId × HKids) :=
  match k.find name with
  | none =>
    let r1 := h.allocB d
    let r2 := appendEntry cfg r1.1 l k.length (name, false)
    some (r2.1, r2.2, k.set name (.file r1.2))
  | some (.file _) =>
    let r1 := h.allocB d
    some (r1.1, l, k.set name (.file r1.2))
  | some (.dir ..) => none

theorem putIn_spec (cfg : Cfg) (name : Name) (d : Bytes) (h : Heap) (l : BufId) (k : HKids)
    (hb : Bound h (.dir l k)) : KSpec h l k (putIn cfg name d h l k) (MemFS.Root.writeIn name d (k.deref h)) := by
  unfold putIn MemFS.Root.writeIn
  rw [HKids.find_deref]
  cases hfs : k.find name with
  | none =>
    simp only [Option.map_none, Kids.add, HKids.find_deref, hfs]
    obtain ⟨T, B2, K2⟩ := tx_add cfg (s := name) (x := .file h.next) hb hfs (frame_allocB h d)
      (fresh_one (fun id => cnt_file _ id) (by simp)) (by simp)
    simp only [HNode.isDir] at T B2 K2
    exact ⟨by simp only [allocB_id, HKids.set_deref, deref_file, B2, allocB_bytes_new, K2], T⟩
  | some c =>
    cases c with
    | file b =>
      simp only [Option.map_some, deref_file]
      obtain ⟨D, T⟩ := tx_parent hb hfs
        (tx_file (hb.child hfs) ((frame_allocB h d).frame _) (Or.inr ⟨rfl, rfl⟩))
      simp only [deref_dir, deref_file, allocB_bytes_new, Node.dir.injEq] at D
      exact ⟨by rw [allocB_id, D], T⟩
    | dir l2 k2 => exact rfl

theorem writeIn_eq (cfg : Cfg) (hc : cfg.old = false) (name : Name) (data : BufId) (h : Heap) (l : BufId)
    (k : HKids) : Root.writeIn cfg name data h l k = putIn cfg name (h.bytes data) h l k := by
  unfold Root.writeIn putIn takeIn Heap.copyB
  simp only [hc, Bool.false_eq_true, if_false]
  cases k.find name with
  | none => rfl
  | some c => cases c <;> rfl

theorem writeIn_spec (cfg : Cfg) (hc : cfg.old = false) (name : Name) (data : BufId) (d : Bytes) :
    DSpec (fun h => h.bytes data = d) (Root.writeIn cfg name data) (MemFS.Root.writeIn name d) :=
  fun h l k hb hP => by rw [writeIn_eq cfg hc, hP]; exact putIn_spec cfg name d h l k hb

/-- by definition: both `openIn`s unfold to the `writeIn`s at `[]` -/
theorem openIn_spec (cfg : Cfg) (name : Name) :
    DSpec (fun _ => True) (Root.openIn cfg name) (MemFS.Root.openIn name) :=
  fun h l k hb _ => putIn_spec cfg name [] h l k hb

theorem writeChunkIn_spec (cfg : Cfg) (name : Name) (chunk : BufId) (c : Bytes) :
    DSpec (fun h => h.bytes chunk = c) (Root.writeChunkIn cfg name chunk) (appendV name c) := by
  intro h l k hb hP
  unfold Root.writeChunkIn appendV
  rw [HKids.find_deref]
  cases hfs : k.find name with
  | none => exact rfl
  | some x =>
    cases x with
    | dir l2 k2 => exact rfl
    | file b =>
      simp only [Option.map_some, deref_file, hP]
      obtain ⟨F, B, alt, _⟩ := appendBytes_spec cfg h b c
      obtain ⟨D, T⟩ := tx_parent hb hfs (tx_file (hb.child hfs) F alt)
      simp only [deref_dir, deref_file, B, Node.dir.injEq] at D
      exact ⟨by rw [D], T⟩

/-- `removeNodeByName`'s in-place shift leaves the entries without the removed one at the front of the array -/
theorem shiftOut_take (arr : Entries) (i len : Nat) (hi : i < len) (hl : len ≤ arr.length) :
    (shiftOut arr i len).take (len - 1) = (arr.take len).eraseIdx i := by
  unfold shiftOut
  have e1 : (arr.take len).take i = arr.take i := by rw [List.take_take]; congr 1; omega
  have l1 : (arr.take i).length = i := by rw [List.length_take]; omega
  have l2 : ((arr.take len).drop (i + 1)).length = len - (i + 1) := by
    rw [List.length_drop, List.length_take]; omega
  rw [List.take_left' (by rw [List.length_append, l1, l2]; omega), List.eraseIdx_eq_take_drop_succ, e1]

theorem removeNodeByName_spec (name : Name) (h : Heap) (l : BufId) (k : HKids) (hb : Bound h (.dir l k)) :
    KSpec h l k (removeNodeByName h l k name) (MemFS.removeNodeByName (k.deref h) name) := by
  unfold removeNodeByName MemFS.removeNodeByName
  rw [HKids.find_deref]
  cases hfs : k.find name with
  | none => exact rfl
  | some c =>
    simp only [Option.map_some]
    have hcnt := fun id => HKids.cnt_erase id hfs
    obtain ⟨⟨hl, hkl⟩, hk⟩ := bound_dir.mp hb
    refine ⟨by rw [HKids.erase_deref, derefK_congr h (h.setL l _) k (fun _ _ => rfl)],
      -- only the array is overwritten, the children lose the objects of the erased one, the rest stays bound
      tr_dir (frame_setL h l _) (fun id e => e ▸ cnt_dir_self l k) (Or.inl rfl)
        (fun id _ => by have := hcnt id; omegab)
        (bound_dir.mpr ⟨⟨hl, by have := hcnt l; omegab⟩, fun id => by
          have := hcnt id; have := hk id; simp only [setL_next]; omegab⟩),
      fun hs => ?_, rfl⟩
    · rw [sync_dir] at hs ⊢
      have hlen : k.length ≤ (h.lists l).length := by
        have := congrArg List.length hs.1
        rw [List.length_take, HKids.entries_length] at this; omegab
      have hlt := HKids.indexOf_lt hfs
      have hle := HKids.length_erase hfs
      constructor
      · rw [show (k.erase name).length = k.length - 1 by omega, HKids.entries_erase]
        simp only [Heap.setL, if_true]
        rw [shiftOut_take _ _ _ hlt hlen, hs.1]
      · exact syncK_erase _ k name (syncK_congr h _ k (fun id hid => by
          have : id ≠ l := fun e => by subst e; omegab
          simp [Heap.setL, this]) hs.2)

theorem removeIn_spec (name : Name) (emptyOnly : Bool) :
    DSpec (fun _ => True) (removeIn name emptyOnly) (MemFS.removeIn name emptyOnly) := by
  intro h l k hb _
  have R := removeNodeByName_spec name h l k hb
  unfold removeIn MemFS.removeIn
  cases emptyOnly with
  | false => exact R
  | true =>
    rw [HKids.find_deref]
    cases hfs : k.find name with
    | none => exact rfl
    | some c =>
      cases c with
      | file b => exact R
      | dir l2 k2 =>
        simp only [Option.map_some, deref_dir, HKids.isEmpty_deref]
        cases he : k2.isEmpty with
        | true => exact R
        | false => exact rfl

theorem copyIn_spec (cfg : Cfg) (name : Name) (src : HNode) (srcV : Node) :
    DSpec (fun h => (∀ id : Nat, 0 < src.cnt id → id < h.next) ∧ src.deref h = srcV)
      (copyIn cfg name src) (fun k => k.add name (MemFS.copyNode srcV)) := by
  intro h l k hb hP
  show KSpec h l k _ ((k.deref h).add name (MemFS.copyNode srcV))
  obtain ⟨F1, D1, C1, S1⟩ := copy_spec_both.1 src h hP.1
  unfold copyIn addIn Kids.add MemFS.copyNode
  rw [HKids.find_deref]
  generalize copyNode h src = cn at F1 D1 C1 S1 ⊢
  obtain ⟨h1, cp⟩ := cn
  cases hfs : k.find name with
  | some c => exact rfl
  | none =>
    simp only [Option.map_none]
    obtain ⟨T, B2, K2⟩ := tx_add cfg (s := name) hb hfs F1 C1 S1
    exact ⟨by rw [HKids.set_deref, K2, deref_congr h1 _ cp (fun id _ => by rw [B2]), D1, hP.2], T⟩

end MemFSHeap
end Goat
