/-
For properties C14/C16: once the manager's `Wait` has returned nothing moves any more (`Quiet`), and
error reports are exact (`TraceOk2`): both survive every step (`quiet_and_ok2_step`).
-/
import Goat.Proofs.PipelineFacts
import Goat.Proofs.PipelineTrans

namespace Goat.Pipeline

/-- after `TasksManager.Wait` has returned, every task of the table has released its latch -/
def Quiet (s : St) : Prop :=
  ((∃ t, s.mp = .fins t) ∨ s.mp = .finished) → ∀ u, (s.pc u).accepted = true → s.pc u = .finished

theorem quiet_no_step {g : Graph} {s : St} {l : Label} (hI : Inv g s) (hq : Quiet s)
    (hm : (∃ t, s.mp = .fins t) ∨ s.mp = .finished) (hl : l ≠ .main) : step g s l = none := by
  have Q := hq hm
  -- a thread that moves is live: a runner is accepted and not finished, a try goroutine has an owner that is
  have run : ∀ {t : Nat} {p : PC}, s.pc t = p → p.accepted = true → p ≠ .finished → False :=
    fun hp ha hf => hf (hp ▸ Q _ (hp ▸ ha))
  have tryg : ∀ {y : Nat}, s.tg y ≠ .idle → s.tg y ≠ .done → False := fun h1 h2 =>
    run ((hI.yi _ (hI.tgr _ h1)).active h1 h2) rfl nofun
  cases hs : step g s l with
  | none => rfl
  | some s' =>
    exfalso
    cases Trans.of_step hs with
    | waitsDone hpc | waitFailed hpc | waitNext hpc | enter hpc | endOfScript hpc | retNil hpc | retErr hpc | submit hpc | leaveErr hpc | leaveOk hpc | close hpc
    | stop hpc => exact run hpc rfl nofun
    | bodyClosed htg => exact tryg (by rw [htg]; nofun) (by rw [htg]; nofun)
    | handler k htg | noHandler k htg => exact tryg (htg ▸ k.cur_ne_idle _) (htg ▸ k.cur_ne_done _)
    | _ => exact hl rfl

theorem quiet_init : Quiet init := by
  intro h; rcases h with ⟨_, h⟩ | h <;> simp [init] at h

theorem done_false_of_cerr {g : Graph} {s : St} (hI : Inv g s)
    (hall : ∀ u, (s.pc u).accepted = true → s.pc u = .finished) {X : Nat} (hc : s.cerr X = true) :
    ∃ u, u < g.n ∧ g.ctx u = X ∧ Ev.done u false ∈ s.tr := by
  obtain ⟨u, hu, ha, hd⟩ := hI.i3 X hc
  have hun : u < g.n := hI.lt_of_accepted ha
  rcases hd with hd | hd
  · exact absurd (hall u ha) hd
  · exact ⟨u, hun, hu, hd⟩

theorem quiet_and_ok2_step {g : Graph} {s s' : St} (hI : Inv g s) (hq : Quiet s)
    (h2 : TraceOk2 g s.tr) (l : Label) (hs : step g s l = some s') : Quiet s' ∧ TraceOk2 g s'.tr := by
  have nq : ∀ {s' : St}, (∀ t, s'.mp ≠ .fins t) → s'.mp ≠ .finished → Quiet s' :=
    fun h1 h2 hm => (hm.elim (fun ⟨t, h⟩ => h1 t h) h2).elim
  have rep : ∀ X, (∀ u, (s.pc u).accepted = true → s.pc u = .finished) → s.cerr X = true →
      ∃ u ∈ List.range g.n, Ev.done u false ∈ s.tr ∧ g.ctx u = X := fun X hall hc =>
    let ⟨v, hv, hx, hd⟩ := done_false_of_cerr hI hall hc
    ⟨v, List.mem_range.mpr hv, hd, hx⟩
  by_cases hl : l = .main
  · subst hl
    cases Trans.of_step hs with
    | announce => exact ⟨nq nofun nofun, traceOk2_snoc h2 True.intro⟩
    | noMore => exact ⟨nq nofun nofun, h2⟩
    | create _ _ acc => cases acc <;> exact ⟨nq nofun nofun, traceOk2_snoc h2 True.intro⟩
    | waitReturns hmp hall =>
      have hall' := finished_of_allFinished hI hall
      refine ⟨fun _ => hall', traceOk2_snoc h2 ?_⟩
      cases htab : tableOk g s
      · obtain ⟨u, _, _, hc⟩ := tableOk_false htab
        obtain ⟨v, _, hd, _⟩ := rep _ hall' hc
        exact ⟨_, hd, rfl⟩
      · simp [Ok2]
    | report hmp ht ha =>
      have hall' := hq (Or.inl ⟨_, hmp⟩)
      refine ⟨fun _ => hall', traceOk2_snoc h2 ?_⟩
      rename_i t
      cases hc : s.cerr (g.ctx t)
      · simp [Ok2]
      · exact rep _ hall' hc
    | skip hmp => exact ⟨fun _ => hq (Or.inl ⟨_, hmp⟩), h2⟩
    | root hmp =>
      have hall' := hq (Or.inl ⟨_, hmp⟩)
      refine ⟨fun _ => hall', traceOk2_snoc h2 ?_⟩
      cases hc : s.cerr 0
      · simp [Ok2]
      · exact rep _ hall' hc
  · obtain ⟨htr, hmp⟩ := step_plain hl hs
    constructor
    · intro hm
      rw [hmp] at hm
      rw [quiet_no_step hI hq hm hl] at hs
      cases hs
    · rcases htr with htr | ⟨e, htr, hp⟩
      · rw [htr]; exact h2
      · rw [htr]; exact traceOk2_snoc h2 (hp _)

end Goat.Pipeline
