/-
`no_lost_update`: the invariant behind "n threads × k locked read-modify-write increments, interleaved
with plain traffic, end at n·k".
-/
import Goat.Proofs.DataScopeLTS

namespace Goat.DataScope

/-- increments a program still has to perform -/
def lincs : List Instr → Nat
  | [] => 0
  | .linc _ :: r => lincs r + 1
  | _ :: r => lincs r

def pendTotal (ths : List Thread) : Nat := (ths.map (fun th => lincs th.prog)).sum

theorem pendTotal_set {ths : List Thread} {i : Nat} {th th' : Thread} (h : ths[i]? = some th) :
    pendTotal (ths.set i th') + lincs th.prog = pendTotal ths + lincs th'.prog :=
  LTS.sum_map_set (fun th : Thread => lincs th.prog) th' h

theorem incProg_succ (s : Nat) (c : Key) (m : Nat) :
    incProg s c (m + 1) = .lock s :: .lget c :: .linc c :: .commit :: incProg s c m := rfl

theorem lincs_incProg (s : Nat) (c : Key) (m : Nat) : lincs (incProg s c m) = m := by
  induction m with
  | zero => rfl
  | succ m ih => simp [incProg_succ, lincs, ih]

theorem lincs_cons_noise {s : Nat} {c : Key} {ins : Instr} {rest : List Instr} (h : noiseOK s c ins = true) :
    lincs (ins :: rest) = lincs rest := by
  cases ins with
  | linc k => cases h
  | _ => rfl

theorem lincs_noise {s : Nat} {c : Key} {p : List Instr} (h : isNoise s c p = true) : lincs p = 0 := by
  induction p with
  | nil => rfl
  | cons ins rest ih => rw [lincs_cons_noise (isNoise_cons h).1, ih (isNoise_cons h).2]

/-- where a thread of the counter scenario can be; `cur` is the counter's entry in scope `s`: an own entry
(`CInv.count`), so the locker's read is a hit and there is no phase for a walk in progress -/
inductive CPhase (s : Nat) (c : Key) (cur : Option Val) : Bool → Thread → Prop where
  | noise {th : Thread} (hl : th.lks = []) (hp : isNoise s c th.prog = true) : CPhase s c cur false th
  | idle {th : Thread} (m : Nat) (hp : th.prog = incProg s c m) (hl : th.lks = []) (hw : th.walk = none) :
      CPhase s c cur true th
  | locked {th : Thread} (m : Nat) (hp : th.prog = .lget c :: .linc c :: .commit :: incProg s c m)
      (hl : th.lks = [s]) (hw : th.walk = none) : CPhase s c cur true th
  | read {th : Thread} (m : Nat) (hp : th.prog = .linc c :: .commit :: incProg s c m)
      (hl : th.lks = [s]) (hw : th.walk = none) (hr : cur = some th.reg) : CPhase s c cur true th
  | written {th : Thread} (m : Nat) (hp : th.prog = .commit :: incProg s c m)
      (hl : th.lks = [s]) (hw : th.walk = none) : CPhase s c cur true th

theorem CPhase.change {s : Nat} {c : Key} {cur cur' : Option Val} {r : Bool} {th : Thread}
    (h : CPhase s c cur r th) (hc : s ∈ th.lks → cur' = cur) : CPhase s c cur' r th := by
  cases h with
  | noise hl hp => exact .noise hl hp
  | idle m hp hl hw => exact .idle m hp hl hw
  | locked m hp hl hw => exact .locked m hp hl hw
  | read m hp hl hw hr => exact .read m hp hl hw (by rw [hc (by simp [hl])]; exact hr)
  | written m hp hl hw => exact .written m hp hl hw

theorem CPhase.mem_lks {s : Nat} {c : Key} {cur : Option Val} {r : Bool} {th : Thread} (h : CPhase s c cur r th)
    {j : Nat} (hj : j ∈ th.lks) : j = s := by
  cases h with
  | noise hl hp | idle m hp hl hw => rw [hl] at hj; cases hj
  | locked m hp hl hw | read m hp hl hw hr | written m hp hl hw => rw [hl] at hj; exact List.mem_singleton.mp hj

/-- `role i`: increment sections (each thread its own number of them) or plain traffic; `total` is the counter
plus the increments still to be performed -/
structure CInv (s : Nat) (c : Key) (role : Nat → Bool) (total : Nat) (st : St) : Prop where
  lock : LockInv st
  phase : ∀ (i : Nat) (th : Thread), st.threads[i]? = some th →
    CPhase s c (dataGet st.scopes s c) (role i) th
  count : ∃ v, dataGet st.scopes s c = some (some v) ∧ v + pendTotal st.threads = total

theorem CPhase.step {s : Nat} {c : Key} {v : Nat} {r : Bool} {st t : St} {i : Nat} {th : Thread}
    (hph : CPhase s c (some (some v)) r th) (hv : dataGet st.scopes s c = some (some v))
    (hrel : StepRel st i th t) :
    ∃ th' v', t.threads = st.threads.set i th' ∧ dataGet t.scopes s c = some (some v') ∧
      CPhase s c (some (some v')) r th' ∧ v' + lincs th'.prog = v + lincs th.prog := by
  obtain ⟨prog, lks, reg, walk⟩ := th
  cases hph with
  | noise hl hn =>
    obtain ⟨th', ht, hl', -, hn', hsc⟩ := plain_step noiseOK_plain hl hn hrel
    refine ⟨th', v, ht, ?_, .noise hl' hn', by rw [lincs_noise hn, lincs_noise hn']⟩
    rcases hsc with hsc | ⟨s', k, w, hok, hsc⟩
    · rw [hsc]; exact hv
    · -- the write is a `SetValue` of the program, which is not one of `(s, c)`
      simp only [noiseOK, Bool.not_eq_true', Bool.and_eq_false_iff, beq_eq_false_iff_ne] at hok
      rw [hsc, dataGet_dataSet_other _ _ _ _ _ _ (hok.imp Ne.symm Ne.symm)]; exact hv
  | idle m hp hl hw =>
    cases hp; cases hl; cases hw
    cases m with
    | zero => cases hrel
    | succ m =>
      cases hrel
      exact ⟨_, v, rfl, (dataGet_setHeld ..).trans hv, .locked m rfl rfl rfl, rfl⟩
  | locked m hp hl hw =>
    cases hp; cases hl; cases hw; cases hrel
    rw [readLevel_hit hv]
    exact ⟨_, v, rfl, hv, .read m rfl rfl rfl rfl, rfl⟩
  | read m hp hl hw hr =>
    cases hp; cases hl; cases hw; cases hr; cases hrel
    exact ⟨_, v + 1, rfl, dataGet_dataSet_same c _ (dataGet_lt hv), .written m rfl rfl rfl,
      (Nat.add_assoc ..).trans (congrArg (v + ·) (Nat.add_comm ..))⟩
  | written m hp hl hw =>
    cases hp; cases hl; cases hw; cases hrel
    exact ⟨_, v, rfl, (dataGet_setHeld ..).trans hv, .idle m rfl rfl rfl, rfl⟩

theorem CInv_step {s : Nat} {c : Key} {role : Nat → Bool} {total : Nat} {st t : St} {i : Nat}
    (hinv : CInv s c role total st) (hs : step st i = some t) : CInv s c role total t := by
  obtain ⟨th, hth, hrel⟩ := step_rel hs
  obtain ⟨v, hv, hsum⟩ := hinv.count
  have hph := hinv.phase i th hth
  rw [hv] at hph
  obtain ⟨th', v', ht, hv', hph', hcount⟩ := CPhase.step hph hv hrel
  refine ⟨LockInv_step hinv.lock hs, ?_, v', hv', ?_⟩
  · intro j x hj
    rw [hv']
    rcases getElem?_set_cases (ht ▸ hj) with ⟨rfl, rfl⟩ | ⟨hji, hj'⟩
    · exact hph'
    · refine (hv ▸ hinv.phase j x hj').change fun hmem => ?_
      -- a thread that holds `s` sees no step of another thread on `s`
      have e := (no_touch_while_held hinv.lock hs (holds_iff.mpr (mem_lksOf hj' hmem)) hji).2
      rw [← hv, ← hv', dataGet, dataGet, e]
  · have := pendTotal_set (th' := th') hth
    rw [ht]
    omega

theorem pendTotal_append (a b : List Thread) : pendTotal (a ++ b) = pendTotal a + pendTotal b := by
  simp [pendTotal, List.sum_append]

theorem pendTotal_replicate (n : Nat) (th : Thread) : pendTotal (List.replicate n th) = n * lincs th.prog := by
  simp [pendTotal]

theorem pendTotal_zero {ths : List Thread} (h : ∀ th ∈ ths, lincs th.prog = 0) : pendTotal ths = 0 := by
  simpa [pendTotal, List.sum_eq_zero_iff_forall_eq_nat] using h

theorem CInv_start {s : Nat} {c : Key} {role : Nat → Bool} {v0 : Nat} {st : St}
    (hv : dataGet st.scopes s c = some (some v0)) (hl : ∀ th ∈ st.threads, th.lks = [])
    (hph : ∀ (i : Nat) (th : Thread), st.threads[i]? = some th → CPhase s c (some (some v0)) (role i) th) :
    CInv s c role (v0 + pendTotal st.threads) st :=
  ⟨LockInv_init hl, hv ▸ hph, v0, hv, rfl⟩

theorem pendTotal_initSt {ss : Scopes} {s : Nat} {c : Key} {n k fresh : Nat} {others : List (List Instr)}
    (hn : ∀ p ∈ others, isNoise s c p = true) :
    pendTotal (initSt ss n (incProg s c k) others fresh).threads = n * k := by
  have : pendTotal (others.map Thread.start) = 0 := by
    apply pendTotal_zero
    intro th hth
    rcases List.mem_map.mp hth with ⟨p, hp, rfl⟩
    exact lincs_noise (hn p hp)
  simp only [initSt, pendTotal_append, pendTotal_replicate, this]
  simp [Thread.start, lincs_incProg]

theorem CInv_init {ss : Scopes} {s : Nat} {c : Key} {v0 n k fresh : Nat} {others : List (List Instr)}
    (hv : dataGet ss s c = some (some v0)) (hn : ∀ p ∈ others, isNoise s c p = true) :
    CInv s c (fun i => decide (i < n)) (v0 + n * k) (initSt ss n (incProg s c k) others fresh) := by
  rw [← pendTotal_initSt (ss := ss) (fresh := fresh) hn]
  exact CInv_start hv (initSt_lks _ _ _ _ _)
    (initSt_forall (P := CPhase s c _) (.idle k rfl rfl rfl) fun p hp => .noise rfl (hn p hp))

theorem CInv_run {ss : Scopes} {s : Nat} {c : Key} {v0 n k fresh : Nat} {others : List (List Instr)}
    (hv : dataGet ss s c = some (some v0)) (hn : ∀ p ∈ others, isNoise s c p = true) (sched : List Nat) :
    CInv s c (fun i => decide (i < n)) (v0 + n * k) ((sys (initSt ss n (incProg s c k) others fresh)).run sched) :=
  LTS.inv_run (sys _) _ (CInv_init hv hn) (fun _ _ _ hinv hs => CInv_step hinv hs) sched

theorem CInv_final {s : Nat} {c : Key} {role : Nat → Bool} {total : Nat} {st : St} (hinv : CInv s c role total st)
    (hdone : ∀ (i : Nat) (th : Thread), role i = true → st.threads[i]? = some th → th.prog = []) :
    dataGet st.scopes s c = some (some total) := by
  obtain ⟨v, hv, hsum⟩ := hinv.count
  have : pendTotal st.threads = 0 := by
    apply pendTotal_zero
    intro th hth
    obtain ⟨i, hi⟩ := List.mem_iff_getElem?.mp hth
    have hph := hinv.phase i th hi
    cases hr : role i with
    | true => rw [hdone i th hr hi]; rfl
    | false =>
      rw [hr] at hph
      cases hph with
      | noise hl hp => exact lincs_noise hp
  rw [hv, ← hsum, this, Nat.add_zero]

end Goat.DataScope
