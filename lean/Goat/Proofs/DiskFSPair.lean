/-
Every backend pair: a memory handle at ANY base `m0` against a disk filespace rooted at ANY directory `r0` of the
host, and the views opened from the two in step.  The pair shows the same tree (`SimG`) and, inside the precondition,
answers alike with ONE exception (`AllAgreeG`): `Lstat` of the pair's own root, where each side reports the name of
its own root directory — so `PreN` is `Pre` without its `Lstat` clause.  The memory root against a disk filespace
(`Sim`, `sim_run`) is the pair `m0 = []`, where `Pre`'s `Lstat` clause excludes the exception.
-/
import Goat.Proofs.DiskFSStep
import Goat.Proofs.DiskFSRun

namespace Goat
namespace DiskFS

open Path (Name norm)
open FS (Op Result Entry State TreeLike Mut Step ResEq)

/-- `Pre` without the clause about `Lstat` (which only excludes the own root of the root filespace) -/
def PreN (b : FS.Path) (S : State) (op : Op) : Prop :=
  match op with
  | .lstat _ => S b = some .dir
  | _ => Pre b S op

instance (b : FS.Path) (S : State) (op : Op) : Decidable (PreN b S op) := by
  unfold PreN; split <;> exact inferInstance

theorem pre_iff {b : FS.Path} {S : State} {op : Op} :
    Pre b S op ↔ PreN b S op ∧ FS.NoRootLstat b op := by
  cases op
  case lstat raw =>
    constructor
    · rintro ⟨h1, h2⟩
      refine ⟨h1, fun raw' p he hn => ?_⟩
      cases he
      dsimp only at h2; rw [hn] at h2; exact h2
    · rintro ⟨h1, h2⟩
      refine ⟨h1, ?_⟩
      dsimp only; split
      · next p hn => exact h2 raw p rfl hn
      · trivial
  all_goals exact ⟨fun h => ⟨h, fun _ _ he => nomatch he⟩, fun h => h.1⟩

theorem pre_lstat {b : FS.Path} {S : State} {op : Op} (h : Pre b S op) : FS.NoRootLstat b op :=
  (pre_iff.mp h).2

theorem PreN.root {b : FS.Path} {S : State} {op : Op} (h : PreN b S op) : S b = some .dir := by
  unfold PreN at h
  split at h
  · exact h
  · exact h.1

/-- every clause of `Pre` reads the state at `b ++ _` only -/
theorem preN_transport {b1 b2 : FS.Path} {S1 S2 : State} {op : Op} (hsame : ∀ x, S1 (b1 ++ x) = S2 (b2 ++ x))
    (h : PreN b1 S1 op) : PreN b2 S2 op := by
  have hb : S2 b2 = some .dir := by have := hsame []; simp only [List.append_nil] at this; rw [← this]; exact h.root
  cases op
  case lstat raw => exact hb
  case writer | removeAll | reader | filespace | copyFile | copyDirectory | copy =>
    exact ⟨hb, by simpa only [FileCopyPre, DirCopyPre, hsame] using h.2⟩
  all_goals exact ⟨hb, trivial⟩

theorem pre_transport {b1 b2 : FS.Path} {S1 S2 : State} {op : Op} (hsame : ∀ x, S1 (b1 ++ x) = S2 (b2 ++ x))
    (hl : FS.NoRootLstat b2 op) (h : PreN b1 S1 op) : Pre b2 S2 op :=
  pre_iff.mpr ⟨preN_transport hsame h, hl⟩

theorem pre_host (r0 b : HPath) (S : State) (op : Op) (h : Pre b (S.below r0) op) : Pre (r0 ++ b) S op :=
  pre_transport (fun x => by rw [State.below, List.append_assoc]) ((pre_lstat h).append r0) (pre_iff.mp h).1

def PreAtN (w : MemFS.World) (h : Nat) (op : Op) : Prop :=
  match w.views[h]? with
  | some ref => PreN (MemFS.baseOf ref) (abs w.root) op
  | none => True

def AllPreN : MemFS.World → List (Nat × Op) → Prop
  | _, [] => True
  | w, (h, op) :: rest => PreAtN w h op ∧ AllPreN (w.step h op).1 rest

instance (w : MemFS.World) (h : Nat) (op : Op) : Decidable (PreAtN w h op) := by
  unfold PreAtN; split <;> exact inferInstance

def decAllPreN : (w : MemFS.World) → (ops : List (Nat × Op)) → Decidable (AllPreN w ops)
  | _, [] => isTrue trivial
  | w, (h, op) :: rest =>
    match (inferInstance : Decidable (PreAtN w h op)), decAllPreN (w.step h op).1 rest with
    | isTrue a, isTrue b => isTrue ⟨a, b⟩
    | isFalse a, _ => isFalse fun hc => a hc.1
    | _, isFalse b => isFalse fun hc => b hc.2

instance (w : MemFS.World) (ops : List (Nat × Op)) : Decidable (AllPreN w ops) := decAllPreN w ops

/-- the call is `Lstat` of the own root `m0` of the memory side of the pair -/
def RootLstat (m0 : FS.Path) (w : MemFS.World) (h : Nat) (op : Op) : Prop :=
  match w.views[h]?, op with
  | some ref, .lstat raw =>
    match norm raw with
    | some p => MemFS.baseOf ref ++ p = m0
    | none => False
  | _, _ => False

instance (m0 : FS.Path) (w : MemFS.World) (h : Nat) (op : Op) : Decidable (RootLstat m0 w h op) := by
  unfold RootLstat; split
  · split <;> exact inferInstance
  · exact inferInstance

theorem rootLstat_iff {m0 : FS.Path} {w : MemFS.World} {h : Nat} {op : Op} :
    RootLstat m0 w h op ↔ ∃ ref raw p, w.views[h]? = some ref ∧ op = .lstat raw ∧ norm raw = some p
      ∧ MemFS.baseOf ref ++ p = m0 := by
  unfold RootLstat
  constructor
  · intro hr
    split at hr
    · split at hr
      · exact ⟨_, _, _, ‹_›, rfl, ‹_›, hr⟩
      · exact hr.elim
    · exact hr.elim
  · rintro ⟨ref, raw, p, hh, rfl, hn, hm⟩
    simp only [hh, hn, hm]

/-- the pair shows the same tree — memory below `m0`, the host below `r0` — and has the same views open -/
structure SimG (m0 r0 : HPath) (w : MemFS.World) (dw : World) : Prop where
  mem : MemFS.WorldOK w
  wf : dw.host.WF
  state : ∀ q, abs w.root (m0 ++ q) = dw.host.get (r0 ++ q)
  views : ∃ cs : List HPath, w.views.map MemFS.baseOf = cs.map (m0 ++ ·) ∧ dw.views = cs.map (r0 ++ ·)

/-- the same answer (`Agree`), or the call is `Lstat` of the pair's own root and each side names its own directory -/
def AgreeG (m0 r0 : HPath) (w : MemFS.World) (h : Nat) (op : Op) (rm : Result) (o : Out) : Prop :=
  Agree rm o ∨ (RootLstat m0 w h op ∧ rm = .stat (FS.statName m0) true 0 ∧ o = .val (.stat (statName r0) true 0))

def AllAgreeG (m0 r0 : HPath) : MemFS.World → List (Nat × Op) → List Result → List Out → Prop
  | _, [], [], [] => True
  | w, (h, op) :: rest, rm :: rms, o :: os =>
    AgreeG m0 r0 w h op rm o ∧ AllAgreeG m0 r0 (w.step h op).1 rest rms os
  | _, _, _, _ => False

theorem simG_step (m0 r0 : HPath) (w : MemFS.World) (dw : World) (hsim : SimG m0 r0 w dw) (h : Nat) (op : Op)
    (hpre : PreAtN w h op) :
    SimG m0 r0 (w.step h op).1 (dw.step h op).1
    ∧ AgreeG m0 r0 w h op (w.step h op).2 (dw.step h op).2 := by
  obtain ⟨cs, hcm, hcd⟩ := hsim.views
  have hTm : TreeLike (abs w.root) := ⟨hsim.mem.inv.abs_nil, MemAbs.abs_closed _⟩
  have hTd := Host.wf_treeLike hsim.wf
  -- handle `h` has the SAME relative base `c` on both sides: `m0 ++ c` in memory, `r0 ++ c` on disk
  have hcs : (cs[h]?).map (m0 ++ ·) = (w.views[h]?).map MemFS.baseOf := by
    rw [← List.getElem?_map, ← hcm, List.getElem?_map]
  cases hh : w.views[h]? with
  | none =>
    rw [hh] at hcs
    have hd : dw.views[h]? = none := by rw [hcd]; simpa using hcs
    rw [MemFS.world_step_none w h op hh, world_step_none dw h op hd]
    exact ⟨hsim, Or.inl ⟨.err, rfl, ResEq.refl _⟩⟩
  | some ref =>
    rw [hh] at hcs
    obtain ⟨c, hc, hbase⟩ := Option.map_eq_some_iff.mp hcs
    have hd : dw.views[h]? = some (r0 ++ c) := by rw [hcd]; simp [hc]
    obtain ⟨⟨hmstep, _, _⟩, hmok, hmviews⟩ := MemFS.world_step_ok w hsim.mem h op ref hh
    obtain ⟨hdhost, hdres, hdviews⟩ := world_step_some dw h op _ hd
    rw [← hbase] at hmstep
    have hpreN : PreN (m0 ++ c) (abs w.root) op := by
      have := hpre; simp only [PreAtN, hh] at this; rw [← hbase] at this; exact this
    have hm0 : abs w.root m0 = some .dir := hTm.closed.prefix_of_dir hpreN.root (List.prefix_append m0 c)
    have hr0 : dw.host.get r0 = some .dir := by
      have := hsim.state []; simp only [List.append_nil] at this; rw [← this]; exact hm0
    have hbelow : State.below (abs w.root) m0 = State.below dw.host.get r0 := by
      funext q; exact hsim.state q
    by_cases hrl : RootLstat m0 w h op
    · -- Lstat of the pair's own root: each side names its own directory
      obtain ⟨ref', raw, p, hh', rfl, hn, hmp⟩ := rootLstat_iff.mp hrl
      cases hh.symm.trans hh'
      have hcp : c ++ p = [] := by
        rw [← hbase, List.append_assoc] at hmp
        exact List.append_right_eq_self.mp hmp
      obtain ⟨hc0, hp0⟩ := List.append_eq_nil_iff.mp hcp
      subst hc0; subst hp0
      simp only [List.append_nil] at *
      simp only [Step, hn, List.append_nil, hm0] at hmstep
      have hdk : step r0 dw.host (.lstat raw) = (dw.host, .val (.stat (statName r0) true 0)) := by
        simp [step, hn, osStat_full hr0, hr0]
      refine ⟨⟨hmok, by rw [hdhost, hdk]; exact hsim.wf, ?_, ?_⟩, Or.inr ⟨hrl, hmstep.2, by rw [hdres, hdk]⟩⟩
      · intro q; rw [hdhost, hdk, hmstep.1]; exact hsim.state q
      · refine ⟨cs, ?_, ?_⟩
        · rw [hmviews, hcm]; simp [FS.viewsAfter]
        · rw [hdviews]; simpa [viewsNext] using hcd
    · -- every other call: both sides are the specification's call through base `c` of the common tree
      have hl : FS.NoRootLstat c op := fun raw p hop hn hcp =>
        hrl (rootLstat_iff.mpr ⟨ref, raw, p, hh, hop, hn, by rw [← hbase, List.append_assoc, hcp, List.append_nil]⟩)
      have hpreD : Pre (r0 ++ c) dw.host.get op :=
        pre_transport (fun x => by rw [List.append_assoc, List.append_assoc]; exact hsim.state _) (hl.append r0) hpreN
      obtain ⟨hwf', rd, rd', hres, heq, hstep⟩ := step_pre _ dw.host hsim.wf op hpreD
      have hrebD := FS.Step_rebase r0 c _ _ op rd' hTd hr0 hl hstep
      have hrebM := FS.Step_rebase m0 c _ _ op _ hTm hm0 hl hmstep
      rw [hbelow] at hrebM
      obtain ⟨hst, hre⟩ := FS.Step_det _ _ op _ _ _ _ hrebM hrebD
      refine ⟨⟨hmok, by rw [hdhost]; exact hwf', ?_, ?_⟩, Or.inl ⟨rd, by rw [hdres]; exact hres, hre.trans heq⟩⟩
      · intro q
        rw [hdhost]
        exact congrFun hst q
      · refine ⟨FS.viewsAfter cs h op, ?_, ?_⟩
        · rw [hmviews, hcm, FS.viewsAfter_map]
        · rw [hdviews, hcd]
          exact views_step r0 cs h c hc dw.host op hpreD

theorem Sim.pair {r0 : HPath} {w : MemFS.World} {dw : World} (h : Sim r0 w dw) : SimG [] r0 w dw :=
  ⟨h.mem, h.wf, fun q => by simpa using h.state q, w.views.map MemFS.baseOf, by simp, by simpa using h.views⟩

theorem SimG.sim {r0 : HPath} {w : MemFS.World} {dw : World} (h : SimG [] r0 w dw) : Sim r0 w dw := by
  obtain ⟨cs, h1, h2⟩ := h.views
  refine ⟨h.mem, h.wf, fun q => by simpa using h.state q, ?_⟩
  rw [h2, h1]; simp

theorem sim_step (r0 : HPath) (w : MemFS.World) (dw : World) (hsim : Sim r0 w dw) (h : Nat) (op : Op)
    (hpre : PreAt w h op) :
    Sim r0 (w.step h op).1 (dw.step h op).1 ∧ Agree (w.step h op).2 (dw.step h op).2 := by
  have hN : PreAtN w h op := by
    unfold PreAt at hpre; unfold PreAtN
    split
    · next ref hh => rw [hh] at hpre; exact (pre_iff.mp hpre).1
    · trivial
  obtain ⟨hs, a | ⟨hr, _⟩⟩ := simG_step [] r0 w dw hsim.pair h op hN
  · exact ⟨hs.sim, a⟩
  · obtain ⟨ref, raw, p, hh, rfl, hn, hm⟩ := rootLstat_iff.mp hr
    unfold PreAt at hpre; rw [hh] at hpre
    exact absurd hm (pre_lstat hpre raw p rfl hn)

theorem sim_run (r0 : HPath) (w : MemFS.World) (dw : World) (hsim : Sim r0 w dw) (ops : List (Nat × Op))
    (hpre : AllPre w ops) :
    Sim r0 (w.run ops).1 (dw.run ops).1 ∧ AllAgree (w.run ops).2 (dw.run ops).2 := by
  induction ops generalizing w dw with
  | nil => exact ⟨hsim, trivial⟩
  | cons x rest ih =>
    obtain ⟨h, op⟩ := x
    obtain ⟨hs1, ha1⟩ := sim_step r0 w dw hsim h op hpre.1
    obtain ⟨hs2, ha2⟩ := ih (w.step h op).1 (dw.step h op).1 hs1 hpre.2
    rw [MemFS.run_cons, World.run_cons]
    exact ⟨hs2, ha1, ha2⟩

theorem allAgree_of_allAgreeG (m0 r0 : HPath) (w : MemFS.World) (ops : List (Nat × Op)) (rms : List Result)
    (os : List Out) (h : AllAgreeG m0 r0 w ops rms os)
    (hname : FS.statName m0 = statName r0 ∨ ∀ w' h' op', ¬ RootLstat m0 w' h' op') : AllAgree rms os := by
  induction ops generalizing w rms os with
  | nil =>
    cases rms <;> cases os <;> simp_all [AllAgreeG, AllAgree]
  | cons x rest ih =>
    obtain ⟨h', op⟩ := x
    cases rms with
    | nil => cases os <;> simp [AllAgreeG] at h
    | cons rm rms =>
      cases os with
      | nil => simp [AllAgreeG] at h
      | cons o os =>
        obtain ⟨h1, h2⟩ := h
        refine ⟨?_, ih _ _ _ h2⟩
        rcases h1 with a | ⟨hr, e1, e2⟩
        · exact a
        · rcases hname with hn | hn
          · exact ⟨_, e2, by rw [e1, hn]; exact ResEq.refl _⟩
          · exact absurd hr (hn _ _ _)

end DiskFS
end Goat
