/-
C17, the splitter `varutil.ReadArguments`: the vocabulary of the statements in `Goat/Props/C17.lean` (`Reads`,
`PlainWord`, `render`, `MarkerFirstAtEnd`) and the lemmas behind them.
-/
import Goat.Model.Args

namespace Goat.Args

section steps
variable {s : St} {ch : Byte} {rest : Bytes}

theorem step_nl_esc (h : s.esc = true) :
    mainLoop s (nl :: rest) = mainLoop { s with esc := false } rest := by
  rw [mainLoop.eq_2, if_pos rfl, if_pos h]

theorem step_nl (h : ¬ s.esc = true) :
    mainLoop s (nl :: rest) = .ok s.args false rest := by
  rw [mainLoop.eq_2, if_pos rfl, if_neg h]

theorem step_blank (h1 : ¬ ch = nl) (h2 : ch = sp ∨ ch = tab) :
    mainLoop s (ch :: rest) = mainLoop { s with esc := false, sep := true } rest := by
  rw [mainLoop.eq_2, if_neg h1, if_pos h2]

theorem step_bs (h1 : ¬ ch = nl) (h2 : ¬ (ch = sp ∨ ch = tab)) (h3 : ¬ s.esc = true ∧ ch = bs) :
    mainLoop s (ch :: rest) = mainLoop { s with esc := true } rest := by
  rw [mainLoop.eq_2, if_neg h1, if_neg h2, if_pos h3]

theorem step_dq {c : Bytes} (h1 : ¬ ch = nl) (h2 : ¬ (ch = sp ∨ ch = tab)) (h3 : ¬ (¬ s.esc = true ∧ ch = bs))
    (hc : s.open.cur = some c) (h4 : ¬ s.open.esc = true ∧ ch = dq) :
    mainLoop s (ch :: rest) = quoteLoop s.open.done c false rest := by
  rw [mainLoop.eq_2, if_neg h1, if_neg h2, if_neg h3]
  dsimp only
  rw [hc]
  dsimp only
  rw [if_pos h4]

theorem step_push {c : Bytes} (h1 : ¬ ch = nl) (h2 : ¬ (ch = sp ∨ ch = tab)) (h3 : ¬ (¬ s.esc = true ∧ ch = bs))
    (hc : s.open.cur = some c) (h4 : ¬ (¬ s.open.esc = true ∧ ch = dq))
    (h5 : ¬ (¬ s.open.esc = true ∧ ch = lt ∧ endsWith c [eq, lt] = true)) :
    mainLoop s (ch :: rest) =
      mainLoop { done := s.open.done, cur := some (c ++ [ch]), esc := false, sep := false } rest := by
  rw [mainLoop.eq_2, if_neg h1, if_neg h2, if_neg h3]
  dsimp only
  rw [hc]
  dsimp only
  rw [if_neg h4, if_neg h5]

theorem step_hd {c tag rest1 value rest2 : Bytes} (h1 : ¬ ch = nl) (h2 : ¬ (ch = sp ∨ ch = tab))
    (h3 : ¬ (¬ s.esc = true ∧ ch = bs))
    (hc : s.open.cur = some c) (h4 : ¬ (¬ s.open.esc = true ∧ ch = dq))
    (h5 : ¬ s.open.esc = true ∧ ch = lt ∧ endsWith c [eq, lt] = true)
    (ht : tagLine [] rest = .ok (tag, rest1)) (hne : ¬ tag = [])
    (hb : bodyLoop (nl :: tag) [] rest1 = some (value, rest2)) :
    mainLoop s (ch :: rest) =
      mainLoop { done := s.open.done, cur := some (c.take (c.length - 1) ++ trimBlank value),
                 esc := s.open.esc, sep := s.open.sep } rest2 := by
  rw [mainLoop.eq_2]; simp only [if_neg h1, if_neg h2, if_neg h3, hc, if_neg h4, if_pos h5]
  split
  · next e' h => rw [ht] at h; cases h
  · next h =>
    rw [ht] at h; cases h; simp only [if_neg hne]
    split
    · next h' => rw [hb] at h'; cases h'
    · next h' => rw [hb] at h'; cases h'; rfl

end steps

/-- the invariant that keeps `args[len(args)-1]` in range -/
def Good (s : St) : Prop := s.sep = false → s.cur ≠ none

theorem good_open_cur {s : St} (h : Good s) : s.open.cur ≠ none := by
  unfold St.open
  split
  · simp
  · next hs => exact h (by simpa using hs)

theorem open_sep (s : St) : s.open.sep = s.sep := by
  unfold St.open; split <;> rfl

theorem open_esc (s : St) : s.open.esc = s.esc := by
  unfold St.open; split <;> rfl

@[simp] theorem open_of_not_sep (done : List Bytes) (c : Option Bytes) (e : Bool) :
    St.open ⟨done, c, e, false⟩ = ⟨done, c, e, false⟩ := by
  simp [St.open]

@[simp] theorem open_of_sep (done : List Bytes) (c : Option Bytes) (e : Bool) :
    St.open ⟨done, c, e, true⟩ = ⟨St.args ⟨done, c, e, true⟩, some [], e, true⟩ := by
  simp [St.open]

/-- What an acceptable result says about the unread remainder of `inp`: no panic; without EOF the remainder follows
a newline of the input; with EOF nothing is left. -/
def Fine (inp : Bytes) : Outcome → Prop
  | .ok _ false r => nl :: r <:+ inp
  | .ok _ true r => r = []
  | .err _ _ => True
  | .panic => False

theorem Fine.mono {a b : Bytes} {o : Outcome} (h : Fine a o) (hab : a <:+ b) : Fine b o := by
  cases o with
  | ok args eof r =>
    cases eof with
    | false => exact List.IsSuffix.trans h hab
    | true => exact h
  | err _ _ => trivial
  | panic => exact h

theorem tagLine_suffix {tag inp t r : Bytes} (h : tagLine tag inp = .ok (t, r)) : r <:+ inp := by
  fun_induction tagLine tag inp with
  | case1 => cases h
  | case2 => cases h; exact List.suffix_cons _ _
  | case3 _ _ _ _ _ ih => exact (ih h).trans (List.suffix_cons _ _)
  | case4 => cases h
  | case5 _ _ _ _ _ _ ih => exact (ih h).trans (List.suffix_cons _ _)

theorem bodyLoop_suffix {marker v inp x r : Bytes} (h : bodyLoop marker v inp = some (x, r)) : r <:+ inp := by
  fun_induction bodyLoop marker v inp with
  | case1 => cases h
  | case2 => cases h; exact List.suffix_cons _ _
  | case3 _ _ _ _ _ ih => exact (ih h).trans (List.suffix_cons _ _)

theorem fine_mainLoop (s : St) (inp : Bytes) : Good s → Fine inp (mainLoop s inp) := by
  /- The cases of `mainLoop`: 1 end of input; 2, 3 newline, escaped or not; 4 blank; 5 backslash; 6 the panic branch,
  excluded by `good_open_cur`; 7 opening quote; 8–10 heredoc errors; 11 heredoc read (continues after the body, on a
  suffix by `bodyLoop_suffix`, `tagLine_suffix`); 12 a byte is appended.  Of `quoteLoop`: 13 end of input; 14 closing
  quote; 15 backslash; 16 a byte is appended.  In 4 `sep` is set, in 11, 12, 14 `cur` is `some _`: `Good` again. -/
  apply mainLoop.induct_unfolding (motive1 := fun s inp o => Good s → Fine inp o)
    (motive2 := fun _ _ _ inp o => Fine inp o)
  case case1 => exact fun _ _ => rfl
  case case2 => exact fun _ _ _ ih g => (ih g).mono (List.suffix_cons _ _)
  case case3 => exact fun _ _ _ _ => List.suffix_refl _
  case case4 => exact fun _ _ _ _ _ ih _ => (ih nofun).mono (List.suffix_cons _ _)
  case case5 => exact fun _ _ _ _ _ _ ih g => (ih g).mono (List.suffix_cons _ _)
  case case6 => exact fun _ _ _ _ _ _ hc g => good_open_cur g hc
  case case7 => exact fun _ _ _ _ _ _ _ _ _ ih _ => ih.mono (List.suffix_cons _ _)
  case case8 => exact fun _ _ _ _ _ _ _ _ _ _ _ _ _ => trivial
  case case9 => exact fun _ _ _ _ _ _ _ _ _ _ _ _ _ => trivial
  case case10 => exact fun _ _ _ _ _ _ _ _ _ _ _ _ _ _ _ _ => trivial
  case case11 =>
    intros
    have ih : Good _ → Fine _ _ := ‹_›
    exact (ih fun _ => nofun).mono
      (((bodyLoop_suffix ‹bodyLoop _ _ _ = _›).trans (tagLine_suffix ‹tagLine _ _ = _›)).trans (List.suffix_cons _ _))
  case case12 => exact fun _ _ _ _ _ _ _ _ _ _ ih _ => (ih fun _ => nofun).mono (List.suffix_cons _ _)
  case case13 => exact fun _ _ _ => trivial
  case case14 => exact fun _ _ _ _ _ _ ih => (ih fun _ => nofun).mono (List.suffix_cons _ _)
  case case15 => exact fun _ _ _ _ _ ih => ih.mono (List.suffix_cons _ _)
  case case16 => exact fun _ _ _ _ _ _ _ ih => ih.mono (List.suffix_cons _ _)

theorem fine_readArgs (inp : Bytes) : Fine inp (readArgs inp) :=
  fine_mainLoop _ inp nofun

theorem endsWith_iff (l suf : Bytes) : endsWith l suf = true ↔ suf <:+ l := by
  unfold endsWith
  rw [beq_iff_eq, ← List.reverse_prefix, List.prefix_iff_eq_take, List.length_reverse]
  exact eq_comm

/-- a byte the splitter copies without looking at it twice (apart from the `=<<` check) -/
def PlainByte (b : Byte) : Prop := b ≠ sp ∧ b ≠ tab ∧ b ≠ nl ∧ b ≠ dq ∧ b ≠ bs

instance (b : Byte) : Decidable (PlainByte b) := by unfold PlainByte; infer_instance

/-- bytes that keep the splitter out of all its special branches; `=<<` opens a heredoc -/
def PlainBytes (w : Bytes) : Prop := (∀ b ∈ w, PlainByte b) ∧ ¬ [eq, lt, lt] <:+: w

instance (w : Bytes) : Decidable (PlainBytes w) := by unfold PlainBytes; infer_instance

def PlainWord (w : Bytes) : Prop := w ≠ [] ∧ PlainBytes w

instance (w : Bytes) : Decidable (PlainWord w) := by unfold PlainWord; infer_instance

theorem plain_run (done : List Bytes) (c w tail : Bytes) (hw : ∀ b ∈ w, PlainByte b)
    (hi : ¬ [eq, lt, lt] <:+: c ++ w) :
    mainLoop ⟨done, some c, false, false⟩ (w ++ tail)
      = mainLoop ⟨done, some (c ++ w), false, false⟩ tail := by
  induction w generalizing c with
  | nil => simp
  | cons b w ih =>
    obtain ⟨h1, h2, h3, h4, h5⟩ := hw b (by simp)
    -- `b` does not open a heredoc: if `b = <` and `c` ended with `=<`, then `=<<` would occur in `c ++ b :: w`
    have hd : ¬ (¬ (St.open ⟨done, some c, false, false⟩).esc = true ∧ b = lt ∧ endsWith c [eq, lt] = true) := by
      rintro ⟨-, rfl, he⟩
      obtain ⟨p, hp⟩ := (endsWith_iff _ _).1 he
      exact hi ⟨p, w, by rw [← hp]; simp⟩
    rw [List.cons_append,
      step_push (s := ⟨done, some c, false, false⟩) (c := c) h3 (by simp [h1, h2]) (by simp [h5])
        (by simp) (by simp [h4]) hd, open_of_not_sep]
    simpa using ih (c ++ [b]) (fun x hx => hw x (by simp [hx])) (by simpa using hi)

theorem plain_open (done : List Bytes) (cur : Option Bytes) (b : Byte) (rest : Bytes)
    (hb : PlainByte b) :
    mainLoop ⟨done, cur, false, true⟩ (b :: rest)
      = mainLoop ⟨St.args ⟨done, cur, false, true⟩, some [b], false, false⟩ rest := by
  obtain ⟨h1, h2, h3, h4, h5⟩ := hb
  rw [step_push (s := ⟨done, cur, false, true⟩) (c := []) h3 (by simp [h1, h2]) (by simp [h5])
        (by simp) (by simp [h4]) (by simp [endsWith])]
  rw [open_of_sep]; rfl

/-- `tok`, read where a new argument may start, contributes exactly the argument `a` -/
def Reads (tok a : Bytes) : Prop :=
  ∀ (done : List Bytes) (cur : Option Bytes) (tail : Bytes),
    mainLoop ⟨done, cur, false, true⟩ (tok ++ tail)
      = mainLoop ⟨St.args ⟨done, cur, false, true⟩, some a, false, false⟩ tail

theorem reads_word {w : Bytes} (hw : PlainWord w) : Reads w w := by
  intro done cur tail
  obtain ⟨hne, hp, hi⟩ := hw
  cases w with
  | nil => exact absurd rfl hne
  | cons b w =>
    rw [List.cons_append, plain_open _ _ _ _ (hp b (by simp)),
      plain_run _ [b] w tail (fun x hx => hp x (by simp [hx])) (by simpa using hi)]
    rfl

theorem line_aux {ι : Type} (tok arg : ι → Bytes) (l : List ι) (hl : ∀ i ∈ l, Reads (tok i) (arg i)) :
    ∀ (done : List Bytes) (cur : Option Bytes) (tail : Bytes),
    ∃ s' : St, s'.esc = false ∧ s'.args = St.args ⟨done, cur, false, true⟩ ++ l.map arg ∧
      mainLoop ⟨done, cur, false, true⟩ (List.intercalate [sp] (l.map tok) ++ tail) = mainLoop s' tail := by
  induction l with
  | nil => intro done cur tail; exact ⟨⟨done, cur, false, true⟩, rfl, by simp, by simp⟩
  | cons a more ih =>
    intro done cur tail
    have ha := hl a (by simp)
    cases more with
    | nil =>
      refine ⟨⟨St.args ⟨done, cur, false, true⟩, some (arg a), false, false⟩, rfl, rfl, ?_⟩
      rw [List.map_singleton, List.intercalate_singleton, ha]
    | cons b more' =>
      obtain ⟨s', h1, h2, h3⟩ := ih (fun w hw => hl w (by simp [hw]))
        (St.args ⟨done, cur, false, true⟩) (some (arg a)) tail
      refine ⟨s', h1, ?_, ?_⟩
      · rw [h2]; simp [St.args]
      · rw [List.map_cons, List.map_cons, List.intercalate_cons_cons, List.append_assoc, List.append_assoc, ha,
          List.singleton_append, step_blank (by decide) (Or.inl rfl)]
        exact h3

theorem line_nl {ι : Type} (tok arg : ι → Bytes) (l : List ι) (hl : ∀ i ∈ l, Reads (tok i) (arg i))
    (done : List Bytes) (cur : Option Bytes) (rest : Bytes) :
    mainLoop ⟨done, cur, false, true⟩ (List.intercalate [sp] (l.map tok) ++ nl :: rest)
      = .ok (St.args ⟨done, cur, false, true⟩ ++ l.map arg) false rest := by
  obtain ⟨s', h1, h2, h3⟩ := line_aux tok arg l hl done cur (nl :: rest)
  rw [h3, step_nl (by simp [h1]), h2]

theorem readArgs_line {ι : Type} (tok arg : ι → Bytes) (l : List ι) (hl : ∀ i ∈ l, Reads (tok i) (arg i))
    (rest : Bytes) :
    readArgs (List.intercalate [sp] (l.map tok) ++ nl :: rest) = .ok (l.map arg) false rest :=
  line_nl tok arg l hl [] none rest

theorem readArgs_line_eof {ι : Type} (tok arg : ι → Bytes) (l : List ι) (hl : ∀ i ∈ l, Reads (tok i) (arg i)) :
    readArgs (List.intercalate [sp] (l.map tok)) = .ok (l.map arg) true [] := by
  obtain ⟨s', _, h2, h3⟩ := line_aux tok arg l hl [] none []
  rw [List.append_nil] at h3
  rw [readArgs, h3, mainLoop.eq_1, h2]
  rfl

/-- reference quoting of one byte inside an open quote -/
def escByte (b : Byte) : Bytes :=
  if b = dq then [bs, dq]
  else if b = bs then [dq, bs, bs, dq]      -- close the quote, emit `\\` outside, reopen
  else [b]

def renderBody (a : Bytes) : Bytes := a.flatMap escByte

def render (a : Bytes) : Bytes := dq :: renderBody a ++ [dq]

def renderLine : List Bytes → Bytes
  | [] => []
  | [a] => render a
  | a :: b :: more => render a ++ sp :: renderLine (b :: more)

theorem quote_dq (done : List Bytes) (c rest : Bytes) :
    quoteLoop done c false (dq :: rest) = mainLoop ⟨done, some c, false, false⟩ rest := by
  rw [quoteLoop.eq_2, if_pos ⟨by simp, rfl⟩]

theorem quote_bs (done : List Bytes) (c : Bytes) (e : Bool) (rest : Bytes) :
    quoteLoop done c e (bs :: rest) = quoteLoop done c true rest := by
  rw [quoteLoop.eq_2, if_neg (by simp; intro; decide), if_pos rfl]

theorem quote_esc (done : List Bytes) (c : Bytes) (ch : Byte) (rest : Bytes) (h : ch ≠ bs) :
    quoteLoop done c true (ch :: rest) = quoteLoop done (c ++ [ch]) false rest := by
  rw [quoteLoop.eq_2, if_neg (by simp), if_neg h]

theorem quote_other (done : List Bytes) (c : Bytes) (ch : Byte) (rest : Bytes)
    (h1 : ch ≠ dq) (h2 : ch ≠ bs) :
    quoteLoop done c false (ch :: rest) = quoteLoop done (c ++ [ch]) false rest := by
  rw [quoteLoop.eq_2, if_neg (by simp [h1]), if_neg h2]

theorem bsbsdq (done : List Bytes) (c rest : Bytes) :
    mainLoop ⟨done, some c, false, false⟩ (bs :: bs :: dq :: rest)
      = quoteLoop done (c ++ [bs]) false rest := by
  rw [step_bs (by decide) (by decide) ⟨by simp, rfl⟩,
    step_push (c := c) (by decide) (by decide) (by simp) (by simp) (by simp) (by simp), open_of_not_sep,
    step_dq (c := c ++ [bs]) (by decide) (by decide) (by simp; decide) (by simp) (by simp), open_of_not_sep]

theorem quote_body (done : List Bytes) (c a tail : Bytes) :
    quoteLoop done c false (renderBody a ++ dq :: tail)
      = mainLoop ⟨done, some (c ++ a), false, false⟩ tail := by
  induction a generalizing c with
  | nil => simp [renderBody, quote_dq]
  | cons b a ih =>
    have hcons : renderBody (b :: a) = escByte b ++ renderBody a := by simp [renderBody]
    have hc : c ++ b :: a = c ++ [b] ++ a := by simp
    rw [hcons, hc, ← ih (c ++ [b])]
    by_cases hq : b = dq
    · subst hq
      have : escByte dq = [bs, dq] := by decide
      rw [this]
      simp only [List.cons_append, List.nil_append]
      rw [quote_bs, quote_esc _ _ _ _ (by decide)]
    · by_cases hb : b = bs
      · subst hb
        have : escByte bs = [dq, bs, bs, dq] := by decide
        rw [this]
        simp only [List.cons_append, List.nil_append]
        rw [quote_dq, bsbsdq]
      · have : escByte b = [b] := by simp [escByte, hq, hb]
        rw [this]
        simp only [List.cons_append, List.nil_append]
        rw [quote_other _ _ _ _ hq hb]

theorem reads_render (a : Bytes) : Reads (render a) a := by
  intro done cur tail
  simp only [render, List.cons_append, List.append_assoc]
  rw [step_dq (c := []) (by decide) (by decide) (by simp; decide) (by simp) (by simp), open_of_sep, quote_body]
  simp

theorem renderLine_eq : ∀ args : List Bytes, renderLine args = List.intercalate [sp] (args.map render)
  | [] => rfl
  | [a] => by simp [renderLine]
  | a :: b :: more => by
    rw [renderLine, renderLine_eq (b :: more), List.map_cons, List.map_cons, List.map_cons,
      List.intercalate_cons_cons]
    simp

theorem isLetter_ne_nl {b : Byte} (h : isLetter b = true) : b ≠ nl := by
  rintro rfl; revert h; decide

theorem tagLine_letters (t : Bytes) (ht : ∀ b ∈ t, isLetter b = true) (acc r : Bytes) :
    tagLine acc (t ++ nl :: r) = .ok (acc ++ t, r) := by
  induction t generalizing acc with
  | nil => simp [tagLine]
  | cons b t ih =>
    have hb := ht b (by simp)
    rw [List.cons_append, tagLine, if_neg (isLetter_ne_nl hb), if_pos hb,
      ih (fun x hx => ht x (by simp [hx]))]
    simp

theorem bodyLoop_first (m : Bytes) (y : Bytes) : ∀ (v rest : Bytes), y ≠ [] → m <:+ v ++ y →
    (∀ n, 0 < n → n < y.length → ¬ m <:+ v ++ y.take n) →
    bodyLoop m v (y ++ rest) = some ((v ++ y).take ((v ++ y).length - m.length), rest) := by
  induction y with
  | nil => intro v rest h; exact absurd rfl h
  | cons ch y ih =>
    intro v rest _ hend hfirst
    rw [List.cons_append, bodyLoop]
    by_cases hy : y = []
    · subst hy
      rw [if_pos ((endsWith_iff _ _).2 hend)]
      simp
    · have h1 : ¬ endsWith (v ++ [ch]) m = true := by
        rw [endsWith_iff]
        simpa using hfirst 1 (by omega) (by
          cases y with
          | nil => exact absurd rfl hy
          | cons _ _ => simp)
      rw [if_neg h1, ih (v ++ [ch]) rest hy (by simpa using hend)]
      · simp
      · intro n hn hlt
        simpa using hfirst (n + 1) (by omega) (by simp; omega)

/-- no proper prefix of `x ++ "\n" ++ t` ends with the marker `"\n" ++ t`: the marker first occurs at the very end
(the Go loop stops at the first occurrence) -/
def MarkerFirstAtEnd (t x : Bytes) : Prop :=
  ∀ n, n < (x ++ nl :: t).length → ¬ (nl :: t) <:+ (x ++ nl :: t).take n

instance (t x : Bytes) : Decidable (MarkerFirstAtEnd t x) := by
  unfold MarkerFirstAtEnd; infer_instance

theorem bodyLoop_marker (t x rest : Bytes) (h : MarkerFirstAtEnd t x) :
    bodyLoop (nl :: t) [] (x ++ nl :: t ++ rest) = some (x, rest) := by
  simpa using bodyLoop_first (nl :: t) (x ++ nl :: t) [] rest (by simp) (by simp)
    (fun n _ hn => by simpa using h n hn)

theorem plainWord_key (k : Bytes) (h : PlainBytes k) : PlainWord (k ++ [eq, lt]) := by
  obtain ⟨hp, hi⟩ := h
  refine ⟨by simp, ?_, ?_⟩
  · intro b hb
    rw [List.mem_append] at hb
    rcases hb with hb | hb
    · exact hp b hb
    · simp at hb; rcases hb with rfl | rfl <;> decide
  · -- an occurrence of `=<<` in `k ++ =<` would end at the last byte, at the last but one, or lie inside `k`;
    -- reversed, so that `infix_cons_iff` peels the bytes off from the end
    intro hinf
    apply hi
    rw [← List.reverse_infix] at hinf ⊢
    have e1 : ([eq, lt, lt] : Bytes).reverse = [lt, lt, eq] := rfl
    have e2 : (k ++ [eq, lt]).reverse = lt :: eq :: k.reverse := by simp
    rw [e1, e2, List.infix_cons_iff] at hinf
    rcases hinf with h | h
    · rw [List.cons_prefix_cons, List.cons_prefix_cons] at h
      exact absurd h.2.1 (by decide)
    · rw [List.infix_cons_iff] at h
      rcases h with h | h
      · rw [List.cons_prefix_cons] at h
        exact absurd h.1 (by decide)
      · exact h

theorem reads_heredoc (k t x : Bytes)
    (hk : PlainBytes k) (ht : ∀ b ∈ t, isLetter b = true) (hne : t ≠ [])
    (hx : MarkerFirstAtEnd t x) :
    Reads (k ++ [eq, lt, lt] ++ t ++ [nl] ++ x ++ [nl] ++ t) (k ++ [eq] ++ trimBlank x) := by
  intro done cur tail
  have e : k ++ [eq, lt, lt] ++ t ++ [nl] ++ x ++ [nl] ++ t ++ tail
      = (k ++ [eq, lt]) ++ lt :: (t ++ nl :: (x ++ nl :: t ++ tail)) := by simp
  rw [e, reads_word (plainWord_key k hk)]
  rw [step_hd (c := k ++ [eq, lt]) (tag := t) (rest1 := x ++ nl :: t ++ tail) (value := x)
        (rest2 := tail) (by decide) (by decide) (by simp; decide) (by simp)
        (fun h => absurd h.2 (by decide))
        ⟨by simp, rfl, (endsWith_iff _ _).2 ⟨k, rfl⟩⟩
        (by simpa using tagLine_letters t ht [] _) hne (bodyLoop_marker t x tail hx)]
  rw [open_of_not_sep]
  have : (k ++ [eq, lt]).take ((k ++ [eq, lt]).length - 1) = k ++ [eq] := by
    have e3 : k ++ [eq, lt] = (k ++ [eq]) ++ [lt] := by simp
    rw [e3, List.length_append, List.length_singleton, Nat.add_sub_cancel, List.take_left']
    rfl
  rw [this]

end Goat.Args
