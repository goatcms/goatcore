/-
C11: the moment `Wait()` returns (`pick_facts`, `Picked`), what a signed-off scope looks like, how a `Close` reports
(`Returned`), and that a triple event means the wait has ended (`waited_of_triple`).
-/
import Goat.Proofs.ScopeSound

namespace Goat.Scope

theorem closeSeq_prefix (ph : Phase) (rb pk : Bool) : closeSeq ph rb pk <+: fullSeq rb :=
  List.take_prefix _ _

theorem closeSeq_done {ph : Phase} (h : ph.live = false) (rb : Bool) : closeSeq ph rb false = fullSeq rb := by
  cases ph <;> cases rb <;> first | rfl | cases h

theorem closeSeq_finished (rb : Bool) : closeSeq .finished rb false = fullSeq rb := closeSeq_done rfl rb

theorem signed_off_facts {st : State} (h : Inv st) {c : Nat} (hl : (st.scp c).phase.live = false) :
    (st.scp c).park = none ∧ st.closeTrace c = fullSeq (st.scp c).rolled := by
  have hpk : (st.scp c).park = none :=
    h.park_none (evOf_not_live hl _)
  refine ⟨hpk, ?_⟩
  rw [h.order c, hpk]
  exact closeSeq_done hl _

theorem Inv.closeTrace_prefix {st : State} (h : Inv st) (s : Nat) : st.closeTrace s <+: fullSeq (st.scp s).rolled := by
  rw [h.order s]; exact closeSeq_prefix _ _ _

/-- the act ends the wait of `s`: the coarse `finish`, or the step of a goroutine sitting in `Wait()` -/
def IsPick (st : State) (a : Act) (s : Nat) : Prop :=
  a = .finish s ∨ (a = .step s ∧ (st.scp s).phase = .closing)

theorem pick_facts {st st' : State} {a : Act} {s : Nat} {o : Outcome} (h : Inv st) (hp : IsPick st a s)
    (he : exec st a = some (st', o)) :
    s < st.nScopes ∧ (st.scp s).kids = [] ∧ (st.scp s).dones = (st.scp s).adds ∧
      (st'.scp s).phase.waited = true ∧ (st'.scp s).rolled = st.hasErr s := by
  -- the act is `pick`, enabled by an empty wait group, followed by steps that undo nothing
  suffices hk : s < st.nScopes ∧ (st.scp s).wg = 0 ∧ Mono (st.pick s) st' by
    obtain ⟨hs, hwg, m⟩ := hk
    have h1 := (h.scp s).wgEq
    have h2 := (h.scp s).donesLe
    have hw := m.waited s hs (by simp [State.pick, Phase.waited])
    exact ⟨hs, List.eq_nil_of_length_eq_zero (by omega), by omega, hw.1, by rw [hw.2]; simp [State.pick]⟩
  rcases hp with rfl | ⟨rfl, hph⟩
  · obtain ⟨hs, hph, hpk, hwg, rfl, _⟩ := exec_finish he
    exact ⟨hs, hwg, ((h.pick hs hpk hph hwg).inv.runSteps hs 7).mono⟩
  · obtain ⟨hs, hm⟩ := exec_step he
    cases micro_cases hm with
    | resume p _ hp => rw [h.park_none (by rw [hph]; rfl)] at hp; cases hp
    | start _ _ hev => rw [hph] at hev; cases hev
    | pick _ _ hwg => exact ⟨hs, hwg, .refl _⟩
    | signOff _ hph' | ret _ hph' => rw [hph] at hph'; cases hph'

/-- `Close` of `s` has returned `e` and left `st'`: it reports the error state of that moment, an error whenever the
rollback branch was taken or a listener of this `Close` failed -/
structure Returned (st' : State) (s : Nat) (e : Bool) : Prop where
  err : e = st'.hasErr s
  result : (st'.scp s).result = some e
  finished : (st'.scp s).phase = .finished
  rolled : (st'.scp s).rolled = true → e = true
  lfail : (st'.scp s).lfail = true → e = true

theorem micro_closed {st st' : State} {s : Nat} {e : Bool} (h : Inv st)
    (hm : micro st s = some (st', .closed e)) :
    Returned st' s e := by
  cases micro_cases hm with
  | ret hpk hph =>
    have hx : (st.ret s).scp s = { st.scp s with phase := .finished, result := some (st.hasErr s) } :=
      modScp_scp_same _ _ _
    refine ⟨by simp [State.hasErr, State.ctxOf, State.ret], by rw [hx], by rw [hx], ?_, ?_⟩ <;> rw [hx]
    · exact fun hr => (hasErr_iff st s).mpr ((h.scp s).rolledErr hr)
    · exact fun hr => (hasErr_iff st s).mpr ((h.scp s).lfailErr hr)

theorem closed_facts {st st' : State} {a : Act} {s : Nat} {e : Bool} (h : Inv st)
    (ha : a = .finish s ∨ a = .step s) (he : exec st a = some (st', .closed e)) :
    Returned st' s e := by
  rcases ha with rfl | rfl
  · obtain ⟨hs, hph, hpk, hwg, rfl, ho⟩ := exec_finish he
    have hout := runSteps_out (P := fun x => Inv x ∧ s < x.nScopes) (s := s)
      (fun a b o ha hm =>
        have c := ha.1.microCase ha.2 (micro_cases hm)
        ⟨c.inv, Nat.lt_of_lt_of_le ha.2 c.mono.nScopes⟩)
      7 (st.pick s) ⟨(h.pick hs hpk hph hwg).inv, hs⟩
    rcases hout.2 with h0 | ⟨stp, e', hP, hm, he'⟩
    · cases ho.trans h0
    · cases ho.trans he'
      exact micro_closed hP.1 hm
  · exact micro_closed h (exec_step he).2

theorem finish_ok_or_closed {st st' : State} {s : Nat} {o : Outcome}
    (he : exec st (.finish s) = some (st', o)) : o = .ok ∨ ∃ e, o = .closed e := by
  obtain ⟨_, _, _, _, _, rfl⟩ := exec_finish he
  exact (runSteps_out (P := fun _ => True) (s := s) (fun _ _ _ _ _ => trivial) 7 (st.pick s) trivial).2.imp_right
    fun ⟨_, e, _, _, he'⟩ => ⟨e, he'⟩

/-- the wait of `s` has ended and chose the branch `rb`: no act undoes this (`Mono.waited`), and the events of `s`
follow `fullSeq rb` from here on -/
structure Picked (st : State) (s : Nat) (rb : Bool) : Prop where
  inv : Inv st
  lt : s < st.nScopes
  waited : (st.scp s).phase.waited = true
  rolled : (st.scp s).rolled = rb

theorem Picked.mono {st st' : State} {s : Nat} {rb : Bool} (p : Picked st s rb) (hi : Inv st') (m : Mono st st') :
    Picked st' s rb :=
  have w := m.waited s p.lt p.waited
  ⟨hi, Nat.lt_of_lt_of_le p.lt m.nScopes, w.1, w.2.trans p.rolled⟩

theorem Picked.act {st st' : State} {s : Nat} {rb : Bool} {a : Act} {o : Outcome} (p : Picked st s rb)
    (he : exec st a = some (st', o)) : Picked st' s rb :=
  p.mono (inv_exec p.inv he) (mono_exec p.inv he)

theorem Picked.later {st : State} {s : Nat} {rb : Bool} (p : Picked st s rb) (rest : List Act) :
    Picked (runFrom st rest) s rb :=
  p.mono (inv_runFrom p.inv rest) (mono_runFrom p.inv rest)

theorem Picked.of_pick {st st' : State} {a : Act} {s : Nat} {o : Outcome} (h : Inv st) (hp : IsPick st a s)
    (he : exec st a = some (st', o)) : Picked st' s (st.hasErr s) :=
  have ⟨hs, _, _, hw, hr⟩ := pick_facts h hp he
  ⟨inv_exec h he, Nat.lt_of_lt_of_le hs (mono_exec h he).nScopes, hw, hr⟩

theorem Picked.prefix {st : State} {s : Nat} {rb : Bool} (p : Picked st s rb) : st.closeTrace s <+: fullSeq rb :=
  p.rolled ▸ p.inv.closeTrace_prefix s

theorem Picked.full {st : State} {s : Nat} {rb : Bool} (p : Picked st s rb) (hl : (st.scp s).phase.live = false) :
    st.closeTrace s = fullSeq rb :=
  p.rolled ▸ (signed_off_facts p.inv hl).2

theorem Picked.closed {st st' : State} {s : Nat} {b : Act} {e : Bool} (p : Picked st s true)
    (hb : b = .finish s ∨ b = .step s) (he : exec st b = some (st', .closed e)) : e = true :=
  (closed_facts p.inv hb he).rolled (p.act he).rolled

/-- before the wait has ended the events fired do not depend on the branch, so they lie in both full
sequences, and those share no triple event -/
theorem waited_of_triple {st : State} (h : Inv st) {s : Nat}
    (hf : Ev.beforeCommit ∈ st.closeTrace s ∨ Ev.beforeRollback ∈ st.closeTrace s) :
    (st.scp s).phase.waited = true := by
  cases hw : (st.scp s).phase.waited
  · exfalso
    have hb : (st.scp s).park.isSome = true → (st.scp s).phase = .begun := by
      intro hp
      cases he : evOf (st.scp s).phase (st.scp s).rolled with
      | none => rw [h.park_none he] at hp; cases hp
      | some ev => exact (evOf_facts he).begun hw
    rw [h.order s] at hf
    rcases hf with hf | hf
    · rw [closeSeq_unwaited hw _ true hb] at hf
      exact absurd ((closeSeq_prefix _ _ _).subset hf) (by decide)
    · rw [closeSeq_unwaited hw _ false hb] at hf
      exact absurd ((closeSeq_prefix _ _ _).subset hf) (by decide)
  · rfl

end Goat.Scope
