/-
Footprints of the tree transformers of the heap model.  `Frame` says what a change of the heap may overwrite, `Bound`
that the objects of a node are pairwise different and allocated.  `Tr` is the footprint of a transformer (it overwrites
only objects of its node, the new node gains no old object and is `Bound`), `Tx` adds what it keeps: `Sync` and the kind
of the node.  `NSpec`/`KSpec`/`DSpec` set a heap-level function against its value-level counterpart.  The two walks
`update` and `mkdirs` inherit all of it from what they do in one directory.
-/
import Goat.Proofs.MemFSHeap
import Goat.Proofs.Tree

namespace Goat
namespace MemFSHeap

open Path (Name)

/-- `omega` after unfolding `BufId` (omega does not look through the abbreviation; for the same reason ids are bound
as `Nat` in `cnt`, `Bound`, `FreshIds`) -/
macro "omegab" : tactic => `(tactic| ((try dsimp only [BufId] at *); omega))

/-- `h'` is `h` some steps later: the allocation counter did not go back, and of the objects allocated in `h` only
those in `S` may hold something else -/
structure Frame (S : BufId → Prop) (h h' : Heap) : Prop where
  next_le : h.next ≤ h'.next
  same : ∀ id, id < h.next → ¬ S id → h'.bytes id = h.bytes id ∧ h'.lists id = h.lists id

theorem Frame.refl (S : BufId → Prop) (h : Heap) : Frame S h h := ⟨Nat.le_refl _, fun _ _ _ => ⟨rfl, rfl⟩⟩

theorem Frame.trans {S S' : BufId → Prop} {h h1 h2 : Heap} (a : Frame S h h1) (b : Frame S' h1 h2)
    (hs : ∀ id, id < h.next → S' id → S id) : Frame S h h2 := by
  refine ⟨Nat.le_trans a.next_le b.next_le, fun id hid hn => ?_⟩
  have h1 := a.same id hid hn
  have h2 := b.same id (Nat.lt_of_lt_of_le hid a.next_le) (fun hs' => hn (hs id hid hs'))
  exact ⟨h2.1.trans h1.1, h2.2.trans h1.2⟩

theorem Frame.weaken {S S' : BufId → Prop} {h h' : Heap} (a : Frame S h h')
    (hs : ∀ id, id < h.next → S id → S' id) : Frame S' h h' :=
  ⟨a.next_le, fun id hid hn => a.same id hid (fun x => hn (hs id hid x))⟩

/-- a heap that only grew: nothing allocated was overwritten -/
abbrev Grew (h h' : Heap) : Prop := Frame (fun _ => False) h h'

theorem Grew.frame {h h' : Heap} (a : Grew h h') (S : BufId → Prop) : Frame S h h' :=
  a.weaken (fun _ _ x => x.elim)

theorem Grew.trans {h h1 h2 : Heap} (a : Grew h h1) (b : Grew h1 h2) : Grew h h2 :=
  Frame.trans a b (fun _ _ x => x)

theorem frame_allocL (h : Heap) (l : Entries) : Grew h (h.allocL l).1 := by
  refine ⟨by simp [Heap.allocL], fun id hid _ => ?_⟩
  simp [Heap.allocL, Nat.ne_of_lt hid]

theorem frame_allocB (h : Heap) (d : Bytes) : Grew h (h.allocB d).1 := by
  refine ⟨by simp [Heap.allocB], fun id hid _ => ?_⟩
  simp [Heap.allocB, Nat.ne_of_lt hid]

theorem frame_setL (h : Heap) (l : BufId) (x : Entries) : Frame (· = l) h (h.setL l x) := by
  refine ⟨by simp [Heap.setL], fun id hid hn => ?_⟩
  simp [Heap.setL, hn]

theorem frame_setB (h : Heap) (b : BufId) (x : Bytes) : Frame (· = b) h (h.setB b x) := by
  refine ⟨by simp [Heap.setB], fun id hid hn => ?_⟩
  simp [Heap.setB, hn]

@[simp] theorem allocL_id (h : Heap) (l : Entries) : (h.allocL l).2 = h.next := rfl
@[simp] theorem allocB_id (h : Heap) (d : Bytes) : (h.allocB d).2 = h.next := rfl
@[simp] theorem allocL_next (h : Heap) (l : Entries) : (h.allocL l).1.next = h.next + 1 := rfl
@[simp] theorem allocB_next (h : Heap) (d : Bytes) : (h.allocB d).1.next = h.next + 1 := rfl
@[simp] theorem allocL_bytes (h : Heap) (l : Entries) : (h.allocL l).1.bytes = h.bytes := rfl
@[simp] theorem allocB_lists (h : Heap) (d : Bytes) : (h.allocB d).1.lists = h.lists := rfl
@[simp] theorem allocB_bytes_new (h : Heap) (d : Bytes) : (h.allocB d).1.bytes h.next = d := by
  simp [Heap.allocB]
@[simp] theorem allocL_lists_new (h : Heap) (l : Entries) : (h.allocL l).1.lists h.next = l := by
  simp [Heap.allocL]
@[simp] theorem setL_bytes (h : Heap) (l : BufId) (x : Entries) : (h.setL l x).bytes = h.bytes := rfl
@[simp] theorem setL_next (h : Heap) (l : BufId) (x : Entries) : (h.setL l x).next = h.next := rfl
@[simp] theorem setB_lists (h : Heap) (b : BufId) (x : Bytes) : (h.setB b x).lists = h.lists := rfl
@[simp] theorem setB_next (h : Heap) (b : BufId) (x : Bytes) : (h.setB b x).next = h.next := rfl

/-- what `append` does to a slice: the array `b` stayed and nothing was allocated, or it is replaced by the one object
allocated since -/
abbrev InPlaceOrFresh (h h' : Heap) (b b' : BufId) : Prop :=
  (b' = b ∧ h'.next = h.next) ∨ (b' = h.next ∧ h'.next = h.next + 1)

theorem appendEntry_spec (cfg : Cfg) (h : Heap) (l : BufId) (len : Nat) (e : Name × Bool) :
    Frame (· = l) h (appendEntry cfg h l len e).1
    ∧ (appendEntry cfg h l len e).1.bytes = h.bytes
    ∧ InPlaceOrFresh h (appendEntry cfg h l len e).1 l (appendEntry cfg h l len e).2
    ∧ (((h.lists l).take len).length = len →
        ((appendEntry cfg h l len e).1.lists (appendEntry cfg h l len e).2).take (len + 1)
          = (h.lists l).take len ++ [e]) := by
  have hlen : ((h.lists l).take len).length = len → ((h.lists l).take len ++ [e]).length = len + 1 := by
    intro hl; simp [hl]
  unfold appendEntry
  split
  · refine ⟨(frame_allocL h _).frame _, rfl, Or.inr ⟨rfl, rfl⟩, fun hl => ?_⟩
    simp only [allocL_id, allocL_lists_new]
    exact List.take_of_length_le (by rw [hlen hl]; omega)
  · refine ⟨frame_setL h l _, rfl, Or.inl ⟨rfl, rfl⟩, fun hl => ?_⟩
    simp only [Heap.setL, if_true]
    rw [← List.singleton_append, ← List.append_assoc, List.take_left' (hlen hl)]

theorem appendBytes_spec (cfg : Cfg) (h : Heap) (b : BufId) (p : Bytes) :
    Frame (· = b) h (appendBytes cfg h b p).1
    ∧ (appendBytes cfg h b p).1.bytes (appendBytes cfg h b p).2 = h.bytes b ++ p
    ∧ InPlaceOrFresh h (appendBytes cfg h b p).1 b (appendBytes cfg h b p).2
    ∧ (appendBytes cfg h b p).1.lists = h.lists := by
  unfold appendBytes
  split
  · exact ⟨(frame_allocB h _).frame _, by simp, Or.inr ⟨rfl, rfl⟩, rfl⟩
  · exact ⟨frame_setB h b _, by simp [Heap.setB], Or.inl ⟨rfl, rfl⟩, rfl⟩

/-- the objects of `n` are pairwise different and allocated, as one inequality per id (for `omega`); `bound_iff` and
`bound_dir` are the readable forms. -/
def Bound (h : Heap) (n : HNode) : Prop := ∀ id : Nat, n.cnt id ≤ if id < h.next then 1 else 0

theorem Bound.le_one {h : Heap} {n : HNode} (b : Bound h n) (id : Nat) : n.cnt id ≤ 1 := by
  have := b id; split at this <;> omegab

theorem Bound.lt {h : Heap} {n : HNode} (b : Bound h n) (id : Nat) (hp : 0 < n.cnt id) : id < h.next := by
  have := b id; split at this <;> omegab

theorem Bound.zero {h : Heap} {n : HNode} (b : Bound h n) (id : Nat) (hp : h.next ≤ id) : n.cnt id = 0 := by
  have := b id; split at this <;> omegab

theorem Bound.intro {h : Heap} {n : HNode} (h1 : ∀ id : Nat, n.cnt id ≤ 1)
    (h2 : ∀ id : Nat, 0 < n.cnt id → id < h.next) : Bound h n := by
  intro id; have := h1 id; have := h2 id; split <;> omegab

theorem bound_iff (h : Heap) (n : HNode) : Bound h n ↔ n.ids.Nodup ∧ ∀ id ∈ n.ids, id < h.next :=
  ⟨fun b => ⟨List.nodup_iff_count.mpr b.le_one, fun id hid => b.lt id (List.count_pos_iff.mpr hid)⟩,
   fun ⟨nd, al⟩ => .intro (List.nodup_iff_count.mp nd) (fun id hp => al id (List.count_pos_iff.mp hp))⟩

theorem Bound.mono {h h' : Heap} {n : HNode} (b : Bound h n) (hle : h.next ≤ h'.next) : Bound h' n :=
  .intro b.le_one (fun id hp => Nat.lt_of_lt_of_le (b.lt id hp) hle)

theorem Bound.child {h : Heap} {l : BufId} {k : HKids} {s : Name} {c : HNode} (b : Bound h (.dir l k))
    (hf : k.find s = some c) : Bound h c := by
  have hle : ∀ id, c.cnt id ≤ (HNode.dir l k).cnt id := fun id =>
    Nat.le_trans (HKids.cnt_find_le id hf) (cnt_le_dir l k id)
  exact .intro (fun id => Nat.le_trans (hle id) (b.le_one id)) (fun id hp => b.lt id (Nat.lt_of_lt_of_le hp (hle id)))

theorem bound_dir {h : Heap} {l : BufId} {k : HKids} :
    Bound h (.dir l k) ↔
      (l < h.next ∧ k.cnt l = 0) ∧ ∀ id : Nat, k.cnt id ≤ 1 ∧ (0 < k.cnt id → id < h.next) := by
  constructor
  · intro b
    have := b.le_one l
    rw [cnt_dir] at this; simp only [if_true] at this
    exact ⟨⟨b.lt l (cnt_dir_self l k), by omegab⟩, fun id => ⟨Nat.le_trans (cnt_le_dir l k id) (b.le_one id),
      fun hp => b.lt id (Nat.lt_of_lt_of_le hp (cnt_le_dir l k id))⟩⟩
  · rintro ⟨⟨hl, h0⟩, hk⟩
    refine .intro (fun id => ?_) (fun id hp => ?_)
    · have := hk id
      rw [cnt_dir]; split
      · next e => subst e; omegab
      · omegab
    · have := hk id
      rw [cnt_dir] at hp; split at hp
      · next e => subst e; exact hl
      · omegab

/-- the objects counted by `c` are pairwise different and were allocated between `h` and `h'`; a count function
and not a node, since it is said of `HNode.cnt` and of `HKids.cnt` alike -/
def FreshIds (h h' : Heap) (c : Nat → Nat) : Prop := ∀ id, c id ≤ 1 ∧ (0 < c id → h.next ≤ id ∧ id < h'.next)

theorem fresh_one {h h' : Heap} {n : HNode} (hn : ∀ id, n.cnt id = if id = h.next then 1 else 0)
    (hlt : h.next < h'.next) : FreshIds h h' n.cnt := by
  intro id; rw [hn id]; split <;> omegab

/-- footprint of a tree transformer that turns `n` under `h` into `n'` under `h'` -/
structure Tr (h : Heap) (n : HNode) (h' : Heap) (n' : HNode) : Prop where
  /-- only objects of `n` are overwritten -/
  frame : Frame (fun id => n.cnt id ≠ 0) h h'
  /-- no object that existed before gains an occurrence (fresh ones may appear) -/
  mono : ∀ id, id < h.next → n'.cnt id ≤ n.cnt id
  bound : Bound h' n'

theorem Tr.trans {h h1 h2 : Heap} {n n1 n2 : HNode} (a : Tr h n h1 n1) (b : Tr h1 n1 h2 n2) : Tr h n h2 n2 := by
  refine ⟨a.frame.trans b.frame (fun id hid hs hz => hs ?_), fun id hid => ?_, b.bound⟩
  · have := a.mono id hid; omegab
  · exact Nat.le_trans (b.mono id (Nat.lt_of_lt_of_le hid a.frame.next_le)) (a.mono id hid)

theorem Tr.deref_other {h h' : Heap} {n n' : HNode} (t : Tr h n h' n') (m : HNode)
    (hm : ∀ id, 0 < m.cnt id → id < h.next ∧ n.cnt id = 0) : m.deref h' = m.deref h :=
  deref_congr h h' m (fun id hid => (t.frame.same id (hm id hid).1 (by simp [(hm id hid).2])).1)

theorem Tr.outside {h h' : Heap} {t t' : HNode} (T : Tr h t h' t') (id : Nat) (hid : id < h.next)
    (h0 : t.cnt id = 0) :
    h'.bytes id = h.bytes id ∧ h'.lists id = h.lists id ∧ id < h'.next ∧ t'.cnt id = 0 := by
  have s := T.frame.same id hid (by simp [h0])
  have := T.mono id hid
  have := T.frame.next_le
  exact ⟨s.1, s.2, by omegab, by omegab⟩

/-- the one way a `Tr` between two directories is built: what was overwritten are objects of the directory, the array
stayed or is fresh, the children gained no old object, the result is `Bound` -/
theorem tr_dir {S : BufId → Prop} {h h2 : Heap} {l l' : BufId} {k k' : HKids}
    (F : Frame S h h2) (hS : ∀ id, S id → 0 < (HNode.dir l k).cnt id) (hl' : l' = l ∨ h.next ≤ l')
    (hm : ∀ id : Nat, id < h.next → k'.cnt id ≤ k.cnt id) (B' : Bound h2 (.dir l' k')) :
    Tr h (.dir l k) h2 (.dir l' k') := by
  refine ⟨F.weaken (fun id _ s => Nat.ne_of_gt (hS id s)), fun id hid => ?_, B'⟩
  have := hm id hid
  rw [cnt_dir, cnt_dir]
  rcases hl' with rfl | hl'
  · omegab
  · rw [if_neg (by omegab)]; omegab

mutual
/-- every directory's array holds, in its first `len` places, the entries of the directory -/
def HNode.Sync (h : Heap) : HNode → Prop
  | .file _ => True
  | .dir l k => (h.lists l).take k.length = k.entries ∧ HKids.Sync h k
def HKids.Sync (h : Heap) : HKids → Prop
  | .nil => True
  | .cons _ x r => HNode.Sync h x ∧ HKids.Sync h r
end

@[simp] theorem sync_file (h : Heap) (b : BufId) : (HNode.file b).Sync h := by simp [HNode.Sync]
theorem sync_dir (h : Heap) (l : BufId) (k : HKids) :
    (HNode.dir l k).Sync h ↔ (h.lists l).take k.length = k.entries ∧ k.Sync h := by simp [HNode.Sync]
@[simp] theorem sync_nil (h : Heap) : HKids.nil.Sync h := by simp [HKids.Sync]
theorem sync_cons (h : Heap) (n : Name) (x : HNode) (r : HKids) :
    (HKids.cons n x r).Sync h ↔ x.Sync h ∧ r.Sync h := by simp [HKids.Sync]

theorem sync_empty_dir (h : Heap) (l : BufId) : (HNode.dir l .nil).Sync h := by
  simp [sync_dir, HKids.length, HKids.entries]

theorem HKids.sync_find {h : Heap} {k : HKids} {s : Name} {c : HNode} (hs : k.Sync h) (hf : k.find s = some c) :
    c.Sync h := by
  fun_induction HKids.find k s <;> simp_all [sync_cons]

theorem lookup_sync (h : Heap) (p : List Name) (n m : HNode) (e : n.lookup p = some m) (hs : n.Sync h) :
    m.Sync h := by
  fun_induction HNode.lookup n p <;> simp_all [sync_dir]
  next l k s rest c hf ih => exact ih (HKids.sync_find hs.2 hf)

theorem sync_congr_both (h h' : Heap) :
    (∀ n : HNode, (∀ id : Nat, 0 < n.cnt id → h'.lists id = h.lists id) → n.Sync h → n.Sync h')
    ∧ (∀ k : HKids, (∀ id : Nat, 0 < k.cnt id → h'.lists id = h.lists id) → k.Sync h → k.Sync h') := by
  refine HNode.induct₂ (fun b _ _ => by simp) (fun l k ih hb hs => ?_) (fun _ _ => by simp)
    (fun n x r ihx ihr hb hs => ?_)
  · rw [sync_dir] at hs ⊢
    rw [hb l (cnt_dir_self l k)]
    exact ⟨hs.1, ih (fun id hid => hb id (by rw [cnt_dir]; omegab)) hs.2⟩
  · rw [sync_cons] at hs ⊢
    exact ⟨ihx (fun id hid => hb id (by rw [cnt_cons]; omegab)) hs.1,
           ihr (fun id hid => hb id (by rw [cnt_cons]; omegab)) hs.2⟩

theorem sync_congr (h h' : Heap) (n : HNode) :
    (∀ id : Nat, 0 < n.cnt id → h'.lists id = h.lists id) → n.Sync h → n.Sync h' :=
  (sync_congr_both h h').1 n

theorem syncK_congr (h h' : Heap) (k : HKids) :
    (∀ id : Nat, 0 < k.cnt id → h'.lists id = h.lists id) → k.Sync h → k.Sync h' :=
  (sync_congr_both h h').2 k

theorem syncK_set_new (h : Heap) (k : HKids) (s : Name) (x : HNode) (hs : k.Sync h) (hx : x.Sync h) :
    (k.set s x).Sync h := by
  fun_induction HKids.set k s x <;> simp_all [sync_cons]

theorem syncK_erase (h : Heap) (k : HKids) (s : Name) (hs : k.Sync h) : (k.erase s).Sync h := by
  fun_induction HKids.erase k s <;> simp_all [sync_cons]

theorem Frame.untouched {S : BufId → Prop} {h h' : Heap} (F : Frame S h h') (m : HNode)
    (hm : ∀ id, 0 < m.cnt id → id < h.next ∧ ¬ S id) : m.deref h' = m.deref h ∧ (m.Sync h → m.Sync h') :=
  ⟨deref_congr h h' m (fun id hid => (F.same id (hm id hid).1 (hm id hid).2).1),
   sync_congr h h' m (fun id hid => (F.same id (hm id hid).1 (hm id hid).2).2)⟩

theorem Grew.untouched {h h' : Heap} {t : HNode} (F : Grew h h') (hb : Bound h t) :
    t.deref h' = t.deref h ∧ (t.Sync h → t.Sync h') :=
  Frame.untouched F t (fun id hid => ⟨hb.lt id hid, fun f => f⟩)

/-- footprint of a tree transformer, and what it keeps: the arrays in step, the kind of the node -/
structure Tx (h : Heap) (n : HNode) (h' : Heap) (n' : HNode) : Prop where
  tr : Tr h n h' n'
  sync : n.Sync h → n'.Sync h'
  kind : n'.isDir = n.isDir

theorem Tx.refl {h : Heap} {n : HNode} (b : Bound h n) : Tx h n h n :=
  ⟨⟨Frame.refl _ _, fun _ _ => Nat.le_refl _, b⟩, id, rfl⟩

theorem Tx.trans {h h1 h2 : Heap} {n n1 n2 : HNode} (a : Tx h n h1 n1) (b : Tx h1 n1 h2 n2) : Tx h n h2 n2 :=
  ⟨a.tr.trans b.tr, fun s => b.sync (a.sync s), b.kind.trans a.kind⟩

theorem Tx.of_grew {h h' : Heap} {t : HNode} (hb : Bound h t) (F : Grew h h') : Tx h t h' t :=
  ⟨⟨F.frame _, fun _ _ => Nat.le_refl _, hb.mono F.next_le⟩, (F.untouched hb).2, rfl⟩

/-- a heap-level tree function against its value-level counterpart: same failure, same value after `deref`,
footprint -/
def NSpec (h : Heap) (n : HNode) : Option (Heap × HNode) → Option Node → Prop
  | none, val => val = none
  | some (h', n'), val => val = some (n'.deref h') ∧ Tx h n h' n'

/-- `NSpec` for the result `(h', l', k')` of a function on the content of one directory `(l, k)` -/
def KSpec (h : Heap) (l : BufId) (k : HKids) : Option (Heap × BufId × HKids) → Option Kids → Prop
  | none, val => val = none
  | some (h', l', k'), val => val = some (k'.deref h') ∧ Tx h (.dir l k) h' (.dir l' k')

theorem NSpec.cases {h : Heap} {n : HNode} {res : Option (Heap × HNode)} {val : Option Node}
    (S : NSpec h n res val) :
    (res = none ∧ val = none) ∨ ∃ h' n', res = some (h', n') ∧ val = some (n'.deref h') ∧ Tx h n h' n' := by
  cases res with
  | none => exact Or.inl ⟨rfl, S⟩
  | some r => exact Or.inr ⟨r.1, r.2, rfl, S⟩

/-- a later phase, run on the tree `t1` that earlier phases have reached from `t` -/
theorem NSpec.after {h h1 : Heap} {t t1 : HNode} {res : Option (Heap × HNode)} {val : Option Node}
    (S : NSpec h1 t1 res val) (T1 : Tx h t h1 t1) : NSpec h t res val := by
  cases res with
  | none => exact S
  | some r => exact ⟨S.1, T1.trans S.2⟩

theorem KSpec.toNSpec {h : Heap} {l : BufId} {k : HKids} {res : Option (Heap × BufId × HKids)} {val : Option Kids} :
    KSpec h l k res val →
    NSpec h (.dir l k) (match res with | none => none | some (h', l', k') => some (h', .dir l' k'))
      (match val with | none => none | some k' => some (.dir k')) := by
  intro S
  cases res with
  | none => cases S; exact rfl
  | some r => exact ⟨by simp only [S.1, deref_dir], S.2⟩

/-- `KSpec` for `f` against `g` on every bound directory.  `P` is what must hold of the heap when `f` runs (the caller's
buffer still holds its bytes, the copy's source is allocated): `mkdirs` runs before `f` and has changed the heap. -/
def DSpec (P : Heap → Prop) (f : Heap → BufId → HKids → Option (Heap × BufId × HKids))
    (g : Kids → Option Kids) : Prop :=
  ∀ h l k, Bound h (.dir l k) → P h → KSpec h l k (f h l k) (g (k.deref h))

/-- the part of `DSpec` that speaks of the value and of `Tr` -/
def FSpec (P : Heap → Prop) (f : Heap → BufId → HKids → Option (Heap × BufId × HKids))
    (g : Kids → Option Kids) : Prop :=
  ∀ h l k, Bound h (.dir l k) → P h →
    (f h l k = none → g (k.deref h) = none)
    ∧ ∀ h' l' k', f h l k = some (h', l', k') →
        g (k.deref h) = some (k'.deref h') ∧ Tr h (.dir l k) h' (.dir l' k')

/-- the part of `DSpec` that speaks of `Sync` -/
def FSync (P : Heap → Prop) (f : Heap → BufId → HKids → Option (Heap × BufId × HKids)) : Prop :=
  ∀ h l k, Bound h (.dir l k) → P h → (HNode.dir l k).Sync h →
    ∀ h' l' k', f h l k = some (h', l', k') → (HNode.dir l' k').Sync h'

theorem FSpec.mono {P P' : Heap → Prop} {f : Heap → BufId → HKids → Option (Heap × BufId × HKids)}
    {g : Kids → Option Kids} (hf : FSpec P f g) (hp : ∀ h, P' h → P h) : FSpec P' f g :=
  fun h l k hb hP => hf h l k hb (hp h hP)

theorem FSync.mono {P P' : Heap → Prop} {f : Heap → BufId → HKids → Option (Heap × BufId × HKids)}
    (hf : FSync P f) (hp : ∀ h, P' h → P h) : FSync P' f :=
  fun h l k hb hP => hf h l k hb (hp h hP)

/-- when the heap changes only at objects of the child `c`, the other children read the same and stay in step -/
theorem siblings {h h' : Heap} {k : HKids} {s : Name} {c : HNode} (hf : k.find s = some c)
    (hnd : ∀ id, k.cnt id ≤ 1)
    (hb : ∀ id, 0 < k.cnt id → c.cnt id = 0 → h'.bytes id = h.bytes id ∧ h'.lists id = h.lists id) :
    (∀ X, (k.deref h').set s X = (k.deref h).set s X)
    ∧ (∀ c', k.Sync h → c'.Sync h' → (k.set s c').Sync h') := by
  fun_induction HKids.find k s with
  | case1 => cases hf
  | case2 y r s =>
    cases hf
    have hr : ∀ id, 0 < r.cnt id → h'.bytes id = h.bytes id ∧ h'.lists id = h.lists id := fun id hid => by
      have := hnd id; rw [cnt_cons] at this
      exact hb id (by rw [cnt_cons]; omegab) (by omegab)
    refine ⟨fun X => ?_, fun c' hs hc' => ?_⟩
    · simp only [deref_cons, Kids.set, if_true, derefK_congr h h' r (fun id hid => (hr id hid).1)]
    · rw [sync_cons] at hs
      simp only [HKids.set, if_true]
      exact ⟨hc', syncK_congr h h' r (fun id hid => (hr id hid).2) hs.2⟩
  | case3 n y r s e ih =>
    have hnd' : ∀ id, y.cnt id + r.cnt id ≤ 1 := fun id => by have := hnd id; rwa [cnt_cons] at this
    have hy : ∀ id, 0 < y.cnt id → h'.bytes id = h.bytes id ∧ h'.lists id = h.lists id := fun id hid => by
      have := hnd' id; have := HKids.cnt_find_le id hf
      exact hb id (by rw [cnt_cons]; omegab) (by omegab)
    obtain ⟨i1, i2⟩ := ih hf (fun id => by have := hnd' id; omegab)
      (fun id hid hz => hb id (by rw [cnt_cons]; omegab) hz)
    refine ⟨fun X => ?_, fun c' hs hc' => ?_⟩
    · simp only [deref_cons, Kids.set, e, if_false, i1, deref_congr h h' y (fun id hid => (hy id hid).1)]
    · rw [sync_cons] at hs
      simp only [HKids.set, e, if_false]
      exact ⟨sync_congr h h' y (fun id hid => (hy id hid).2) hs.1, i2 c' hs.2 hc'⟩

/-- replacing a child by the result of a transformer applied to it.  The footprint is a count:
`cnt (k.set s c') + cnt c = cnt k + cnt c'`; below `h.next` the new child has no more of any object than the old one,
above it only fresh ones — so `Bound` survives. -/
theorem tx_parent {h h1 : Heap} {l : BufId} {k : HKids} {s : Name} {c c' : HNode} (hb : Bound h (.dir l k))
    (hfs : k.find s = some c) (t : Tx h c h1 c') :
    (HNode.dir l (k.set s c')).deref h1 = .dir ((k.deref h).set s (c'.deref h1))
    ∧ Tx h (.dir l k) h1 (.dir l (k.set s c')) := by
  have hcle : ∀ id, c.cnt id ≤ k.cnt id := fun id => HKids.cnt_find_le id hfs
  have hset := fun id => HKids.cnt_set_found c' id hfs
  obtain ⟨⟨hl, hkl⟩, hk⟩ := bound_dir.mp hb
  have hn := t.tr.frame.next_le
  have same : ∀ id, 0 < (HNode.dir l k).cnt id → c.cnt id = 0 →
      h1.bytes id = h.bytes id ∧ h1.lists id = h.lists id :=
    fun id hid hz => t.tr.frame.same id (hb.lt id hid) (by simp [hz])
  obtain ⟨D, S⟩ := siblings hfs (fun id => (hk id).1) (fun id hid => same id (by rw [cnt_dir]; omegab))
  refine ⟨by simp only [deref_dir, HKids.set_deref, D], tr_dir t.tr.frame (fun id s => ?_) (Or.inl rfl)
    (fun id hid => ?_) (bound_dir.mpr ⟨⟨by omegab, ?_⟩, fun id => ?_⟩), fun hs => ?_, rfl⟩
  · -- what is overwritten is an object of the child, hence of the directory
    have := hcle id; have := cnt_le_dir l k id; omegab
  · -- below `h.next` the children only lose objects
    have := hset id; have := t.tr.mono id hid; omegab
  · -- the array is still no child's object
    have := hset l; have := hcle l; have := t.tr.mono l hl; omegab
  · -- every object of the children once, and allocated
    have := hset id; have := hcle id; have := hk id; have := t.tr.mono id
    have := t.tr.bound.le_one id; have := t.tr.bound.lt id; omegab
  · -- `Sync`: same length, same entries, the array untouched, the siblings untouched
    rw [sync_dir] at hs ⊢
    rw [HKids.length_set_found c' hfs, HKids.entries_set_found c' hfs t.kind,
      (same l (cnt_dir_self l k) (by have := hcle l; omegab)).2]
    exact ⟨hs.1, S c' hs.2 (t.sync (HKids.sync_find hs.2 hfs))⟩

/-- `Dir.addNode`: a child `x` made of objects allocated since `h` is appended, and the directory's own array is
overwritten in place or reallocated by `appendEntry` -/
theorem tx_add (cfg : Cfg) {h h1 : Heap} {l : BufId} {k : HKids} {s : Name} {x : HNode} (hb : Bound h (.dir l k))
    (hfs : k.find s = none) (F1 : Grew h h1) (hx : FreshIds h h1 x.cnt)
    (hxs : x.Sync h1) :
    Tx h (.dir l k) (appendEntry cfg h1 l k.length (s, x.isDir)).1
        (.dir (appendEntry cfg h1 l k.length (s, x.isDir)).2 (k.set s x))
    ∧ (appendEntry cfg h1 l k.length (s, x.isDir)).1.bytes = h1.bytes
    ∧ k.deref (appendEntry cfg h1 l k.length (s, x.isDir)).1 = k.deref h := by
  obtain ⟨F2, B2, alt, L2⟩ := appendEntry_spec cfg h1 l k.length (s, x.isDir)
  generalize appendEntry cfg h1 l k.length (s, x.isDir) = ae at F2 B2 alt L2 ⊢
  obtain ⟨h2, l'⟩ := ae
  simp only [InPlaceOrFresh] at F2 B2 alt L2 ⊢
  obtain ⟨⟨hl, hkl⟩, hk⟩ := bound_dir.mp hb
  have n1 := F1.next_le
  have hset := fun id => HKids.cnt_set_new x id hfs
  have F : Frame (· = l) h h2 := (F1.frame _).trans F2 (fun _ _ x => x)
  have old : ∀ id : Nat, 0 < k.cnt id → id < h.next ∧ ¬ id = l := fun id hid =>
    ⟨(hk id).2 hid, fun e => by subst e; omegab⟩
  have new : ∀ id : Nat, 0 < x.cnt id → id < h1.next ∧ ¬ id = l := fun id hp =>
    by have := hx id; omegab
  refine ⟨⟨tr_dir F (fun id e => e ▸ cnt_dir_self l k) (by omegab)
      (fun id hid => by have := hset id; have := hx id; omegab)
      (bound_dir.mpr ⟨?_, fun id => ?_⟩), fun hs => ?_, rfl⟩, B2,
    derefK_congr h h2 k (fun id hid => (F.same id (old id hid).1 (old id hid).2).1)⟩
  · -- the (old or new) array is allocated and is no child's object
    have := hset l'; have := hk l'; have := hx l'
    rcases alt with ⟨rfl, e⟩ | ⟨rfl, e⟩ <;> omegab
  · -- every object of the children once, and allocated: the old ones lie below `h.next`, the new at or above
    have := hset id; have := hk id; have := hx id; omegab
  · -- `Sync`: the array holds the old entries and the new one; old and new children are untouched
    rw [sync_dir] at hs ⊢
    rw [HKids.length_set_new x hfs, HKids.entries_set_new x hfs]
    have hll : h1.lists l = h.lists l := (F1.same l hl (fun f => f)).2
    rw [hll, hs.1] at L2
    refine ⟨L2 (HKids.entries_length k), syncK_set_new _ k s x ?_ ?_⟩
    · exact syncK_congr h h2 k (fun id hid => (F.same id (old id hid).1 (old id hid).2).2) hs.2
    · exact sync_congr h1 h2 x (fun id hid => (F2.same id (new id hid).1 (new id hid).2).2) hxs

/-- both walks descend into an existing child: the child's specification lifts to the directory -/
theorem nspec_child {h : Heap} {l : BufId} {k : HKids} {s : Name} {c : HNode} (hb : Bound h (.dir l k))
    (hfs : k.find s = some c) {res : Option (Heap × HNode)} {val : Option Node} :
    NSpec h c res val → NSpec h (.dir l k)
      (match res with
        | none => none
        | some (h', c') => some (h', .dir l (k.set s c')))
      (match val with
        | none => none
        | some c' => some (.dir ((k.deref h).set s c'))) := by
  intro S
  cases res with
  | none => cases S; exact rfl
  | some r =>
    obtain ⟨v, t⟩ := S
    obtain ⟨d, t'⟩ := tx_parent hb hfs t
    exact ⟨by simp only [v, d], t'⟩

theorem update_spec (P : Heap → Prop) (f : Heap → BufId → HKids → Option (Heap × BufId × HKids))
    (g : Kids → Option Kids) (hf : DSpec P f g) :
    ∀ (path : List Name) (h : Heap) (n : HNode), Bound h n → P h →
      NSpec h n (n.update h path f) ((n.deref h).update path g) := by
  intro path
  induction path with
  | nil =>
    intro h n hb hP
    cases n with
    | file b => exact rfl
    | dir l k =>
      exact (hf h l k hb hP).toNSpec
  | cons s rest ih =>
    intro h n hb hP
    cases n with
    | file b => exact rfl
    | dir l k =>
      simp only [HNode.update, deref_dir, Node.update, HKids.find_deref]
      cases hfk : k.find s with
      | none => exact rfl
      | some c => simp only [Option.map_some]; exact nspec_child hb hfk (ih h c (hb.child hfk) hP)

theorem mkdirs_spec (cfg : Cfg) : ∀ (path : List Name) (h : Heap) (n : HNode), Bound h n →
    NSpec h n (n.mkdirs cfg h path) ((n.deref h).mkdirs path) := by
  intro path
  induction path with
  | nil =>
    intro h n hb
    cases n with
    | file b => exact rfl
    | dir l k => exact ⟨rfl, Tx.refl hb⟩
  | cons s rest ih =>
    intro h n hb
    cases n with
    | file b => exact rfl
    | dir l k =>
      simp only [HNode.mkdirs, deref_dir, Node.mkdirs, HKids.find_deref]
      cases hfs : k.find s with
      | some c => simp only [Option.map_some]; exact nspec_child hb hfs (ih h c (hb.child hfs))
      | none =>
        -- first the new, empty directory is appended to `k`, then `mkdirs` goes on inside it
        obtain ⟨T1, B2, K2⟩ := tx_add cfg (s := s) (x := .dir h.next .nil) hb hfs (frame_allocL h [])
          (fresh_one (fun id => by rw [cnt_dir, cnt_nil]; omegab) (by simp)) (sync_empty_dir _ _)
        simp only [HNode.isDir] at T1 B2 K2
        generalize appendEntry cfg (h.allocL []).1 l k.length (s, true) = ae at T1 B2 K2 ⊢
        obtain ⟨h2, l'⟩ := ae
        have hfs2 := HKids.find_set_same k s (HNode.dir h.next .nil)
        -- from here on it is the case of the existing child `s` of the directory that `T1` has reached
        have S := (nspec_child T1.tr.bound hfs2 (ih h2 _ (T1.tr.bound.child hfs2))).after T1
        simp only [HKids.set_set, HKids.set_deref, K2, Kids.set_set, deref_dir, deref_nil] at S
        exact S

end MemFSHeap
end Goat
