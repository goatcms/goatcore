/-
Lock layer: one step of one holder, for both lock variants at once.  The variants differ only in the guard under
which a lock admits a holder (`Admits`), in the two preparatory moves of Go's lock (`announce`, `rregister`) and in
the wake-up on release; everything else is read off `HStep` by cases, whatever the variant.
-/
import Goat.Proofs.Mutex
import Goat.Proofs.Lists

namespace Goat.Mutex

open Goat.LTS

/-- the guard under which lock `m` admits, in mode `w`, a holder in phase `ph` -/
def Admits (v : Variant) (s : State) (ph : Phase) (m : Name) (w : Bool) : Prop :=
  match v, w with
  | .plain, true => writeHeld s m = false ∧ readHeld s m = false
  | .plain, false => writeHeld s m = false
  | .pref, true => ph = .announced ∧ readHeld s m = false
  | .pref, false => ph ≠ .rwait ∧ writerPresent s m = false

/-- the name whose parked readers the release of row `(m, w)` admits -/
def handsOut (v : Variant) (m : Name) (w : Bool) : Option Name :=
  if v = .pref ∧ w = true then some m else none

/-- the kinds of step of a holder `h` in lock table `s`: its next state and the name handed out -/
inductive HStep (v : Variant) (s : State) (h : Holder) : Holder → Option Name → Prop
  | enter (k : Nat) (ph : Phase) : h.pc = .acq k ph → h.req[k]? = none →
      HStep v s h { h with pc := .inside } none
  | acquire (k : Nat) (ph : Phase) (m : Name) (w : Bool) : h.pc = .acq k ph → h.req[k]? = some (m, w) →
      Admits v s ph m w → HStep v s h { h with pc := .acq (k + 1) .idle } none
  | announce (k : Nat) (ph : Phase) (m : Name) : v = .pref → h.pc = .acq k ph → ph ≠ .announced →
      h.req[k]? = some (m, true) → writerPresent s m = false →
      HStep v s h { h with pc := .acq k .announced } none
  | rregister (k : Nat) (ph : Phase) (m : Name) : v = .pref → h.pc = .acq k ph → ph ≠ .rwait →
      h.req[k]? = some (m, false) → writerPresent s m = true →
      HStep v s h { h with pc := .acq k .rwait } none
  | leave : h.pc = .inside → HStep v s h { h with pc := .rel 0 } none
  | release (u : Nat) (m : Name) (w : Bool) : h.pc = .rel u → h.req[u]? = some (m, w) →
      HStep v s h { h with pc := .rel (u + 1) } (handsOut v m w)
  | finish (u : Nat) : h.pc = .rel u → h.req[u]? = none → HStep v s h { h with pc := .done } none

/-- `g` stands in the way of a holder that awaits row `(m, w)` in phase `ph`: it holds `m` in a
conflicting mode, or it is a writer that has announced itself on `m` before the other did -/
def Obstructs (g : Holder) (ph : Phase) (m : Name) (w : Bool) : Prop :=
  (∃ w', (m, w') ∈ g.held ∧ (w = true ∨ w' = true)) ∨ (ph ≠ .announced ∧ g.announcedOn m = true)

def Obstructed (s : State) (h : Holder) : Prop :=
  ∃ k ph m w, h.pc = .acq k ph ∧ h.req[k]? = some (m, w) ∧
    ∃ (j : Nat) (g : Holder), s[j]? = some g ∧ Obstructs g ph m w

/-- what a holder that cannot move is -/
def Halted (s : State) (h : Holder) : Prop := h.pc = .done ∨ Obstructed s h

theorem obstructs_of_held {s : State} {m : Name} {w' : Bool}
    (hh : ∃ (j : Nat) (g : Holder), s[j]? = some g ∧ (m, w') ∈ g.held) (ph : Phase) {w : Bool}
    (hw : w = true ∨ w' = true) : ∃ (j : Nat) (g : Holder), s[j]? = some g ∧ Obstructs g ph m w :=
  let ⟨j, g, hj, hh⟩ := hh
  ⟨j, g, hj, .inl ⟨w', hh, hw⟩⟩

theorem obstructs_of_present {s : State} {m : Name} (hw : writerPresent s m = true) {ph : Phase}
    (hph : ph ≠ .announced) (w : Bool) : ∃ (j : Nat) (g : Holder), s[j]? = some g ∧ Obstructs g ph m w := by
  obtain ⟨j, g, hj, hp⟩ := writerPresent_iff.mp hw
  rcases present_iff.mp hp with ha | hh
  · exact ⟨j, g, hj, .inr ⟨hph, ha⟩⟩
  · exact obstructs_of_held ⟨j, g, hj, hh⟩ ph (.inr rfl)

theorem stepPlain_cases {s : State} {h : Holder} {r : Option Holder} (hst : stepPlain s h = r) :
    match r with
    | some h' => HStep .plain s h h' none
    | none => Halted s h := by
  unfold stepPlain at hst
  split at hst
  · -- `PC.acq k ph`: no row left / a write row / a read row, each refused or admitted
    rename_i k ph hpc
    split at hst
    · subst hst; exact .enter k ph hpc ‹_›
    · rename_i m hrow
      split at hst <;> rename_i hg <;> subst hst
      · -- a write row waits for every holder of the name
        exact .inr ⟨k, ph, m, true, hpc, hrow, ((Bool.or_eq_true _ _).mp hg).elim
          (fun hg => obstructs_of_held (writeHeld_iff.mp hg) ph (.inl rfl))
          fun hg => obstructs_of_held (readHeld_iff.mp hg) ph (.inl rfl)⟩
      · exact .acquire k ph m true hpc hrow (by simpa [Admits] using hg)
    · rename_i m hrow
      split at hst <;> rename_i hg <;> subst hst
      · -- a read row waits for a writer holding the name
        exact .inr ⟨k, ph, m, false, hpc, hrow, obstructs_of_held (writeHeld_iff.mp hg) ph (.inr rfl)⟩
      · exact .acquire k ph m false hpc hrow (by simpa [Admits] using hg)
  · -- `PC.inside`
    subst hst; exact .leave ‹_›
  · -- `PC.rel u`
    rename_i u hpc
    split at hst <;> subst hst
    · exact .finish u hpc ‹_›
    · rename_i r hrow
      exact .release (v := .plain) u r.1 r.2 hpc hrow
  · -- `PC.done`
    subst hst; exact .inl ‹_›

/-- The hypothesis of the `none` case is `PInv.parked` for this holder: a parked reader is halted by the writer it is
parked behind, by nobody if that writer were gone. -/
theorem stepPref_cases {s : State} {h : Holder} {r : Option (Holder × Option Name)} (hst : stepPref s h = r) :
    match r with
    | some (h', o) => HStep .pref s h h' o
    | none => (∀ m, h.rwaitOn m = true → writerPresent s m = true) → Halted s h := by
  unfold stepPref at hst
  split at hst
  · -- `PC.acq k ph`
    rename_i k ph hpc
    split at hst
    · -- no row left
      subst hst; exact .enter k ph hpc ‹_›
    · -- a write row: announced (waits for the readers inside) / not yet (waits for the writer side)
      rename_i m hrow
      split at hst
      · split at hst <;> rename_i hg <;> subst hst
        · exact fun _ => .inr ⟨k, _, m, true, hpc, hrow, obstructs_of_held (readHeld_iff.mp hg) _ (.inl rfl)⟩
        · exact .acquire k _ m true hpc hrow ⟨rfl, by simpa using hg⟩
      · rename_i hph
        split at hst <;> rename_i hg <;> subst hst
        · exact fun _ => .inr ⟨k, ph, m, true, hpc, hrow, obstructs_of_present hg (fun e => hph e) true⟩
        · exact .announce k ph m rfl hpc (fun e => hph e) hrow (by simpa using hg)
    · -- a read row: parked / not yet registered (registers behind a present writer, else is admitted)
      rename_i m hrow
      split at hst
      · -- parked: behind a writer, by hypothesis
        subst hst
        exact fun hp => .inr ⟨k, _, m, false, hpc, hrow,
          obstructs_of_present (hp m (rwaitOn_iff.mpr ⟨k, hpc, hrow⟩)) (by simp) false⟩
      · rename_i hph
        split at hst <;> rename_i hg <;> subst hst
        · exact .rregister k ph m rfl hpc (fun e => hph e) hrow hg
        · exact .acquire k ph m false hpc hrow ⟨fun e => hph e, by simpa using hg⟩
  · -- `PC.inside`
    subst hst; exact .leave ‹_›
  · -- `PC.rel u`
    rename_i u hpc
    split at hst <;> subst hst
    · exact .finish u hpc ‹_›
    · rename_i m w hrow
      simpa [handsOut] using HStep.release (v := .pref) (s := s) u m w hpc hrow
  · -- `PC.done`
    subst hst; exact fun _ => .inl ‹_›

theorem hstep_req {v : Variant} {s : State} {h h' : Holder} {o : Option Name} (hp : HStep v s h h' o) :
    h'.req = h.req := by
  cases hp <;> rfl

theorem hstep_not_done {v : Variant} {s : State} {h h' : Holder} {o : Option Name}
    (hp : HStep v s h h' o) : h.pc ≠ .done := by
  cases hp <;> simp_all

theorem hstep_plain_none {s : State} {h h' : Holder} {o : Option Name} (hp : HStep .plain s h h' o) :
    o = none := by
  cases hp <;> simp [handsOut]

/-- a holder that is releasing is not parked, so the wake-up leaves it alone -/
theorem wakeOpt_self {v : Variant} {s : State} {h h' : Holder} {o : Option Name}
    (hp : HStep v s h h' o) : wakeOpt o h' = h' := by
  cases hp with
  | release => exact wakeOpt_of_not_rwait fun k => by simp
  | _ => rfl

/-- the rows held: unchanged; or the awaited row, admitted by the lock, is added at the end; or the first row is
dropped and its name handed out -/
theorem hstep_held {v : Variant} {s : State} {h h' : Holder} {o : Option Name} (hp : HStep v s h h' o) :
    (h'.held = h.held ∧ o = none) ∨
    (∃ k ph m w, h.pc = .acq k ph ∧ h.req[k]? = some (m, w) ∧ Admits v s ph m w ∧
      h'.held = h.held ++ [(m, w)] ∧ o = none) ∨
    (∃ u m w, h.pc = .rel u ∧ h.req[u]? = some (m, w) ∧ h.held = (m, w) :: h'.held ∧
      h'.pc = .rel (u + 1) ∧ o = handsOut v m w) := by
  cases hp with
  | enter k ph hpc hrow =>
    exact .inl ⟨by simp [Holder.held, hpc, List.take_of_length_le (List.getElem?_eq_none_iff.mp hrow)], rfl⟩
  | acquire k ph m w hpc hrow hg =>
    exact .inr (.inl ⟨k, ph, m, w, hpc, hrow, hg, by simp [Holder.held, hpc, List.take_add_one, hrow], rfl⟩)
  | announce k ph m _ hpc => exact .inl ⟨by simp [Holder.held, hpc], rfl⟩
  | rregister k ph m _ hpc => exact .inl ⟨by simp [Holder.held, hpc], rfl⟩
  | leave hpc => exact .inl ⟨by simp [Holder.held, hpc], rfl⟩
  | release u m w hpc hrow =>
    have hu := lt_of_getElem? hrow
    refine .inr (.inr ⟨u, m, w, hpc, hrow, ?_, rfl, rfl⟩)
    simp only [Holder.held, hpc, List.drop_eq_getElem_cons hu]
    rw [(List.getElem?_eq_some_iff.mp hrow).2]
  | finish u hpc hrow =>
    exact .inl ⟨by simp [Holder.held, hpc, List.drop_eq_nil_iff.mpr (List.getElem?_eq_none_iff.mp hrow)], rfl⟩

theorem hstep_held_new {v : Variant} {s : State} {h h' : Holder} {o : Option Name} (hp : HStep v s h h' o)
    {r : Row} (hr : r ∈ h'.held) : r ∈ h.held ∨ ∃ ph, Admits v s ph r.1 r.2 := by
  rcases hstep_held hp with ⟨e, _⟩ | ⟨k, ph, m, w, _, _, hg, e, _⟩ | ⟨u, m, w, _, _, e, _⟩
  · exact .inl (e ▸ hr)
  · rw [e, List.mem_append, List.mem_singleton] at hr
    exact hr.imp id fun e => by subst e; exact ⟨ph, hg⟩
  · exact .inl (e ▸ List.mem_cons_of_mem _ hr)

theorem hstep_wakes {v : Variant} {s : State} {h h' : Holder} {o : Option Name} (hp : HStep v s h h' o)
    {m : Name} (ho : o = some m) :
    ∃ u, h.pc = .rel u ∧ h.req[u]? = some (m, true) ∧ h.held = (m, true) :: h'.held ∧ h'.pc = .rel (u + 1) := by
  rcases hstep_held hp with ⟨_, e⟩ | ⟨_, _, _, _, _, _, _, _, e⟩ | ⟨u, m', w, hpc, hrow, e, hpc', ho'⟩
  · simp [e] at ho
  · simp [e] at ho
  · simp only [ho', handsOut] at ho
    split at ho
    · rename_i hc
      cases ho; cases hc.2
      exact ⟨u, hpc, hrow, e, hpc'⟩
    · cases ho

theorem hstep_present {s : State} {h h' : Holder} {o : Option Name} (hp : HStep .pref s h h' o)
    {m : Name} (hm : h'.present m = true) : h.present m = true ∨ writerPresent s m = false := by
  rcases present_iff.mp hm with ha | hh
  · obtain ⟨k', hpc', hrow'⟩ := announcedOn_iff.mp ha
    cases hp with
    | announce k ph m0 _ hpc hph hrow hg =>
      obtain rfl : k = k' := by simpa using hpc'
      rw [show h.req[k]? = some (m, true) from hrow'] at hrow
      cases hrow; exact .inr hg
    | _ => simp at hpc'
  · rcases hstep_held hp with ⟨e, _⟩ | ⟨k, ph, m', w, hpc, hrow, hg, e, _⟩ | ⟨u, m', w, _, _, e, _⟩
    · exact .inl (present_of_held (e ▸ hh))
    · rw [e, List.mem_append, List.mem_singleton] at hh
      rcases hh with hh | hh
      · exact .inl (present_of_held hh)
      · cases hh
        exact .inl (present_iff.mpr (.inl (announcedOn_iff.mpr ⟨k, hg.1 ▸ hpc, hrow⟩)))
    · exact .inl (present_of_held (e ▸ List.mem_cons_of_mem _ hh))

theorem hstep_present_keep {s : State} {h h' : Holder} {o : Option Name} (hp : HStep .pref s h h' o)
    {m : Name} (hm : h.present m = true) : h'.present m = true ∨ o = some m := by
  rcases present_iff.mp hm with ha | hh
  · obtain ⟨k0, hpc0, hrow0⟩ := announcedOn_iff.mp ha
    cases hp with
    | acquire k ph m0 w hpc hrow hg =>
      rw [hpc0] at hpc; cases hpc
      exact .inl (present_of_held (by simp [Holder.held, List.take_add_one, hrow0]))
    -- a writer that has announced itself on a write row can make no other move
    | _ => simp_all
  · rcases hstep_held hp with ⟨e, _⟩ | ⟨_, _, _, _, _, _, _, e, _⟩ | ⟨u, m', w, _, _, e, _, ho⟩
    · exact .inl (present_of_held (e ▸ hh))
    · exact .inl (present_of_held (e ▸ List.mem_append_left _ hh))
    · rw [e] at hh
      rcases List.mem_cons.mp hh with hh | hh
      · cases hh; exact .inr (by simp [ho, handsOut])
      · exact .inl (present_of_held hh)

theorem hstep_rwait {v : Variant} {s : State} {h h' : Holder} {o : Option Name} (hp : HStep v s h h' o)
    {m : Name} (hm : h'.rwaitOn m = true) : writerPresent s m = true ∧ o = none := by
  cases hp with
  | rregister k ph m0 _ hpc hph hrow hg =>
    simp only [Holder.rwaitOn, hrow, beq_iff_eq, Option.some.injEq, Prod.mk.injEq, and_true] at hm
    exact ⟨hm ▸ hg, rfl⟩
  | _ => simp [Holder.rwaitOn] at hm

theorem step_eq {v : Variant} {s t : State} {i : Nat} (hst : step v s i = some t) :
    ∃ h h' o, s[i]? = some h ∧ HStep v s h h' o ∧ t = (s.set i h').map (wakeOpt o) := by
  unfold step at hst
  cases hi : s[i]? with
  | none => simp [hi] at hst
  | some h =>
    cases v with
    | plain =>
      cases hp : stepPlain s h with
      | none => simp [hi, hp] at hst
      | some h' =>
        exact ⟨h, h', none, rfl, stepPlain_cases hp, by rw [← wakeAll_eq]; simpa [hi, hp, wakeAll] using hst.symm⟩
    | pref =>
      cases hp : stepPref s h with
      | none => simp [hi, hp] at hst
      | some p =>
        exact ⟨h, p.1, p.2, rfl, stepPref_cases hp, by rw [← wakeAll_eq]; simpa [hi, hp] using hst.symm⟩

theorem step_get {v : Variant} {s t : State} {i : Nat} (hst : step v s i = some t) :
    ∃ h h' o, s[i]? = some h ∧ HStep v s h h' o ∧
      ∀ j : Nat, t[j]? = if j = i then some h' else (s[j]?).map (wakeOpt o) := by
  obtain ⟨h, h', o, hi, hp, rfl⟩ := step_eq hst
  refine ⟨h, h', o, hi, hp, fun j => ?_⟩
  rw [List.getElem?_map, getElem?_set_of hi]
  by_cases hj : j = i
  · simp [hj, wakeOpt_self hp]
  · simp [hj, Ne.symm hj]

/-- `step_get` read from the new state -/
theorem step_get_cases {s t : State} {i0 : Nat} {h' : Holder} {o : Option Name}
    (hget : ∀ j : Nat, t[j]? = if j = i0 then some h' else (s[j]?).map (wakeOpt o))
    {j : Nat} {g' : Holder} (hg : t[j]? = some g') :
    (j = i0 ∧ g' = h') ∨ (j ≠ i0 ∧ ∃ g, s[j]? = some g ∧ g' = wakeOpt o g) := by
  rw [hget j] at hg
  by_cases hj : j = i0
  · exact .inl ⟨hj, by simpa [hj] using hg.symm⟩
  · cases hs : s[j]? with
    | none => simp [hj, hs] at hg
    | some g => exact .inr ⟨hj, g, rfl, by simpa [hj, hs] using hg.symm⟩

def reqsOf (s : State) : List (List Row) := s.map (·.req)

theorem reqsOf_initRaw (reqs : List (List Row)) : reqsOf (initRaw reqs) = reqs := by
  simp [reqsOf, initRaw, List.map_map, Function.comp_def]

theorem reqsOf_get {s : State} {j : Nat} {h : Holder} (hj : s[j]? = some h) :
    (reqsOf s)[j]? = some h.req := by
  simp [reqsOf, hj]

theorem get_of_reqsOf {s : State} {j : Nat} {r : List Row} (hj : (reqsOf s)[j]? = some r) :
    ∃ h, s[j]? = some h ∧ h.req = r := by
  simpa [reqsOf] using hj

theorem reqsOf_set {s : State} {i : Nat} {h h' : Holder} (hi : s[i]? = some h) (hr : h'.req = h.req) :
    reqsOf (s.set i h') = reqsOf s := by
  apply List.ext_getElem?
  intro j
  simp only [reqsOf, List.getElem?_map, getElem?_set_of hi]
  by_cases hj : i = j
  · subst hj; simp [hi, hr]
  · simp [hj]

theorem step_reqs {v : Variant} {s t : State} {i : Nat} (hst : step v s i = some t) : reqsOf t = reqsOf s := by
  obtain ⟨h, h', o, hi, hp, hget⟩ := step_get hst
  apply List.ext_getElem?
  intro j
  simp only [reqsOf, List.getElem?_map, hget j]
  by_cases hj : j = i
  · simp [hj, hi, hstep_req hp]
  · cases s[j]? <;> simp [hj, wakeOpt_req]

theorem step_length {v : Variant} {s t : State} {i : Nat} (hst : step v s i = some t) : t.length = s.length := by
  simpa [reqsOf] using congrArg List.length (step_reqs hst)

theorem reqsOf_reachable {v : Variant} {reqs : List (List Row)} {s : State}
    (hr : Reachable (sysRaw v reqs) s) : reqsOf s = reqs :=
  inv_of_init_step (sysRaw v reqs) (fun s => reqsOf s = reqs) (reqsOf_initRaw reqs)
    (fun _ _ _ hi hst => (step_reqs hst).trans hi) s hr

/-- 1 when the holder has already announced / registered for its next row, 2 otherwise -/
def phaseCost (h : Holder) (k : Nat) (ph : Phase) : Nat :=
  match h.req[k]?, ph with
  | some (_, true), .announced => 1
  | some (_, false), .rwait => 1
  | _, _ => 2

theorem phaseCost_le (h : Holder) (k : Nat) (ph : Phase) : 1 ≤ phaseCost h k ph ∧ phaseCost h k ph ≤ 2 := by
  unfold phaseCost; split <;> simp

/-- an upper bound on the steps a holder still makes.  After the rows: leave, one release per row, finish
(`len + 2`).  Before: enter, and 3 for every row not yet acquired — its two moves (announce or register, then
acquire) and one to spare, because the next row starts at phase cost 2 again while this one may already be down
to 1 (also when a wake-up does the acquiring). -/
def Holder.remaining (h : Holder) : Nat :=
  match h.pc with
  | .acq k ph => 3 * (h.req.length - k) + phaseCost h k ph + h.req.length + 2
  | .inside => h.req.length + 2
  | .rel u => (h.req.length - u) + 1
  | .done => 0

def remaining (s : State) : Nat := (s.map Holder.remaining).sum

theorem remaining_fresh (h : Holder) :
    Holder.remaining { h with pc := .acq 0 .idle } ≤ 4 * h.req.length + 4 := by
  have := phaseCost_le { h with pc := .acq 0 .idle } 0 .idle
  simp only [Holder.remaining]; omega

theorem hstep_remaining {v : Variant} {s : State} {h h' : Holder} {o : Option Name} (hp : HStep v s h h' o) :
    h'.remaining < h.remaining := by
  -- a holder that can still move to the phase `ph'` that fits its row has not paid for it yet
  have two : ∀ {k ph m w ph'}, h.req[k]? = some (m, w) → ph ≠ ph' →
      (w = true → ph' = .announced) → (w = false → ph' = .rwait) → phaseCost h k ph = 2 := by
    intro k ph m w ph' hrow hne h1 h2
    unfold phaseCost; rw [hrow]
    cases w <;> cases ph <;> simp_all
  cases hp with
  | enter k ph hpc hrow =>
    have := phaseCost_le h k ph
    simp only [Holder.remaining, hpc]; omega
  | acquire k ph m w hpc hrow hg =>
    have hk := lt_of_getElem? hrow
    have h2 := phaseCost_le { h with pc := .acq (k + 1) .idle } (k + 1) .idle
    simp only [Holder.remaining, hpc] at h2 ⊢; omega
  | announce k ph m _ hpc hph hrow hg =>
    have h1 := two hrow hph (fun _ => rfl) (fun e => nomatch e)
    have h2 : phaseCost { h with pc := .acq k .announced } k .announced = 1 := by simp [phaseCost, hrow]
    simp only [Holder.remaining, hpc, h1, h2]; omega
  | rregister k ph m _ hpc hph hrow hg =>
    have h1 := two hrow hph (fun e => nomatch e) (fun _ => rfl)
    have h2 : phaseCost { h with pc := .acq k .rwait } k .rwait = 1 := by simp [phaseCost, hrow]
    simp only [Holder.remaining, hpc, h1, h2]; omega
  | leave hpc => simp only [Holder.remaining, hpc]; omega
  | release u m w hpc hrow =>
    have hk := lt_of_getElem? hrow
    simp only [Holder.remaining, hpc]; omega
  | finish u hpc hrow => simp only [Holder.remaining, hpc]; omega

theorem wakeOpt_remaining (o : Option Name) (g : Holder) : (wakeOpt o g).remaining ≤ g.remaining := by
  cases o with
  | none => exact Nat.le_refl _
  | some m =>
    rcases wake_cases m g with ⟨_, e⟩ | ⟨k, hpc, hrow, e⟩ <;> simp only [wakeOpt, e]
    · exact Nat.le_refl _
    · have hk := lt_of_getElem? hrow
      have h2 := phaseCost_le { g with pc := .acq (k + 1) .idle } (k + 1) .idle
      simp only [Holder.remaining, hpc] at h2 ⊢; omega

theorem remaining_step {v : Variant} {s t : State} {i : Nat} (hst : step v s i = some t) :
    remaining t < remaining s := by
  obtain ⟨h, h', o, hi, hp, e⟩ := step_eq hst
  have h1 := sum_map_le (l := s.set i h') (f' := Holder.remaining ∘ wakeOpt o) fun a _ => wakeOpt_remaining o a
  have h2 := sum_map_set Holder.remaining h' hi
  have h3 := hstep_remaining hp
  simp only [remaining, e, List.map_map]; omega

end Goat.Mutex
