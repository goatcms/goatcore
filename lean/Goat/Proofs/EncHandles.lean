/-
The handle histories of `Goat/Model/EncHandles.lean` (property C05, family `hist`): a step, and a history, that
does not address handle `h` leaves the object behind `h` untouched; what `openReader` stores for a file written before.
-/
import Goat.Model.EncHandles
import Goat.Proofs.Encrypt

namespace Goat.Enc

theorem lookup_filter_ne {α : Type} (h h' : Nat) (hne : h ≠ h') (l : List (Nat × α)) :
    (l.filter (fun e => e.1 != h')).lookup h = l.lookup h := by
  induction l with
  | nil => rfl
  | cons e rest ih =>
    obtain ⟨k, v⟩ := e
    by_cases hk : k = h'
    · subst hk
      simp [List.lookup_cons, beq_false_of_ne hne, ih]
    · simp [List.lookup_cons, hk, ih]

theorem handle_setHandle_ne (s : HState) (h h' : Nat) (x : Handle) (hne : h ≠ h') :
    (s.setHandle h' x).handle h = s.handle h := by
  simp [HState.setHandle, HState.handle, List.lookup, beq_false_of_ne hne, lookup_filter_ne h h' hne]

theorem handle_setHandle_self (s : HState) (h : Nat) (x : Handle) :
    (s.setHandle h x).handle h = some x := by
  simp [HState.setHandle, HState.handle]

theorem handle_setFile (s : HState) (h f : Nat) (d : Bytes) : (s.setFile f d).handle h = s.handle h := rfl

/-- Every state the computation `r` can end in agrees with `s` on handle `h`. -/
def Keeps (h : Nat) (s : HState) (r : Option (HState × HOut)) : Prop :=
  ∀ s' o, r = some (s', o) → s'.handle h = s.handle h

namespace Keeps
variable {h : Nat} {s : HState}

theorem of_none : Keeps h s none := nofun

theorem of_some {s' : HState} {o : HOut} (e : s'.handle h = s.handle h) : Keeps h s (some (s', o)) := by
  intro _ _ hs; cases hs; exact e

theorem bind {α : Type} {x : Option α} {f : α → Option (HState × HOut)} (hf : ∀ v, Keeps h s (f v)) :
    Keeps h s (x >>= f) := by
  cases x with
  | none => exact of_none
  | some v => exact hf v

theorem ite {c : Prop} [Decidable c] {a b : Option (HState × HOut)} (ha : Keeps h s a) (hb : Keeps h s b) :
    Keeps h s (if c then a else b) := by
  split <;> assumption

end Keeps

/-- Each branch of `hstep` ends in `s`, `s.setFile ..`, `s.setHandle h' ..` or both, `h'` the handle addressed. -/
theorem hstep_frame {c : Cipher} {kms : List Bytes} {ent : Bytes} {s s' : HState} {st : HStep} {o : HOut} {h : Nat}
    (hst : st.handle? ≠ some h) (hs : hstep c kms ent s st = some (s', o)) : s'.handle h = s.handle h := by
  have set : ∀ h' x, st.handle? = .some h' → (s.setHandle h' x).handle h = s.handle h :=
    fun h' x e => handle_setHandle_ne s h h' x fun hh => hst (hh ▸ e)
  refine (?_ : Keeps h s (hstep c kms ent s st)) s' o hs
  cases st with
  | writeFile fs file pt =>
    refine .bind fun km => .ite .of_none ?_
    cases c.writeVia .whole km ent [pt] <;> exact .of_some rfl
  | readFile fs file =>
    refine .bind fun km => .ite .of_none ?_
    cases s.file file with
    | none => exact .of_some rfl
    | some stored =>
      dsimp only
      cases (c.readVia .whole km stored false []).res <;> exact .of_some rfl
  | openReader fs file h' =>
    refine .bind fun km => .ite .of_none (.ite .of_none ?_)
    cases s.file file with
    | none => exact .of_some (set h' _ rfl)
    | some stored =>
      dsimp only
      cases (c.decryptReader km { data := stored, bad := false, closed := false }).res <;>
        exact .of_some (set h' _ rfl)
  -- below, the three goals after `split` are the arms of `match s.handle h'`: open in the right role, dead, else
  | read h' n =>
    simp only [hstep]
    split
    · cases readerRead _ n  -- ok, err, panic
      · exact .of_some (set h' _ rfl)
      · exact .of_some rfl
      · exact .of_some rfl
    · exact .of_some rfl
    · exact .of_none
  | openWriter fs file h' =>
    refine .bind fun km => .ite .of_none (.ite .of_none ?_)
    cases c.encryptWriter km { data := [], closed := false } <;> exact .of_some (set h' _ rfl)
  | readAll h' | closeReader h' | write h' p =>
    simp only [hstep]
    split
    · exact .of_some (set h' _ rfl)
    · exact .of_some rfl
    · exact .of_none
  | closeWriter h' =>
    simp only [hstep]
    split
    · cases c.closeWriter _ ent <;> exact .of_some (set h' _ rfl)
    · exact .of_some rfl
    · exact .of_none

theorem hrun_cons_eq_some {c : Cipher} {kms : List Bytes} {ent : Bytes} {s s'' : HState} {st : HStep}
    {rest : List HStep} {outs : List HOut} :
    hrun c kms ent s (st :: rest) = some (s'', outs) ↔
      ∃ s' o os, hstep c kms ent s st = some (s', o) ∧ hrun c kms ent s' rest = some (s'', os) ∧ outs = o :: os := by
  constructor
  · intro hr
    simp only [hrun] at hr
    split at hr
    · cases hr
    · split at hr
      · cases hr
      · cases hr; exact ⟨_, _, _, ‹_›, ‹_›, rfl⟩
  · rintro ⟨s', o, os, h1, h2, rfl⟩
    simp only [hrun, h1, h2]

theorem hrun_frame {c : Cipher} {kms : List Bytes} {ent : Bytes} {h : Nat} :
    ∀ {steps : List HStep} {s s' : HState} {outs : List HOut},
      (∀ st ∈ steps, st.handle? ≠ some h) → hrun c kms ent s steps = some (s', outs) → s'.handle h = s.handle h
  | [], s, s', outs, _, hr => by cases hr; rfl
  | st :: rest, s, s', outs, hall, hr => by
    obtain ⟨s1, o, os, h1, h2, _⟩ := hrun_cons_eq_some.mp hr
    rw [hrun_frame (fun st' hm => hall st' (List.mem_cons_of_mem _ hm)) h2]
    exact hstep_frame (hall st (List.mem_cons_self ..)) h1

theorem hrun_append_one {c : Cipher} {kms : List Bytes} {ent : Bytes} {steps : List HStep} {s s' s'' : HState}
    {outs : List HOut} {st : HStep} {o : HOut} (hr : hrun c kms ent s steps = some (s', outs))
    (hs : hstep c kms ent s' st = some (s'', o)) :
    hrun c kms ent s (steps ++ [st]) = some (s'', outs ++ [o]) := by
  induction steps generalizing s outs with
  | nil => cases hr; simp [hrun, hs]
  | cons st1 rest ih =>
    obtain ⟨s1, o1, os, h1, h2, rfl⟩ := hrun_cons_eq_some.mp hr
    exact hrun_cons_eq_some.mpr ⟨s1, o1, _, h1, ih h2, rfl⟩

theorem openReader_on_written {c : Cipher} {ns : Nat} (hs : c.Sound) (hi : c.Invertible ns)
    {wp : Path2} {kms : List Bytes} {fs file h : Nat} {km ent : Bytes} (ent' : Bytes) {chunks : List Bytes}
    {s : HState} {stored : Bytes} (hkm : kms[fs]? = some km)
    (hw : c.writeVia wp km ent chunks = .ok stored) (hfile : s.file file = some stored)
    (hfree : s.busy file = false) (hfresh : s.handle h = none) :
    hstep c kms ent' s (.openReader fs file h) = some (s.setHandle h (.reader chunks.flatten), .ok) := by
  rw [writeVia_eq hs] at hw
  have hd := (hs.reader_eq km ⟨stored, false, false⟩ rfl).trans (hi.dec_enc km ent _ stored hw)
  simp [hstep, hkm, hfree, hfresh, hfile, hd, bind, pure]

end Goat.Enc
