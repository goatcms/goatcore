/-
C11: the invariant of the scope transition system, what no step can undo (`Mono`), and how both fare under the kinds
of change the acts are made of (`Sound`): a context changes, one scope record changes, a slot is allocated.
-/
import Goat.Proofs.Scope

namespace Goat.Scope

structure CtxOk (c : Nat) (x : Ctx) : Prop where
  parentLt : ∀ pc, x.parent = some pc → pc < c
  /-- a watcher that has taken a branch leaves its context done -/
  watchDone : x.parent.isSome = true → x.watch = false → x.done = true
  /-- an error is appended before the context is stopped -/
  errDone : x.errors ≠ 0 → x.done = true

/-- `errs`: the errors the scope's context holds -/
structure ScpOk (x : Scp) (errs : Nat) : Prop where
  /-- the wait group counts outstanding tasks plus signed-on children that have not signed off -/
  wgEq : x.wg + x.dones = x.adds + x.kids.length
  donesLe : x.dones ≤ x.adds
  /-- a goroutine is parked only inside a trigger -/
  parkOk : x.park.isSome = true → (evOf x.phase x.rolled).isSome = true
  /-- a listener error of a `Close` and the rollback branch both mean that the context holds an error -/
  lfailErr : x.lfail = true → errs ≠ 0
  rolledErr : x.rolled = true → errs ≠ 0

/-- `x`: the record of the child `c`, `y`: of its parent `p`; `watched`: the context that the child's context watches -/
structure KidOk (c : Nat) (x : Scp) (p : Nat) (y : Scp) (watched : Option Nat) : Prop where
  lt : p < c
  mem : x.registered = true → x.phase.live = true → c ∈ y.kids
  shared : x.iso = false → x.ctx = y.ctx
  isoCtx : x.iso = true → watched = some y.ctx ∧ y.ctx < x.ctx
  /-- once a scope's `Wait()` has returned, every child that signed on before that has signed off -/
  nonLate : x.registered = true → x.late = false → y.phase.waited = true → x.phase.live = false

/-- the invariant apart from the trace: every record by itself, every child with its parent -/
structure InvS (st : State) : Prop where
  fresh : ∀ s, st.nScopes ≤ s → st.scp s = {}
  freshCtx : ∀ c, st.nCtxs ≤ c → st.ctx c = {}
  ctxLt : ∀ s, s < st.nScopes → (st.scp s).ctx < st.nCtxs
  ctx : ∀ c, CtxOk c (st.ctx c)
  scp : ∀ s, ScpOk (st.scp s) (st.ctx (st.scp s).ctx).errors
  kid : ∀ c p, (st.scp c).parent = some p → KidOk c (st.scp c) p (st.scp p) (st.ctx (st.scp c).ctx).parent

/-- close events fired so far, per scope -/
def Ord (st : State) : Prop :=
  ∀ s, st.closeTrace s = closeSeq (st.scp s).phase (st.scp s).rolled (st.scp s).park.isSome

structure Inv (st : State) : Prop extends InvS st where
  order : Ord st

theorem InvS.parent_lt_n {st : State} (h : InvS st) {c p : Nat} (hp : (st.scp c).parent = some p) :
    c < st.nScopes := by
  rcases Nat.lt_or_ge c st.nScopes with h1 | h1
  · exact h1
  · rw [h.fresh c h1] at hp; cases hp

theorem InvS.ctxParent_lt_n {st : State} (h : InvS st) {c pc : Nat} (hp : (st.ctx c).parent = some pc) :
    c < st.nCtxs := by
  rcases Nat.lt_or_ge c st.nCtxs with h1 | h1
  · exact h1
  · rw [h.freshCtx c h1] at hp; cases hp

theorem InvS.parent_ne {st : State} (h : InvS st) {c p : Nat} (hp : (st.scp c).parent = some p) : p ≠ c :=
  Nat.ne_of_lt (h.kid c p hp).lt

theorem InvS.kid_not_live {st : State} (h : InvS st) {c p : Nat} (hp : (st.scp c).parent = some p)
    (hr : (st.scp c).registered = true) (hk : (st.scp p).kids = []) : (st.scp c).phase.live = false := by
  cases hl : (st.scp c).phase.live
  · rfl
  · have := (h.kid c p hp).mem hr hl
    rw [hk] at this; cases this

theorem InvS.park_none {st : State} (h : InvS st) {s : Nat}
    (he : evOf (st.scp s).phase (st.scp s).rolled = none) : (st.scp s).park = none := by
  cases hp : (st.scp s).park with
  | none => rfl
  | some p =>
    have := (h.scp s).parkOk (by rw [hp]; rfl)
    rw [he] at this; cases this

/-- `hy`: all fields but those that place `y` in the tree are the defaults (`rfl` proves it of such a record) -/
theorem ScpOk.of_default {y : Scp} (errs : Nat)
    (hy : y = { parent := y.parent, registered := y.registered, iso := y.iso, ctx := y.ctx, path := y.path,
                late := y.late }) : ScpOk y errs := by
  rw [hy]; exact ⟨rfl, Nat.le_refl _, nofun, nofun, nofun⟩

theorem inv_init : Inv {} where
  fresh := fun _ _ => rfl
  freshCtx := fun _ _ => rfl
  ctxLt := fun _ h => absurd h (Nat.not_lt_zero _)
  ctx := fun _ => ⟨nofun, nofun, fun h => absurd rfl h⟩
  scp := fun _ => .of_default _ rfl
  kid := nofun
  order := fun _ => rfl

/-- errors are never removed, a done context stays done, an allocated scope keeps its place in the
tree, its context and its sign-on; once `Wait()` has returned the branch is fixed; once a scope has
signed off no listener of its `Close` runs any more -/
structure Mono (st st' : State) : Prop where
  nScopes : st.nScopes ≤ st'.nScopes
  errors : ∀ c, (st.ctx c).errors ≤ (st'.ctx c).errors
  done : ∀ c, (st.ctx c).done = true → (st'.ctx c).done = true
  ctx : ∀ s, s < st.nScopes → (st'.scp s).ctx = (st.scp s).ctx
  parent : ∀ s, s < st.nScopes → (st'.scp s).parent = (st.scp s).parent
  iso : ∀ s, s < st.nScopes → (st'.scp s).iso = (st.scp s).iso
  reg : ∀ s, s < st.nScopes → (st'.scp s).registered = (st.scp s).registered ∧ (st'.scp s).late = (st.scp s).late
  waited : ∀ s, s < st.nScopes → (st.scp s).phase.waited = true →
    (st'.scp s).phase.waited = true ∧ (st'.scp s).rolled = (st.scp s).rolled
  frozen : ∀ s, s < st.nScopes → (st.scp s).phase.live = false →
    (st'.scp s).phase.live = false ∧ (st'.scp s).lfail = (st.scp s).lfail ∧ (st'.scp s).park = (st.scp s).park

/-- the clauses of `Mono` about one scope record -/
structure Mono1 (x y : Scp) : Prop where
  ctx : y.ctx = x.ctx
  parent : y.parent = x.parent
  iso : y.iso = x.iso
  reg : y.registered = x.registered ∧ y.late = x.late
  waited : x.phase.waited = true → y.phase.waited = true ∧ y.rolled = x.rolled
  frozen : x.phase.live = false → y.phase.live = false ∧ y.lfail = x.lfail ∧ y.park = x.park

theorem Mono1.refl (x : Scp) : Mono1 x x :=
  ⟨rfl, rfl, rfl, ⟨rfl, rfl⟩, fun h => ⟨h, rfl⟩, fun h => ⟨h, rfl, rfl⟩⟩

theorem Mono.of_records {st st' : State} (hn : st.nScopes ≤ st'.nScopes)
    (he : ∀ c, (st.ctx c).errors ≤ (st'.ctx c).errors)
    (hd : ∀ c, (st.ctx c).done = true → (st'.ctx c).done = true)
    (hr : ∀ s, s < st.nScopes → Mono1 (st.scp s) (st'.scp s)) : Mono st st' :=
  ⟨hn, he, hd, fun s hs => (hr s hs).ctx, fun s hs => (hr s hs).parent, fun s hs => (hr s hs).iso,
   fun s hs => (hr s hs).reg, fun s hs => (hr s hs).waited, fun s hs => (hr s hs).frozen⟩

theorem Mono.refl (st : State) : Mono st st :=
  .of_records (Nat.le_refl _) (fun _ => Nat.le_refl _) (fun _ h => h) fun _ _ => .refl _

theorem Mono.record {st st' : State} (m : Mono st st') {s : Nat} (hs : s < st.nScopes) : Mono1 (st.scp s) (st'.scp s) :=
  ⟨m.ctx s hs, m.parent s hs, m.iso s hs, m.reg s hs, m.waited s hs, m.frozen s hs⟩

theorem Mono1.trans {x y z : Scp} (h1 : Mono1 x y) (h2 : Mono1 y z) : Mono1 x z where
  ctx := h2.ctx.trans h1.ctx
  parent := h2.parent.trans h1.parent
  iso := h2.iso.trans h1.iso
  reg := ⟨h2.reg.1.trans h1.reg.1, h2.reg.2.trans h1.reg.2⟩
  waited := fun hw =>
    have a1 := h1.waited hw
    have a2 := h2.waited a1.1
    ⟨a2.1, a2.2.trans a1.2⟩
  frozen := fun hl =>
    have a1 := h1.frozen hl
    have a2 := h2.frozen a1.1
    ⟨a2.1, a2.2.1.trans a1.2.1, a2.2.2.trans a1.2.2⟩

theorem Mono.trans {a b c : State} (h1 : Mono a b) (h2 : Mono b c) : Mono a c :=
  .of_records (Nat.le_trans h1.nScopes h2.nScopes) (fun x => Nat.le_trans (h1.errors x) (h2.errors x))
    (fun x hx => h2.done x (h1.done x hx))
    fun _ hs => (h1.record hs).trans (h2.record (Nat.lt_of_lt_of_le hs h1.nScopes))

private theorem err_mono {a b : Nat} (h : a ≤ b) (ha : a ≠ 0) : b ≠ 0 := by omega

theorem Mono.hasErr {st st' : State} {s : Nat} (m : Mono st st') (hs : s < st.nScopes)
    (h : st.hasErr s = true) : st'.hasErr s = true := by
  rw [hasErr_iff] at h ⊢
  rw [m.ctx s hs]
  exact err_mono (m.errors _) h

theorem Mono.isDone {st st' : State} {s : Nat} (m : Mono st st') (hs : s < st.nScopes)
    (h : st.isDone s = true) : st'.isDone s = true := by
  simp only [State.isDone, State.ctxOf, m.ctx s hs] at h ⊢
  exact m.done _ h

theorem CtxStep.mono {st st' : State} {c : Nat} (e : CtxStep st st' c) : Mono st st' :=
  .of_records (Nat.le_of_eq e.nScopes.symm) (fun d => (e.le d).errors) (fun d => (e.le d).done) fun _ _ => by rw [e.scp]; exact .refl _

theorem mono_modScp (st : State) (s : Nat) (f : Scp → Scp) (h : Mono1 (st.scp s) (f (st.scp s))) :
    Mono st (st.modScp s f) :=
  .of_records (Nat.le_refl _) (fun _ => Nat.le_refl _) (fun _ h => h)
    fun t _ => upd_rel (R := fun y x => Mono1 x y) .refl h t

/-- an act, or a part of one: the invariant holds afterwards, nothing is undone, and no context record but `c` has
changed (every primitive change touches at most one; where it touches none, `c` is arbitrary) -/
structure Sound (st : State) (c : Nat) (st' : State) : Prop where
  inv : Inv st'
  mono : Mono st st'
  ctx_other : ∀ x, x ≠ c → st'.ctx x = st.ctx x

theorem Sound.trans {a b d : State} {c : Nat} (h1 : Sound a c b) (h2 : Sound b c d) : Sound a c d :=
  ⟨h2.inv, h1.mono.trans h2.mono, fun x hx => (h2.ctx_other x hx).trans (h1.ctx_other x hx)⟩

theorem Sound.refl {st : State} (h : Inv st) (c : Nat) : Sound st c st := ⟨h, .refl _, fun _ _ => rfl⟩

/-- composition where `c` is the context of scope `s`, which no step changes -/
theorem Sound.trans_scp {a b d : State} {s : Nat} (hs : s < a.nScopes) (h1 : Sound a (a.scp s).ctx b)
    (h2 : Sound b (b.scp s).ctx d) : Sound a (a.scp s).ctx d :=
  h1.trans (h1.mono.ctx s hs ▸ h2)

theorem CtxStep.fresh {st st' : State} {c : Nat} (e : CtxStep st st' c) (hc : c < st.nCtxs) :
    ∀ d, st.nCtxs ≤ d → st'.ctx d = st.ctx d :=
  fun d hd => e.ctx_other d (by omega)

/-- `pushCtx`, `pushScp`: the pieces of the model's flat `newRoot` and `newChild` (`newChild_eq` in `ScopeSound`) -/
def State.pushCtx (st : State) (x : Ctx) : State :=
  { st with nCtxs := st.nCtxs + 1, ctx := upd st.ctx st.nCtxs x }

def State.pushScp (st : State) (y : Scp) : State :=
  { st with nScopes := st.nScopes + 1, scp := upd st.scp st.nScopes y }

theorem pushScp_scp_ne (st : State) (y : Scp) {t : Nat} (h : t ≠ st.nScopes) : (st.pushScp y).scp t = st.scp t :=
  upd_ne _ _ h

@[simp] theorem pushScp_scp_same (st : State) (y : Scp) : (st.pushScp y).scp st.nScopes = y := upd_same _ _ _

theorem pushCtx_ctx_ne (st : State) (x : Ctx) {c : Nat} (h : c ≠ st.nCtxs) : (st.pushCtx x).ctx c = st.ctx c :=
  upd_ne _ _ h

theorem pushCtx_all {P : Nat → Ctx → Prop} {st : State} {x : Ctx} (hx : P st.nCtxs x)
    (h : ∀ c, c ≠ st.nCtxs → P c (st.ctx c)) (c : Nat) : P c ((st.pushCtx x).ctx c) := by
  by_cases hc : c = st.nCtxs
  · subst hc
    have e : (st.pushCtx x).ctx st.nCtxs = x := upd_same _ _ _
    rw [e]; exact hx
  · rw [pushCtx_ctx_ne st x hc]; exact h c hc

theorem CtxOk.le {c : Nat} {x y : Ctx} (h : CtxOk c x) (l : CtxLe x y) : CtxOk c y where
  parentLt := by rw [l.parent]; exact h.parentLt
  watchDone := by
    rw [l.parent]
    exact fun h1 h2 => (l.watch h2).elim (fun hw => l.done (h.watchDone h1 hw)) id
  errDone := fun _ => by
    by_cases hlt : x.errors < y.errors
    · exact l.errdone hlt
    · have := l.errors
      exact l.done (h.errDone (by omega))

theorem ScpOk.mono {x : Scp} {a b : Nat} (h : ScpOk x a) (hab : a ≤ b) : ScpOk x b :=
  { h with lfailErr := fun hl => err_mono hab (h.lfailErr hl), rolledErr := fun hl => err_mono hab (h.rolledErr hl) }

theorem InvS.ctxStep {st st' : State} {c : Nat} (h : InvS st) (e : CtxStep st st' c)
    (hc : ∀ d, st.nCtxs ≤ d → st'.ctx d = st.ctx d) : InvS st' where
  fresh := by rw [e.scp, e.nScopes]; exact h.fresh
  freshCtx := by
    intro d hd
    rw [e.nCtxs] at hd
    rw [hc d hd]; exact h.freshCtx d hd
  ctxLt := by rw [e.scp, e.nScopes, e.nCtxs]; exact h.ctxLt
  ctx := fun d => (h.ctx d).le (e.le d)
  scp := fun s => by rw [e.scp]; exact (h.scp s).mono (e.le _).errors
  kid := fun a p => by rw [e.scp, (e.le _).parent]; exact h.kid a p

/-- one scope record is replaced (`n = st.nScopes`), or the next one allocated (`s = st.nScopes`, `n = s + 1`) -/
theorem InvS.setScp {st : State} (h : InvS st) {s n : Nat} {y : Scp} (hs : s < n) (hn : st.nScopes ≤ n)
    (hlt : ∀ t, t < n → t ≠ s → t < st.nScopes) (hctx : y.ctx < st.nCtxs)
    (hy : ScpOk y (st.ctx y.ctx).errors)
    (hkid : ∀ p, y.parent = some p → KidOk s y p (st.scp p) (st.ctx y.ctx).parent)
    (hpar : ∀ c, c ≠ s → (st.scp c).parent = some s → KidOk c (st.scp c) s y (st.ctx (st.scp c).ctx).parent) :
    InvS { st with nScopes := n, scp := upd st.scp s y } := by
  have hscp : ∀ t, ({ st with nScopes := n, scp := upd st.scp s y } : State).scp t =
      if t = s then y else st.scp t := fun _ => rfl
  refine ⟨fun t ht => ?_, h.freshCtx, fun t ht => ?_, h.ctx, fun t => ?_, fun c p => ?_⟩
  · have hts : t ≠ s := by have : n ≤ t := ht; omega
    rw [hscp, if_neg hts]; exact h.fresh t (Nat.le_trans hn ht)
  · rw [hscp]; split
    · exact hctx
    · exact h.ctxLt t (hlt t ht ‹_›)
  · rw [hscp]; split
    · exact hy
    · exact h.scp t
  · rw [hscp c, hscp p]
    by_cases hc : c = s
    · subst hc
      rw [if_pos rfl]
      intro hp
      have k := hkid p hp
      rw [if_neg (Nat.ne_of_lt k.lt)]; exact k
    · rw [if_neg hc]
      intro hp
      by_cases hps : p = s
      · subst hps; rw [if_pos rfl]; exact hpar c hc hp
      · rw [if_neg hps]; exact h.kid c p hp

/-- the fields that place a scope record in the tree (apart from `iso`) and say how far its `Close` has got: all that
`Ord`, `ScpOk` and `KidOk` look at, the wait-group count apart -/
structure KeyEq (a b : Scp) : Prop where
  parent : a.parent = b.parent
  registered : a.registered = b.registered
  late : a.late = b.late
  ctx : a.ctx = b.ctx
  phase : a.phase = b.phase
  park : a.park = b.park
  rolled : a.rolled = b.rolled
  lfail : a.lfail = b.lfail

theorem KeyEq.refl (a : Scp) : KeyEq a a := ⟨rfl, rfl, rfl, rfl, rfl, rfl, rfl, rfl⟩

/-- `rfl` proves `h` of a record update of other fields -/
theorem KeyEq.of_update {a b : Scp}
    (h : a = { b with iso := a.iso, path := a.path, wg := a.wg, listeners := a.listeners, result := a.result,
                      adds := a.adds, dones := a.dones, kids := a.kids }) : KeyEq a b := by
  rw [h]; exact ⟨rfl, rfl, rfl, rfl, rfl, rfl, rfl, rfl⟩

/-- the fields of a scope record that its closing goroutine does not write -/
structure Place (a b : Scp) : Prop where
  parent : a.parent = b.parent
  registered : a.registered = b.registered
  iso : a.iso = b.iso
  ctx : a.ctx = b.ctx
  late : a.late = b.late
  kids : a.kids = b.kids
  wg : a.wg = b.wg
  adds : a.adds = b.adds
  dones : a.dones = b.dones

/-- `rfl` proves `h` of a record update of the fields the closing goroutine writes -/
theorem Place.of_update {a b : Scp}
    (h : a = { b with phase := a.phase, park := a.park, rolled := a.rolled, lfail := a.lfail,
                      result := a.result }) : Place a b := by
  rw [h]; exact ⟨rfl, rfl, rfl, rfl, rfl, rfl, rfl, rfl, rfl⟩

/-- `y` is the record `x` with its `Close` moved forward; `err`: the context holds an error by then -/
structure Advance (x y : Scp) (err : Prop) : Prop where
  place : Place y x
  live : y.phase.live = true → x.phase.live = true
  /-- `Wait()` returns only once no child is signed on -/
  wait : y.phase.waited = true → x.phase.waited = true ∨ x.kids = []
  park : y.park.isSome = true → (evOf y.phase y.rolled).isSome = true
  lfail : y.lfail = true → x.lfail = true ∨ err
  rolled : y.rolled = true → x.rolled = true ∨ err
  waited : x.phase.waited = true → y.phase.waited = true ∧ y.rolled = x.rolled
  frozen : x.phase.live = false → y.lfail = x.lfail ∧ y.park = x.park

/-- the phase moves while no goroutine is parked and nothing else of the `Close` changes (`result` apart): what is left
to say is how `live` and `waited` fare -/
theorem Advance.ofPhase {x y : Scp} {err : Prop} (place : Place y x) (hpk : x.park = none) (park : y.park = x.park)
    (rolled : y.rolled = x.rolled) (lfail : y.lfail = x.lfail) (live : y.phase.live = true → x.phase.live = true)
    (waited : y.phase.waited = x.phase.waited) : Advance x y err where
  place := place
  live := live
  wait := fun h => .inl (waited ▸ h)
  park := fun hp => by rw [park, hpk] at hp; cases hp
  lfail := fun h => .inl (lfail ▸ h)
  rolled := fun h => .inl (rolled ▸ h)
  waited := fun h => ⟨waited.symm ▸ h, rolled⟩
  frozen := fun _ => ⟨lfail, park⟩

theorem Ord.same {st st' : State} (h : Ord st) (ht : ∀ t, st'.closeTrace t = st.closeTrace t)
    (hk : ∀ t, KeyEq (st'.scp t) (st.scp t)) : Ord st' := by
  intro t; rw [ht, (hk t).phase, (hk t).rolled, (hk t).park]; exact h t

theorem Inv.ctxStep {st st' : State} {c : Nat} (h : Inv st) (e : CtxStep st st' c)
    (hc : ∀ d, st.nCtxs ≤ d → st'.ctx d = st.ctx d) (ht : ∀ t, st'.closeTrace t = st.closeTrace t) :
    Sound st c st' :=
  ⟨⟨h.toInvS.ctxStep e hc, h.order.same ht fun t => by rw [e.scp]; exact .refl _⟩, e.mono, e.ctx_other⟩

theorem Inv.of_eq {st st' : State} {c : Nat} (h : Inv st) (hs : st'.scp = st.scp) (hc : st'.ctx = st.ctx)
    (hn : st'.nScopes = st.nScopes) (hm : st'.nCtxs = st.nCtxs) (ht : st'.trace = st.trace) :
    Sound st c st' :=
  h.ctxStep (.of_eq c hs hc hn hm) (fun _ _ => by rw [hc]) fun t => by rw [State.closeTrace, ht]; rfl

/-- `hkids`: the list of children may lose only members that are not live (the sign-off erases the child that has just
become `signed`) -/
theorem Inv.modScpKey {st : State} {s c : Nat} (h : Inv st) (hs : s < st.nScopes) (f : Scp → Scp)
    (hk : KeyEq (f (st.scp s)) (st.scp s)) (hiso : (f (st.scp s)).iso = (st.scp s).iso)
    (hkids : ∀ c, c ∈ (st.scp s).kids → (st.scp c).phase.live = true → c ≠ s → c ∈ (f (st.scp s)).kids)
    (hwg : (f (st.scp s)).wg + (f (st.scp s)).dones = (f (st.scp s)).adds + (f (st.scp s)).kids.length)
    (hd : (f (st.scp s)).dones ≤ (f (st.scp s)).adds) : Sound st c (st.modScp s f) := by
  have x := h.scp s
  refine ⟨⟨h.toInvS.setScp hs (Nat.le_refl _) (fun _ ht _ => ht) (hk.ctx ▸ h.ctxLt s hs) ?_ (fun p hp => ?_)
      fun c hc hp => ?_, h.order.same (fun _ => rfl) (upd_rel KeyEq.refl hk)⟩,
    mono_modScp st s f
      { ctx := hk.ctx, parent := hk.parent, iso := hiso, reg := ⟨hk.registered, hk.late⟩
        waited := by rw [hk.phase, hk.rolled]; exact fun h => ⟨h, rfl⟩
        frozen := by rw [hk.phase, hk.lfail, hk.park]; exact fun h => ⟨h, rfl, rfl⟩ }, fun _ _ => rfl⟩
  · -- the record by itself
    rw [hk.ctx]
    exact ⟨hwg, hd, by rw [hk.park, hk.phase, hk.rolled]; exact x.parkOk, by rw [hk.lfail]; exact x.lfailErr,
      by rw [hk.rolled]; exact x.rolledErr⟩
  · -- as a child of `p`
    rw [hk.parent] at hp
    have k := h.kid s p hp
    exact ⟨k.lt, by rw [hk.registered, hk.phase]; exact k.mem, by rw [hiso, hk.ctx]; exact k.shared,
      by rw [hiso, hk.ctx]; exact k.isoCtx, by rw [hk.registered, hk.late, hk.phase]; exact k.nonLate⟩
  · -- as the parent of `c`
    have k := h.kid c s hp
    exact ⟨k.lt, fun h1 h2 => hkids c (k.mem h1 h2) h2 hc, by rw [hk.ctx]; exact k.shared,
      by rw [hk.ctx]; exact k.isoCtx, by rw [hk.phase]; exact k.nonLate⟩

/-- the `Close` of `s` moves on: its context changes (`e`), the events `l` are recorded, then its record is updated -/
theorem Inv.ctxAdvance {st st1 : State} {s : Nat} (h : Inv st) (hs : s < st.nScopes)
    (e : CtxStep st st1 (st.scp s).ctx) (f : Scp → Scp)
    (a : Advance (st.scp s) (f (st.scp s)) ((st1.ctx (st.scp s).ctx).errors ≠ 0)) (l : List Ev)
    (htr : ∀ u, (st1.modScp s f).closeTrace u = st.closeTrace u ++ if s = u then l else [])
    (hord : closeSeq (f (st.scp s)).phase (f (st.scp s)).rolled (f (st.scp s)).park.isSome =
      closeSeq (st.scp s).phase (st.scp s).rolled (st.scp s).park.isSome ++ l) :
    Sound st (st.scp s).ctx (st1.modScp s f) := by
  have ho : Ord (st1.modScp s f) := by
    intro u
    rw [htr u, h.order u, modScp_scp, e.scp]
    by_cases hu : u = s
    · subst hu; rw [if_pos rfl, if_pos rfl, hord]
    · rw [if_neg hu, if_neg (Ne.symm hu), List.append_nil]
  have hS := h.toInvS.ctxStep e (e.fresh (h.ctxLt s hs))
  rw [show st.scp s = st1.scp s by rw [e.scp]] at a
  have hs1 : s < st1.nScopes := e.nScopes ▸ hs
  have hf := a.place
  have x := hS.scp s
  refine ⟨⟨hS.setScp hs1 (Nat.le_refl _) (fun _ ht _ => ht) (hf.ctx ▸ hS.ctxLt s hs1) ?_ (fun p hp => ?_)
      fun c hc hp => ?_, ho⟩,
    e.mono.trans (mono_modScp st1 s f
      { ctx := hf.ctx, parent := hf.parent, iso := hf.iso, reg := ⟨hf.registered, hf.late⟩, waited := a.waited
        frozen := fun hd =>
          ⟨Bool.eq_false_iff.mpr fun hy => Bool.noConfusion ((a.live hy).symm.trans hd), a.frozen hd⟩ }),
    e.ctx_other⟩
  · -- the record by itself
    rw [hf.ctx]
    exact ⟨by rw [hf.wg, hf.dones, hf.adds, hf.kids]; exact x.wgEq, by rw [hf.dones, hf.adds]; exact x.donesLe,
      a.park, fun hl => (a.lfail hl).elim x.lfailErr id, fun hl => (a.rolled hl).elim x.rolledErr id⟩
  · -- as a child of `p`
    rw [hf.parent] at hp
    have k := hS.kid s p hp
    refine ⟨k.lt, by rw [hf.registered]; exact fun h1 h2 => k.mem h1 (a.live h2),
      by rw [hf.iso, hf.ctx]; exact k.shared, by rw [hf.iso, hf.ctx]; exact k.isoCtx, ?_⟩
    rw [hf.registered, hf.late]
    intro h1 h2 h3
    have := k.nonLate h1 h2 h3
    cases hl : (f (st1.scp s)).phase.live
    · rfl
    · rw [a.live hl] at this; cases this
  · -- as the parent of `c`.  The last clause is where `Close` waits for its children: `s` had waited before, or its
    -- wait ends here with no signed-on child left (`a.wait`), so `c` has signed off
    have k := hS.kid c s hp
    exact ⟨k.lt, by rw [hf.kids]; exact k.mem, by rw [hf.ctx]; exact k.shared, by rw [hf.ctx]; exact k.isoCtx,
      fun h1 h2 hw => (a.wait hw).elim (k.nonLate h1 h2) (hS.kid_not_live hp h1)⟩

theorem Inv.advance {st : State} {s : Nat} (h : Inv st) (hs : s < st.nScopes) (f : Scp → Scp)
    (a : Advance (st.scp s) (f (st.scp s)) ((st.ctx (st.scp s).ctx).errors ≠ 0))
    (hord : closeSeq (f (st.scp s)).phase (f (st.scp s)).rolled (f (st.scp s)).park.isSome =
      closeSeq (st.scp s).phase (st.scp s).rolled (st.scp s).park.isSome) :
    Sound st (st.scp s).ctx (st.modScp s f) :=
  h.ctxAdvance hs (.of_eq _ rfl rfl rfl rfl) f a []
    (fun u => by rw [closeTrace_modScp, ite_self, List.append_nil]) (by rw [List.append_nil]; exact hord)

theorem Inv.pushCtx {st : State} (h : Inv st) (x : Ctx) (hx : CtxOk st.nCtxs x) :
    Sound st st.nCtxs (st.pushCtx x) := by
  have hle := pushCtx_all (st := st) (x := x)
    (P := fun c z => (st.ctx c).errors ≤ z.errors ∧ ((st.ctx c).done = true → z.done = true))
    (by rw [h.freshCtx _ (Nat.le_refl _)]; exact ⟨Nat.zero_le _, nofun⟩) fun _ _ => ⟨Nat.le_refl _, id⟩
  refine ⟨⟨⟨h.fresh, ?_, fun t ht => Nat.lt_succ_of_lt (h.ctxLt t ht), pushCtx_all hx fun c _ => h.ctx c,
      fun s => (h.scp s).mono (hle _).1, fun c p h1 => ?_⟩, h.order⟩,
    .of_records (Nat.le_refl _) (fun c => (hle c).1) (fun c => (hle c).2) fun _ _ => .refl _,
    fun _ => pushCtx_ctx_ne st x⟩
  · exact pushCtx_all (P := fun c z => st.nCtxs + 1 ≤ c → z = {}) (fun hc => absurd hc (Nat.not_succ_le_self _))
      fun c _ hc => h.freshCtx c (Nat.le_of_succ_le hc)
  · -- the context of an allocated scope is an old one
    show KidOk c (st.scp c) p (st.scp p) ((st.pushCtx x).ctx (st.scp c).ctx).parent
    rw [pushCtx_ctx_ne st x (Nat.ne_of_lt (h.ctxLt c (h.parent_lt_n h1)))]
    exact h.kid c p h1

theorem Inv.pushScp {st : State} {c : Nat} (h : Inv st) (y : Scp) (hctx : y.ctx < st.nCtxs)
    (hy : y = { parent := y.parent, registered := y.registered, iso := y.iso, ctx := y.ctx, path := y.path,
                late := y.late })
    (hkid : ∀ p, y.parent = some p → KidOk st.nScopes y p (st.scp p) (st.ctx y.ctx).parent) :
    Sound st c (st.pushScp y) := by
  refine ⟨⟨h.toInvS.setScp (Nat.lt_succ_self _) (Nat.le_succ _) (fun t ht hne => by omega) hctx (.of_default _ hy)
      hkid fun c _ hp => ?_, fun t => ?_⟩,
    .of_records (Nat.le_succ _) (fun _ => Nat.le_refl _) (fun _ h => h) fun t ht => by
      rw [pushScp_scp_ne st _ (Nat.ne_of_lt ht)]; exact .refl _, fun _ _ => rfl⟩
  · -- no scope has the new one as its parent
    exact absurd (h.parent_lt_n hp) (Nat.lt_asymm (h.kid c _ hp).lt)
  · show st.closeTrace t = _
    by_cases ht : t = st.nScopes
    · subst ht; rw [pushScp_scp_same, hy, h.order, h.fresh _ (Nat.le_refl _)]
    · rw [pushScp_scp_ne st y ht]; exact h.order t

end Goat.Scope
