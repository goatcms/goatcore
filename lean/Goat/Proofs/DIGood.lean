/-
The outcome of a top-level `Get` depends on the definitions only.  Soundness (`get_rel`): every instance in a state
reached from the blocked `s0` by resolutions (`Rel s0`) is `Good s0`.  Completeness (`cmp`): a `Good s0` name is
resolved whenever no name of smaller-or-equal rank is under construction — in particular from outside.  Names
closed under "has a required dependency in the set" are not `Good`.
-/
import Goat.Proofs.DIHist

namespace Goat.DI

/-- `s` is reached from the blocked provider `s0` by resolutions -/
structure Rel (s0 s : St) : Prop where
  blocked : s.blocked = true
  injectors : s.injectors = s0.injectors
  agree : ∀ n, s.instances n = none →
    s.factories n = s0.factories n ∧ s.defaultFactories n = s0.defaultFactories n ∧ s0.instances n = none
  mono : ∀ n i, s0.instances n = some i → s.instances n = some i
  -- factories never store `nil`, so a `nil` was defined as `nil` (what `Dep.injectOK s0` speaks of)
  nil_only : ∀ n, s.instances n = some .nil → s0.instances n = some .nil
  stack_free : ∀ n, n ∈ s.callstack → s.instances n = none
  sound : ∀ n i, s.instances n = some i → Good s0 n

theorem Rel.refl {s0 : St} (hb : s0.blocked = true) (hst : s0.callstack = []) : Rel s0 s0 where
  blocked := hb
  injectors := rfl
  agree := fun _ h => ⟨rfl, rfl, h⟩
  mono := fun _ _ h => h
  nil_only := fun _ h => h
  stack_free := fun n hn => by rw [hst] at hn; cases hn
  sound := fun _ _ h => Good.inst (source_of_inst h)

theorem Rel.source_eq {s0 s : St} (h : Rel s0 s) {n : Name} (hn : s.instances n = none) :
    source s n = source s0 n := by
  obtain ⟨h1, h2, h3⟩ := h.agree n hn
  simp [source, hn, h1, h2, h3]

theorem Rel.push {s0 s : St} {n : Name} (h : Rel s0 s) (hn : s.instances n = none) : Rel s0 (push s n) where
  blocked := h.blocked
  injectors := h.injectors
  agree := h.agree
  mono := h.mono
  nil_only := h.nil_only
  stack_free := by
    intro m hm
    rcases List.mem_append.1 hm with hm | hm
    · exact h.stack_free m hm
    · simp at hm; subst hm; exact hn
  sound := h.sound

theorem Rel.unwind {s0 s2 : St} (h2 : Rel s0 s2) (k : Nat) : Rel s0 (unwind s2 k) where
  blocked := h2.blocked
  injectors := h2.injectors
  agree := h2.agree
  mono := h2.mono
  nil_only := h2.nil_only
  stack_free := fun m hm => h2.stack_free m (List.mem_of_mem_take hm)
  sound := h2.sound

theorem Rel.store {s0 u : St} {n : Name} {i : Inst} (h : Rel s0 u) (k : Nat) (b1 b2 : Bool)
    (hi : u.instances n = none) (hn : n ∉ u.callstack) (hg : Good s0 n) (hnil : i ≠ .nil) :
    Rel s0 (store u n i k b1 b2) where
  blocked := h.blocked
  injectors := h.injectors
  agree := fun m hm =>
    have ⟨hne, hm⟩ := Tab.set_none hm
    ⟨(Tab.delIf_ne _ _ hne).trans (h.agree m hm).1, (Tab.delIf_ne _ _ hne).trans (h.agree m hm).2.1,
      (h.agree m hm).2.2⟩
  mono := fun m j hm =>
    (Tab.set_ne _ _ fun e => by rw [e, (h.agree n hi).2.2] at hm; cases hm).trans (h.mono m j hm)
  nil_only := fun m hm => (Tab.set_some hm).elim (fun e => absurd e.2 hnil) fun e => h.nil_only m e.2
  stack_free := fun m hm => (Tab.set_ne _ _ fun (e : m = n) => hn (e ▸ hm)).trans (h.stack_free m hm)
  sound := fun m j hm => (Tab.set_some hm).elim (fun e => e.1 ▸ hg) fun e => h.sound m j e.2

theorem get_nil {s0 x : St} {fuel : Nat} {n : Name} (h : Rel s0 x) (hf : FuelOK fuel x)
    (hn : x.instances n = some .nil) : (get fuel x n).2 = .inst .nil := by
  obtain ⟨fuel, rfl⟩ := Nat.exists_eq_succ_of_ne_zero (Nat.pos_iff_ne_zero.1 hf.pos)
  have hc : n ∉ x.callstack := fun hc => by rw [h.stack_free n hc] at hn; cases hn
  rw [get_of_inst hc (by rw [block_of_blocked h.blocked]; exact hn)]

section body
/- `P`: what holds of the states a factory body passes through -/
variable {s0 : St} {fuel : Nat} {P : St → Prop} (hP : ∀ x, P x → Rel s0 x ∧ FuelOK fuel x)
  (hkeep : ∀ x m, P x → P (get fuel x m).1)
include hP hkeep

theorem depStep_sound {s : St} {d : Dep} (hs : P s) (h : (depStep (get fuel) s d).2 = none) :
    d.injectOK s0 ∧ ∀ m, d.eff = some (m, false) → Good s0 m := by
  have hr := (hP s hs).1
  obtain ⟨h1, h2⟩ := (depStep_none_iff (fun m => (hP _ (hkeep s m hs)).1.injectors) hr.injectors).1 h
  refine ⟨Dep.injectOK_iff.2 ⟨h1, fun hv m o hm h0 => ?_⟩, fun m hm => ?_⟩
  · -- a name defined as `nil` is answered `nil`, which an `InjectTo` edge refuses
    exact (Dep.judge_eq_none.1 (h2 m o hm)).1 hv (get_nil hr (hP s hs).2 (hr.mono m _ h0))
  · obtain ⟨i, hi⟩ := (Dep.judge_eq_none.1 (h2 m false hm)).2 rfl
    exact (hP _ (hkeep s m hs)).1.sound m i (get_inst hi)

theorem depStep_complete {s : St} {d : Dep} (hs : P s) (hok : d.injectOK s0)
    (hreq : ∀ m, d.eff = some (m, false) → ∃ i, (get fuel s m).2 = .inst i) : (depStep (get fuel) s d).2 = none := by
  obtain ⟨h1, h2⟩ := Dep.injectOK_iff.1 hok
  refine (depStep_none_iff (fun m => (hP _ (hkeep s m hs)).1.injectors) (hP s hs).1.injectors).2 ⟨h1, fun m o hm => ?_⟩
  refine Dep.judge_eq_none.2 ⟨fun hv hr => ?_, fun ho => hreq m (ho ▸ hm)⟩
  -- an answer `nil` is an instance `nil`, and only a definition stores `nil`
  exact h2 hv m o hm ((hP _ (hkeep s m hs)).1.nil_only m (get_inst hr))

theorem runDeps_sound : ∀ (ds : List Dep) (s : St), P s → (runDeps (get fuel) s ds).2 = none →
      ∀ d, d ∈ ds → d.injectOK s0 ∧ ∀ m, d.eff = some (m, false) → Good s0 m := by
  intro ds
  induction ds with
  | nil => intro s _ _ d hd; cases hd
  | cons d0 rest ih =>
    intro s hs hnone d hd
    rw [runDeps_cons] at hnone
    cases he : (depStep (get fuel) s d0).2 with
    | some e => rw [he] at hnone; cases hnone
    | none =>
      rw [he] at hnone
      rcases List.mem_cons.1 hd with e | e
      · exact e ▸ depStep_sound hP hkeep hs he
      · exact ih _ ((depStep_calls _ s d0).inv hkeep hs) hnone d e

theorem construct_rel {s : St} {n : Name} {f : Factory} (dflt : Bool) (hp : P (push s n))
    (hc : n ∉ s.callstack) (hsrc : source s0 n = some (.fac f)) :
    Rel s0 (construct (get fuel) s n f dflt).1 := by
  have h2 : Rel s0 (runDeps (get fuel) (push s n) f.deps).1 :=
    (hP _ ((runDeps_calls _ f.deps _).inv hkeep hp)).1
  have hst := (runDeps_step (fun x m hx => ⟨hkeep x m hx, get_step fuel x m (hP x hx).2⟩)
    (fun x hx => (hP x hx).1.blocked) f.deps hp).2.callstack
  rw [construct_eq]
  simp only
  split
  · rename_i hok
    have hd := runDeps_sound hP hkeep f.deps _ hp hok.1
    exact (h2.unwind _).store _ _ _ (h2.stack_free n (by simp [hst])) (by simp [unwind, hst, hc])
      (Good.fac hsrc hok.2 (fun d hd' => (hd d hd').1) fun d m hd' hm => (hd d hd').2 m hm) (fun e => nomatch e)
  · exact h2.unwind _

theorem runDeps_complete : ∀ (ds : List Dep) (s : St), P s → (∀ d, d ∈ ds → d.injectOK s0) →
      (∀ s d m, P s → d ∈ ds → d.eff = some (m, false) → ∃ i, (get fuel s m).2 = .inst i) →
      (runDeps (get fuel) s ds).2 = none := by
  intro ds
  induction ds with
  | nil => intro s _ _ _; rfl
  | cons d0 rest ih =>
    intro s hs hok hreq
    have h0 : P (depStep (get fuel) s d0).1 := (depStep_calls _ s d0).inv hkeep hs
    have hc := depStep_complete hP hkeep (d := d0) hs (hok d0 (List.mem_cons_self ..))
      (fun m hm => hreq s d0 m hs (List.mem_cons_self ..) hm)
    rw [runDeps_cons, hc]
    exact ih _ h0 (fun d hd => hok d (List.mem_cons_of_mem _ hd))
      (fun s' d m hs' hd hm => hreq s' d m hs' (List.mem_cons_of_mem _ hd) hm)

end body

theorem get_rel {s0 : St} : ∀ (fuel : Nat) (s : St) (n : Name), Rel s0 s → FuelOK fuel s →
    Rel s0 (get fuel s n).1 := by
  intro fuel
  induction fuel with
  | zero => intro s n _ hf; exact absurd hf.pos (Nat.lt_irrefl 0)
  | succ fuel ih =>
    intro s n h hf
    have e := block_of_blocked h.blocked
    refine get_succ_cases (motive := fun r => Rel s0 r.1) fuel s n
      (fun _ => e.symm ▸ h) (fun _ _ => e.symm ▸ h) ?_ (e.symm ▸ h)
    rw [e]
    intro f hc hsrc
    obtain ⟨hn, hm⟩ := source_fac hsrc
    exact construct_rel (P := fun x => Rel s0 x ∧ FuelOK fuel x) (fun _ hx => hx)
      (fun x m hx => ⟨ih x m hx.1 hx.2, get_fuelOK m hx.2⟩) _ ⟨h.push hn, hf.push h.blocked hc (hf.merged_keys hm)⟩ hc
      (h.source_eq hn ▸ hsrc)

/-- `Good` with a bound on the height of the derivation -/
def GoodK (s : St) : Nat → Name → Prop
  | 0, _ => False
  | k + 1, n =>
    match source s n with
    | some (.inst _) => True
    | some (.fac f) => f.out = .ok ∧ (∀ d, d ∈ f.deps → d.injectOK s) ∧
        ∀ d m, d ∈ f.deps → d.eff = some (m, false) → GoodK s k m
    | none => False

theorem GoodK.succ {s : St} : ∀ (k : Nat) (n : Name), GoodK s k n → GoodK s (k + 1) n := by
  intro k
  induction k with
  | zero => intro n h; cases h
  | succ k ih =>
    intro n h
    unfold GoodK at h ⊢
    split
    · trivial
    · rename_i f hf
      rw [hf] at h
      exact ⟨h.1, h.2.1, fun d m hd hm => ih _ (h.2.2 d m hd hm)⟩
    · rename_i hf
      rw [hf] at h
      exact h

theorem GoodK.mono {s : St} {k k' : Nat} {n : Name} (h : GoodK s k n) (hk : k ≤ k') : GoodK s k' n := by
  induction hk with
  | refl => exact h
  | step _ ih => exact GoodK.succ _ _ ih

theorem goodK_bound {s : St} : ∀ (l : List Dep),
    (∀ d m, d ∈ l → d.eff = some (m, false) → ∃ k, GoodK s k m) →
    ∃ K, ∀ d m, d ∈ l → d.eff = some (m, false) → GoodK s K m := by
  intro l
  induction l with
  | nil => intro _; exact ⟨0, fun _ _ h => nomatch h⟩
  | cons a l ih =>
    intro h
    obtain ⟨K, hK⟩ := ih (fun d m hd hm => h d m (List.mem_cons_of_mem _ hd) hm)
    -- an edge asks for at most one name
    obtain ⟨k, hk⟩ : ∃ k, ∀ m, a.eff = some (m, false) → GoodK s k m := by
      by_cases hex : ∃ m, a.eff = some (m, false)
      · obtain ⟨m0, hm0⟩ := hex
        obtain ⟨k, hk⟩ := h a m0 (List.mem_cons_self ..) hm0
        exact ⟨k, fun m hm => by rw [hm0] at hm; cases hm; exact hk⟩
      · exact ⟨0, fun m hm => absurd ⟨m, hm⟩ hex⟩
    refine ⟨max K k, fun d m hd hm => ?_⟩
    rcases List.mem_cons.1 hd with e | e
    · exact (hk m (e ▸ hm)).mono (Nat.le_max_right ..)
    · exact (hK d m e hm).mono (Nat.le_max_left ..)

theorem Good.rank {s : St} {n : Name} (h : Good s n) : ∃ k, GoodK s k n := by
  induction h with
  | inst hs => exact ⟨1, by simp [GoodK, hs]⟩
  | fac hs ho hinj _ ih =>
    obtain ⟨K, hK⟩ := goodK_bound _ ih
    exact ⟨K + 1, by simp only [GoodK, hs]; exact ⟨ho, hinj, hK⟩⟩

/-- The last hypothesis is the idea: nothing of rank `≤ k` is under construction, so no request the derivation of `n`
makes is answered `cyclic`.  Hence the induction on the rank and not on `Good`: it has to bound the stack as well. -/
theorem cmp {s0 : St} : ∀ (k fuel : Nat) (s : St) (n : Name), Rel s0 s → FuelOK fuel s → GoodK s0 k n →
    (∀ c, c ∈ s.callstack → ¬ GoodK s0 k c) → ∃ i, (get fuel s n).2 = .inst i := by
  intro k
  induction k with
  | zero => intro _ _ _ _ _ h; cases h
  | succ k ih =>
    intro fuel s n hrel hfuel hgood hstack
    by_cases hk : GoodK s0 k n
    · exact ih fuel s n hrel hfuel hk (fun c hc h => hstack c hc (GoodK.succ _ _ h))
    · cases fuel with
      | zero => exact absurd hfuel.pos (Nat.lt_irrefl 0)
      | succ fuel =>
        have hnc : n ∉ s.callstack := fun hc => hstack n hc hgood
        rw [get_succ, block_of_blocked hrel.blocked, if_neg hnc]
        cases hs : source s n with
        | none =>
          have hn : s.instances n = none := by
            cases hi : s.instances n with
            | none => rfl
            | some j => rw [source_of_inst hi] at hs; cases hs
          simp [GoodK, ← hrel.source_eq hn, hs] at hgood
        | some src =>
          cases src with
          | inst j => exact ⟨j, rfl⟩
          | fac f =>
            obtain ⟨hn, hm⟩ := source_fac hs
            have hfac : f.out = .ok ∧ (∀ d, d ∈ f.deps → d.injectOK s0) ∧
                ∀ d m, d ∈ f.deps → d.eff = some (m, false) → GoodK s0 k m := by
              simpa only [GoodK, ← hrel.source_eq hn, hs] using hgood
            suffices hrun : (runDeps (get fuel) (push s n) f.deps).2 = none by
              show ∃ i, (construct _ s n f _).2 = _
              rw [construct_eq]
              simp only [if_pos (And.intro hrun hfac.1)]
              exact ⟨_, rfl⟩
            refine runDeps_complete (P := fun x => Rel s0 x ∧ FuelOK fuel x ∧ x.callstack = s.callstack ++ [n])
              (fun _ hx => ⟨hx.1, hx.2.1⟩) (fun x m ⟨x1, x2, x3⟩ =>
                ⟨get_rel fuel x m x1 x2, get_fuelOK m x2, by rw [(get_step fuel x m x2).callstack, x3]⟩) f.deps _
              ⟨hrel.push hn, hfuel.push hrel.blocked hnc (hfuel.merged_keys hm), rfl⟩ hfac.2.1 ?_
            intro x d m ⟨x1, x2, x3⟩ hd hm
            refine ih fuel x m x1 x2 (hfac.2.2 d m hd hm) ?_
            -- the stack stays free of rank `k`: `n` itself is not of rank `k` (`hk`), the older entries by `hstack`
            intro c hc
            rw [x3] at hc
            rcases List.mem_append.1 hc with hc | hc
            · exact fun h => hstack c hc (GoodK.succ _ _ h)
            · simp at hc; subst hc; exact hk

theorem rel_exec {s0 : St} : ∀ (ops : List Op) (s : St), Inv s → Rel s0 (block s) →
    ((∀ o, o ∈ ops → o.isDef = false) ∨ s.blocked = true) → Rel s0 (block (exec s ops)) := by
  intro ops
  induction ops with
  | nil => intro s _ h _; exact h
  | cons o rest ih =>
    intro s hinv hrel hcond
    have hcond' : (∀ o', o' ∈ rest → o'.isDef = false) ∨ (step s o).1.blocked = true := by
      rcases hcond with hc | hc
      · exact Or.inl (fun o' ho' => hc o' (List.mem_cons_of_mem _ ho'))
      · exact Or.inr ((step_inv_grow hinv o).2.blocked_mono hc)
    refine ih _ (inv_step hinv o) ?_ hcond'
    have hget : ∀ x m, Rel s0 (block x) ∧ FuelOK (fuelFor s) x →
        Rel s0 (block (get (fuelFor s) x m).1) ∧ FuelOK (fuelFor s) (get (fuelFor s) x m).1 := by
      intro x m ⟨hx, hf⟩
      have := get_rel (fuelFor s) (block x) m hx hf.block
      rw [get_block] at this
      exact ⟨by rwa [block_of_blocked this.blocked], get_fuelOK m hf⟩
    by_cases hdef : o.isDef = true
    · rcases hcond with hc | hc
      · rw [hc o (List.mem_cons_self ..)] at hdef; cases hdef
      · rw [step_def_blocked hc hdef]; exact hrel
    · cases o with
      | get m => exact (hget s m ⟨hrel, hinv.fuelOK⟩).1
      | injectTo fs =>
        show Rel s0 (block (InjectTo s fs).1)
        rw [InjectTo_fst]
        exact ((injectFields_calls (get (fuelFor s)) fs s).inv
          (P := fun x => Rel s0 (block x) ∧ FuelOK (fuelFor s) x) hget ⟨hrel, hinv.fuelOK⟩).1
      | keys => exact hrel
      | injectBad => exact hrel
      | _ => simp [Op.isDef] at hdef

theorem Get_iff_good {s0 s : St} (hinv : Inv s) (hrel : Rel s0 (block s)) (n : Name) :
    (Get s n).2.isInst = true ↔ Good s0 n := by
  have hf : FuelOK (fuelFor s) (block s) := hinv.fuelOK.block
  have hr : Rel s0 (Get s n).1 := by
    have := get_rel (fuelFor s) (block s) n hrel hf
    rwa [get_block] at this
  constructor
  · intro h
    cases hres : (Get s n).2 with
    | err e => rw [hres] at h; cases h
    | inst i => exact hr.sound n i (get_inst hres)
  · intro h
    obtain ⟨k, hk⟩ := h.rank
    obtain ⟨i, hi⟩ := cmp k (fuelFor s) (block s) n hrel hf hk
      (by intro c hc; simp [hinv.stack] at hc)
    rw [get_block] at hi
    unfold Get
    rw [hi]; rfl

theorem not_good_of_closed {s0 : St} {cyc : List Name}
    (hc : ∀ c, c ∈ cyc → ∃ f d m, source s0 c = some (.fac f) ∧ d ∈ f.deps ∧ d.eff = some (m, false) ∧ m ∈ cyc)
    {n : Name} (h : Good s0 n) : n ∉ cyc := by
  induction h with
  | inst hs =>
    intro hn
    obtain ⟨f, d, m, hf, _⟩ := hc _ hn
    rw [hs] at hf; cases hf
  | fac hs _ _ _ ih =>
    intro hn
    obtain ⟨f, d, m, hf, hd, ho, hm⟩ := hc _ hn
    rw [hs] at hf
    injection hf with hf
    injection hf with hf
    subst hf
    exact ih d m hd ho hm

end Goat.DI
