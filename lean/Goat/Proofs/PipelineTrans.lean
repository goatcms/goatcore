/-
For properties C14/C16: the transitions of the pipeline model as a relation.  `step` is a nest of matches and
conditionals; `Trans g s l s'` lists its branches, each with its conditions and the state it leads to
(`Trans.of_step`).  Whatever holds of every transition is proved by cases on `Trans`; read off `step` itself are
only that a step CAN be taken (`PipelineLive`) and that a thread that is not live takes none
(`enabled_mem_labels`, `latch_step`).
-/
import Goat.Proofs.Pipeline

namespace Goat.Pipeline

/-- `acc`: the manager accepts the submission. -/
inductive Trans (g : Graph) (s : St) : Label → St → Prop
  | waitsDone {t k : Nat} (hpc : s.pc t = .waiting k) (hk : (g.waits t)[k]? = none) :
      Trans g s (.task t) { s with pc := upd s.pc t (.run 0) }
  -- an entry of the wait list finished with an error: the task fails without running its body
  | waitFailed {t k w : Nat} (hpc : s.pc t = .waiting k) (hk : (g.waits t)[k]? = some w) (hwf : s.pc w = .finished)
      (hwc : s.cerr (g.ctx w) = true) :
      Trans g s (.task t) { s with pc := upd s.pc t (.closing false), cerr := upd s.cerr (g.ctx t) true }
  | waitNext {t k w : Nat} (hpc : s.pc t = .waiting k) (hk : (g.waits t)[k]? = some w) (hwf : s.pc w = .finished)
      (hwc : s.cerr (g.ctx w) = false) :
      Trans g s (.task t) { s with pc := upd s.pc t (.waiting (k + 1)) }
  | enter {t i : Nat} (hpc : s.pc t = .run i) (hi : i < (g.body t).length) :
      Trans g s (.task t) (emit { s with pc := upd s.pc t (.inCmd i) } (.cmd t i))
  | endOfScript {t i : Nat} (hpc : s.pc t = .run i) (hi : ¬ i < (g.body t).length) :
      Trans g s (.task t) { s with pc := upd s.pc t (.closing true) }
  | retNil {t i : Nat} (hpc : s.pc t = .inCmd i) (hcmd : g.cmdAt t i = some .probe ∨ g.cmdAt t i = some .stop) :
      Trans g s (.task t) (emit { s with pc := upd s.pc t (.afterCmd i) } (.ret t i true))
  -- a failing command returns its error; RunLoop records it and returns
  | retErr {t i : Nat} (hpc : s.pc t = .inCmd i) (hcmd : g.cmdAt t i = some .fail) :
      Trans g s (.task t)
        (emit { s with pc := upd s.pc t (.closing false), cerr := upd s.cerr (g.ctx t) true } (.ret t i false))
  -- `pip:run` / `pip:try` from a body: the submission of the task (the body task) is accepted or refused; an accepted
  -- `pip:try` starts the try goroutine.  The try block exists only in the `try_` case of `Submits`, hence `tg'`
  -- pointwise.  `hcan` leaves a refusal unconstrained: a `pip:try` is also refused when the owner's context is done,
  -- and nothing asks why a command's submission was refused (for a handler it matters: `handler` has the equation).
  | submit {t i c : Nat} (hpc : s.pc t = .inCmd i) (hch : Submits g t i c) (acc : Bool)
      (hcan : acc = true → canCreate g s c = true) {tg' : Nat → TG}
      (htg' : ∀ z, tg' z = if g.cmdAt t i = some (.try_ z) ∧ acc = true then .waitBody else s.tg z) :
      Trans g s (.task t)
        (emit { s with pc := upd (upd s.pc c (if acc then .waiting 0 else .rejected)) t
                         (if acc then .afterCmd i else .closing false),
                       cerr := if acc then s.cerr else upd s.cerr (g.ctx t) true, tg := tg' } (.ret t i acc))
  -- the command scope's Close reports the context's error: RunLoop records it and returns
  | leaveErr {t i : Nat} {c : Cmd} (hpc : s.pc t = .afterCmd i) (hcmd : g.cmdAt t i = some c)
      (hg : cmdChildrenFinished g s c = true) (hce : s.cerr (g.ctx t) = true) :
      Trans g s (.task t) { s with pc := upd s.pc t (.closing false) }
  | leaveOk {t i : Nat} {c : Cmd} (hpc : s.pc t = .afterCmd i) (hcmd : g.cmdAt t i = some c)
      (hg : cmdChildrenFinished g s c = true) (hce : s.cerr (g.ctx t) = false) :
      Trans g s (.task t) { s with pc := upd s.pc t (.run (i + 1)) }
  -- the deferred closes run: `done` event, latch released, task scope closed
  | close {t : Nat} {f : Bool} (hpc : s.pc t = .closing f) :
      Trans g s (.task t) (emit { s with pc := upd s.pc t .finished } (.done t (!s.cerr (g.ctx t))))
  -- RunLoop takes the `<-Done()` branch
  | stop {t i : Nat} (hpc : s.pc t = .run i) (hc : (s.cerr (g.ctx t) || selfStopped g t i) = true) :
      Trans g s (.stop t) { s with pc := upd s.pc t (.closing false) }
  -- `separatedScope.Wait()` returned
  | bodyClosed {y : Nat} (htg : s.tg y = .waitBody) (hb : s.pc (g.tryd y).body = .finished) :
      Trans g s (.tryg y)
        { s with tg := upd s.tg y (.subFin (decide (Ev.done (g.tryd y).body true ∈ s.tr))) }
  -- one `Runner.Run` of the handler of kind `k`: accepted, or refused (and the try goroutine stops) …
  | handler {y h : Nat} (k : HKind) {v : Bool} (htg : s.tg y = k.cur v) (hh : k.get (g.tryd y) = some h)
      (hrun : k.run v = true) (acc : Bool) (hcan : canCreate g s h = acc) :
      Trans g s (.tryg y)
        (emit { s with pc := upd s.pc h (if acc then .waiting 0 else .rejected),
                       cerr := if acc then s.cerr else upd s.cerr (g.ctx (g.tryd y).owner) true,
                       tg := upd s.tg y (if acc then k.next v else .done) } (if acc then .hacc h else .hrej h))
  -- … or its omission: there is no such handler, or the body closed the other way
  | noHandler {y : Nat} (k : HKind) {v : Bool} (htg : s.tg y = k.cur v)
      (hno : ∀ h, k.get (g.tryd y) = some h → k.run v = true → False) :
      Trans g s (.tryg y) { s with tg := upd s.tg y (k.next v) }
  | announce {j t : Nat} (hmp : s.mp = .sub j) (htop : g.top[j]? = some t) :
      Trans g s .main (emit { s with mp := .create j } (.sub t))
  | noMore {j : Nat} (hmp : s.mp = .sub j) (htop : g.top[j]? = none) : Trans g s .main { s with mp := .wait }
  -- `Runner.Run` for a top-level task
  | create {j t : Nat} (hmp : s.mp = .create j) (htop : g.top[j]? = some t) (acc : Bool)
      (hcan : acc = true → canCreate g s t = true) :
      Trans g s .main
        (emit { s with mp := .sub (j + 1), pc := upd s.pc t (if acc then .waiting 0 else .rejected) }
          (if acc then .acc t else .rej t))
  -- `TasksManager.Wait` returns
  | waitReturns (hmp : s.mp = .wait) (hall : allFinished g s = true) :
      Trans g s .main (emit { s with mp := .fins 0 } (.mwait (tableOk g s)))
  -- the report on the table, task by task, then on the root scope
  | report {t : Nat} (hmp : s.mp = .fins t) (ht : t < g.n) (ha : (s.pc t).accepted = true) :
      Trans g s .main (emit { s with mp := .fins (t + 1) } (.fin t (!s.cerr (g.ctx t))))
  | skip {t : Nat} (hmp : s.mp = .fins t) (ht : t < g.n) (ha : (s.pc t).accepted = false) :
      Trans g s .main { s with mp := .fins (t + 1) }
  | root {t : Nat} (hmp : s.mp = .fins t) (ht : ¬ t < g.n) :
      Trans g s .main (emit { s with mp := .finished } (.root (!s.cerr 0)))

theorem Trans.of_submitHandler {g : Graph} {s : St} {y : Nat} (k : HKind) {v : Bool} (htg : s.tg y = k.cur v) :
    Trans g s (.tryg y) (submitHandler g s y (k.get (g.tryd y)) (k.run v) (k.next v)) := by
  unfold submitHandler
  split
  · rename_i h hh hrun
    split
    · rename_i hcan; exact .handler k htg hh hrun true hcan
    · rename_i hcan; exact .handler k htg hh hrun false (by simpa using hcan)
  · rename_i hno; exact .noHandler k htg hno

theorem Trans.of_step {g : Graph} {s s' : St} {l : Label} (h : step g s l = some s') : Trans g s l s' := by
  cases l with
  | main =>
    simp only [step] at h
    unfold stepMain at h
    split at h
    · rename_i j hmp
      split at h
      · rename_i t htop; cases h; exact .announce hmp htop
      · rename_i htop; cases h; exact .noMore hmp htop
    · rename_i j hmp
      split at h
      · rename_i t htop
        split at h
        · rename_i hcan; cases h; exact .create hmp htop true fun _ => hcan
        · cases h; exact .create hmp htop false nofun
      · cases h
    · rename_i hmp
      split at h
      · rename_i hall; cases h; exact .waitReturns hmp hall
      · cases h
    · rename_i t hmp
      split at h
      · rename_i ht
        split at h
        · rename_i ha; cases h; exact .report hmp ht ha
        · rename_i ha; cases h; exact .skip hmp ht (by simpa using ha)
      · rename_i ht; cases h; exact .root hmp ht
    · cases h
  | task t =>
    simp only [step] at h
    unfold stepTask at h
    split at h
    · rename_i k hpc
      split at h
      · rename_i hk; cases h; exact .waitsDone hpc hk
      · rename_i w hk
        split at h
        · rename_i hwf
          split at h
          · rename_i hwc; cases h; exact .waitFailed hpc hk (by simpa using hwf) hwc
          · rename_i hwc; cases h; exact .waitNext hpc hk (by simpa using hwf) (by simpa using hwc)
        · cases h
    · rename_i i hpc
      split at h
      · rename_i hi; cases h; exact .enter hpc hi
      · rename_i hi; cases h; exact .endOfScript hpc hi
    · rename_i i hpc
      split at h
      · cases h
      · rename_i hcmd; cases h; exact .retNil hpc (Or.inl hcmd)
      · rename_i hcmd; cases h; exact .retNil hpc (Or.inr hcmd)
      · rename_i hcmd; cases h; exact .retErr hpc hcmd
      · rename_i c hcmd
        split at h
        · rename_i hcan; cases h; exact .submit hpc (Or.inl hcmd) true (fun _ => hcan) (tg' := s.tg) (by simp [hcmd])
        · cases h; exact .submit hpc (Or.inl hcmd) false nofun (tg' := s.tg) (by simp)
      · rename_i y hcmd
        split at h
        · rename_i hcan; cases h
          exact .submit hpc (Or.inr ⟨y, hcmd, rfl⟩) true (fun _ => (Bool.and_eq_true_iff.mp hcan).2)
            (by simp [hcmd, upd_apply, eq_comm])
        · cases h; exact .submit hpc (Or.inr ⟨y, hcmd, rfl⟩) false nofun (tg' := s.tg) (by simp)
    · rename_i i hpc
      split at h
      · cases h
      · rename_i c hcmd
        split at h
        · rename_i hg
          split at h
          · rename_i hce; cases h; exact .leaveErr hpc hcmd hg hce
          · rename_i hce; cases h; exact .leaveOk hpc hcmd hg (by simpa using hce)
        · cases h
    · rename_i f hpc; cases h; exact .close hpc
    · cases h
  | stop t =>
    simp only [step] at h
    unfold stepStop at h
    split at h
    · rename_i i hpc
      split at h
      · rename_i hc; cases h; exact .stop hpc hc
      · cases h
    · cases h
  | tryg y =>
    simp only [step] at h
    unfold stepTry at h
    split at h
    · rename_i htg
      split at h
      · rename_i hb; cases h; exact .bodyClosed htg (by simpa using hb)
      · cases h
    · rename_i v htg; cases h; exact .of_submitHandler .fin htg
    · rename_i v htg; cases h; exact .of_submitHandler .fail htg
    · rename_i v htg; cases h; exact .of_submitHandler .succ htg
    · cases h

/-- the selected handler is submitted after `finally` has been accepted (the clause of `TraceOrd`,
`PipelineTry`) -/
def ordOk (g : Graph) (pre : List Ev) : Ev → Prop
  | .hacc h => ∀ y f, (g.role h = .hfail y ∨ g.role h = .hsucc y) → (g.tryd y).fin = some f → Ev.hacc f ∈ pre
  | .hrej h => (∀ y f, (g.role h = .hfail y ∨ g.role h = .hsucc y) → (g.tryd y).fin = some f → Ev.hacc f ∈ pre) ∧
      causeFor g pre h       -- a submission is refused only because the handler's scope or the root scope is done
  | _ => True

/-- at most one event; only the main thread logs one the report clauses (`Ok2`) speak of, only a try
goroutine one the order clause (`ordOk`) speaks of -/
theorem step_shape {g : Graph} {s s' : St} {l : Label} (hs : step g s l = some s') :
    (s'.tr = s.tr ∨ ∃ e, s'.tr = s.tr ++ [e] ∧ (l ≠ .main → ∀ pre, Ok2 g pre e) ∧
      ((∀ y, l ≠ .tryg y) → ∀ pre, ordOk g pre e) ∧ ∀ t, e ≠ .stall t) ∧
    (l ≠ .main → s'.mp = s.mp) ∧
    ((∀ y, l ≠ .tryg y) → ∀ z, s'.tg z = s.tg z ∨ s'.tg z = .waitBody) := by
  cases Trans.of_step hs with
  | handler _ _ _ _ acc =>
    cases acc <;> exact ⟨Or.inr ⟨_, rfl, fun _ _ => True.intro, fun h => absurd rfl (h _), nofun⟩, fun _ => rfl,
      fun h => absurd rfl (h _)⟩
  | noHandler | bodyClosed => exact ⟨Or.inl rfl, fun _ => rfl, fun h => absurd rfl (h _)⟩
  | submit hpc hch acc hcan htg' =>
    rename_i t i c tg'
    refine ⟨Or.inr ⟨_, rfl, fun _ _ => True.intro, fun _ _ => True.intro, nofun⟩, fun _ => rfl, fun _ z => ?_⟩
    show tg' z = _ ∨ tg' z = _
    rw [htg']; split
    · exact Or.inr rfl
    · exact Or.inl rfl
  | create _ _ acc =>
    cases acc <;> exact ⟨Or.inr ⟨_, rfl, fun h => absurd rfl h, fun _ _ => True.intro, nofun⟩, fun h => absurd rfl h,
      fun _ _ => Or.inl rfl⟩
  | announce | waitReturns | report | root =>
    exact ⟨Or.inr ⟨_, rfl, fun h => absurd rfl h, fun _ _ => True.intro, nofun⟩, fun h => absurd rfl h,
      fun _ _ => Or.inl rfl⟩
  | noMore | skip => exact ⟨Or.inl rfl, fun h => absurd rfl h, fun _ _ => Or.inl rfl⟩
  | enter | retNil | retErr | close =>
    exact ⟨Or.inr ⟨_, rfl, fun _ _ => True.intro, fun _ _ => True.intro, nofun⟩, fun _ => rfl, fun _ _ => Or.inl rfl⟩
  | _ => exact ⟨Or.inl rfl, fun _ => rfl, fun _ _ => Or.inl rfl⟩

theorem step_tr {g : Graph} {s s' : St} {l : Label} (hs : step g s l = some s') :
    s'.tr = s.tr ∨ ∃ e, s'.tr = s.tr ++ [e] :=
  (step_shape hs).1.imp id fun ⟨e, h, _⟩ => ⟨e, h⟩

theorem step_plain {g : Graph} {s s' : St} {l : Label} (hl : l ≠ .main) (hs : step g s l = some s') :
    (s'.tr = s.tr ∨ ∃ e, s'.tr = s.tr ++ [e] ∧ ∀ pre, Ok2 g pre e) ∧ s'.mp = s.mp :=
  ⟨(step_shape hs).1.imp id fun ⟨e, h, hp, _⟩ => ⟨e, h, hp hl⟩, (step_shape hs).2.1 hl⟩

end Goat.Pipeline
