/-
The producer programs of `fsloop` send exactly the selected nodes and list exactly the accepted directories,
whatever the oracle (fresh producer or inline) decides.
-/
import Goat.Model.Loop

namespace Goat.Loop

@[simp] theorem sendsL_nil : sendsL [] = [] := by simp [sendsL]
@[simp] theorem sendsL_cons (a : PAct) (r : List PAct) : sendsL (a :: r) = a.sends ++ sendsL r := by
  simp [sendsL]
@[simp] theorem listsL_nil : listsL [] = [] := by simp [listsL]
@[simp] theorem listsL_cons (a : PAct) (r : List PAct) : listsL (a :: r) = a.lists ++ listsL r := by
  simp [listsL]

theorem sendsL_append (a b : List PAct) : sendsL (a ++ b) = sendsL a ++ sendsL b := by
  induction a with
  | nil => simp
  | cons x r ih => simp [ih]

theorem listsL_append (a b : List PAct) : listsL (a ++ b) = listsL a ++ listsL b := by
  induction a with
  | nil => simp
  | cons x r ih => simp [ih]

theorem sendsL_take_drop (k : Nat) (l : List PAct) : sendsL (l.take k) ++ sendsL (l.drop k) = sendsL l := by
  rw [← sendsL_append, List.take_append_drop]

theorem listsL_take_drop (k : Nat) (l : List PAct) : listsL (l.take k) ++ listsL (l.drop k) = listsL l := by
  rw [← listsL_append, List.take_append_drop]

@[simp] theorem sends_send (d : Bool) (p : Path) : (PAct.send d p).sends = [(d, p)] := by simp [PAct.sends]
@[simp] theorem sends_spawn (p : Path) (b : List PAct) : (PAct.spawn p b).sends = sendsL b := by simp [PAct.sends]
@[simp] theorem sends_list (p : Path) (a b : Bool) (k : Nat) : (PAct.list p a b k).sends = [] := by simp [PAct.sends]
@[simp] theorem sends_filtD (p : Path) (a : Bool) : (PAct.filtD p a).sends = [] := by simp [PAct.sends]
@[simp] theorem sends_filtF (p : Path) (a : Bool) : (PAct.filtF p a).sends = [] := by simp [PAct.sends]
@[simp] theorem sends_add (p : Path) : (PAct.add p).sends = [] := by simp [PAct.sends]
@[simp] theorem sends_chk (k : Nat) : (PAct.chk k).sends = [] := by simp [PAct.sends]

@[simp] theorem lists_send (d : Bool) (p : Path) : (PAct.send d p).lists = [] := by simp [PAct.lists]
@[simp] theorem lists_spawn (p : Path) (b : List PAct) : (PAct.spawn p b).lists = listsL b := by simp [PAct.lists]
@[simp] theorem lists_list (p : Path) (a b : Bool) (k : Nat) : (PAct.list p a b k).lists = [(p, b)] := by simp [PAct.lists]
@[simp] theorem lists_filtD (p : Path) (a : Bool) : (PAct.filtD p a).lists = [] := by simp [PAct.lists]
@[simp] theorem lists_filtF (p : Path) (a : Bool) : (PAct.filtF p a).lists = [] := by simp [PAct.lists]
@[simp] theorem lists_add (p : Path) : (PAct.add p).lists = [] := by simp [PAct.lists]
@[simp] theorem lists_chk (k : Nat) : (PAct.chk k).lists = [] := by simp [PAct.lists]

mutual
theorem walkNode_spec (c : WalkCfg) (oracle : Path → Bool) (p : Path) (after : Nat) :
    (n : Node) → sendsL (walkNode c oracle p after n) = selNode c p n
      ∧ listsL (walkNode c oracle p after n) = lstNode c p n
  | .file => by
    unfold walkNode selNode lstNode WalkCfg.accF
    cases c.onFile <;> cases c.fileFilter <;> simp
    split <;> simp
  | .dir l k => by
    have ih := walkKids_spec c oracle (p ++ "/") k
    unfold walkNode selNode lstNode
    cases c.accD p
    · cases c.dirFilter <;> simp
    · cases oracle p <;> cases c.dirFilter <;>
        simp [sendsL_append, listsL_append, apply_ite sendsL, apply_ite listsL, ih]
theorem walkKids_spec (c : WalkCfg) (oracle : Path → Bool) (base : Path) :
    (k : Kids) → sendsL (walkKids c oracle base k) = selKids c base k
      ∧ listsL (walkKids c oracle base k) = lstKids c base k
  | .nil => by simp [walkKids, selKids, lstKids]
  | .cons name n rest => by
    unfold walkKids selKids lstKids
    cases skipName name <;>
      simp [sendsL_append, listsL_append, walkNode_spec, walkKids_spec c oracle base rest]
end

theorem walkNode_sends_count (c : WalkCfg) (oracle : Path → Bool) (x : Item) (p : Path) (after : Nat) :
    (n : Node) → (sendsL (walkNode c oracle p after n)).count x = (selNode c p n).count x :=
  fun n => by rw [(walkNode_spec c oracle p after n).1]

theorem walkNode_lists_count (c : WalkCfg) (oracle : Path → Bool) (x : Path × Bool) (p : Path) (after : Nat) :
    (n : Node) → (listsL (walkNode c oracle p after n)).count x = (lstNode c p n).count x :=
  fun n => by rw [(walkNode_spec c oracle p after n).2]

theorem rootProg_sends (c : WalkCfg) (oracle : Path → Bool) (root : Path) (l : Bool) (k : Kids) :
    sendsL (rootProg c oracle root l k) = selected c root l k := by
  unfold rootProg selected
  cases l <;> simp [(walkKids_spec c oracle root k).1]

theorem rootProg_lists (c : WalkCfg) (oracle : Path → Bool) (root : Path) (l : Bool) (k : Kids) :
    listsL (rootProg c oracle root l k) = listed c root l k := by
  unfold rootProg listed
  cases l <;> simp [(walkKids_spec c oracle root k).2]

end Goat.Loop
