/-
Lock layer: the invariant of the lock table.  For the ideal lock: sorted request lists and row-level exclusion
(`Excl`); for Go's lock: `PInv`, which adds that the writer side of a lock has one owner and that a parked reader is
parked behind one.  `LInv v` is the one or the other; it is also kept when an entry is replaced by one with the same
observable content (`ObsEq` — what the tasks layer does when a task calls `Lock`).
-/
import Goat.Proofs.MutexStep

namespace Goat.MutexTasks

open Goat.Mutex

/-- `g'` requests, holds, owns and is parked on exactly what `g` does -/
structure ObsEq (g g' : Holder) : Prop where
  req : g'.req = g.req
  held : g'.held = g.held
  present : ∀ m, g'.present m = g.present m
  rwait : ∀ m, g'.rwaitOn m = g.rwaitOn m

theorem obsEq_refl (g : Holder) : ObsEq g g := ⟨rfl, rfl, fun _ => rfl, fun _ => rfl⟩

theorem obsEq_fresh {h : Holder} (hd : h.pc = .done) : ObsEq h { h with pc := .acq 0 .idle } := by
  refine ⟨rfl, ?_, fun m => ?_, fun m => ?_⟩ <;>
    simp [Holder.present, Holder.announcedOn, Holder.rwaitOn, Holder.held, hd]

end Goat.MutexTasks

namespace Goat.Mutex

open Goat.LTS Goat.MutexTasks

theorem sorted_iff_reqs {s : State} : (∀ h ∈ s, Sorted h.req) ↔ ∀ r ∈ reqsOf s, Sorted r := by
  simp [reqsOf]

theorem sorted_of_reqsOf_eq {s t : State} (e : reqsOf t = reqsOf s) (h : ∀ g ∈ s, Sorted g.req) :
    ∀ g ∈ t, Sorted g.req :=
  sorted_iff_reqs.mpr (e ▸ sorted_iff_reqs.mp h)

/-- lock-level exclusion: a row held for writing excludes every row of the same name held by
another holder -/
def Excl (s : State) : Prop :=
  ∀ (i j : Nat) (hi hj : Holder), i ≠ j → s[i]? = some hi → s[j]? = some hj →
    ∀ (m : Name) (w : Bool), (m, true) ∈ hi.held → (m, w) ∉ hj.held

structure PInv (s : State) : Prop where
  /-- request lists are sorted by name (this is what `SharedMutex.Lock`'s sort provides) -/
  sorted : ∀ h ∈ s, Sorted h.req
  /-- a parked reader is parked behind a writer that owns the writer side -/
  parked : ∀ (j : Nat) (g : Holder) (m : Name), s[j]? = some g → g.rwaitOn m = true → writerPresent s m = true
  /-- the writer side of a lock has at most one owner (Go: the internal mutex `w`) -/
  oneWriter : ∀ (i j : Nat) (hi hj : Holder) (m : Name), i ≠ j → s[i]? = some hi → s[j]? = some hj →
    hi.present m = true → hj.present m = false
  /-- a write-held lock has no reader inside -/
  noReader : ∀ (i j : Nat) (hi hj : Holder) (m : Name), i ≠ j → s[i]? = some hi → s[j]? = some hj →
    (m, true) ∈ hi.held → (m, false) ∉ hj.held

theorem excl_of_pinv {s : State} (hinv : PInv s) : Excl s := by
  intro i j hi hj hne h1 h2 m w hm hw
  cases w with
  | false => exact hinv.noReader i j hi hj m hne h1 h2 hm hw
  | true => simpa [present_of_held hw] using hinv.oneWriter i j hi hj m hne h1 h2 (present_of_held hm)

def LInv : Variant → State → Prop
  | .plain, s => (∀ h ∈ s, Sorted h.req) ∧ Excl s
  | .pref, s => PInv s

theorem LInv.sorted {v : Variant} {s : State} (h : LInv v s) : ∀ g ∈ s, Sorted g.req := by
  cases v with
  | plain => exact h.1
  | pref => exact PInv.sorted h

theorem LInv.excl {v : Variant} {s : State} (h : LInv v s) : Excl s := by
  cases v with
  | plain => exact h.2
  | pref => exact excl_of_pinv h

theorem excl_inside {s : State} (hx : Excl s) {i j : Nat} {hi hj : Holder} (hne : i ≠ j)
    (h1 : s[i]? = some hi) (h2 : s[j]? = some hj) (in1 : hi.pc = .inside) (in2 : hj.pc = .inside)
    {m : Name} {w1 w2 : Bool} (r1 : (m, w1) ∈ hi.req) (r2 : (m, w2) ∈ hj.req) :
    w1 = false ∧ w2 = false := by
  rw [← held_inside in1] at r1
  rw [← held_inside in2] at r2
  cases w1 <;> cases w2 <;> simp
  · -- `i` reads, `j` writes
    exact hx j i hj hi (Ne.symm hne) h2 h1 m _ r2 r1
  all_goals exact hx i j hi hj hne h1 h2 m _ r1 r2

/-- a table in which nobody has acquired, announced or registered anything: the initial state, and the
tasks layer's table as long as no task has called `Lock` -/
theorem linv_quiet {v : Variant} {s : State} (hs : ∀ h ∈ s, Sorted h.req)
    (hq : ∀ h ∈ s, h.pc = .done ∨ h.pc = .acq 0 .idle) : LInv v s := by
  have q : ∀ (j : Nat) (g : Holder), s[j]? = some g →
      g.held = [] ∧ ∀ m, g.present m = false ∧ g.rwaitOn m = false := by
    intro j g hg
    rcases hq g (List.mem_of_getElem? hg) with e | e <;>
      simp [Holder.held, Holder.present, Holder.announcedOn, Holder.rwaitOn, e]
  have hx : Excl s := fun a _ ga _ _ h1 _ m w hw => by simp [(q a ga h1).1] at hw
  cases v with
  | plain => exact ⟨hs, hx⟩
  | pref =>
    exact {
      sorted := hs
      parked := fun j g m hj hr => by simp [((q j g hj).2 m).2] at hr
      oneWriter := fun a _ ga _ m _ h1 _ hp => by simp [((q a ga h1).2 m).1] at hp
      noReader := fun a b ga gb m hne h1 h2 hw => hx a b ga gb hne h1 h2 m false hw }

theorem linv_initRaw {v : Variant} {reqs : List (List Row)} (hs : ∀ r ∈ reqs, Sorted r) :
    LInv v (initRaw reqs) :=
  linv_quiet (sorted_iff_reqs.mpr (by rwa [reqsOf_initRaw])) (by simp [initRaw])

theorem set_obs {s : State} {i : Nat} {h h' : Holder} (hi : s[i]? = some h) (ho : ObsEq h h')
    {j : Nat} {g' : Holder} (hj : (s.set i h')[j]? = some g') : ∃ g, s[j]? = some g ∧ ObsEq g g' := by
  rcases getElem?_set_cases hj with ⟨rfl, rfl⟩ | ⟨_, hj⟩
  · exact ⟨h, hi, ho⟩
  · exact ⟨g', hj, obsEq_refl _⟩

theorem writerPresent_set {s : State} {i : Nat} {h h' : Holder} (hi : s[i]? = some h) (ho : ObsEq h h')
    (m : Name) : writerPresent (s.set i h') m = writerPresent s m := by
  have e : (s.set i h').map (·.present m) = s.map (·.present m) := by
    apply List.ext_getElem?
    intro j
    simp only [List.getElem?_map, getElem?_set_of hi]
    by_cases hj : i = j
    · subst hj; simp [hi, ho.present]
    · simp [hj]
  have := congrArg (List.any · id) e
  rw [List.any_map, List.any_map] at this
  exact this

theorem linv_set {v : Variant} {s : State} {i : Nat} {h h' : Holder} (hinv : LInv v s)
    (hi : s[i]? = some h) (ho : ObsEq h h') : LInv v (s.set i h') := by
  have hs : ∀ g ∈ s.set i h', Sorted g.req :=
    sorted_of_reqsOf_eq (reqsOf_set hi ho.req) hinv.sorted
  have hx : Excl (s.set i h') := by
    intro a b ga gb hne h1 h2 m w hw hr
    obtain ⟨g1, hg1, o1⟩ := set_obs hi ho h1
    obtain ⟨g2, hg2, o2⟩ := set_obs hi ho h2
    exact hinv.excl a b g1 g2 hne hg1 hg2 m w (o1.held ▸ hw) (o2.held ▸ hr)
  cases v with
  | plain => exact ⟨hs, hx⟩
  | pref =>
    refine { sorted := hs, parked := ?_, oneWriter := ?_,
             noReader := fun a b ga gb m hne h1 h2 hw => hx a b ga gb hne h1 h2 m false hw }
    · intro j g' m hj hr
      obtain ⟨g, hg, o⟩ := set_obs hi ho hj
      rw [writerPresent_set hi ho]
      exact PInv.parked hinv j g m hg (o.rwait m ▸ hr)
    · intro a b ga gb m hne h1 h2 hp
      obtain ⟨g1, hg1, o1⟩ := set_obs hi ho h1
      obtain ⟨g2, hg2, o2⟩ := set_obs hi ho h2
      rw [o2.present]
      exact PInv.oneWriter hinv a b g1 g2 m hne hg1 hg2 (o1.present m ▸ hp)

theorem excl_step_plain {s t : State} {i0 : Nat} (hinv : Excl s) (hst : step .plain s i0 = some t) :
    Excl t := by
  obtain ⟨h, h', o, hi0, hp, hget⟩ := step_get hst
  obtain rfl := hstep_plain_none hp
  intro i j gi gj hne h1 h2 m w hm hw
  rcases step_get_cases hget h1 with ⟨ei, rfl⟩ | ⟨_, _, hg1, rfl⟩
  · rcases step_get_cases hget h2 with ⟨ej, _⟩ | ⟨_, _, hg2, rfl⟩
    · exact hne (ei.trans ej.symm)
    · -- the mover holds the write row: it held it before, or the lock admitted it while `gj` held `(m, w)`
      rcases hstep_held_new hp hm with hold | ⟨_, hg⟩
      · exact hinv i j h gj hne (ei ▸ hi0) hg2 m w hold hw
      · cases w
        · simp [Admits, readHeld_iff.mpr ⟨_, _, hg2, hw⟩] at hg
        · simp [Admits, writeHeld_iff.mpr ⟨_, _, hg2, hw⟩] at hg
  · rcases step_get_cases hget h2 with ⟨ej, rfl⟩ | ⟨_, _, hg2, rfl⟩
    · rcases hstep_held_new hp hw with hold | ⟨_, hg⟩
      · exact hinv i j gi h hne hg1 (ej ▸ hi0) m w hm hold
      · cases w <;> simp [Admits, writeHeld_iff.mpr ⟨_, _, hg1, hm⟩] at hg
    · exact hinv i j gi gj hne hg1 hg2 m w hm hw

theorem pinv_step {s t : State} {i0 : Nat} (hinv : PInv s) (hst : step .pref s i0 = some t) : PInv t := by
  obtain ⟨h, h', o, hi0, hp, hget⟩ := step_get hst
  have hsorted_h : Sorted h.req := hinv.sorted h (List.mem_of_getElem? hi0)
  have keep : ∀ (m : Name), writerPresent s m = true → o ≠ some m → writerPresent t m = true := by
    intro m hw ho
    obtain ⟨j0, g0, hj0, hp0⟩ := writerPresent_iff.mp hw
    by_cases e : j0 = i0
    · subst e
      rw [hi0] at hj0; cases hj0
      exact writerPresent_iff.mpr ⟨j0, h', by rw [hget j0]; simp, (hstep_present_keep hp hp0).resolve_right ho⟩
    · exact writerPresent_iff.mpr ⟨j0, wakeOpt o g0, by rw [hget j0]; simp [e, hj0],
        by rw [wakeOpt_present]; exact hp0⟩
  refine ⟨sorted_of_reqsOf_eq (step_reqs hst) hinv.sorted, ?_, ?_, ?_⟩
  · -- parked
    intro j g' m hj hr
    rcases step_get_cases hget hj with ⟨_, rfl⟩ | ⟨hne, g, hg, rfl⟩
    · obtain ⟨hw, ho⟩ := hstep_rwait hp hr
      exact keep m hw (by simp [ho])
    · obtain ⟨hr0, ho⟩ := wakeOpt_rwait hr
      exact keep m (hinv.parked j g m hg hr0) ho
  · -- oneWriter
    intro i j gi gj m hne h1 h2 hp1
    cases hp2 : gj.present m with
    | false => rfl
    | true =>
      exfalso
      rcases step_get_cases hget h1 with ⟨ei, rfl⟩ | ⟨nei, g1, hg1, rfl⟩
      · rcases step_get_cases hget h2 with ⟨ej, _⟩ | ⟨_, g2, hg2, rfl⟩
        · exact hne (ei.trans ej.symm)
        · rw [wakeOpt_present] at hp2
          rcases hstep_present hp hp1 with hq | hq
          · simpa [hp2] using hinv.oneWriter i j h g2 m hne (ei ▸ hi0) hg2 hq
          · simp [writerPresent_iff.mpr ⟨_, _, hg2, hp2⟩] at hq
      · rw [wakeOpt_present] at hp1
        rcases step_get_cases hget h2 with ⟨ej, rfl⟩ | ⟨_, g2, hg2, rfl⟩
        · rcases hstep_present hp hp2 with hq | hq
          · simpa [hq] using hinv.oneWriter i j g1 h m hne hg1 (ej ▸ hi0) hp1
          · simp [writerPresent_iff.mpr ⟨_, _, hg1, hp1⟩] at hq
        · rw [wakeOpt_present] at hp2
          simpa [hp2] using hinv.oneWriter i j g1 g2 m hne hg1 hg2 hp1
  · -- noReader
    intro i j gi gj m hne h1 h2 hw hr
    rcases step_get_cases hget h1 with ⟨ei, rfl⟩ | ⟨nei, g1, hg1, rfl⟩
    · -- the writer is the stepping holder
      rcases step_get_cases hget h2 with ⟨ej, _⟩ | ⟨nej, g2, hg2, rfl⟩
      · exact hne (ei.trans ej.symm)
      · rcases wakeOpt_held hr with hr0 | ⟨m0, ho, hrow, hrw⟩
        · rcases hstep_held_new hp hw with hq | ⟨_, hq⟩
          · exact hinv.noReader i j h g2 m hne (ei ▸ hi0) hg2 hq hr0
          · simp [Admits, readHeld_iff.mpr ⟨_, _, hg2, hr0⟩] at hq
        · -- a reader admitted by this very step: the mover released `(m, true)` and cannot still hold it
          obtain rfl : m = m0 := by simpa using hrow
          obtain ⟨u, hpc, hrowu, _, hpc'⟩ := hstep_wakes hp ho
          have : (m, true) ∈ h.req.drop (u + 1) := by
            simpa [Holder.held, hpc', hstep_req hp] using hw
          exact Nat.lt_irrefl _ (sorted_get_lt_drop hsorted_h hrowu this)
    · -- a wake-up only adds read rows: the write row was held by the pre-image
      have hw0 : (m, true) ∈ g1.held := by
        rcases wakeOpt_held hw with hw0 | ⟨m0, _, hrow, _⟩
        · exact hw0
        · simp at hrow
      rcases step_get_cases hget h2 with ⟨ej, rfl⟩ | ⟨nej, g2, hg2, rfl⟩
      · -- the reader is the stepping holder
        rcases hstep_held_new hp hr with hq | ⟨_, hq⟩
        · exact hinv.noReader i j g1 h m hne hg1 (ej ▸ hi0) hw0 hq
        · simp [Admits, writerPresent_iff.mpr ⟨_, _, hg1, present_of_held hw0⟩] at hq
      · rcases wakeOpt_held hr with hr0 | ⟨m0, ho, hrow, hrw⟩
        · exact hinv.noReader i j g1 g2 m hne hg1 hg2 hw0 hr0
        · -- a reader admitted by this step while a third holder write-holds `m`: two owners of the writer side
          obtain rfl : m = m0 := by simpa using hrow
          obtain ⟨u, _, _, hh, _⟩ := hstep_wakes hp ho
          simpa [present_of_held (hh ▸ List.mem_cons_self : (m, true) ∈ h.held)] using
            hinv.oneWriter i i0 g1 h m nei hg1 hi0 (present_of_held hw0)

theorem linv_step {v : Variant} {s t : State} {i : Nat} (h : LInv v s) (hst : step v s i = some t) :
    LInv v t := by
  cases v with
  | plain =>
    exact ⟨sorted_of_reqsOf_eq (step_reqs hst) h.1, excl_step_plain h.2 hst⟩
  | pref => exact pinv_step h hst

theorem linv_runRaw {v : Variant} {reqs : List (List Row)} (hs : ∀ r ∈ reqs, Sorted r) (sched : List Nat) :
    LInv v ((sysRaw v reqs).run sched) :=
  inv_run (sysRaw v reqs) (LInv v) (linv_initRaw hs) (fun _ _ _ hi hst => linv_step hi hst) sched

end Goat.Mutex
