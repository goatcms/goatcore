/-
C19, sequential part: the hypotheses of the statements and the cache invariant `Inv` of both providers: the cached
base and every cached layout is pristine (never executed) and holds what a fresh build gives; every cached view sits
under the key of one (layout, view) pair with an unambiguous layout name and holds what a fresh build of that pair
gives.  Each of `Base/Layout/View` of either provider preserves `Inv` and answers with the fresh build.  With caching
off no call touches the state, so the same lemmas give the uncached runs.
-/
import Goat.Proofs.Templates

namespace Goat.Tmpl

structure Inv (V : Variant) (src : Src) (s : St) : Prop where
  base : ∀ t, s.base = some t → t.executed = false ∧ specBase src = some t.defs
  layouts : ∀ n t, s.layouts n = some t → t.executed = false ∧ specLayout src n = some t.defs
  views : ∀ k t, s.views k = some t →
    ∃ l v, KeyP V l ∧ k = mkKey V l v ∧ specView src l v = some t.defs

theorem inv_init (V : Variant) (src : Src) : Inv V src St.init :=
  ⟨(by intro t h; cases h), (by intro n t h; cases h), (by intro k t h; cases h)⟩

/-- requests whose `exec` cannot touch a cached base/layout of the html provider -/
def ReqOK (V : Variant) (k : Kind) : Req → Prop
  | .view _ _ _ => True
  | .base e => k = Kind.text ∨ V.cloneOut = true ∨ e = false
  | .layout _ e => k = Kind.text ∨ V.cloneOut = true ∨ e = false

/-- requests whose view cache key is unambiguous -/
def KeyOK (V : Variant) : Req → Prop
  | .view l _ _ => KeyP V (normL l)
  | _ => True

/-- the request sequences the cache theorems speak about: neither defect class is entered -/
def Admissible (V : Variant) (k : Kind) (reqs : List Req) : Prop :=
  ∀ r ∈ reqs, ReqOK V k r ∧ KeyOK V r

/-- two requests for the same template (`exec` aside) -/
def sameTarget : Req → Req → Prop
  | .base _, .base _ => True
  | .layout l _, .layout l' _ => normL l = normL l'
  | .view l v _, .view l' v' _ => normL l = normL l' ∧ v = v'
  | _, _ => False

theorem specAns_sameTarget (src : Src) {a b : Req} (h : sameTarget a b) : specAns src a = specAns src b := by
  -- `h` excludes mixed constructors, base/base closes by unfolding; layout/layout and view/view remain
  cases a <;> cases b <;> simp only [sameTarget] at h <;> simp only [specAns]
  · rw [h]
  · rw [h.1, h.2]

theorem clone_pristine (k : Kind) (t : Tmpl) (h : t.executed = false) :
    clone k t = some { defs := t.defs, executed := false } := by
  simp [clone, h]

theorem clone_text (t : Tmpl) : clone Kind.text t = some { defs := t.defs, executed := false } := by
  simp [clone]

theorem handOut_pristine (V : Variant) (t : Tmpl) (r : Ref) (h : t.executed = false) :
    ∃ t' r', handOut V t r = some (t', r') ∧ t'.defs = t.defs ∧ t'.executed = false ∧
      (V.cloneOut = true → r' = Ref.fresh) := by
  unfold handOut
  cases V.cloneOut with
  | true => simp only [if_true, clone_pristine _ t h]; exact ⟨_, _, rfl, rfl, rfl, fun _ => rfl⟩
  | false => exact ⟨t, r, rfl, rfl, h, nofun⟩

section store
variable {V : Variant} {src : Src} {s : St} (h : Inv V src s)
include h

theorem inv_set_base (t : Tmpl) (hx : t.executed = false) (hs : specBase src = some t.defs) :
    Inv V src { s with base := some t } :=
  ⟨fun _ ht => by cases ht; exact ⟨hx, hs⟩, h.layouts, h.views⟩

theorem inv_set_layout (n : Name) (t : Tmpl) (hx : t.executed = false) (hs : specLayout src n = some t.defs) :
    Inv V src { s with layouts := fun m => if m = n then some t else s.layouts m } := by
  refine ⟨h.base, fun m t' ht => ?_, h.views⟩
  by_cases hm : m = n
  · simp only [if_pos hm] at ht; cases ht; exact hm ▸ ⟨hx, hs⟩
  · simp only [if_neg hm] at ht; exact h.layouts m t' ht

theorem inv_set_view (l v : Name) (t : Tmpl) (hk : KeyP V l) (hs : specView src l v = some t.defs) :
    Inv V src { s with views := fun m => if m = mkKey V l v then some t else s.views m } := by
  refine ⟨h.base, h.layouts, fun m t' ht => ?_⟩
  by_cases hm : m = mkKey V l v
  · simp only [if_pos hm] at ht; cases ht; exact ⟨l, v, hk, hm, hs⟩
  · simp only [if_neg hm] at ht; exact h.views m t' ht

/-- a cached view a caller has executed is still that view -/
theorem inv_markExec_view (k : Key) : Inv V src (markExec s (Ref.view k)) := by
  refine ⟨h.base, h.layouts, fun m t ht => ?_⟩
  simp only [markExec] at ht
  by_cases hm : m = k
  · rw [if_pos hm] at ht
    obtain ⟨t0, hs, rfl⟩ := Option.map_eq_some_iff.mp ht
    exact h.views m t0 hs
  · rw [if_neg hm] at ht; exact h.views m t ht

end store

/-- The key of a view request has to be unambiguous only when the view cache is written or holds something; the
uncached runs rely on that. -/
def KeyNeeded (c : Bool) (s : St) : Prop := c = true ∨ ∃ k, (s.views k).isSome

/-- what `htmlBase` and `htmlLayout` return -/
structure HOut (V : Variant) (src : Src) (spec : Option TSet) (out : Option (Tmpl × Ref) × St) : Prop where
  inv : Inv V src out.2
  ans : out.1.map (fun x => x.1.defs) = spec
  pristine : ∀ t r, out.1 = some (t, r) → t.executed = false
  fresh : ∀ t r, out.1 = some (t, r) → V.cloneOut = true → r = Ref.fresh

section html
variable {V : Variant} {src : Src} {spec : Option TSet} {s : St}

theorem HOut.of_none (inv : Inv V src s) (ans : spec = none) : HOut V src spec (none, s) :=
  ⟨inv, ans.symm, nofun, nofun⟩

theorem HOut.of_some {t : Tmpl} {r : Ref} (inv : Inv V src s) (ans : spec = some t.defs) (px : t.executed = false)
    (fr : V.cloneOut = true → r = Ref.fresh) : HOut V src spec (some (t, r), s) :=
  ⟨inv, ans.symm, fun _ _ e => by cases e; exact px, fun _ _ e => by cases e; exact fr⟩

theorem HOut.of_handOut {t : Tmpl} {r : Ref} (inv : Inv V src s) (px : t.executed = false) (ans : spec = some t.defs) :
    HOut V src spec (handOut V t r, s) := by
  obtain ⟨t', r', e, hd, hx, hf⟩ := handOut_pristine V t r px
  rw [e]
  exact .of_some inv (hd ▸ ans) hx hf

theorem htmlBase_ok (c : Bool) (h : Inv V src s) :
    HOut V src (specBase src) (htmlBase V src c s) ∧ (c = false → (htmlBase V src c s).2 = s) := by
  unfold htmlBase
  cases hb : s.base with
  | some t => exact ⟨.of_handOut h (h.base t hb).1 (h.base t hb).2, fun _ => rfl⟩
  | none =>
    dsimp only
    cases hh : src.helpers with
    | none => exact ⟨.of_some h (by simp [specBase, hh, Tmpl.new]) rfl (fun _ => rfl), fun _ => rfl⟩
    | some fs =>
      dsimp only
      have hs : specBase src = load TSet.empty fs := by simp [specBase, hh]
      cases hl : load TSet.empty fs with
      | none => exact ⟨.of_none h (hs.trans hl), fun _ => rfl⟩
      | some d =>
        rw [hl] at hs
        cases c with
        | false => exact ⟨.of_some h hs rfl (fun _ => rfl), fun _ => rfl⟩
        | true => exact ⟨.of_handOut (inv_set_base h _ rfl hs) rfl hs, nofun⟩

theorem htmlLayout_ok (c : Bool) (n : Name) (h : Inv V src s) :
    HOut V src (specLayout src n) (htmlLayout V src c n s) ∧ (c = false → (htmlLayout V src c n s).2 = s) := by
  unfold htmlLayout
  cases hlay : s.layouts n with
  | some t => exact ⟨.of_handOut h (h.layouts n t hlay).1 (h.layouts n t hlay).2, fun _ => rfl⟩
  | none =>
    dsimp only
    obtain ⟨⟨hinv, hans, hpr, _⟩, hfr⟩ := htmlBase_ok (V := V) (src := src) c h
    generalize htmlBase V src c s = out at hinv hans hpr hfr
    obtain ⟨_ | ⟨b, rr⟩, s1⟩ := out
    · exact ⟨.of_none hinv (by simp [specLayout, ← hans]), hfr⟩
    · have hb : specBase src = some b.defs := hans.symm
      dsimp only
      rw [clone_pristine _ b (hpr b rr rfl)]
      dsimp only
      cases hsl : src.layout n with
      | none => exact ⟨.of_some hinv (by simp [specLayout, hb, hsl]) rfl (fun _ => rfl), hfr⟩
      | some fs =>
        dsimp only
        have hs : specLayout src n = load b.defs fs := by simp [specLayout, hb, hsl]
        cases hl : load b.defs fs with
        | none => exact ⟨.of_none hinv (hs.trans hl), hfr⟩
        | some d =>
          rw [hl] at hs
          cases c with
          | false => exact ⟨.of_some hinv hs rfl (fun _ => rfl), hfr⟩
          | true => exact ⟨.of_handOut (inv_set_layout hinv n _ rfl hs) rfl hs, nofun⟩

/-- a view is handed out as the cache entry itself: executing it marks that entry only -/
theorem htmlView_ok (c : Bool) (l v : Name) (h : Inv V src s)
    (hk : KeyNeeded c s → KeyP V l) :
    Inv V src (htmlView V src c l v s).2 ∧
    (htmlView V src c l v s).1.map (fun x => x.1.defs) = specView src l v ∧
    (∀ t r, (htmlView V src c l v s).1 = some (t, r) → r = Ref.fresh ∨ r = Ref.view (mkKey V l v)) ∧
    (c = false → (htmlView V src c l v s).2 = s) := by
  unfold htmlView
  dsimp only
  cases hv : s.views (mkKey V l v) with
  | some t =>
    obtain ⟨l', v', hk', hkey, hsp⟩ := h.views _ t hv
    obtain ⟨rfl, rfl⟩ := mkKey_inj (hk (.inr ⟨_, by rw [hv]; rfl⟩)) hk' hkey
    exact ⟨h, hsp.symm, fun _ _ e => by cases e; exact .inr rfl, fun _ => rfl⟩
  | none =>
    dsimp only
    obtain ⟨⟨hinv, hans, hpr, _⟩, hfr⟩ := htmlLayout_ok (V := V) (src := src) c l h
    generalize htmlLayout V src c l s = out at hinv hans hpr hfr
    obtain ⟨_ | ⟨lt, rr⟩, s1⟩ := out
    · exact ⟨hinv, by simp [specView, ← hans], nofun, hfr⟩
    · have hb : specLayout src l = some lt.defs := hans.symm
      dsimp only
      rw [clone_pristine _ lt (hpr lt rr rfl)]
      dsimp only
      have hs : specView src l v = load lt.defs ((src.view v).getD []) := by simp [specView, hb]
      cases hl : load lt.defs ((src.view v).getD []) with
      | none => exact ⟨hinv, hs.symm ▸ hl.symm ▸ rfl, nofun, hfr⟩
      | some d =>
        rw [hl] at hs
        cases c with
        | false => exact ⟨hinv, hs.symm, fun _ _ e => by cases e; exact .inl rfl, hfr⟩
        | true =>
          exact ⟨inv_set_view hinv l v _ (hk (.inl rfl)) hs, hs.symm, fun _ _ e => by cases e; exact .inr rfl, nofun⟩

end html

/-- what `textBase` and `textLayout` return -/
structure TOut (V : Variant) (src : Src) (spec : Option TSet) (out : Option Tmpl × St) : Prop where
  inv : Inv V src out.2
  ans : out.1.map (fun x => x.defs) = spec
  pristine : ∀ t, out.1 = some t → t.executed = false

section text
variable {V : Variant} {src : Src} {spec : Option TSet} {s : St}

theorem TOut.of_none (inv : Inv V src s) (ans : spec = none) : TOut V src spec (none, s) :=
  ⟨inv, ans.symm, nofun⟩

theorem TOut.of_some {t : Tmpl} (inv : Inv V src s) (ans : spec = some t.defs) (px : t.executed = false) :
    TOut V src spec (some t, s) :=
  ⟨inv, ans.symm, fun _ e => by cases e; exact px⟩

theorem textBase_ok (c : Bool) (h : Inv V src s) :
    TOut V src (specBase src) (textBase src c s) ∧ (c = false → (textBase src c s).2 = s) := by
  unfold textBase
  cases hb : s.base with
  | some t => exact ⟨.of_some h (h.base t hb).2 (h.base t hb).1, fun _ => rfl⟩
  | none =>
    dsimp only
    cases hh : src.helpers with
    | none =>
      have hs : specBase src = some Tmpl.new.defs := by simp [specBase, hh, Tmpl.new]
      cases c with
      | false => exact ⟨.of_some h hs rfl, fun _ => rfl⟩
      | true => exact ⟨.of_some (inv_set_base h _ rfl hs) hs rfl, nofun⟩
    | some fs =>
      dsimp only
      have hs : specBase src = load TSet.empty fs := by simp [specBase, hh]
      cases hl : load TSet.empty fs with
      | none => exact ⟨.of_none h (hs.trans hl), fun _ => rfl⟩
      | some d =>
        rw [hl] at hs
        cases c with
        | false => exact ⟨.of_some h hs rfl, fun _ => rfl⟩
        | true => exact ⟨.of_some (inv_set_base h _ rfl hs) hs rfl, nofun⟩

theorem textLayout_ok (c : Bool) (n : Name) (h : Inv V src s) :
    TOut V src (specLayout src n) (textLayout src c n s) ∧ (c = false → (textLayout src c n s).2 = s) := by
  unfold textLayout
  cases hlay : s.layouts n with
  | some t => exact ⟨.of_some h (h.layouts n t hlay).2 (h.layouts n t hlay).1, fun _ => rfl⟩
  | none =>
    dsimp only
    obtain ⟨⟨hinv, hans, hpr⟩, hfr⟩ := textBase_ok (V := V) (src := src) c h
    generalize textBase src c s = out at hinv hans hpr hfr
    obtain ⟨_ | b, s1⟩ := out
    · exact ⟨.of_none hinv (by simp [specLayout, ← hans]), hfr⟩
    · have hb : specBase src = some b.defs := hans.symm
      have hbx : b.executed = false := hpr b rfl
      dsimp only
      cases hsl : src.layout n with
      | none =>
        have hs : specLayout src n = some b.defs := by simp [specLayout, hb, hsl]
        cases c with
        | false => exact ⟨.of_some hinv hs hbx, hfr⟩
        | true => exact ⟨.of_some (inv_set_layout hinv n b hbx hs) hs hbx, nofun⟩
      | some fs =>
        dsimp only
        rw [clone_text]
        dsimp only
        have hs : specLayout src n = load b.defs fs := by simp [specLayout, hb, hsl]
        cases hl : load b.defs fs with
        | none => exact ⟨.of_none hinv (hs.trans hl), hfr⟩
        | some d =>
          rw [hl] at hs
          cases c with
          | false => exact ⟨.of_some hinv hs rfl, hfr⟩
          | true => exact ⟨.of_some (inv_set_layout hinv n _ rfl hs) hs rfl, nofun⟩

theorem textView_ok (c : Bool) (l v : Name) (h : Inv V src s)
    (hk : KeyNeeded c s → KeyP V l) :
    Inv V src (textView V src c l v s).2 ∧
    (textView V src c l v s).1.map (fun x => x.defs) = specView src l v ∧
    (c = false → (textView V src c l v s).2 = s) := by
  unfold textView
  dsimp only
  cases hv : s.views (mkKey V l v) with
  | some t =>
    obtain ⟨l', v', hk', hkey, hsp⟩ := h.views _ t hv
    obtain ⟨rfl, rfl⟩ := mkKey_inj (hk (.inr ⟨_, by rw [hv]; rfl⟩)) hk' hkey
    exact ⟨h, hsp.symm, fun _ => rfl⟩
  | none =>
    dsimp only
    obtain ⟨⟨hinv, hans, _⟩, hfr⟩ := textLayout_ok (V := V) (src := src) c l h
    generalize textLayout src c l s = out at hinv hans hfr
    obtain ⟨_ | lt, s1⟩ := out
    · exact ⟨hinv, by simp [specView, ← hans], hfr⟩
    · have hb : specLayout src l = some lt.defs := hans.symm
      dsimp only
      cases hsv : src.view v with
      | none =>
        have hs : specView src l v = some lt.defs := by simp [specView, hb, hsv, load]
        cases c with
        | false => exact ⟨hinv, hs.symm, hfr⟩
        | true => exact ⟨inv_set_view hinv l v lt (hk (.inl rfl)) hs, hs.symm, nofun⟩
      | some fs =>
        dsimp only
        rw [clone_text]
        dsimp only
        have hs : specView src l v = load lt.defs fs := by simp [specView, hb, hsv]
        cases hl : load lt.defs fs with
        | none => exact ⟨hinv, hs.symm ▸ hl.symm ▸ rfl, hfr⟩
        | some d =>
          rw [hl] at hs
          cases c with
          | false => exact ⟨hinv, hs.symm, hfr⟩
          | true => exact ⟨inv_set_view hinv l v _ (hk (.inl rfl)) hs, hs.symm, nofun⟩

end text

theorem textCall_ok {V : Variant} {src : Src} (c : Bool) {s : St} (r : Req) (h : Inv V src s)
    (hkey : KeyNeeded c s → KeyOK V r) :
    Inv V src (textCall V src c s r).2 ∧ (textCall V src c s r).1.map (·.defs) = specAns src r ∧
    (c = false → (textCall V src c s r).2 = s) := by
  cases r with
  | base e => exact ⟨(textBase_ok c h).1.inv, (textBase_ok c h).1.ans, (textBase_ok c h).2⟩
  | layout l e => exact ⟨(textLayout_ok c _ h).1.inv, (textLayout_ok c _ h).1.ans, (textLayout_ok c _ h).2⟩
  | view l v e =>
    simp only [textCall, specAns]
    split
    · exact ⟨h, rfl, fun _ => rfl⟩
    · exact textView_ok c _ v h hkey

/-- Third part: for an admissible request the object handed out is a cache entry only if it is a view, so the caller's
executing it is harmless. -/
theorem htmlCall_ok {V : Variant} {src : Src} (c : Bool) {s : St} (r : Req) (h : Inv V src s)
    (hkey : KeyNeeded c s → KeyOK V r) :
    Inv V src (htmlCall V src c s r).2 ∧ (htmlCall V src c s r).1.map (·.1.defs) = specAns src r ∧
    (ReqOK V Kind.html r → ∀ t ref, (htmlCall V src c s r).1 = some (t, ref) → r.exec = true →
      ref = Ref.fresh ∨ ∃ k, ref = Ref.view k) ∧
    (c = false → (htmlCall V src c s r).2 = s) := by
  have clone_out : ∀ e, (Kind.html = Kind.text ∨ V.cloneOut = true ∨ e = false) → e = true → V.cloneOut = true :=
    fun e h1 he => h1.elim nofun fun h2 => h2.elim id fun h3 => by cases he.symm.trans h3
  cases r with
  | base e =>
    have ⟨ho, hfr⟩ := htmlBase_ok (V := V) (src := src) c h
    exact ⟨ho.inv, ho.ans, fun hr t ref e1 he => .inl (ho.fresh t ref e1 (clone_out e hr he)), hfr⟩
  | layout l e =>
    have ⟨ho, hfr⟩ := htmlLayout_ok (V := V) (src := src) c (normL l) h
    exact ⟨ho.inv, ho.ans, fun hr t ref e1 he => .inl (ho.fresh t ref e1 (clone_out e hr he)), hfr⟩
  | view l v e =>
    simp only [htmlCall, specAns]
    split
    · exact ⟨h, rfl, fun _ => nofun, fun _ => rfl⟩
    · obtain ⟨h1, h2, h3, h4⟩ := htmlView_ok c (normL l) v h hkey
      exact ⟨h1, h2, fun _ t ref e1 _ => (h3 t ref e1).imp_right fun e2 => ⟨_, e2⟩, h4⟩

theorem step_ok {V : Variant} {k : Kind} {src : Src} (c : Bool) {s : St} (r : Req)
    (h : Inv V src s) (hr : ReqOK V k r) (hkey : KeyOK V r) :
    (step V k src c s r).1 = specAns src r ∧ Inv V src (step V k src c s r).2 := by
  cases k with
  | text =>
    obtain ⟨hinv, hans, _⟩ := textCall_ok c r h fun _ => hkey
    unfold step
    dsimp only
    generalize textCall V src c s r = out at hinv hans
    obtain ⟨_ | t, s1⟩ := out <;> exact ⟨hans, hinv⟩
  | html =>
    obtain ⟨hinv, hans, href, _⟩ := htmlCall_ok c r h fun _ => hkey
    unfold step
    dsimp only
    generalize htmlCall V src c s r = out at hinv hans href
    obtain ⟨_ | ⟨t, ref⟩, s1⟩ := out
    · exact ⟨hans, hinv⟩
    · refine ⟨hans, ?_⟩
      dsimp only
      cases he : r.exec with
      | false => exact hinv
      | true =>
        obtain rfl | ⟨k, rfl⟩ := href hr t ref rfl he
        · exact hinv
        · exact inv_markExec_view hinv k

theorem runFrom_ok {V : Variant} {k : Kind} {src : Src} (c : Bool) (reqs : List Req) :
    ∀ {s : St}, Inv V src s → Admissible V k reqs →
      runFrom V k src c s reqs = reqs.map (specAns src) := by
  induction reqs with
  | nil => intro s _ _; rfl
  | cons r rs ih =>
    intro s h hall
    obtain ⟨h1, h2⟩ := step_ok (V := V) (k := k) (src := src) c r h
      (hall r List.mem_cons_self).1 (hall r List.mem_cons_self).2
    simp only [runFrom, List.map_cons, h1]
    rw [ih h2 (fun r' hr' => hall r' (List.mem_cons_of_mem _ hr'))]

theorem markExec_init (ref : Ref) : markExec St.init ref = St.init := by
  cases ref with
  | fresh => rfl
  | base => rfl
  | layout n => simp [markExec, St.init]
  | view k => simp [markExec, St.init]

theorem step_unc (V : Variant) (k : Kind) (src : Src) (r : Req) :
    step V k src false St.init r = (specAns src r, St.init) := by
  have nokey : KeyNeeded false St.init → KeyOK V r := fun h => h.elim nofun fun ⟨_, hk⟩ => nomatch hk
  cases k with
  | text =>
    obtain ⟨_, hans, hs⟩ := textCall_ok false r (inv_init V src) nokey
    replace hs := hs rfl
    unfold step
    dsimp only
    generalize textCall V src false St.init r = out at hans hs
    obtain ⟨_ | t, s1⟩ := out <;> cases hs <;> exact congrArg (·, St.init) hans
  | html =>
    obtain ⟨_, hans, _, hs⟩ := htmlCall_ok false r (inv_init V src) nokey
    replace hs := hs rfl
    unfold step
    dsimp only
    generalize htmlCall V src false St.init r = out at hans hs
    obtain ⟨_ | ⟨t, ref⟩, s1⟩ := out <;> dsimp only at hs <;> subst hs
    · exact congrArg (·, St.init) hans
    · dsimp only
      rw [markExec_init, ite_self]
      exact congrArg (·, St.init) hans

instance (V : Variant) (k : Kind) (r : Req) : Decidable (ReqOK V k r) := by
  cases r <;> unfold ReqOK <;> infer_instance

instance (V : Variant) (r : Req) : Decidable (KeyOK V r) := by
  cases r <;> unfold KeyOK <;> infer_instance

instance (V : Variant) (k : Kind) (reqs : List Req) : Decidable (Admissible V k reqs) := by
  unfold Admissible; infer_instance

end Goat.Tmpl
