/-
C12: the transitions of the repaired system (`Variant.fixed`) as an inductive relation `Tr`.  Every enabled label of
`sys Variant.fixed cfg` is one or two `Tr` transitions of the same goroutine (`step_fixed_preserves`), so an invariant
of `Tr` is an invariant of the system.
-/
import Goat.Model.ScopeSignal

namespace Goat.ScopeSignal

@[simp] theorem threads_setPC (s : State) (t : Nat) (pc : PC) :
    (s.setPC t pc).threads = s.threads.set t pc := rfl
@[simp] theorem ctxs_setPC (s : State) (t : Nat) (pc : PC) : (s.setPC t pc).ctxs = s.ctxs := rfl
@[simp] theorem scopes_setPC (s : State) (t : Nat) (pc : PC) : (s.setPC t pc).scopes = s.scopes := rfl
@[simp] theorem threads_setCtx (s : State) (c : Nat) (x : Ctx) : (s.setCtx c x).threads = s.threads := rfl
@[simp] theorem ctxs_setCtx (s : State) (c : Nat) (x : Ctx) :
    (s.setCtx c x).ctxs = s.ctxs.set c x := rfl
@[simp] theorem scopes_setCtx (s : State) (c : Nat) (x : Ctx) : (s.setCtx c x).scopes = s.scopes := rfl
@[simp] theorem threads_setScope (s : State) (i : Nat) (x : Scope) :
    (s.setScope i x).threads = s.threads := rfl
@[simp] theorem ctxs_setScope (s : State) (i : Nat) (x : Scope) : (s.setScope i x).ctxs = s.ctxs := rfl
@[simp] theorem scopes_setScope (s : State) (i : Nat) (x : Scope) :
    (s.setScope i x).scopes = s.scopes.set i x := rfl

def State.addScope (s : State) (x : Scope) : State := { s with scopes := s.scopes ++ [x] }

@[simp] theorem threads_addScope (s : State) (x : Scope) : (s.addScope x).threads = s.threads := rfl
@[simp] theorem ctxs_addScope (s : State) (x : Scope) : (s.addScope x).ctxs = s.ctxs := rfl
@[simp] theorem scopes_addScope (s : State) (x : Scope) : (s.addScope x).scopes = s.scopes ++ [x] := rfl

/-- `(l.map f).sum` as a recursion of its own: the statements of `Props/C12` count goroutines with it -/
def wsum {α : Type} (f : α → Nat) : List α → Nat
  | [] => 0
  | a :: l => f a + wsum f l

theorem wsum_eq_sum {α : Type} (f : α → Nat) (l : List α) : wsum f l = (l.map f).sum := by
  induction l with
  | nil => rfl
  | cons a r ih => simp [wsum, ih]

theorem wsum_ge {α : Type} (f : α → Nat) : ∀ (l : List α) (i : Nat) (a : α), l[i]? = some a → f a ≤ wsum f l :=
  fun l _ _ h => wsum_eq_sum f l ▸ LTS.le_sum_map f (List.mem_of_getElem? h)

theorem wsum_set {α : Type} (f : α → Nat) (l : List α) (i : Nat) (a : α) (h : l[i]? = some a) :
    ∃ n, wsum f l = n + f a ∧ ∀ b, wsum f (l.set i b) = n + f b :=
  ⟨wsum f l - f a, by have := wsum_ge f l i a h; omega, fun b => by
    have := wsum_ge f l i a h
    have := LTS.sum_map_set f b h
    simp only [wsum_eq_sum] at *; omega⟩

theorem wsum_append {α : Type} (f : α → Nat) (l₁ l₂ : List α) : wsum f (l₁ ++ l₂) = wsum f l₁ + wsum f l₂ := by
  simp [wsum_eq_sum]

theorem wsum_snoc {α : Type} (f : α → Nat) (l : List α) (a : α) : wsum f (l ++ [a]) = wsum f l + f a := by
  simp [wsum_append, wsum]

theorem wsum_eq_zero {α : Type} (f : α → Nat) (l : List α) (h : ∀ a ∈ l, f a = 0) : wsum f l = 0 := by
  simpa [wsum_eq_sum, List.sum_eq_zero_iff_forall_eq_nat] using h

theorem wsum_quiet {s : State} {c : Nat} (hq : s.quiet c) {f : PC → Nat} (hf : ∀ pc, pc.onCtx ≠ some c → f pc = 0) :
    wsum f s.threads = 0 :=
  wsum_eq_zero f _ fun pc hpc => let ⟨t, ht⟩ := List.mem_iff_getElem?.1 hpc; hf pc (hq t pc ht)

theorem wsum_replicate {α : Type} (f : α → Nat) (n : Nat) (a : α) (h : f a = 0) :
    wsum f (List.replicate n a) = 0 :=
  wsum_eq_zero f _ (fun b hb => by rw [List.eq_of_mem_replicate hb]; exact h)

/-- The context whose fields the next access of a goroutine at this point reads or writes.  Unlike the model's
`PC.onCtx` it leaves out `isDone`, which touches no field, and takes in the propagation goroutine, which `Knows` ties
to its context although `quiet` does not count it. -/
def PC.ctx? : PC → Option Nat
  | .appLock c _ | .appRead c _ | .appWrite c _ _ | .stopEnter c | .stopClose c | .errLock c | .errRead c
  | .propWait c _ | .propCheck c _ => some c
  | _ => none

/-- One access of goroutine `t` to context `c` under `Variant.fixed`, or the local part of a call on it: pc and context,
before and after.  Only the propagation goroutine looks at `s`, for the parent context. -/
inductive CtxTr (s : State) (t c : Nat) : PC → Ctx → PC → Ctx → Prop
  | callAppend {x : Ctx} (ids : List Nat) :
      CtxTr s t c .idle x (.appLock c ids) { x with requested := x.requested ++ ids }
  | callStop {x : Ctx} : CtxTr s t c .idle x (.stopEnter c) { x with stopCalls := x.stopCalls + 1 }
  | callIsDone {x : Ctx} : CtxTr s t c .idle x (.isDone c) x
  | callErr {x : Ctx} : CtxTr s t c .idle x (.errLock c) x
  | appLock {x : Ctx} {ids : List Nat} (hmu : x.mu = none) :
      CtxTr s t c (.appLock c ids) x (.appRead c ids) { x with mu := some t }
  | appRead {x : Ctx} {ids : List Nat} : CtxTr s t c (.appRead c ids) x (.appWrite c ids x.errors) x
  | appWrite {x : Ctx} {ids snap : List Nat} :
      CtxTr s t c (.appWrite c ids snap) x (if ids = [] then .idle else .stopEnter c)
        { x with errors := snap ++ ids, mu := none }
  | stopFresh {x : Ctx} (ho : x.once = .fresh) :
      CtxTr s t c (.stopEnter c) x (.stopClose c) { x with once := .running t }
  | stopFinished {x : Ctx} (ho : x.once = .finished) : CtxTr s t c (.stopEnter c) x .idle x
  | stopClose {x : Ctx} :
      CtxTr s t c (.stopClose c) x .idle { x with closes := x.closes + 1, once := .finished }
  | errLock {x : Ctx} (hmu : x.mu = none) : CtxTr s t c (.errLock c) x (.errRead c) { x with mu := some t }
  | errRead {x : Ctx} : CtxTr s t c (.errRead c) x .idle { x with mu := none }
  | propExit {x : Ctx} {p : Nat} (hd : 1 ≤ x.closes) : CtxTr s t c (.propWait c p) x .exited x
  | propSeen {x px : Ctx} {p : Nat} (hp : s.ctxs[p]? = some px) (hd : 1 ≤ px.closes) :
      CtxTr s t c (.propWait c p) x (.propCheck c p) x
  | propKill {x px : Ctx} {p : Nat} (hp : s.ctxs[p]? = some px) (he : px.errors ≠ []) :
      CtxTr s t c (.propCheck c p) x (.appLock c [canceled])
        { x with requested := x.requested ++ [canceled], propKills := x.propKills + 1 }
  | propStop {x px : Ctx} {p : Nat} (hp : s.ctxs[p]? = some px) (he : px.errors = []) :
      CtxTr s t c (.propCheck c p) x (.stopEnter c) { x with propStops := x.propStops + 1 }

/-- An access that leaves every context as it is (the receive of `IsDone`, `NewChild`, `Close`): pc before and after,
scope table after. -/
inductive ScopeTr (s : State) : PC → PC → List Scope → Prop
  | callNewChild (p : Nat) (own : Option Nat) : ScopeTr s .idle (.ncCheck p own) s.scopes
  | callClose (sid : Nat) : ScopeTr s .idle (.closing sid) s.scopes
  | isDone {c : Nat} : ScopeTr s (.isDone c) .idle s.scopes
  | ncRefused {p : Nat} {own : Option Nat} {sc : Scope} {x : Ctx} (hsc : s.scopes[p]? = some sc)
      (hx : s.ctxs[sc.ctx]? = some x) (hd : 1 ≤ x.closes) : ScopeTr s (.ncCheck p own) (.ncMk p own false) s.scopes
  | ncAccepted {p : Nat} {own : Option Nat} {sc : Scope} {x : Ctx} (hsc : s.scopes[p]? = some sc)
      (hx : s.ctxs[sc.ctx]? = some x) (hd : ¬ 1 ≤ x.closes) : ScopeTr s (.ncCheck p own) (.ncAdd p own) s.scopes
  | ncAdd {p : Nat} {own : Option Nat} {sc : Scope} (hsc : s.scopes[p]? = some sc) :
      ScopeTr s (.ncAdd p own) (.ncMk p own true) (s.scopes.set p { sc with wg := sc.wg + 1 })
  | ncMk {p : Nat} {own : Option Nat} {reg : Bool} {sc : Scope} (hsc : s.scopes[p]? = some sc) :
      ScopeTr s (.ncMk p own reg) .idle
        (s.scopes ++ [{ ctx := own.getD sc.ctx, parent := if reg then some p else none }])
  | closeRoot {sid : Nat} {sc : Scope} (hsc : s.scopes[sid]? = some sc) (hcl : sc.closed = false)
      (hpar : sc.parent = none) : ScopeTr s (.closing sid) .idle (s.scopes.set sid { sc with closed := true })
  | closeOrphan {sid p : Nat} {sc : Scope} (hsc : s.scopes[sid]? = some sc) (hcl : sc.closed = false)
      (hpar : sc.parent = some p) (hps : (s.scopes.set sid { sc with closed := true })[p]? = none) :
      ScopeTr s (.closing sid) .idle (s.scopes.set sid { sc with closed := true })
  | closeChild {sid p : Nat} {sc ps : Scope} (hsc : s.scopes[sid]? = some sc) (hcl : sc.closed = false)
      (hpar : sc.parent = some p) (hps : (s.scopes.set sid { sc with closed := true })[p]? = some ps) :
      ScopeTr s (.closing sid) .idle
        ((s.scopes.set sid { sc with closed := true }).set p { ps with wg := ps.wg - 1 })

/-- One transition of goroutine `t`: its pc moves, and one context record (`ctx`) or the scope table (`scope`) is
replaced. -/
inductive Tr : State → Nat → State → Prop
  | ctx {s : State} {t c : Nat} {pc pc' : PC} {x x' : Ctx} (hpc : s.threads[t]? = some pc)
      (hx : s.ctxs[c]? = some x) (h : CtxTr s t c pc x pc' x') : Tr s t ((s.setCtx c x').setPC t pc')
  | scope {s : State} {t : Nat} {pc pc' : PC} {scopes' : List Scope} (hpc : s.threads[t]? = some pc)
      (h : ScopeTr s pc pc' scopes') : Tr s t ({ s with scopes := scopes' }.setPC t pc')

variable {s s' : State} {t c : Nat} {pc pc' : PC} {x : Ctx}

theorem setCtx_self (hx : s.ctxs[c]? = some x) : s.setCtx c x = s := by
  obtain ⟨hc, rfl⟩ := List.getElem?_eq_some_iff.1 hx
  simp [State.setCtx]

theorem Tr.read (hpc : s.threads[t]? = some pc) (hx : s.ctxs[c]? = some x) (h : CtxTr s t c pc x pc' x) : Tr s t (s.setPC t pc') := by
  simpa only [setCtx_self hx] using Tr.ctx hpc hx h

theorem stepT_fixed_tr {alt : Bool} (hs : stepT Variant.fixed s t alt = some s') : Tr s t s' := by
  unfold stepT at hs
  split at hs
  · cases hs
  rename_i pc hpc
  cases pc <;> simp only [Variant.fixed, if_true, Bool.false_eq_true, if_false, Bool.true_and, decide_eq_true_eq] at hs
  case idle | exited => cases hs
  case isDone c => cases hs; exact Tr.scope hpc .isDone
  case appLock c ids =>
    split at hs
    · cases hs
    split at hs <;> cases hs
    exact Tr.ctx hpc ‹_› (.appLock ‹_›)
  case appRead c ids => split at hs <;> cases hs; exact Tr.read hpc ‹_› .appRead
  case appWrite c ids snap => split at hs <;> cases hs; exact Tr.ctx hpc ‹_› .appWrite
  case stopEnter c =>
    split at hs
    · cases hs
    split at hs <;> cases hs
    · exact Tr.ctx hpc ‹_› (.stopFresh ‹_›)
    · exact Tr.read hpc ‹_› (.stopFinished ‹_›)
  case stopClose c => split at hs <;> cases hs; exact Tr.ctx hpc ‹_› .stopClose
  case errLock c =>
    split at hs
    · cases hs
    split at hs <;> cases hs
    exact Tr.ctx hpc ‹_› (.errLock ‹_›)
  case errRead c => split at hs <;> cases hs; exact Tr.ctx hpc ‹_› .errRead
  case propWait c p =>
    split at hs
    · rename_i x px hx hp
      split at hs <;> split at hs <;> cases hs
      · exact Tr.read hpc hx (.propExit ‹_›)
      · exact Tr.read hpc hx (.propSeen hp ‹_›)
    · cases hs
  case propCheck c p =>
    split at hs
    · cases hs
    rename_i px hp
    split at hs
    · cases hs
    split at hs
    · cases hs
    split at hs <;> cases hs
    · exact Tr.ctx hpc ‹_› (.propKill hp ‹_›)
    · exact Tr.ctx hpc ‹_› (.propStop hp (by simpa using ‹¬ px.errors ≠ []›))
  case ncCheck p own =>
    split at hs
    · cases hs
    split at hs
    · cases hs
    split at hs <;> cases hs
    · exact Tr.scope hpc (.ncRefused ‹_› ‹_› ‹_›)
    · exact Tr.scope hpc (.ncAccepted ‹_› ‹_› ‹_›)
  case ncAdd p own => split at hs <;> cases hs; exact Tr.scope hpc (.ncAdd ‹_›)
  case ncMk p own reg =>
    split at hs <;> cases hs
    simpa using Tr.scope hpc (.ncMk (own := own) (reg := reg) ‹_›)
  case closing sid =>
    split at hs
    · cases hs
    rename_i sc hsc
    split at hs
    · cases hs
    have hcl : sc.closed = false := by simpa using ‹¬ sc.closed = true›
    split at hs
    · cases hs; exact Tr.scope hpc (.closeRoot hsc hcl ‹_›)
    split at hs <;> cases hs
    · exact Tr.scope hpc (.closeOrphan hsc hcl ‹_› ‹_›)
    · exact Tr.scope hpc (.closeChild hsc hcl ‹_› ‹_›)

theorem enter_tr {k : Call} (h : enter s t k = some s') : Tr s t s' := by
  unfold enter at h
  cases k with
  | newChild p own => simp only at h; split at h <;> cases h; exact Tr.scope ‹_› (.callNewChild p own)
  | close sid => simp only at h; split at h <;> cases h; exact Tr.scope ‹_› (.callClose sid)
  | op o sid =>
    simp only at h
    split at h
    · rename_i sc hpc hsc
      split at h
      · cases h
      rename_i x hx
      cases o <;> cases h
      · exact Tr.ctx hpc hx (.callAppend _)
      · exact Tr.ctx hpc hx (.callAppend [canceled])
      · exact Tr.ctx hpc hx .callStop
      · exact Tr.read hpc hx .callIsDone
      · exact Tr.read hpc hx .callErr
    · cases h

/-- A `call` label is the local part of the call followed by its first shared access: two transitions. -/
theorem step_fixed_preserves {P : State → Prop} (hP : ∀ s t s', P s → Tr s t s' → P s')
    {cfg : Config} {l : Label} (h : P s) (hs : (sys Variant.fixed cfg).step s l = some s') :
    P s' := by
  cases l with
  | call t k =>
    simp only [sys, step, Option.bind_eq_some_iff] at hs
    obtain ⟨s1, h1, h2⟩ := hs
    exact hP _ _ _ (hP _ _ _ h (enter_tr h1)) (stepT_fixed_tr h2)
  | run t | alt t => exact hP _ _ _ h (stepT_fixed_tr hs)

end Goat.ScopeSignal
