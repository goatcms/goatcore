/-
Precedence of definitions: after any sequence of definition calls the definition `Get` uses for a name is the first
explicit one, else the first default one.
-/
import Goat.Proofs.DIHist

namespace Goat.DI

def explicitAt (s : St) (n : Name) : Option Src :=
  orElse ((s.instances n).map .inst) ((s.factories n).map .fac)

def defaultAt (s : St) (n : Name) : Option Src :=
  orElse ((s.defaultInstances n).map .inst) ((s.defaultFactories n).map .fac)

theorem source_block {s : St} (hb : s.blocked = false) (n : Name) :
    source (block s) n = orElse (explicitAt s n) (defaultAt s n) := by
  -- `Block` promotes a default instance exactly when the name has no explicit instance and no explicit factory,
  -- so afterwards `Get` finds: instance, factory, default instance, default factory
  unfold source explicitAt defaultAt
  rw [block_instances, block_factories, block_defaultFactories, hb]
  unfold promotes
  cases s.instances n <;> cases s.factories n <;> cases s.defaultInstances n <;> cases s.defaultFactories n <;> rfl

theorem explicitAt_set {s : St} (hb : s.blocked = false) (n : Name) (v : Inst) :
    explicitAt (set s n v).1 n = orElse (explicitAt s n) (some (.inst v)) := by
  unfold set explicitAt
  cases hi : s.instances n <;> cases hf : s.factories n <;> simp [hb, hi, hf, orElse]

/-- `AddFactory` is refused only by an explicit factory; beside an explicit instance it is accepted and ignored by `Get` -/
theorem explicitAt_addFactory {s : St} (hb : s.blocked = false) (n : Name) (f : Factory) :
    explicitAt (addFactory s n f).1 n = orElse (explicitAt s n) (some (.fac f)) := by
  unfold addFactory explicitAt
  rw [clean_eq]
  cases hi : s.instances n <;> cases hf : s.factories n <;> simp [hb, hi, hf, orElse]

theorem explicitAt_setDefault (s : St) (n : Name) (v : Inst) :
    explicitAt (setDefault s n v).1 n = explicitAt s n := by
  unfold setDefault
  cases s.blocked <;> cases (s.defaultInstances n).isSome <;> cases (s.defaultFactories n).isSome <;> rfl

theorem explicitAt_addDefaultFactory (s : St) (n : Name) (f : Factory) :
    explicitAt (addDefaultFactory s n f).1 n = explicitAt s n := by
  unfold addDefaultFactory
  cases s.blocked <;> cases (s.defaultFactories n).isSome <;> cases (s.factories n).isSome <;> rfl

theorem defaultAt_setDefault {s : St} (hb : s.blocked = false) (n : Name) (v : Inst) :
    defaultAt (setDefault s n v).1 n = orElse (defaultAt s n) (some (.inst v)) := by
  unfold setDefault defaultAt
  cases hi : s.defaultInstances n <;> cases hf : s.defaultFactories n <;> simp [hb, hi, hf, orElse]

/-- `AddDefaultFactory` stores nothing beside an explicit factory (hence `he`); beside a default instance it is
accepted and the instance still comes first -/
theorem defaultAt_addDefaultFactory {s : St} (hb : s.blocked = false) {n : Name} (he : explicitAt s n = none)
    (f : Factory) : defaultAt (addDefaultFactory s n f).1 n = orElse (defaultAt s n) (some (.fac f)) := by
  have he : s.factories n = none := by
    cases hf : s.factories n with
    | none => rfl
    | some f => unfold explicitAt at he; rw [hf] at he; cases hi : s.instances n <;> rw [hi] at he <;> cases he
  unfold addDefaultFactory defaultAt
  cases hi : s.defaultInstances n <;> cases hf : s.defaultFactories n <;> simp [hb, he, hi, hf, orElse]

/-- The tables at `n` after definition calls whose first explicit / first default definition of `n` are `e` / `d`.
`d` is tracked only while `e = none`: after an explicit definition the default tables at `n` no longer matter to
`Get` (and `AddFactory` may clean them). -/
structure RelN (s : St) (n : Name) (e d : Option Src) : Prop where
  unblocked : s.blocked = false
  explicit : explicitAt s n = e
  dflt : e = none → defaultAt s n = d

theorem RelN.source_eq {s : St} {n : Name} {e d : Option Src} (h : RelN s n e d) :
    source (block s) n = orElse e d := by
  obtain ⟨hb, rfl, hd⟩ := h
  rw [source_block hb]
  cases he : explicitAt s n with
  | none => rw [hd he]
  | some x => rfl

theorem RelN.frame {s s' : St} {n : Name} {e d : Option Src} (h : RelN s n e d) (hb : s'.blocked = s.blocked)
    (f : s'.instances n = s.instances n ∧ s'.factories n = s.factories n ∧
      s'.defaultInstances n = s.defaultInstances n ∧ s'.defaultFactories n = s.defaultFactories n) :
    RelN s' n e d where
  unblocked := hb.trans h.unblocked
  explicit := by unfold explicitAt; rw [f.1, f.2.1]; exact h.explicit
  dflt := fun he => by unfold defaultAt; rw [f.2.2.1, f.2.2.2]; exact h.dflt he

theorem RelN.other {s s' : St} {m n : Name} {e d : Option Src} (h : RelN s n e d)
    (hs : s' = s ∨ DefStep m s s') (hmn : ¬m = n) : RelN s' n (orElse e none) (orElse d none) := by
  rw [orElse_none_right, orElse_none_right]
  rcases hs with rfl | ds
  · exact h
  · exact h.frame ds.blocked (ds.frame n (Ne.symm hmn))

theorem RelN.explicit_call {s s' : St} {m n : Name} {e d : Option Src} {x : Src} (h : RelN s n e d)
    (hs : s' = s ∨ DefStep m s s') (he : explicitAt s' m = orElse (explicitAt s m) (some x)) :
    RelN s' n (orElse e (if m = n then some x else none)) (orElse d none) := by
  by_cases hmn : m = n
  · subst hmn
    rw [if_pos rfl, orElse_none_right]
    exact ⟨hs.elim (fun e => e ▸ h.unblocked) fun ds => ds.blocked.trans h.unblocked, h.explicit ▸ he,
      fun h0 => nomatch (orElse_eq_none.1 h0).2⟩
  · rw [if_neg hmn]; exact h.other hs hmn

theorem RelN.default_call {s s' : St} {m n : Name} {e d : Option Src} {y : Src} (h : RelN s n e d)
    (hs : s' = s ∨ DefStep m s s') (he : explicitAt s' m = explicitAt s m)
    (hd : explicitAt s m = none → defaultAt s' m = orElse (defaultAt s m) (some y)) :
    RelN s' n (orElse e none) (orElse d (if m = n then some y else none)) := by
  by_cases hmn : m = n
  · subst hmn
    rw [if_pos rfl, orElse_none_right]
    exact ⟨hs.elim (fun e => e ▸ h.unblocked) fun ds => ds.blocked.trans h.unblocked, he.trans h.explicit,
      fun h0 => by rw [hd (h.explicit.trans h0), h.dflt h0]⟩
  · rw [if_neg hmn]; exact h.other hs hmn

theorem RelN.of_def_call {s : St} {n : Name} {e d : Option Src} (h : RelN s n e d) {o : Op} (ho : o.isDef = true) :
    RelN (step s o).1 n (orElse e (o.explicitOf n)) (orElse d (o.defaultOf n)) := by
  cases o with
  | set m v => exact h.explicit_call (set_def s m _) (explicitAt_set h.unblocked m _)
  | setNil m => exact h.explicit_call (set_def s m _) (explicitAt_set h.unblocked m _)
  | addFactory m f => exact h.explicit_call (addFactory_def s m f) (explicitAt_addFactory h.unblocked m f)
  | setDefault m v =>
    exact h.default_call (setDefault_def s m _) (explicitAt_setDefault s m _) fun _ => defaultAt_setDefault h.unblocked m _
  | setDefaultNil m =>
    exact h.default_call (setDefault_def s m _) (explicitAt_setDefault s m _) fun _ => defaultAt_setDefault h.unblocked m _
  | addDefaultFactory m f =>
    exact h.default_call (addDefaultFactory_def s m f) (explicitAt_addDefaultFactory s m f)
      fun he => defaultAt_addDefaultFactory h.unblocked he f
  | addInjectors l =>
    -- not by `RelN.other`: the call is about no name, and its `Op.target` (`0`) may be `n`
    show RelN (addInjectors s l).1 n (orElse e none) (orElse d none)
    rw [orElse_none_right, orElse_none_right, addInjectors, if_neg (by simp [h.unblocked])]
    exact h.frame (s' := { s with injectors := s.injectors ++ l }) rfl ⟨rfl, rfl, rfl, rfl⟩
  | _ => cases ho

theorem RelN.exec_defs {n : Name} : ∀ (defs : List Op) (s : St) (e d : Option Src),
    (∀ o, o ∈ defs → o.isDef = true) → RelN s n e d →
    RelN (exec s defs) n (orElse e (firstExplicit n defs)) (orElse d (firstDefault n defs)) := by
  intro defs
  induction defs with
  | nil => intro s e d _ h; simpa [exec, firstExplicit, firstDefault] using h
  | cons o rest ih =>
    intro s e d hd h
    have h1 := h.of_def_call (hd o (List.mem_cons_self ..))
    have h2 := ih _ _ _ (fun o' ho' => hd o' (List.mem_cons_of_mem _ ho')) h1
    simpa [exec, firstExplicit, firstDefault, orElse_assoc] using h2

end Goat.DI
