/-
The emitter: what `emitLoop` writes is the rendering of a well-formed document that denotes exactly the entries of
the keys it consumed, whatever the order of the keys (`emitLoop_spec`).  `read_emit` and `write_read` put the reader
on top.
-/
import Goat.Proofs.PlainMapEsc
import Goat.Proofs.PlainMapRead
import Goat.Proofs.PlainMapTree

namespace Goat.PlainMap

/-- the value the emitter writes for a key (`plainmap[fullkey]`) -/
def valOf (m : Flat Bytes) (k : Bytes) : Bytes := (m.get k).getD []

theorem sepIf_renderMs (o : CObj) : sepIf o.renderMs = o.sep := by
  cases o with
  | nil => rfl
  | leaf w0 key w1 w2 v w3 rest =>
    exact if_neg fun h => memberText_ne_nil _ _ _ _ _ _ _ [] (by rw [← renderMs_leaf_append, h]; rfl)
  | sub w0 key w1 w2 wo child w3 rest =>
    exact if_neg fun h => memberText_ne_nil _ _ _ _ _ _ _ [] (by rw [← renderMs_sub_append, h]; rfl)

theorem stripPrefix_eq_some {pre k d : Bytes} : stripPrefix pre k = some d ↔ k = pre ++ d := by
  induction pre generalizing k with
  | nil => simp [stripPrefix, eq_comm]
  | cons a pre ih =>
    cases k with
    | nil => simp [stripPrefix]
    | cons b k =>
      by_cases hab : a = b
      · simp [stripPrefix, hab, ih]
      · simp [stripPrefix, hab]; exact fun e => absurd e.symm hab

theorem prefixFree_of_strip {ks : List Bytes} (h : ∀ a ∈ ks, ∀ b ∈ ks, stripPrefix (a ++ [dot]) b = none) :
    PrefixFree ks := by
  intro a ha b hb r e
  have := stripPrefix_eq_some.2 (show b = (a ++ [dot]) ++ r by rw [e, List.append_assoc]; rfl)
  rw [h a ha b hb] at this
  cases this

theorem cutDot_some {d seg more : Bytes} (h : cutDot d = some (seg, more)) : d = seg ++ dot :: more := by
  induction d generalizing seg with
  | nil => simp [cutDot] at h
  | cons c d ih =>
    rw [cutDot] at h
    split at h
    · next hc => simp at h; obtain ⟨rfl, rfl⟩ := h; simp [hc]
    · cases hd : cutDot d with
      | none => simp [hd] at h
      | some sm =>
        obtain ⟨s', m'⟩ := sm
        simp [hd] at h
        obtain ⟨rfl, rfl⟩ := h
        rw [ih hd]; rfl

def sumLen (ks : List Bytes) : Nat := (ks.map fun k => k.length + 1).sum

theorem sumLen_cons (k : Bytes) (ks : List Bytes) : sumLen (k :: ks) = k.length + 1 + sumLen ks := by
  simp [sumLen]

theorem sumLen_dropWhile_le (p : Bytes → Bool) (ks : List Bytes) : sumLen (ks.dropWhile p) ≤ sumLen ks := by
  induction ks with
  | nil => exact Nat.le_refl _
  | cons k ks ih =>
    rw [List.dropWhile_cons, sumLen_cons]
    split
    · omega
    · rw [sumLen_cons]; omega

def entriesOf (m : Flat Bytes) (ks : List Bytes) : Flat Bytes := ks.map fun k => (k, valOf m k)

/-- `strings.HasPrefix(k, pre)` -/
def hasPre (pre k : Bytes) : Bool := (stripPrefix pre k).isSome

theorem hasPre_longer {pre x k : Bytes} (h : hasPre (pre ++ x) k = true) : hasPre pre k = true := by
  obtain ⟨d, hd⟩ := Option.isSome_iff_exists.mp h
  rw [hasPre, stripPrefix_eq_some.2 ((stripPrefix_eq_some.1 hd).trans (List.append_assoc ..))]; rfl

/-- Every call of `emitLoop` either drops the first key or lengthens the prefix, so `sumLen ks - pre.length` bounds the
recursion depth (`emitFuel = sumLen + 1` is above it); where it is zero the first key is too short to carry the prefix. -/
theorem no_prefix_of_short {pre : Bytes} {ks : List Bytes} (h : sumLen ks ≤ pre.length) :
    ks.dropWhile (hasPre pre) = ks ∧ ks.takeWhile (hasPre pre) = [] := by
  cases ks with
  | nil => exact ⟨rfl, rfl⟩
  | cons k ks =>
    have hn : ¬ hasPre pre k = true := fun hp => by
      obtain ⟨d, hd⟩ := Option.isSome_iff_exists.mp hp
      have := congrArg List.length (stripPrefix_eq_some.1 hd)
      rw [sumLen_cons] at h; rw [List.length_append] at this; omega
    exact ⟨List.dropWhile_cons_of_neg hn, List.takeWhile_cons_of_neg hn⟩

/-- Last conjunct: at the top an object under the empty key appears only if a consumed key begins with a dot. -/
theorem emitLoop_spec (m : Flat Bytes) (fuel : Nat) : ∀ (pre : Bytes) (ks : List Bytes), sumLen ks ≤ fuel + pre.length →
    (pre = [] ∨ ∃ p, pre = p ++ [dot]) →
    (∀ k ∈ ks, ValidUTF8 k ∧ ValidUTF8 (valOf m k)) →
    ∃ o : CObj, emitLoop m fuel pre ks = (ks.dropWhile (hasPre pre), o.renderMs) ∧ o.WF ∧
      o.leaves pre = entriesOf m (ks.takeWhile (hasPre pre)) ∧
      (pre = [] → (∀ k ∈ ks.takeWhile (hasPre pre), k.head? ≠ some dot) → ¬ o.emptyTopKey) := by
  induction fuel with
  | zero =>
    intro pre ks hb _ _
    have ⟨h1, h2⟩ := no_prefix_of_short (Nat.zero_add _ ▸ hb)
    exact ⟨.nil, by rw [h1]; rfl, trivial, by rw [h2]; rfl, fun _ _ h => h⟩
  | succ fuel ih =>
    intro pre ks hb hpre hval
    cases ks with
    | nil => exact ⟨.nil, rfl, trivial, rfl, fun _ _ h => h⟩
    | cons k ks' =>
      rw [emitLoop]
      cases hs : stripPrefix pre k with
      | none =>
        have hn : ¬ hasPre pre k = true := by simp [hasPre, hs]
        rw [List.dropWhile_cons_of_neg hn, List.takeWhile_cons_of_neg hn]
        exact ⟨.nil, rfl, trivial, rfl, fun _ _ h => h⟩
      | some diff =>
        have hp : hasPre pre k = true := by simp [hasPre, hs]
        rw [List.dropWhile_cons_of_pos hp, List.takeWhile_cons_of_pos hp]
        have hk := stripPrefix_eq_some.1 hs
        have hkl : k.length = pre.length + diff.length := by rw [hk, List.length_append]
        rw [sumLen_cons] at hb
        obtain ⟨hvk, hvv⟩ := hval k List.mem_cons_self
        have hvdiff : ValidUTF8 diff := by
          rcases hpre with rfl | ⟨p, rfl⟩
          · have : k = diff := by simpa using hk
            exact this ▸ hvk
          · have : k = p ++ dot :: diff := by rw [hk]; simp
            exact (valid_split_dot hvk p diff this).2
        simp only
        cases hc : cutDot diff with
        | none =>
          simp only
          obtain ⟨o2, e2, w2, l2, d2⟩ := ih pre ks' (by omega) hpre (fun x hx => hval x (List.mem_cons_of_mem _ hx))
          obtain ⟨ik, fk, wk, vk⟩ := fmtString_valid hvdiff
          obtain ⟨iv, fv, wv, vv⟩ := fmtString_valid hvv
          refine ⟨.leaf [] ik [] [] (.str iv) [] o2, ?_, ⟨wsOK_nil, wsOK_nil, wsOK_nil, wsOK_nil, wk, wv, w2⟩, ?_,
            fun hp hd => d2 hp fun x hx => hd x (List.mem_cons_of_mem _ hx)⟩
          · simp only [e2, fk, show fmtString ((m.get k).getD []) = _ from fv, CObj.renderMs, sepIf_renderMs, CLeaf.render,
              List.append_assoc, List.cons_append, List.nil_append]
          · simp only [CObj.leaves, vk, vv, l2, entriesOf, List.map_cons, ← hk]
        | some sm =>
          obtain ⟨seg, more⟩ := sm
          simp only
          have hdiff := cutDot_some hc
          obtain ⟨hvseg, _⟩ := valid_split_dot hvdiff seg more hdiff
          have hk' : k = (pre ++ seg ++ [dot]) ++ more := by rw [hk, hdiff]; simp
          have hs' : stripPrefix (pre ++ seg ++ [dot]) k = some more := stripPrefix_eq_some.2 hk'
          have hlen : diff.length = seg.length + 1 + more.length := by rw [hdiff]; simp; omega
          -- The inner call (prefix `pre ++ seg ++ "."`) consumes the keys with that prefix, the outer one goes on
          -- with the rest.  The longer prefix implies the shorter (`himp`), so the two pieces are `takeWhile (hasPre pre)`
          -- (`htw`); the fuel suffices inside because the prefix grew (`hb1`), outside because the list shrank (`hb2`).
          have hb1 : sumLen (k :: ks') ≤ fuel + (pre ++ seg ++ [dot]).length := by
            rw [sumLen_cons]; simp only [List.length_append, List.length_singleton]; omega
          have hq : hasPre (pre ++ seg ++ [dot]) k = true := by rw [hasPre, hs']; rfl
          have himp : ∀ x, hasPre (pre ++ seg ++ [dot]) x = true → hasPre pre x = true :=
            fun x hx => hasPre_longer (x := seg ++ [dot]) (by rwa [← List.append_assoc])
          obtain ⟨o1, e1, w1, l1, _⟩ := ih (pre ++ seg ++ [dot]) (k :: ks') hb1 (Or.inr ⟨pre ++ seg, rfl⟩) hval
          rw [List.dropWhile_cons_of_pos hq] at e1
          have hb2 : sumLen (ks'.dropWhile (hasPre (pre ++ seg ++ [dot]))) ≤ fuel + pre.length := by
            have := sumLen_dropWhile_le (hasPre (pre ++ seg ++ [dot])) ks'
            omega
          obtain ⟨o2, e2, w2, l2, d2⟩ := ih pre _ hb2 hpre
            (fun x hx => hval x (List.mem_cons_of_mem _ ((List.dropWhile_suffix _).subset hx)))
          obtain ⟨ik, fk, wk, vk⟩ := fmtString_valid hvseg
          have htw := takeWhile_append_of_imp himp (k :: ks')
          rw [List.dropWhile_cons_of_pos hq, List.takeWhile_cons_of_pos hp] at htw
          refine ⟨.sub [] ik [] [] [] o1 [] o2, ?_, ⟨wsOK_nil, wsOK_nil, wsOK_nil, wsOK_nil, wsOK_nil, wk, w1, w2⟩, ?_, ?_⟩
          · rw [e1]
            dsimp only
            rw [e2, dropWhile_dropWhile_of_imp himp]
            simp only [fk, CObj.renderMs, sepIf_renderMs, List.append_assoc, List.cons_append, List.nil_append]
          · simp only [CObj.leaves, vk, l1, l2, entriesOf, ← List.map_append, htw]
          · intro hp0 hd
            subst hp0
            simp only [CObj.emptyTopKey, vk, not_or]
            refine ⟨?_, d2 rfl fun x hx => hd x (htw ▸ List.mem_append_right _ hx)⟩
            intro hseg
            exact hd k List.mem_cons_self (by rw [hk, hdiff, hseg]; rfl)

/-- what `PlainStringMapToJSON` writes denotes the map for any decoder that agrees with `leaves`, not only this reader -/
theorem emit_spec (m : Flat Bytes) (hval : ∀ k ∈ m.keys, ValidUTF8 k ∧ ValidUTF8 (valOf m k)) :
    ∃ o : CObj, emit m = o.render [] ∧ o.WF ∧ o.leaves [] = entriesOf m (sortKeys m.keys) ∧
      ((∀ k ∈ m.keys, k.head? ≠ some dot) → ¬ o.emptyTopKey) := by
  have hperm : (sortKeys m.keys).Perm m.keys := List.mergeSort_perm _ _
  obtain ⟨o, e, w, l, d⟩ := emitLoop_spec m (emitFuel (sortKeys m.keys)) [] (sortKeys m.keys)
    (Nat.le_succ _) (Or.inl rfl)
    fun k hk => hval k (hperm.mem_iff.mp hk)
  rw [takeWhile_eq_self (p := hasPre []) fun _ _ => rfl] at l d
  exact ⟨o, by rw [emit, e]; rfl, w, l, fun hd => d rfl fun k hk => hd k (hperm.mem_iff.mp hk)⟩

theorem read_emit (fixed : Bool) (m : Flat Bytes)
    (hval : ∀ k ∈ m.keys, ValidUTF8 k ∧ ValidUTF8 (valOf m k))
    (hdot : fixed = false → ∀ k ∈ m.keys, k.head? ≠ some dot) :
    readWith fixed (emit m) = some (entriesOf m (sortKeys m.keys)) := by
  obtain ⟨o, e, w, l, d⟩ := emit_spec m hval
  rw [e, ← l]
  simpa using readWith_render fixed (wLead := []) (wOpen := []) o [] wsOK_nil wsOK_nil w fun hf => d (hdot hf)

theorem entriesOf_keys {m : Flat Bytes} (hn : m.keys.Nodup) : entriesOf m m.keys = m := by
  rw [entriesOf, Flat.keys, List.map_map]
  refine (List.map_congr_left fun e he => ?_).trans (List.map_id _)
  show (e.1, valOf m e.1) = e
  rw [valOf, Flat.get_of_mem_nodup hn he]; rfl

theorem entriesOf_equiv (m : Flat Bytes) (hn : m.keys.Nodup) {ks : List Bytes} (hperm : ks.Perm m.keys) :
    (entriesOf m ks).Equiv m :=
  have hp : (entriesOf m ks).Perm m := (hperm.map _).trans (.of_eq (entriesOf_keys hn))
  Flat.get_perm ((hp.map Prod.fst).nodup_iff.mpr hn) hp

theorem valid_valOf {f : Flat Bytes} (hv : ∀ e ∈ f, ValidUTF8 e.2) (k : Bytes) : ValidUTF8 (valOf f k) := by
  unfold valOf
  cases hg : f.get k with
  | none => exact .nil
  | some v => exact hv (k, v) (Flat.mem_of_get hg)

theorem write_read (fixed : Bool) (f : Flat Bytes) (hn : f.keys.Nodup) (hk : ∀ k ∈ f.keys, ValidUTF8 k)
    (hv : ∀ e ∈ f, ValidUTF8 e.2) (hd : fixed = false → ∀ k ∈ f.keys, k.head? ≠ some dot) :
    ∃ g, readWith fixed (emit f) = some g ∧ g.Equiv f :=
  ⟨_, read_emit fixed f (fun k hkm => ⟨hk k hkm, valid_valOf hv k⟩) hd, entriesOf_equiv f hn (List.mergeSort_perm _ _)⟩

/-- `hr` speaks of the emitter with the sorting already done: `decide` cannot evaluate `emit`, because
`sortKeys` is `List.mergeSort`, defined by well-founded recursion. -/
theorem singleton_not_round_trip {k v k' : Bytes} {g : Flat Bytes}
    (hr : read (lbrace :: (emitLoop [(k, v)] (emitFuel [k]) [] [k]).2 ++ [rbrace]) = some g)
    (hk : g.get k' ≠ Flat.get [(k, v)] k') : ¬ ∃ g', read (emit [(k, v)]) = some g' ∧ g'.Equiv [(k, v)] := by
  rintro ⟨g', hg', he⟩
  have : emit [(k, v)] = lbrace :: (emitLoop [(k, v)] (emitFuel [k]) [] [k]).2 ++ [rbrace] := by
    simp only [emit, Flat.keys, List.map_cons, List.map_nil, sortKeys, List.mergeSort_singleton]
  rw [this, hr] at hg'
  cases hg'
  exact hk (he k')

end Goat.PlainMap
