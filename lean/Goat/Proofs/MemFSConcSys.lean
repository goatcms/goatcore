/-
The thread system: which directory's outer lock a program counter is inside (`holdsOuter`), in which lock orders it
occurs (`Pc.inVariant`), the program counters an operation begins at (`Pc.fresh`), the thread-local invariant of
`copyDir` activations, the shape of a step (`step_cases`, `step_none`), the threads before they begin (`startState`),
and the global invariant `Inv` that every step preserves.
-/
import Goat.Proofs.MemFSConcHeap

namespace Goat.MemFSConc

/-- the node lists `copyDir` builds have unique names.  `hole`: the child the activation above is working on; its
copy will be appended to `done` -/
def FrameOK (hole : Option Name) (fr : Frame) : Prop :=
  (fr.done.map (·.1) ++ (hole.toList ++ fr.todo.map (·.1))).Nodup

def StackOK : Option Name → List Frame → Prop
  | _, [] => True
  | hole, fr :: rest => FrameOK hole fr ∧ StackOK (some fr.nm) rest

def stackOf : Pc → List Frame
  | .cDir _ _ st => st
  | _ => []

def PcOK (pc : Pc) : Prop := StackOK none (stackOf pc)

theorem pcOK_of_nil {pc : Pc} (h : stackOf pc = []) : PcOK pc := by
  unfold PcOK; rw [h]; trivial

/-- the directory whose outer lock (`Dir.Lock`) a program counter is inside -/
def holdsOuter : Pc → Option Oid
  | .wLook d _ _ => some d
  | .wAdd d _ _ => some d
  | .wUnlockFin d _ => some d
  | .wUnlockSet d _ _ => some d
  | .wSetLocked d _ _ => some d
  | .oLook d _ _ => some d
  | .oAdd d _ _ => some d
  | .oUnlockOpen d _ _ => some d
  | .oOpenLocked d _ _ => some d
  | _ => none

/-- the program counter occurs in the lock order `v`: the two program counters of the old lock orders only when
their flag is set, every other one always -/
def Pc.inVariant (v : Variant) : Pc → Prop
  | .wSetLocked _ _ _ => v.writeFileUnderDir = true
  | .oOpenLocked _ _ _ => v.writerUnderDir = true
  | _ => True

/-- the program counters at which an operation, or the part of it that follows a path walk, begins: no
`copyDir` activation, outside every directory's critical section, present in every lock order (bundled, so that
one sweep over `afterMk` … `start` serves `inv_step` and `linv_step`) -/
def Pc.fresh (pc : Pc) : Prop := stackOf pc = [] ∧ holdsOuter pc = none ∧ ∀ v, Pc.inVariant v pc

theorem Pc.fresh.ok {pc : Pc} (h : pc.fresh) : PcOK pc := pcOK_of_nil h.1

theorem afterMk_fresh (k : MK) (d : Oid) : (afterMk k d).fresh := by
  cases k <;> simp only [afterMk] <;> (try split) <;> exact ⟨rfl, rfl, fun _ => trivial⟩

theorem mkOn_fresh (o : Oid) (p : Path) (k : MK) : (mkOn o p k).fresh := by
  cases p <;> first | exact afterMk_fresh k o | exact ⟨rfl, rfl, fun _ => trivial⟩

theorem mkStart_fresh (p : Path) (k : MK) : (mkStart p k).fresh := mkOn_fresh 0 p k

theorem afterWalk_fresh (k : WK) (o : Oid) (b : Bool) : (afterWalk k o b).fresh := by
  cases k <;> simp only [afterWalk] <;> (repeat' split) <;>
    first | exact mkStart_fresh _ _ | exact ⟨rfl, rfl, fun _ => trivial⟩

theorem walkOn_fresh (o : Oid) (b : Bool) (p : Path) (k : WK) : (walkOn o b p k).fresh := by
  cases p <;> simp only [walkOn] <;> (repeat' split) <;>
    first | exact afterWalk_fresh _ _ _ | exact ⟨rfl, rfl, fun _ => trivial⟩

theorem walkStart_fresh (p : Path) (k : WK) : (walkStart p k).fresh := walkOn_fresh 0 true p k

theorem start_fresh (hs : List Handle) (op : Op) : (start hs op).fresh := by
  cases op <;> simp only [start] <;> (repeat' split) <;>
    first | exact mkStart_fresh _ _ | exact walkStart_fresh _ _ | exact ⟨rfl, rfl, fun _ => trivial⟩

theorem actOf_ok (v : Variant) {pc : Pc} (h : PcOK pc) : ActOK (actOf v pc) := by
  cases pc with
  | cDir d n st =>
    cases st with
    | nil => simp only [actOf, ActOK]
    | cons fr rest =>
      simp only [actOf]
      split
      · trivial
      · trivial
      · rename_i htodo
        simp only [ActOK]
        have := h.1
        simp only [FrameOK, htodo] at this
        simpa using this
  | walk _ rest _ => cases rest <;> trivial
  | mk _ rest _ => cases rest <;> trivial
  | _ => trivial

theorem copyStep_ok {d : Oid} {n : Name} {fr : Frame} {stack : List Frame} {r : Ret}
    (h : StackOK none (fr :: stack)) (hr : RetOK r) : PcOK (copyStep d n fr stack r) := by
  have hfr : FrameOK none fr := h.1
  have hst : StackOK (some fr.nm) stack := h.2
  simp only [FrameOK, Option.toList, List.nil_append] at hfr
  unfold copyStep
  split
  · -- a file child is copied: its name moves from `todo` to `done`
    rename_i cn co todo' c htodo
    refine ⟨?_, hst⟩
    simp only [FrameOK, Option.toList, List.nil_append, List.map_append, List.map_cons, List.map_nil]
    rw [htodo] at hfr
    simpa [List.append_assoc] using hfr
  · -- a directory child is entered: the new activation lists `l` (unique by `RetOK`), its parent keeps the child as hole
    rename_i cn co todo' l htodo
    refine ⟨?_, ?_, hst⟩
    · simp only [FrameOK, Option.toList, List.nil_append, List.map_nil]
      simpa [RetOK] using hr
    · simp only [FrameOK, Option.toList]
      rw [htodo] at hfr
      simpa using hfr
  · -- the activation is finished: its copy fills the hole of the parent
    rename_i c htodo
    cases stack with
    | nil => exact pcOK_of_nil rfl
    | cons par stack' =>
      simp only
      have hpar : FrameOK (some fr.nm) par := hst.1
      refine ⟨?_, hst.2⟩
      simp only [FrameOK, Option.toList, List.nil_append, List.map_append, List.map_cons, List.map_nil] at hpar ⊢
      simpa [List.append_assoc] using hpar
  · exact pcOK_of_nil rfl

theorem resume_ok (v : Variant) {pc : Pc} {r : Ret} (h : PcOK pc) (hr : RetOK r) : PcOK (resume v pc r) := by
  cases pc with
  | cEnter d n src =>
    simp only [resume]
    split
    · simp only [PcOK, stackOf, StackOK, FrameOK, and_true]
      simpa [RetOK] using hr
    · exact pcOK_of_nil rfl
  | cDir d n stack =>
    simp only [resume]
    cases stack with
    | nil => exact pcOK_of_nil rfl
    | cons fr stack' => exact copyStep_ok h hr
  | _ =>
    simp only [resume] <;> (repeat' split) <;>
      first | exact pcOK_of_nil rfl | exact (mkOn_fresh _ _ _).ok | exact (walkOn_fresh _ _ _ _).ok

/-- the three kinds of step: begin an operation, record a result, one critical section -/
inductive StepKind (v : Variant) (s : State) (t : Tid) (th : Thread) : State → Prop
  | start (op : Op) (rest : List Op) : th.pc = .idle → th.prog = op :: rest →
      StepKind v s t th { s with threads := s.threads.set t { th with pc := start th.handles op, prog := rest } }
  | fin (r : Res) : th.pc = .fin r →
      StepKind v s t th { heap := s.heap, threads := s.threads.set t { th with pc := .idle }, log := (t, r) :: s.log }
  | act (h' : Heap) (r : Ret) : th.pc ≠ .idle → (∀ r, th.pc ≠ .fin r) →
      applyAct s.heap t (actOf v th.pc) = some (h', r) →
      StepKind v s t th { heap := h',
                          threads := s.threads.set t { th with pc := resume v th.pc r,
                                                               handles := handleEffect th.pc r th.handles },
                          log := s.log }

theorem step_cases {v : Variant} {s s' : State} {t : Tid} (hs : step v s t = some s') :
    ∃ th, s.threads[t]? = some th ∧ StepKind v s t th s' := by
  unfold step at hs
  cases hth : s.threads[t]? with
  | none => simp [hth] at hs
  | some th =>
    refine ⟨th, rfl, ?_⟩
    simp only [hth] at hs
    cases hst : stepThread v s.heap t th with
    | none => simp [hst] at hs
    | some res =>
      obtain ⟨h', th', out⟩ := res
      simp only [hst, Option.some.injEq] at hs
      subst hs
      unfold stepThread at hst
      split at hst
      · rename_i hpc
        split at hst
        · cases hst
        · rename_i op rest hprog
          simp only [Option.some.injEq, Prod.mk.injEq] at hst
          obtain ⟨rfl, rfl, rfl⟩ := hst
          exact StepKind.start op rest hpc hprog
      · rename_i r hpc
        simp only [Option.some.injEq, Prod.mk.injEq] at hst
        obtain ⟨rfl, rfl, rfl⟩ := hst
        exact StepKind.fin r hpc
      · rename_i pc hni hnf
        cases hap : applyAct s.heap t (actOf v th.pc) with
        | none => simp [hap] at hst
        | some hr =>
          obtain ⟨h2, r⟩ := hr
          simp only [hap, Option.some.injEq, Prod.mk.injEq] at hst
          obtain ⟨rfl, rfl, rfl⟩ := hst
          exact StepKind.act _ r hni (fun r => hnf r) hap

theorem step_none {v : Variant} {s : State} {t : Tid} {th : Thread} (hth : s.threads[t]? = some th)
    (hs : step v s t = none) : th.finished = true ∨ applyAct s.heap t (actOf v th.pc) = none := by
  unfold step at hs
  simp only [hth] at hs
  cases hst : stepThread v s.heap t th with
  | some res => simp [hst] at hs
  | none =>
    unfold stepThread at hst
    split at hst
    · rename_i hpc
      split at hst
      · rename_i hprog
        left; simp [Thread.finished, hpc, hprog]
      · cases hst
    · cases hst
    · cases hap : applyAct s.heap t (actOf v th.pc) with
      | none => exact Or.inr rfl
      | some x => simp [hap] at hst

theorem finished_iff {th : Thread} : th.finished = true ↔ th.pc = .idle ∧ th.prog = [] := by
  unfold Thread.finished
  split
  · rename_i h1 h2
    exact ⟨fun _ => ⟨h1, h2⟩, fun _ => rfl⟩
  · rename_i hne
    constructor
    · intro h; cases h
    · intro h; exact absurd h.2 (hne h.1)

theorem unfinished_eq {s : State} {t : Tid} {th : Thread} (hth : s.threads[t]? = some th) :
    unfinished s t = !th.finished := by
  simp [unfinished, hth]

theorem all_finished_iff {s : State} : (∀ t, unfinished s t = false) ↔ s.threads.all Thread.finished = true := by
  rw [List.all_eq_true]
  constructor
  · intro h th hth
    obtain ⟨t, hlt, rfl⟩ := List.getElem_of_mem hth
    simpa [unfinished_eq (List.getElem?_eq_getElem hlt)] using h t
  · intro h t
    cases hth : s.threads[t]? with
    | none => simp [unfinished, hth]
    | some th => simp [unfinished_eq hth, h th (List.mem_of_getElem? hth)]

structure Inv (s : State) : Prop where
  heap : HeapInv s.heap
  files : FilesInv s.heap
  pcs : ∀ th ∈ s.threads, PcOK th.pc

/-- threads that have not begun, on a given heap -/
def startState (h0 : Heap) (progs : List (List Op)) : State :=
  { heap := h0, threads := progs.map fun p => { prog := p }, log := [] }

theorem inv_startState {h0 : Heap} (hh : HeapInv h0) (hf : FilesInv h0) (progs : List (List Op)) :
    Inv (startState h0 progs) := by
  refine ⟨hh, hf, fun th hth => ?_⟩
  simp only [startState, List.mem_map] at hth
  obtain ⟨p, _, rfl⟩ := hth
  exact pcOK_of_nil rfl

theorem inv_init (progs : List (List Op)) : Inv (init progs) :=
  inv_startState (fun _ _ hg => by rw [getDir_init hg]; exact dirInv_empty)
    (fun o _ hg => by rw [getFile_init] at hg; cases hg) progs

theorem inv_step {v : Variant} {s s' : State} {t : Tid} (hi : Inv s) (hs : step v s t = some s') : Inv s' := by
  obtain ⟨th, hth, hk⟩ := step_cases hs
  have hmem : th ∈ s.threads := List.mem_of_getElem? hth
  cases hk with
  | start op rest hpc hprog =>
    exact ⟨hi.heap, hi.files, forall_mem_set hi.pcs (start_fresh _ _).ok t⟩
  | fin r hpc =>
    exact ⟨hi.heap, hi.files, forall_mem_set hi.pcs (pcOK_of_nil rfl) t⟩
  | act h' r hni hnf hap =>
    have hpc := hi.pcs th hmem
    exact ⟨applyAct_heapInv hi.heap (actOf_ok v hpc) hap, applyAct_filesInv hi.files hap,
      forall_mem_set hi.pcs (resume_ok v hpc (applyAct_retOK hi.heap hap)) t⟩

theorem inv_run (v : Variant) (progs : List (List Op)) (sched : List Tid) : Inv ((sys v progs).run sched) :=
  LTS.inv_run (sys v progs) Inv (inv_init progs) (fun _ _ _ hi hs => inv_step hi hs) sched

end Goat.MemFSConc
