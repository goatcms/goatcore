/-
The transition system of `Goat/Model/DataScope.lean`: a relational reading of `step` (one constructor per critical
section, both ways), what a step does to the heap and the lock stacks (`step_effect`), what plain traffic does
(`plain_step`), and the lock invariant.
-/
import Goat.Proofs.DataScope

namespace Goat.DataScope

/-- the thread after the critical section of a `Value(k)` call returned `lv` -/
def afterRead (th : Thread) (k : Key) : Level → Thread
  | .hit v => { th with reg := v, walk := none }
  | .up p => { th with walk := some (p, k) }
  | .bottom => { th with reg := none, walk := none }

theorem afterRead_prog (th : Thread) (k : Key) (lv : Level) : (afterRead th k lv).prog = th.prog := by
  cases lv <;> rfl

theorem afterRead_lks (th : Thread) (k : Key) (lv : Level) : (afterRead th k lv).lks = th.lks := by
  cases lv <;> rfl

theorem walkStep_eq (st : St) (i : Nat) (th : Thread) (s : Nat) (k : Key) :
    walkStep st i th s k =
      if isFree st.scopes s then some (setThread st i (afterRead th k (readLevel st.scopes s k))) else none := by
  unfold walkStep
  cases readLevel st.scopes s k <;> rfl

theorem instrStep_lget {st : St} {i : Nat} {prog : List Instr} {reg : Val} {k : Key} {rest : List Instr} {s : Nat}
    {more : List Nat} :
    instrStep st i ⟨prog, s :: more, reg, none⟩ (.lget k) rest =
      some (setThread st i (afterRead ⟨rest, s :: more, reg, none⟩ k (readLevel st.scopes s k))) := by
  simp only [instrStep]
  cases readLevel st.scopes s k <;> rfl

/-- `StepRel st i th t`: thread `i`, whose record in `st` is `th`, takes the step `st → t`; one constructor per
critical section of the Go code -/
inductive StepRel (st : St) (i : Nat) : Thread → St → Prop where
  | climb {prog : List Instr} {lks : List Nat} {reg : Val} {s : Nat} {k : Key} (hf : isFree st.scopes s = true) :
      StepRel st i ⟨prog, lks, reg, some (s, k)⟩
        (setThread st i (afterRead ⟨prog, lks, reg, some (s, k)⟩ k (readLevel st.scopes s k)))
  | set {rest : List Instr} {lks : List Nat} {reg : Val} {s : Nat} {k : Key} {v : Val}
      (hf : isFree st.scopes s = true) :
      StepRel st i ⟨.set s k v :: rest, lks, reg, none⟩
        (setThread { st with scopes := dataSet st.scopes s k v } i ⟨rest, lks, reg, none⟩)
  | get {rest : List Instr} {lks : List Nat} {reg : Val} {s : Nat} {k : Key} (hf : isFree st.scopes s = true) :
      StepRel st i ⟨.get s k :: rest, lks, reg, none⟩
        (setThread st i (afterRead ⟨rest, lks, reg, none⟩ k (readLevel st.scopes s k)))
  | keys {rest : List Instr} {lks : List Nat} {reg : Val} {s : Nat} (hf : isFree st.scopes s = true) :
      StepRel st i ⟨.keys s :: rest, lks, reg, none⟩ (setThread st i ⟨rest, lks, reg, none⟩)
  | lock {rest : List Instr} {lks : List Nat} {reg : Val} {s : Nat} (hf : isFree st.scopes s = true) :
      StepRel st i ⟨.lock s :: rest, lks, reg, none⟩
        (setThread { st with scopes := setHeld st.scopes s true } i ⟨rest, s :: lks, reg, none⟩)
  | lget {rest : List Instr} {more : List Nat} {reg : Val} {s : Nat} {k : Key} :
      StepRel st i ⟨.lget k :: rest, s :: more, reg, none⟩
        (setThread st i (afterRead ⟨rest, s :: more, reg, none⟩ k (readLevel st.scopes s k)))
  | lset {rest : List Instr} {more : List Nat} {reg : Val} {s : Nat} {k : Key} {v : Val} :
      StepRel st i ⟨.lset k v :: rest, s :: more, reg, none⟩
        (setThread { st with scopes := dataSet st.scopes s k v } i ⟨rest, s :: more, reg, none⟩)
  | linc {rest : List Instr} {more : List Nat} {reg : Val} {s : Nat} {k : Key} :
      StepRel st i ⟨.linc k :: rest, s :: more, reg, none⟩
        (setThread { st with scopes := dataSet st.scopes s k (some (reg.getD 0 + 1)) } i ⟨rest, s :: more, reg, none⟩)
  | lcreateSome {rest : List Instr} {more : List Nat} {x : Nat} {s : Nat} {k : Key} :
      StepRel st i ⟨.lcreate k :: rest, s :: more, some x, none⟩ (setThread st i ⟨rest, s :: more, some x, none⟩)
  | lcreateNone {rest : List Instr} {more : List Nat} {s : Nat} {k : Key} :
      StepRel st i ⟨.lcreate k :: rest, s :: more, none, none⟩
        (setThread { st with scopes := dataSet st.scopes s k (some st.fresh), fresh := st.fresh + 1 } i
          ⟨rest, s :: more, some st.fresh, none⟩)
  | lkeys {rest : List Instr} {more : List Nat} {reg : Val} {s : Nat} :
      StepRel st i ⟨.lkeys :: rest, s :: more, reg, none⟩ (setThread st i ⟨rest, s :: more, reg, none⟩)
  | commit {rest : List Instr} {more : List Nat} {reg : Val} {s : Nat} (hh : isHeld st.scopes s = true) :
      StepRel st i ⟨.commit :: rest, s :: more, reg, none⟩
        (setThread { st with scopes := setHeld st.scopes s false } i ⟨rest, more, reg, none⟩)

theorem step_rel {st t : St} {i : Nat} (h : step st i = some t) :
    ∃ th, st.threads[i]? = some th ∧ StepRel st i th t := by
  unfold step at h
  cases hth : st.threads[i]? with
  | none => simp [hth] at h
  | some th =>
    refine ⟨th, rfl, ?_⟩
    obtain ⟨prog, lks, reg, walk⟩ := th
    simp only [hth] at h
    cases walk with
    | some sk =>
      simp only [walkStep_eq] at h
      split at h
      · cases h; exact .climb ‹_›
      · cases h
    | none =>
      cases prog with
      | nil => cases h
      | cons ins rest =>
        cases ins with
        | set s k v =>
          simp only [instrStep] at h
          split at h
          · cases h; exact .set ‹_›
          · cases h
        | get s k =>
          simp only [instrStep, walkStep_eq] at h
          split at h
          · cases h; exact .get ‹_›
          · cases h
        | keys s =>
          simp only [instrStep] at h
          split at h
          · cases h; exact .keys ‹_›
          · cases h
        | lock s =>
          simp only [instrStep] at h
          split at h
          · cases h; exact .lock ‹_›
          · cases h
        | commit =>
          cases lks with
          | nil => cases h
          | cons s more =>
            simp only [instrStep] at h
            split at h
            · cases h; exact .commit ‹_›
            · cases h
        | lget k =>
          cases lks with
          | nil => cases h
          | cons s more =>
            cases instrStep_lget.symm.trans h
            exact .lget
        | lset k v =>
          cases lks with
          | nil => cases h
          | cons s more => cases h; exact .lset
        | linc k =>
          cases lks with
          | nil => cases h
          | cons s more => cases h; exact .linc
        | lcreate k =>
          cases lks with
          | nil => cases h
          | cons s more =>
            cases reg with
            | some x => cases h; exact .lcreateSome
            | none => cases h; exact .lcreateNone
        | lkeys =>
          cases lks with
          | nil => cases h
          | cons s more => cases h; exact .lkeys

/-- enabledness is shown by naming the constructor -/
theorem step_of_rel {st t : St} {i : Nat} {th : Thread} (hth : st.threads[i]? = some th) (h : StepRel st i th t) :
    step st i = some t := by
  unfold step
  rw [hth]
  cases h with
  | lget => exact instrStep_lget
  | climb hf | get hf | set hf | keys hf | lock hf | commit hf => simp only [instrStep, walkStep_eq, hf, if_true]
  | _ => rfl

theorem setThread_threads (st : St) (i : Nat) (th : Thread) : (setThread st i th).threads = st.threads.set i th := rfl
theorem setThread_scopes (st : St) (i : Nat) (th : Thread) : (setThread st i th).scopes = st.scopes := rfl
theorem setThread_fresh (st : St) (i : Nat) (th : Thread) : (setThread st i th).fresh = st.fresh := rfl

/-- what a step does to the scope `s` it touches (no other scope changes) and to the stepper's lock stack -/
inductive Effect (ss : Scopes) (s : Nat) (th th' : Thread) (ss' : Scopes) : Prop where
  | local (hs : ss' = ss) (hl : th'.lks = th.lks)
  | write (k : Key) (v : Val) (hs : ss' = dataSet ss s k v) (hl : th'.lks = th.lks)
  | acquire (hf : isFree ss s = true) (hs : ss' = setHeld ss s true) (hl : th'.lks = s :: th.lks)
  | release (more : List Nat) (hlk : th.lks = s :: more) (hh : isHeld ss s = true)
      (hs : ss' = setHeld ss s false) (hl : th'.lks = more)

theorem step_effect {st t : St} {i : Nat} (h : step st i = some t) :
    ∃ th, st.threads[i]? = some th ∧ ∃ th' s, t.threads = st.threads.set i th' ∧ touches st i = some s ∧
      (isFree st.scopes s = true ∨ s ∈ th.lks) ∧ Effect st.scopes s th th' t.scopes := by
  obtain ⟨th, hth, h⟩ := step_rel h
  refine ⟨th, hth, ?_⟩
  cases h with
  | climb hf | get hf => exact ⟨_, _, rfl, by simp only [touches, hth], .inl hf, .local rfl (afterRead_lks ..)⟩
  | set hf => exact ⟨_, _, rfl, by simp only [touches, hth], .inl hf, .write _ _ rfl rfl⟩
  | keys hf => exact ⟨_, _, rfl, by simp only [touches, hth], .inl hf, .local rfl rfl⟩
  | lock hf => exact ⟨_, _, rfl, by simp only [touches, hth], .inl hf, .acquire hf rfl rfl⟩
  | lget =>
    exact ⟨_, _, rfl, by simp only [touches, hth, List.head?_cons], .inr List.mem_cons_self, .local rfl (afterRead_lks ..)⟩
  | lset | linc | lcreateNone =>
    exact ⟨_, _, rfl, by simp only [touches, hth, List.head?_cons], .inr List.mem_cons_self, .write _ _ rfl rfl⟩
  | lcreateSome | lkeys =>
    exact ⟨_, _, rfl, by simp only [touches, hth, List.head?_cons], .inr List.mem_cons_self, .local rfl rfl⟩
  | commit hh =>
    exact ⟨_, _, rfl, by simp only [touches, hth, List.head?_cons], .inr List.mem_cons_self, .release _ rfl hh rfl rfl⟩

theorem Effect.keeps {ss ss' : Scopes} {s : Nat} {th th' : Thread} (h : Effect ss s th th' ss') :
    ss'.length = ss.length ∧ (WF ss → WF ss') ∧ ∀ j, j ≠ s → ss'[j]? = ss[j]? := by
  cases h with
  | «local» hs hl => subst hs; exact ⟨rfl, id, fun _ _ => rfl⟩
  | write k v hs hl => subst hs; exact ⟨dataSet_length .., (WF_dataSet · s k v), fun _ => dataSet_getElem?_ne k v⟩
  | acquire hf hs hl | release more hlk hh hs hl =>
    subst hs; exact ⟨setHeld_length .., (WF_setHeld · s _), fun _ => setHeld_getElem?_ne _⟩

theorem step_keeps {st t : St} {i : Nat} (h : step st i = some t) :
    t.scopes.length = st.scopes.length ∧ (WF st.scopes → WF t.scopes) := by
  obtain ⟨_, _, _, _, _, _, _, heff⟩ := step_effect h
  exact ⟨heff.keeps.1, heff.keeps.2.1⟩

theorem isNoise_cons {s : Nat} {c : Key} {ins : Instr} {rest : List Instr} (h : isNoise s c (ins :: rest) = true) :
    noiseOK s c ins = true ∧ isNoise s c rest = true := by
  simpa [isNoise] using h

/-- `SetValue`, `Value`, `Keys` on a scope: the calls that need no locker -/
def Instr.plain : Instr → Bool
  | .set .. | .get .. | .keys _ => true
  | _ => false

theorem noiseOK_plain {s : Nat} {c : Key} {ins : Instr} (h : noiseOK s c ins = true) : ins.plain = true := by
  cases ins with
  | set | get | keys => rfl
  | _ => exact h

theorem keyNoiseOK_plain {c : Key} {ins : Instr} (h : keyNoiseOK c ins = true) : ins.plain = true := by
  cases ins with
  | set | get | keys => rfl
  | _ => exact h

/-- `ok` is `noiseOK s c` (`isNoise s c p` is `p.all (noiseOK s c)`) or `keyNoiseOK c` (`isKeyNoise`) -/
theorem plain_step {ok : Instr → Bool} (hplain : ∀ {ins}, ok ins = true → ins.plain = true)
    {st t : St} {i : Nat} {th : Thread} (hl : th.lks = []) (hn : th.prog.all ok = true) (h : StepRel st i th t) :
    ∃ th', t.threads = st.threads.set i th' ∧ th'.lks = [] ∧ t.fresh = st.fresh ∧ th'.prog.all ok = true ∧
      (t.scopes = st.scopes ∨ ∃ s' k v, ok (.set s' k v) = true ∧ t.scopes = dataSet st.scopes s' k v) := by
  cases h with
  | climb hf => exact ⟨_, rfl, (afterRead_lks ..).trans hl, rfl, (afterRead_prog ..).symm ▸ hn, .inl rfl⟩
  | set hf => exact ⟨_, rfl, hl, rfl, (Bool.and_eq_true_iff.mp hn).2, .inr ⟨_, _, _, (Bool.and_eq_true_iff.mp hn).1, rfl⟩⟩
  | get hf =>
    exact ⟨_, rfl, (afterRead_lks ..).trans hl, rfl, (afterRead_prog ..).symm ▸ (Bool.and_eq_true_iff.mp hn).2, .inl rfl⟩
  | keys hf => exact ⟨_, rfl, hl, rfl, (Bool.and_eq_true_iff.mp hn).2, .inl rfl⟩
  | _ => cases hplain (Bool.and_eq_true_iff.mp hn).1

theorem initSt_forall {ss : Scopes} {n : Nat} {prog : List Instr} {others : List (List Instr)} {fresh : Nat}
    {P : Bool → Thread → Prop} (h1 : P true (Thread.start prog)) (h2 : ∀ p ∈ others, P false (Thread.start p))
    (i : Nat) (th : Thread) (h : (initSt ss n prog others fresh).threads[i]? = some th) : P (decide (i < n)) th := by
  simp only [initSt] at h
  by_cases hi : i < n
  · rw [List.getElem?_append_left (by simpa using hi), List.getElem?_replicate] at h
    simp [hi] at h
    simpa [hi, ← h] using h1
  · rw [List.getElem?_append_right (by simpa using Nat.le_of_not_lt hi)] at h
    rcases List.mem_map.mp (List.mem_iff_getElem?.mpr ⟨_, h⟩) with ⟨p, hp, rfl⟩
    simpa [hi] using h2 p hp

theorem initSt_lks (ss : Scopes) (n : Nat) (prog : List Instr) (others : List (List Instr)) (fresh : Nat) :
    ∀ th ∈ (initSt ss n prog others fresh).threads, th.lks = [] := fun th hth =>
  (List.mem_iff_getElem?.mp hth).elim
    (initSt_forall (P := fun _ th => th.lks = []) rfl (fun _ _ => rfl) · th)

def lksOf (st : St) (a : Nat) : List Nat :=
  match st.threads[a]? with
  | some th => th.lks
  | none => []

theorem lksOf_eq {st : St} {a : Nat} {th : Thread} (h : st.threads[a]? = some th) : lksOf st a = th.lks := by
  simp only [lksOf, h]

theorem mem_lksOf {st : St} {a s : Nat} {th : Thread} (h : st.threads[a]? = some th) (hs : s ∈ th.lks) :
    s ∈ lksOf st a :=
  lksOf_eq h ▸ hs

theorem exists_of_mem_lksOf {st : St} {a s : Nat} (h : s ∈ lksOf st a) :
    ∃ th, st.threads[a]? = some th ∧ s ∈ th.lks := by
  unfold lksOf at h
  cases hth : st.threads[a]? with
  | none => rw [hth] at h; cases h
  | some th => rw [hth] at h; exact ⟨th, rfl, h⟩

theorem holds_iff {st : St} {t s : Nat} : holds st t s = true ↔ s ∈ lksOf st t := by
  unfold holds lksOf
  cases st.threads[t]? <;> simp

theorem lksOf_set {st t : St} {i : Nat} {th th' : Thread} (hth : st.threads[i]? = some th)
    (ht : t.threads = st.threads.set i th') (a : Nat) : lksOf t a = if a = i then th'.lks else lksOf st a := by
  unfold lksOf
  rw [ht]
  by_cases h : a = i
  · subst h; simp only [List.getElem?_set_self (lt_of_getElem? hth), if_true]
  · simp only [List.getElem?_set_ne (Ne.symm h), h, if_false]

/-- a scope in some thread's lock stack is write-held, by that thread only, once -/
structure LockInv (st : St) : Prop where
  held : ∀ (a s : Nat), s ∈ lksOf st a → isHeld st.scopes s = true
  uniq : ∀ (a b s : Nat), s ∈ lksOf st a → s ∈ lksOf st b → a = b
  nodup : ∀ (a : Nat), (lksOf st a).Nodup

theorem LockInv_init {st : St} (h : ∀ th ∈ st.threads, th.lks = []) : LockInv st := by
  have h' : ∀ a, lksOf st a = [] := by
    intro a
    unfold lksOf
    cases ha : st.threads[a]? with
    | none => rfl
    | some th => exact h th (List.mem_of_getElem? ha)
  refine ⟨?_, ?_, ?_⟩
  · intro a s hs; rw [h' a] at hs; cases hs
  · intro a b s hs; rw [h' a] at hs; cases hs
  · intro a; rw [h' a]; exact List.nodup_nil

theorem LockInv_step {st t : St} {i : Nat} (hinv : LockInv st) (h : step st i = some t) : LockInv t := by
  obtain ⟨th, hth, th', s0, ht, -, -, heff⟩ := step_effect h
  have hset := lksOf_set hth ht
  have hi := lksOf_eq hth
  -- the invariant only looks at the lock flags and the lock stacks
  have same : th'.lks = th.lks → (∀ s, isHeld t.scopes s = isHeld st.scopes s) → LockInv t := by
    intro hl hs
    have e : ∀ a, lksOf t a = lksOf st a := by
      intro a; rw [hset]; split
      · next e => rw [e, hl, hi]
      · rfl
    exact ⟨fun a s hm => by rw [hs]; exact hinv.held a s (e a ▸ hm),
      fun a b s ha hb => hinv.uniq a b s (e a ▸ ha) (e b ▸ hb), fun a => e a ▸ hinv.nodup a⟩
  cases heff with
  | «local» hs hl => exact same hl (fun s => by rw [hs])
  | write k v hs hl => exact same hl (fun s => by rw [hs, isHeld_dataSet])
  | acquire hf hs hl =>
    have hnobody : ∀ a, s0 ∉ lksOf st a := fun a hm => isFree_isHeld hf (hinv.held a s0 hm)
    have hmem : ∀ {a s}, s ∈ lksOf t a → (a = i ∧ s = s0) ∨ s ∈ lksOf st a := by
      intro a s hm
      rw [hset] at hm
      split at hm
      · next e =>
        rw [hl, ← hi, ← e] at hm
        exact (List.mem_cons.mp hm).imp (fun es => ⟨e, es⟩) id
      · exact .inr hm
    refine ⟨?_, ?_, ?_⟩
    · intro a s hm
      rw [hs]
      rcases hmem hm with ⟨-, rfl⟩ | hm'
      · exact isHeld_setHeld_self true (isFree_lt hf)
      · have hne : s ≠ s0 := fun e => hnobody a (e ▸ hm')
        rw [isHeld_setHeld_ne true hne]; exact hinv.held a s hm'
    · intro a b s ha hb
      rcases hmem ha with ⟨rfl, rfl⟩ | ha' <;> rcases hmem hb with ⟨hb', hb''⟩ | hb'
      · exact hb'.symm
      · exact absurd hb' (hnobody b)
      · exact absurd (hb'' ▸ ha') (hnobody a)
      · exact hinv.uniq a b s ha' hb'
    · intro a
      rw [hset]
      split
      · rw [hl, ← hi]; exact List.nodup_cons.mpr ⟨hnobody i, hinv.nodup i⟩
      · exact hinv.nodup a
  | release more hlk hh hs hl =>
    have hnd : s0 ∉ more ∧ more.Nodup := List.nodup_cons.mp (hlk ▸ hi ▸ hinv.nodup i)
    have hmem : ∀ {a s}, s ∈ lksOf t a → s ∈ lksOf st a ∧ s ≠ s0 := by
      intro a s hm
      rw [hset] at hm
      split at hm
      · next e =>
        rw [hl] at hm
        exact ⟨by rw [e, hi, hlk]; exact List.mem_cons_of_mem _ hm, fun es => hnd.1 (es ▸ hm)⟩
      · next e =>
        exact ⟨hm, fun es => e (hinv.uniq a i s hm (by rw [hi, hlk, es]; exact List.mem_cons_self))⟩
    refine ⟨fun a s hm => ?_, fun a b s ha hb => hinv.uniq a b s (hmem ha).1 (hmem hb).1, fun a => ?_⟩
    · rw [hs, isHeld_setHeld_ne false (hmem hm).2]; exact hinv.held a s (hmem hm).1
    · rw [hset]
      split
      · rw [hl]; exact hnd.2
      · exact hinv.nodup a

/-- the converse of `LockInv.held`.  Not a field of `LockInv`: it needs a start without held mutexes, which the
exclusivity and get-or-create results do not assume -/
def OwnedInv (st : St) : Prop := ∀ j, isHeld st.scopes j = true → ∃ a, j ∈ lksOf st a

theorem OwnedInv_step {st t : St} {i : Nat} (hinv : OwnedInv st) (h : step st i = some t) : OwnedInv t := by
  obtain ⟨th, hth, th', s, ht, -, -, heff⟩ := step_effect h
  have hset := lksOf_set hth ht
  have hi := lksOf_eq hth
  have keep : ∀ j, (∃ a, j ∈ lksOf st a) → (j ∈ th.lks → j ∈ th'.lks) → ∃ a, j ∈ lksOf t a := by
    intro j ⟨a, hj⟩ hk
    refine ⟨a, ?_⟩
    rw [hset]
    split
    · next e => exact hk (hi ▸ e ▸ hj)
    · exact hj
  intro j hj
  cases heff with
  | «local» hs hl => rw [hs] at hj; exact keep j (hinv j hj) (fun h => hl ▸ h)
  | write k v hs hl => rw [hs, isHeld_dataSet] at hj; exact keep j (hinv j hj) (fun h => hl ▸ h)
  | acquire hf hs hl =>
    by_cases hjs : j = s
    · exact ⟨i, by rw [hset, if_pos rfl, hl, hjs]; exact List.mem_cons_self⟩
    · rw [hs, isHeld_setHeld_ne true hjs] at hj
      exact keep j (hinv j hj) (fun h => by rw [hl]; exact List.mem_cons_of_mem _ h)
  | release more hlk hh hs hl =>
    by_cases hjs : j = s
    · rw [hs, hjs, isHeld_setHeld_self false (isHeld_lt hh)] at hj
      cases hj
    · rw [hs, isHeld_setHeld_ne false hjs] at hj
      refine keep j (hinv j hj) (fun h => ?_)
      rw [hlk] at h
      rw [hl]
      exact (List.mem_cons.mp h).resolve_left hjs

theorem LockInv_fired {init : St} (h0 : ∀ th ∈ init.threads, th.lks = []) (sched : List Nat) {p : St × Nat}
    (hp : p ∈ (sys init).fired sched) : LockInv p.1 ∧ ∃ t, step p.1 p.2 = some t :=
  (LTS.fired_sound (sys init) sched p hp).imp_left
    (LTS.inv_of_init_step (sys init) LockInv (LockInv_init h0) (fun _ _ _ hinv hs => LockInv_step hinv hs) _)

theorem no_touch_while_held {st t : St} {i o s : Nat} (hinv : LockInv st) (h : step st i = some t)
    (hold : holds st o s = true) (hne : o ≠ i) : touches st i ≠ some s ∧ t.scopes[s]? = st.scopes[s]? := by
  obtain ⟨th, hth, th', s', -, htouch, hguard, heff⟩ := step_effect h
  have hmem := holds_iff.mp hold
  have hss : s ≠ s' := by
    rintro rfl
    rcases hguard with hf | hmem'
    · exact isFree_isHeld hf (hinv.held o s hmem)
    · exact hne (hinv.uniq o i s hmem (mem_lksOf hth hmem'))
  exact ⟨fun e => hss (Option.some.inj (htouch.symm.trans e)).symm, heff.keeps.2.2 s hss⟩

end Goat.DataScope
