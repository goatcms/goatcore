/-
Read confinement for ALL calls.  Two well-formed hosts that agree at every path related to the root directory `r0`
(at or below it, or one of its ancestors) — `Eqv r0` — answer every call through a filespace rooted at or below `r0`
with the SAME outcome, listings in the same order, partial effects included, and are `Eqv r0` again afterwards:
nothing else of the host is read.
-/
import Goat.Proofs.DiskFSCopy
import Goat.Proofs.DiskFSRun

namespace Goat
namespace DiskFS

open Path (Name norm)
open FS (Op Result Entry State TreeLike)

/-- `q` is at or below `r0`, or one of its ancestors.  The ancestors count because `MkdirAll` and
`RemoveAll` (`throughFile`) look at every prefix of their path. -/
def Rel (r0 q : HPath) : Prop := r0 <+: q ∨ q <+: r0

theorem rel_prefix {r0 p q : HPath} (hp : r0 <+: p) (hq : q <+: p) : Rel r0 q :=
  List.prefix_or_prefix_of_prefix hp hq

theorem under_append {r0 p : HPath} (hp : r0 <+: p) (x : HPath) : r0 <+: p ++ x :=
  List.prefix_append_of_prefix hp

structure Eqv (r0 : HPath) (A B : Host) : Prop where
  wfA : A.WF
  wfB : B.WF
  same : ∀ q, Rel r0 q → A.get q = B.get q

theorem Eqv.at {r0 : HPath} {A B : Host} (E : Eqv r0 A B) {p : HPath} (hp : r0 <+: p) : A.get p = B.get p :=
  E.same p (.inl hp)

def OEqv (r0 : HPath) : Option Host → Option Host → Prop
  | none, none => True
  | some A', some B' => Eqv r0 A' B'
  | _, _ => False

@[elab_as_elim]
theorem OEqv.elim {r0 : HPath} {P : Option Host → Option Host → Prop} {oa ob : Option Host} (h : OEqv r0 oa ob)
    (none : P none none) (some : ∀ A' B', Eqv r0 A' B' → P (some A') (some B')) : P oa ob :=
  match oa, ob, h with
  | .none, .none, _ => none
  | .some _, .some _, h => some _ _ h
  | .none, .some _, h => False.elim h
  | .some _, .none, h => False.elim h

def Same {β} (r0 : HPath) (x y : Host × β) : Prop := x.2 = y.2 ∧ Eqv r0 x.1 y.1

@[elab_as_elim]
theorem Same.elim {β} {r0 : HPath} {P : Host × β → Host × β → Prop} {x y : Host × β} (h : Same r0 x y)
    (mk : ∀ A' B' v, Eqv r0 A' B' → P (A', v) (B', v)) : P x y := by
  obtain ⟨A', v⟩ := x; obtain ⟨B', v'⟩ := y; obtain ⟨rfl, E'⟩ := h
  exact mk _ _ _ E'

section
variable {r0 : HPath} {A B : Host} (E : Eqv r0 A B)
include E

theorem children_sorted_eqv {p : HPath} (hp : r0 <+: p) :
    sortBy keyLe (A.children p) = sortBy keyLe (B.children p) := by
  apply sortBy_eq_of_same_mem keyLe keyLe_trans keyLe_total keyLe_anti _ _
    (Host.children_nodup E.wfA.1 p) (Host.children_nodup E.wfB.1 p)
  rintro ⟨n, b⟩
  rw [Host.mem_children E.wfA, Host.mem_children E.wfB, E.at (under_append hp [n])]

theorem below_sorted_eqv {p : HPath} (hp : r0 <+: p) :
    sortBy keyLe (below A p) = sortBy keyLe (below B p) := by
  apply sortBy_eq_of_same_mem keyLe keyLe_trans keyLe_total keyLe_anti _ _
    (below_nodup E.wfA.1 p) (below_nodup E.wfB.1 p)
  rintro ⟨sub, b⟩
  rw [mem_below E.wfA, mem_below E.wfB, E.at (under_append hp sub)]

theorem osStat_eqv {x : HP} (hp : r0 <+: x.path) : osStat A x = osStat B x := by
  simp only [osStat, E.at hp]

theorem mkdirOk_eqv {p : HPath} (hp : r0 <+: p) : FS.mkdirOk A.get p ↔ FS.mkdirOk B.get p := by
  constructor <;> intro h q hq d
  · rw [← E.same q (rel_prefix hp hq)]; exact h q hq d
  · rw [E.same q (rel_prefix hp hq)]; exact h q hq d

theorem mkdirAll_eqv {p : HPath} (hp : r0 <+: p) : OEqv r0 (osMkdirAll A p) (osMkdirAll B p) := by
  by_cases hok : FS.mkdirOk A.get p
  · obtain ⟨A', hA, hwfA', hgetA⟩ := osMkdirAll_ok E.wfA p hok
    obtain ⟨B', hB, hwfB', hgetB⟩ := osMkdirAll_ok E.wfB p ((mkdirOk_eqv E hp).mp hok)
    rw [hA, hB]
    exact ⟨hwfA', hwfB', fun q hq => by rw [hgetA, hgetB]; simp only [FS.mkdirSt, E.same q hq]⟩
  · rw [osMkdirAll_fail E.wfA p hok, osMkdirAll_fail E.wfB p (fun hb => hok ((mkdirOk_eqv E hp).mpr hb))]
    trivial

theorem put_eqv {p : HPath} (e : Entry) (hu : r0 <+: p) (hp : p ≠ []) (hpar : A.get p.dropLast = some .dir)
    (hnd : A.get p ≠ some .dir) : Eqv r0 (A.put p e) (B.put p e) := by
  refine ⟨Host.wf_put E.wfA hp hpar (fun hc => absurd hc hnd), Host.wf_put E.wfB hp ?_ (fun hc => ?_), ?_⟩
  · rw [← E.same _ (rel_prefix hu (List.dropLast_prefix _))]; exact hpar
  · rw [← E.at hu] at hc; exact absurd hc hnd
  · intro q hq
    rw [Host.get_put _ _ _ hp, Host.get_put _ _ _ hp, E.same q hq]

theorem openTrunc_eqv {x : HP} (hp : r0 <+: x.path) : OEqv r0 (osOpenTrunc A x) (osOpenTrunc B x) := by
  rw [osOpenTrunc_eq, osOpenTrunc_eq, ← E.at hp, ← E.same _ (rel_prefix hp (List.dropLast_prefix _))]
  split
  · next hc => exact put_eqv E _ hp hc.2.1 hc.2.2.1 hc.2.2.2
  · trivial

theorem append_eqv {p : HPath} {c : Bytes} (hp : r0 <+: p) : OEqv r0 (osAppend A p c) (osAppend B p c) := by
  simp only [osAppend, ← E.at hp]
  split
  · next d hg =>
    have hne : p ≠ [] := by rintro rfl; rw [Host.get_nil] at hg; cases hg
    exact put_eqv E _ hp hne (Host.parent_dir E.wfA hne (by simp [hg])) (by rw [hg]; intro hc; cases hc)
  · trivial

theorem appendAll_eqv {p : HPath} (hp : r0 <+: p) (cs : List Bytes) :
    OEqv r0 (osAppendAll A p cs) (osAppendAll B p cs) := by
  induction cs generalizing A B with
  | nil => exact E
  | cons c cs ih =>
    simp only [osAppendAll]
    exact (append_eqv E hp).elim trivial fun _ _ E1 => ih E1

theorem remove_eqv {x : HP} (hp : r0 <+: x.path) : OEqv r0 (osRemove A x) (osRemove B x) := by
  have hiff : RemoveOk A x ↔ RemoveOk B x := by
    unfold RemoveOk
    rw [osStat_eqv E hp]
    exact and_congr_right fun _ => or_congr Iff.rfl (and_congr_right fun _ => forall_congr' fun n => by
      rw [E.at (under_append hp [n])])
  by_cases hok : RemoveOk A x
  · obtain ⟨hA, hwfA⟩ := (osRemove_spec E.wfA x).1 hok
    obtain ⟨hB, hwfB⟩ := (osRemove_spec E.wfB x).1 (hiff.mp hok)
    rw [hA, hB]
    exact ⟨hwfA, hwfB, fun q hq => by rw [Host.get_del _ _ hok.1, Host.get_del _ _ hok.1, E.same q hq]⟩
  · rw [(osRemove_spec E.wfA x).2 hok, (osRemove_spec E.wfB x).2 (fun h => hok (hiff.mpr h))]
    trivial

omit E in
theorem throughFileFrom_eqv (cur rest : HPath) (h : ∀ q, q <+: cur ++ rest → A.get q = B.get q) :
    A.throughFileFrom cur rest = B.throughFileFrom cur rest := by
  induction rest generalizing cur with
  | nil => simp [Host.throughFileFrom, Host.fileAt, h cur (by simp)]
  | cons n rest ih =>
    simp only [Host.throughFileFrom, Host.fileAt, h cur (List.prefix_append _ _)]
    rw [ih (cur ++ [n]) (by intro q hq; apply h; simpa using hq)]

theorem removeAll_eqv {p : HPath} (hp : r0 <+: p) (hne : p ≠ []) :
    OEqv r0 (osRemoveAll A p) (osRemoveAll B p) := by
  have htf : A.throughFile p = B.throughFile p :=
    throughFileFrom_eqv [] p (fun q hq => E.same q (rel_prefix hp (by simpa using hq)))
  simp only [osRemoveAll_eq, ← E.at hp, ← htf]
  split
  · split
    · trivial
    · exact E
  · exact ⟨Host.wf_delTree E.wfA hne, Host.wf_delTree E.wfB hne, fun q hq => by
      rw [Host.get_delTree _ _ hne, Host.get_delTree _ _ hne, E.same q hq]⟩

theorem readDir_eqv {x : HP} (hp : r0 <+: x.path) : osReadDir A x = osReadDir B x := by
  simp only [osReadDir, osStat_eqv E hp, children_sorted_eqv E hp]

theorem copyFile_eqv {src dst : HP} (hs : r0 <+: src.path) (hd : r0 <+: dst.path) :
    Same r0 (copyFile A src dst) (copyFile B src dst) := by
  simp only [copyFile, ← osStat_eqv E hs]
  split
  · exact ⟨rfl, E⟩
  · exact ⟨rfl, E⟩
  · refine (openTrunc_eqv E hd).elim ⟨rfl, E⟩ fun A1 B1 E1 => ?_
    simp only [← E1.at hs]
    split
    · exact (append_eqv E1 hd).elim ⟨rfl, E1⟩ fun _ _ E2 => ⟨rfl, E2⟩
    · exact ⟨rfl, E1⟩

theorem copyNodes_eqv (src dest : HP) (hs : r0 <+: src.path)
    (hd : r0 <+: dest.path) (l : List (HPath × Bool)) :
    Same r0 (copyNodes src dest A l) (copyNodes src dest B l) := by
  induction l generalizing A B with
  | nil => exact ⟨rfl, E⟩
  | cons x rest ih =>
    obtain ⟨sub, _ | _⟩ := x <;> simp only [copyNodes]
    · refine (copyFile_eqv E (src := src.join sub) (dst := dest.join sub)
        (under_append hs sub) (under_append hd sub)).elim fun A1 B1 ok E1 => ?_
      cases ok
      · exact ⟨rfl, E1⟩
      · exact ih E1
    · exact (mkdirAll_eqv E (p := (dest.join sub).path) (under_append hd sub)).elim ⟨rfl, E⟩ fun _ _ E1 => ih E1

theorem dir_under {x : HP} (hp : r0 <+: x.path) (hne : x.slash = true ∨ r0 <+: x.path.dropLast) :
    r0 <+: x.dir.path := by
  simp only [HP.dir]
  split
  · exact hp
  · next hs => rcases hne with h | h
               · exact absurd h hs
               · exact h

theorem copyDir_eqv {src dest : HP} (hs : r0 <+: src.path) (hd : r0 <+: dest.path) (hdd : r0 <+: dest.dir.path) :
    Same r0 (copyDir A src dest) (copyDir B src dest) := by
  simp only [copyDir, ← osStat_eqv E hs]
  split
  · refine (mkdirAll_eqv E hdd).elim ⟨rfl, E⟩ fun A1 B1 E1 => ?_
    simp only [← below_sorted_eqv E1 hs]
    exact copyNodes_eqv E1 src dest hs hd _
  · exact ⟨rfl, E⟩

theorem copyAny_eqv {src dest : HP} (hs : r0 <+: src.path) (hd : r0 <+: dest.path) (hdd : r0 <+: dest.dir.path) :
    Same r0 (copyAny A src dest) (copyAny B src dest) := by
  have hi : isDir B src = isDir A src := by simp only [isDir, osStat_eqv E hs]
  unfold copyAny
  rw [hi]
  split
  · exact copyDir_eqv E hs hd hdd
  · exact copyFile_eqv E hs hd

end

theorem full_under (r0 b : HPath) (p : List Name) : r0 <+: (full (r0 ++ b) p).path := by
  simp only [full_path, List.append_assoc]; exact List.prefix_append _ _

theorem full_dir_under (r0 b : HPath) (p : List Name) : r0 <+: (full (r0 ++ b) p).dir.path := by
  rw [full_dir_path, List.append_assoc]; exact List.prefix_append _ _

theorem okErr_same {r0 : HPath} {x y : Eff} (h : Same r0 x y) : Same r0 (okErr x) (okErr y) :=
  ⟨by simp only [okErr, h.1], h.2⟩

theorem step_eqv (r0 b : HPath) (A B : Host) (E : Eqv r0 A B) (op : Op) :
    Same r0 (step (r0 ++ b) A op) (step (r0 ++ b) B op) := by
  cases op <;> dsimp only [step]
  case mkdirAll raw =>
    split
    · exact ⟨rfl, E⟩
    · exact (mkdirAll_eqv E (full_under r0 b _)).elim ⟨rfl, E⟩ fun _ _ E1 => ⟨rfl, E1⟩
  case writeFile raw data =>
    split
    · exact ⟨rfl, E⟩
    · next p _ =>
      refine (mkdirAll_eqv E (full_dir_under r0 b p)).elim ⟨rfl, E⟩ fun A1 B1 E1 => ?_
      dsimp only
      refine (openTrunc_eqv E1 (full_under r0 b p)).elim ⟨rfl, E1⟩ fun A2 B2 E2 => ?_
      dsimp only
      exact (append_eqv E2 (full_under r0 b p)).elim ⟨rfl, E2⟩ fun _ _ E3 => ⟨rfl, E3⟩
  case writer raw chunks =>
    split
    · exact ⟨rfl, E⟩
    · next p _ =>
      refine (openTrunc_eqv E (full_under r0 b p)).elim ⟨rfl, E⟩ fun A1 B1 E1 => ?_
      dsimp only
      exact (appendAll_eqv E1 (full_under r0 b p) chunks).elim ⟨rfl, E1⟩ fun _ _ E2 => ⟨rfl, E2⟩
  case remove raw =>
    split
    · exact ⟨rfl, E⟩
    · split
      · exact ⟨rfl, E⟩
      · exact (remove_eqv E (full_under r0 b _)).elim ⟨rfl, E⟩ fun _ _ E1 => ⟨rfl, E1⟩
  case removeAll raw =>
    split
    · exact ⟨rfl, E⟩
    · split
      · exact ⟨rfl, E⟩
      · next hp => exact (removeAll_eqv E (full_under r0 b _) (List.append_ne_nil_of_right_ne_nil _ hp)).elim ⟨rfl, E⟩ fun _ _ E1 => ⟨rfl, E1⟩
  case copyFile rs rd =>
    split
    · exact ⟨rfl, E⟩
    · split
      · exact ⟨rfl, E⟩
      · exact okErr_same (copyFile_eqv E (full_under r0 b _) (full_under r0 b _))
  case copyDirectory rs rd =>
    split
    · exact ⟨rfl, E⟩
    · split
      · exact ⟨rfl, E⟩
      · rw [copyDirectory_eq E.wfA, copyDirectory_eq E.wfB]
        exact okErr_same (copyDir_eqv E (full_under r0 b _) (full_under r0 b _) (full_dir_under r0 b _))
  case copy rs rd =>
    split
    · exact ⟨rfl, E⟩
    · split
      · exact ⟨rfl, E⟩
      · rw [copy_eq E.wfA, copy_eq E.wfB]
        exact okErr_same (copyAny_eqv E (full_under r0 b _) (full_under r0 b _) (full_dir_under r0 b _))
  case filespace raw =>
    split
    · exact ⟨rfl, E⟩
    · next p _ => simp only [isDir, ← osStat_eqv E (full_under r0 b p)]; exact ⟨rfl, E⟩
  -- the other queries: functions of `Stat` or `ReadDir` of the path, and the host stays
  all_goals
    split
    · exact ⟨rfl, E⟩
    · next p _ =>
      simp only [isExist, isFile, isDir, ← osStat_eqv E (full_under r0 b p), ← readDir_eqv E (full_under r0 b p)]
      repeat' split
      all_goals exact ⟨rfl, E⟩

/-- agreement below `r0` suffices: the ancestors of `r0` are directories on both hosts -/
theorem eqv_of_below (r0 : HPath) (A B : Host) (hwfA : A.WF) (hwfB : B.WF) (hr : A.get r0 = some .dir)
    (hsame : ∀ q, A.get (r0 ++ q) = B.get (r0 ++ q)) : Eqv r0 A B := by
  have hrB : B.get r0 = some .dir := by
    have := hsame []; simp only [List.append_nil] at this; rw [← this]; exact hr
  refine ⟨hwfA, hwfB, ?_⟩
  intro q hq
  rcases hq with h | h
  · obtain ⟨t, rfl⟩ := h; exact hsame t
  · rw [(Host.wf_treeLike hwfA).closed.prefix_of_dir hr h, (Host.wf_treeLike hwfB).closed.prefix_of_dir hrB h]

theorem openView_eqv {r0 : HPath} {A B : Host} (E : Eqv r0 A B) (b : HPath) (raw : Bytes) :
    openView (r0 ++ b) A raw = openView (r0 ++ b) B raw := by
  simp only [openView]
  cases norm raw with
  | none => rfl
  | some p =>
    have : isDir A (full (r0 ++ b) p) = isDir B (full (r0 ++ b) p) := by
      simp only [isDir, osStat_eqv E (full_under r0 b p)]
    simp only [this]

theorem world_step_eqv (r0 : HPath) (dw1 dw2 : World) (E : Eqv r0 dw1.host dw2.host) (hv : dw1.views = dw2.views)
    (hu : ∀ v ∈ dw1.views, r0 <+: v) (h : Nat) (op : Op) :
    (dw1.step h op).2 = (dw2.step h op).2 ∧ Eqv r0 (dw1.step h op).1.host (dw2.step h op).1.host
    ∧ (dw1.step h op).1.views = (dw2.step h op).1.views ∧ ∀ v ∈ (dw1.step h op).1.views, r0 <+: v := by
  cases hh : dw1.views[h]? with
  | none =>
    have hh2 : dw2.views[h]? = none := by rw [← hv]; exact hh
    rw [world_step_none dw1 h op hh, world_step_none dw2 h op hh2]
    exact ⟨rfl, E, hv, hu⟩
  | some r =>
    have hh2 : dw2.views[h]? = some r := by rw [← hv]; exact hh
    obtain ⟨b, rfl⟩ := World.view_under hu hh
    obtain ⟨h1a, h1b, h1c⟩ := world_step_some dw1 h op _ hh
    obtain ⟨h2a, h2b, h2c⟩ := world_step_some dw2 h op _ hh2
    obtain ⟨hs1, hs2⟩ := step_eqv r0 b dw1.host dw2.host E op
    have hviews : viewsNext (r0 ++ b) dw1.host dw1.views op = viewsNext (r0 ++ b) dw2.host dw2.views op := by
      cases op with
      | filespace raw => simp only [viewsNext, openView_eqv E b raw, hv]
      | _ => simp only [viewsNext, hv]
    refine ⟨by rw [h1b, h2b]; exact hs1, by rw [h1a, h2a]; exact hs2, by rw [h1c, h2c]; exact hviews, ?_⟩
    rw [h1c]; exact viewsNext_under hu

theorem run_eqv (r0 : HPath) (dw1 dw2 : World) (E : Eqv r0 dw1.host dw2.host) (hv : dw1.views = dw2.views)
    (hu : ∀ v ∈ dw1.views, r0 <+: v) (ops : List (Nat × Op)) :
    (dw1.run ops).2 = (dw2.run ops).2 ∧ Eqv r0 (dw1.run ops).1.host (dw2.run ops).1.host := by
  induction ops generalizing dw1 dw2 with
  | nil => exact ⟨rfl, E⟩
  | cons x rest ih =>
    obtain ⟨h, op⟩ := x
    rw [World.run_cons, World.run_cons]
    obtain ⟨e1, E1, v1, u1⟩ := world_step_eqv r0 dw1 dw2 E hv hu h op
    obtain ⟨e2, E2⟩ := ih (dw1.step h op).1 (dw2.step h op).1 E1 v1 u1
    exact ⟨by rw [e1, e2], E2⟩

end DiskFS
end Goat
