/-
For properties C14/C16: the invariant `Inv` of the pipeline model — per task (`TI`; `Loc`: its clauses by location
of the runner), per try block (`YI`), for the main thread (`MI`) and across threads.
-/
import Goat.Proofs.Pipeline

namespace Goat.Pipeline

/-- commands with index below this bound may have been issued (none = no bound known) -/
def issued : PC → Option Nat
  | .idle => some 0
  | .rejected => some 0
  | .waiting _ => some 0
  | .run i => some i
  | .inCmd i => some (i + 1)
  | .afterCmd i => some (i + 1)
  | _ => none

def returned : PC → Option Nat
  | .idle => some 0
  | .rejected => some 0
  | .waiting _ => some 0
  | .run i => some i
  | .inCmd i => some i
  | .afterCmd i => some (i + 1)
  | _ => none

/-- commands below this bound have completed successfully (and the wait list was passed) -/
def okUpTo (g : Graph) (t : Nat) : PC → Option Nat
  | .run i => some i
  | .inCmd i => some i
  | .afterCmd i => some i
  | .closing true => some (g.body t).length
  | _ => none

/-- the try block a body/handler task belongs to -/
def tryOf (g : Graph) (t : Nat) : Nat :=
  match g.role t with
  | .tbody y => y
  | .hsucc y => y
  | .hfail y => y
  | .hfin y => y
  | _ => 0

/-- evidence that the (single) submission of `t` has already been decided -/
def created (g : Graph) (tr : List Ev) (tgv : TG) (t : Nat) : Prop :=
  match g.role t with
  | .top => Ev.acc t ∈ tr ∨ Ev.rej t ∈ tr
  | .child p i => hasRet tr p i
  | .tbody y => hasRet tr (g.tryd y).owner (g.tryd y).idx
  | .hfin _ => 3 ≤ tgv.rank
  | .hfail _ => 4 ≤ tgv.rank
  | .hsucc _ => 5 ≤ tgv.rank

/-- the event can change a clause of `TI … t` that has an event on the left of an implication
(`accEv'`, `cmdB`, `retB`, `clo`, `nodone`, `df`, `duniq`) -/
def touches (g : Graph) (t : Nat) : Ev → Prop
  | .acc u => u = t
  | .rej u => u = t
  | .cmd u _ => u = t
  | .done u _ => u = t
  | .hacc u => u = t
  | .ret u i _ => u = t ∨ g.role t = .child u i ∨
      ∃ y, g.role t = .tbody y ∧ (g.tryd y).owner = u ∧ (g.tryd y).idx = i
  | _ => False

/-! The clauses of `TI`, for task `t` at location `pc`:
* `range`, `once`: a task that has left `idle` is in the graph and its (single) submission has been decided;
* `sub`, `accEv`, `accEv'`: an accepted task was submitted; the trace shows its acceptance exactly if it is
  accepted (for the tasks whose acceptance the trace shows);
* `cmdB`, `retB`, `okB`: the commands entered / returned / completed successfully, bounded by the location;
* `wait` … `clo`, `fin`: what the single locations know (`Loc` collects these);
* `nodone`, `df`, `duniq`: a `done` event exactly at `finished`; an error verdict only with the context's flag
  `ce` set; never both verdicts. -/

/-- the invariant of one task, as a predicate on the values it depends on -/
structure TI (g : Graph) (t : Nat) (pc : PC) (tr : List Ev) (ce : Bool) (tgv : TG) : Prop where
  range  : pc ≠ .idle → t < g.n
  once   : pc ≠ .idle → created g tr tgv t
  sub    : pc.accepted = true → submitted g tr t
  accEv  : pc.accepted = true → nameable g t → acceptedEv g tr t
  accEv' : acceptedEv g tr t → pc.accepted = true
  cmdB   : ∀ m, issued pc = some m → ∀ j, Ev.cmd t j ∈ tr → j < m
  retB   : ∀ m, returned pc = some m → ∀ j b, Ev.ret t j b ∈ tr → j < m
  okB    : ∀ m, okUpTo g t pc = some m → waitsOk g tr t ∧ ∀ j, j < m → cmdDoneOk g tr t j
  wait   : ∀ k, pc = .waiting k → ∀ j, j < k → ∀ w, (g.waits t)[j]? = some w → Ev.done w true ∈ tr
  inc    : ∀ i, pc = .inCmd i → i < (g.body t).length ∧ Ev.cmd t i ∈ tr
  aft    : ∀ i, pc = .afterCmd i → i < (g.body t).length ∧ Ev.ret t i true ∈ tr
  runB   : ∀ i, pc = .run i → i ≤ (g.body t).length
  clo    : ∀ f, pc = .closing f →
             (∀ i, i < (g.body t).length → Ev.cmd t i ∈ tr → hasRet tr t i) ∧
             (f = false → ce = true ∨ (selfStop g tr t ∧ ∀ j, Ev.cmd t j ∈ tr → cmdDoneOk g tr t j))
  nodone : pc ≠ .finished → ¬ hasDone tr t
  fin    : pc = .finished → hasDone tr t ∧ (Ev.cmd t 0 ∈ tr ∨ ce = true)
  df     : Ev.done t false ∈ tr → ce = true
  duniq  : ¬ (Ev.done t true ∈ tr ∧ Ev.done t false ∈ tr)

theorem hasDone_mono {tr : List Ev} {t : Nat} (es : List Ev) (h : hasDone tr t) : hasDone (tr ++ es) t :=
  h.imp (List.mem_append_left _) (List.mem_append_left _)

theorem hasRet_mono {tr : List Ev} {t i : Nat} (es : List Ev) (h : hasRet tr t i) : hasRet (tr ++ es) t i :=
  h.imp (List.mem_append_left _) (List.mem_append_left _)

theorem hasMwait_mono {tr : List Ev} (es : List Ev) (h : hasMwait tr) : hasMwait (tr ++ es) :=
  h.imp (List.mem_append_left _) (List.mem_append_left _)

theorem causeIn_mono {g : Graph} {X : Nat} {tr : List Ev} (es : List Ev) (h : causeIn g X tr) :
    causeIn g X (tr ++ es) := by
  obtain ⟨e, he, hc⟩ := h
  exact ⟨e, List.mem_append_left _ he, hc⟩

theorem causeFor_mono {g : Graph} {t : Nat} {tr : List Ev} (es : List Ev) (h : causeFor g tr t) :
    causeFor g (tr ++ es) t :=
  h.imp (causeIn_mono es) (causeIn_mono es)

theorem submitted_mono {g : Graph} {tr : List Ev} {t : Nat} (es : List Ev) (h : submitted g tr t) :
    submitted g (tr ++ es) t := by
  unfold submitted at *
  split at h <;> first | exact List.mem_append_left _ h | exact hasDone_mono es h

theorem acceptedEv_mono {g : Graph} {tr : List Ev} {t : Nat} (es : List Ev) (h : acceptedEv g tr t) :
    acceptedEv g (tr ++ es) t := by
  unfold acceptedEv at *
  split at h <;> first | exact List.mem_append_left _ h | exact h

theorem waitsOk_mono {g : Graph} {tr : List Ev} {t : Nat} (es : List Ev) (h : waitsOk g tr t) :
    waitsOk g (tr ++ es) t := fun w hw => List.mem_append_left _ (h w hw)

theorem created_mono {g : Graph} {tr : List Ev} {tgv tgv' : TG} {t : Nat} (es : List Ev)
    (hr : tgv.rank ≤ tgv'.rank) (h : created g tr tgv t) : created g (tr ++ es) tgv' t := by
  unfold created at *
  split at h
  · exact h.imp (List.mem_append_left _) (List.mem_append_left _)
  · exact hasRet_mono es h
  · exact hasRet_mono es h
  · omega
  · omega
  · omega

/-- new events never close a task a second time -/
def FreshDone (tr es : List Ev) : Prop := ∀ u b, Ev.done u b ∈ es → ¬ hasDone tr u

theorem done_stable {tr es : List Ev} (hd : FreshDone tr es) {u : Nat} (h : hasDone tr u) (b : Bool) :
    Ev.done u b ∈ tr ++ es ↔ Ev.done u b ∈ tr := by
  constructor
  · intro hm
    rcases List.mem_append.mp hm with hm | hm
    · exact hm
    · exact absurd h (hd u b hm)
  · exact List.mem_append_left _

theorem selected_stable {g : Graph} {tr es : List Ev} (hd : FreshDone tr es) {y : Nat}
    (h : hasDone tr (g.tryd y).body) : selected g (tr ++ es) y = selected g tr y := by
  unfold selected
  simp only [done_stable hd h]

theorem cmdDoneOk_mono {g : Graph} {tr : List Ev} {t i : Nat} (es : List Ev) (hd : FreshDone tr es)
    (h : cmdDoneOk g tr t i) : cmdDoneOk g (tr ++ es) t i := by
  refine ⟨List.mem_append_left _ h.1, ?_⟩
  have h2 := h.2
  split
  · rename_i c hc
    simp only [hc] at h2
    exact List.mem_append_left _ h2
  · rename_i y hc
    simp only [hc] at h2
    refine ⟨hasDone_mono es h2.1, ?_⟩
    rw [selected_stable hd h2.1]
    exact fun hh hm => List.mem_append_left _ (h2.2 hh hm)
  · trivial

/-- commands with index below `c` may have been entered, below `r` may have returned -/
abbrev Upto (t : Nat) (tr : List Ev) (c r : Nat) : Prop :=
  (∀ j, Ev.cmd t j ∈ tr → j < c) ∧ ∀ j b, Ev.ret t j b ∈ tr → j < r

/-- the wait list was passed and the commands below `d` completed successfully -/
abbrev OkTo (g : Graph) (t : Nat) (tr : List Ev) (d : Nat) : Prop :=
  waitsOk g tr t ∧ ∀ j, j < d → cmdDoneOk g tr t j

theorem Upto.snoc_cmd {t : Nat} {tr : List Ev} {c r : Nat} (h : Upto t tr c r) :
    Upto t (tr ++ [.cmd t c]) (c + 1) r :=
  ⟨fun j hj => (List.mem_append.mp hj).elim (fun hj => Nat.lt_succ_of_lt (h.1 j hj))
      fun hj => by cases List.mem_singleton.mp hj; exact Nat.lt_succ_self _,
    fun j b hj => h.2 j b ((mem_snoc_ne (by simp)).mp hj)⟩

theorem Upto.snoc_ret {t : Nat} {tr : List Ev} {c r : Nat} {b : Bool} (h : Upto t tr c r) :
    Upto t (tr ++ [.ret t r b]) c (r + 1) :=
  ⟨fun j hj => h.1 j ((mem_snoc_ne (by simp)).mp hj),
    fun j b' hj => (List.mem_append.mp hj).elim (fun hj => Nat.lt_succ_of_lt (h.2 j b' hj))
      fun hj => by cases List.mem_singleton.mp hj; exact Nat.lt_succ_self _⟩

theorem OkTo.mono {g : Graph} {t : Nat} {tr : List Ev} {d : Nat} (es : List Ev) (hd : FreshDone tr es)
    (h : OkTo g t tr d) : OkTo g t (tr ++ es) d :=
  ⟨waitsOk_mono es h.1, fun j hj => cmdDoneOk_mono es hd (h.2 j hj)⟩

/-! `Loc`: the clauses `cmdB` … `clo`, `fin` of `TI` sorted by location of the runner, so that a transition
establishes only what its target location asks for. -/

namespace Loc

structure Waiting (g : Graph) (t : Nat) (tr : List Ev) (k : Nat) : Prop where
  upto : Upto t tr 0 0
  passed : ∀ j, j < k → ∀ w, (g.waits t)[j]? = some w → Ev.done w true ∈ tr

structure Run (g : Graph) (t : Nat) (tr : List Ev) (i : Nat) : Prop where
  upto : Upto t tr i i
  okTo : OkTo g t tr i
  le : i ≤ (g.body t).length

structure InCmd (g : Graph) (t : Nat) (tr : List Ev) (i : Nat) : Prop where
  upto : Upto t tr (i + 1) i
  okTo : OkTo g t tr i
  lt : i < (g.body t).length
  entered : Ev.cmd t i ∈ tr

structure AfterCmd (g : Graph) (t : Nat) (tr : List Ev) (i : Nat) : Prop where
  upto : Upto t tr (i + 1) (i + 1)
  okTo : OkTo g t tr i
  lt : i < (g.body t).length
  returned : Ev.ret t i true ∈ tr

/-- `f`: RunLoop returned at the end of the script; otherwise `why` it returned early -/
structure Closing (g : Graph) (t : Nat) (tr : List Ev) (ce f : Bool) : Prop where
  returned : ∀ i, i < (g.body t).length → Ev.cmd t i ∈ tr → hasRet tr t i
  why : f = false → ce = true ∨ (selfStop g tr t ∧ ∀ j, Ev.cmd t j ∈ tr → cmdDoneOk g tr t j)
  okTo : f = true → OkTo g t tr (g.body t).length

structure Finished (t : Nat) (tr : List Ev) (ce : Bool) : Prop where
  closed : hasDone tr t
  started : Ev.cmd t 0 ∈ tr ∨ ce = true

end Loc

def Loc (g : Graph) (t : Nat) (tr : List Ev) (ce : Bool) : PC → Prop
  | .idle => Upto t tr 0 0
  | .rejected => Upto t tr 0 0
  | .waiting k => Loc.Waiting g t tr k
  | .run i => Loc.Run g t tr i
  | .inCmd i => Loc.InCmd g t tr i
  | .afterCmd i => Loc.AfterCmd g t tr i
  | .closing f => Loc.Closing g t tr ce f
  | .finished => Loc.Finished t tr ce

theorem TI.loc {g : Graph} {t : Nat} {pc : PC} {tr : List Ev} {ce : Bool} {tgv : TG}
    (T : TI g t pc tr ce tgv) : Loc g t tr ce pc := by
  cases pc with
  | idle => exact ⟨T.cmdB 0 rfl, T.retB 0 rfl⟩
  | rejected => exact ⟨T.cmdB 0 rfl, T.retB 0 rfl⟩
  | waiting k => exact ⟨⟨T.cmdB 0 rfl, T.retB 0 rfl⟩, T.wait k rfl⟩
  | run i => exact ⟨⟨T.cmdB i rfl, T.retB i rfl⟩, T.okB i rfl, T.runB i rfl⟩
  | inCmd i => exact ⟨⟨T.cmdB (i + 1) rfl, T.retB i rfl⟩, T.okB i rfl, (T.inc i rfl).1, (T.inc i rfl).2⟩
  | afterCmd i => exact ⟨⟨T.cmdB (i + 1) rfl, T.retB (i + 1) rfl⟩, T.okB i rfl, (T.aft i rfl).1, (T.aft i rfl).2⟩
  | closing f => exact ⟨(T.clo f rfl).1, (T.clo f rfl).2, fun h => by subst h; exact T.okB _ rfl⟩
  | finished => exact ⟨(T.fin rfl).1, (T.fin rfl).2⟩

theorem TI.of_loc {g : Graph} {t : Nat} {pc : PC} {tr : List Ev} {ce : Bool} {tgv : TG}
    (range : pc ≠ .idle → t < g.n) (once : pc ≠ .idle → created g tr tgv t)
    (sub : pc.accepted = true → submitted g tr t)
    (accEv : pc.accepted = true → nameable g t → acceptedEv g tr t)
    (accEv' : acceptedEv g tr t → pc.accepted = true)
    (nodone : pc ≠ .finished → ¬ hasDone tr t) (df : Ev.done t false ∈ tr → ce = true)
    (duniq : ¬ (Ev.done t true ∈ tr ∧ Ev.done t false ∈ tr))
    (L : Loc g t tr ce pc) : TI g t pc tr ce tgv where
  range := range
  once := once
  sub := sub
  accEv := accEv
  accEv' := accEv'
  nodone := nodone
  df := df
  duniq := duniq
  cmdB := by
    intro m hm
    cases pc with
    | idle => cases hm; exact L.1
    | rejected => cases hm; exact L.1
    | waiting k => cases hm; exact L.upto.1
    | run i => cases hm; exact L.upto.1
    | inCmd i => cases hm; exact L.upto.1
    | afterCmd i => cases hm; exact L.upto.1
    | _ => cases hm
  retB := by
    intro m hm
    cases pc with
    | idle => cases hm; exact L.2
    | rejected => cases hm; exact L.2
    | waiting k => cases hm; exact L.upto.2
    | run i => cases hm; exact L.upto.2
    | inCmd i => cases hm; exact L.upto.2
    | afterCmd i => cases hm; exact L.upto.2
    | _ => cases hm
  okB := by
    intro m hm
    cases pc with
    | run i => cases hm; exact L.okTo
    | inCmd i => cases hm; exact L.okTo
    | afterCmd i => cases hm; exact L.okTo
    | closing f => cases f <;> cases hm; exact L.okTo rfl
    | _ => cases hm
  wait := by intro k hk; subst hk; exact L.passed
  inc := by intro i hi; subst hi; exact ⟨L.lt, L.entered⟩
  aft := by intro i hi; subst hi; exact ⟨L.lt, L.returned⟩
  runB := by intro i hi; subst hi; exact L.le
  clo := by intro f hf; subst hf; exact ⟨L.returned, L.why⟩
  fin := by intro hf; subst hf; exact ⟨L.closed, L.started⟩

abbrev TIs (g : Graph) (s : St) (u : Nat) : Prop :=
  TI g u (s.pc u) s.tr (s.cerr (g.ctx u)) (s.tg (tryOf g u))

/-- the trace shows the submission of handler `h` of try `y`: accepted (`hacc`, and the task exists), or some
submission of this try was refused (`hrej`; the try goroutine then stopped) -/
def subSeen (g : Graph) (s : St) (y h : Nat) : Prop :=
  ((s.pc h).accepted = true ∧ Ev.hacc h ∈ s.tr) ∨ ∃ h' ∈ g.handlers y, Ev.hrej h' ∈ s.tr

/-! The clauses of `YI`, for try block `y`: `started`/`started'` — the goroutine has left `idle` exactly if the
`pip:try` returned nil; `bodyAcc`, `v`, `dn` — while it waits the body is in the table, afterwards the body has
closed and `v` says how; `active` — until it is `done` its owner is blocked in the `pip:try`; for each handler
(thresholds 3/4/5 = `HKind.thr`) that had to run: it is in the table or the owner's context has failed (`…Acc`),
and the trace shows its submission (`…Sub`). -/

structure YI (g : Graph) (s : St) (y : Nat) : Prop where
  started : s.tg y ≠ .idle → Ev.ret (g.tryd y).owner (g.tryd y).idx true ∈ s.tr
  bodyAcc : s.tg y = .waitBody → (s.pc (g.tryd y).body).accepted = true
  v       : ∀ v, (s.tg y = .subFin v ∨ s.tg y = .subFail v ∨ s.tg y = .subSucc v) →
              hasDone s.tr (g.tryd y).body ∧ (v = true ↔ Ev.done (g.tryd y).body true ∈ s.tr)
  dn      : s.tg y = .done → hasDone s.tr (g.tryd y).body
  finAcc  : 3 ≤ (s.tg y).rank → ∀ h, (g.tryd y).fin = some h →
              (s.pc h).accepted = true ∨ s.cerr (g.ctx (g.tryd y).owner) = true
  failAcc : 4 ≤ (s.tg y).rank → Ev.done (g.tryd y).body false ∈ s.tr → ∀ h, (g.tryd y).fail = some h →
              (s.pc h).accepted = true ∨ s.cerr (g.ctx (g.tryd y).owner) = true
  succAcc : 5 ≤ (s.tg y).rank → Ev.done (g.tryd y).body true ∈ s.tr → ∀ h, (g.tryd y).succ = some h →
              (s.pc h).accepted = true ∨ s.cerr (g.ctx (g.tryd y).owner) = true
  finSub  : 3 ≤ (s.tg y).rank → ∀ h, (g.tryd y).fin = some h → subSeen g s y h
  failSub : 4 ≤ (s.tg y).rank → Ev.done (g.tryd y).body false ∈ s.tr → ∀ h, (g.tryd y).fail = some h →
              subSeen g s y h
  succSub : 5 ≤ (s.tg y).rank → Ev.done (g.tryd y).body true ∈ s.tr → ∀ h, (g.tryd y).succ = some h →
              subSeen g s y h
  active  : s.tg y ≠ .idle → s.tg y ≠ .done → s.pc (g.tryd y).owner = .afterCmd (g.tryd y).idx
  started' : Ev.ret (g.tryd y).owner (g.tryd y).idx true ∈ s.tr → s.tg y ≠ .idle

theorem YI.handled {g : Graph} {s : St} {y : Nat} (Y : YI g s y) (k : HKind) (hr : k.thr ≤ (s.tg y).rank)
    (hs : k.sel g s.tr y) {h : Nat} (hh : k.get (g.tryd y) = some h) :
    ((s.pc h).accepted = true ∨ s.cerr (g.ctx (g.tryd y).owner) = true) ∧ subSeen g s y h := by
  cases k
  · exact ⟨Y.finAcc hr h hh, Y.finSub hr h hh⟩
  · exact ⟨Y.failAcc hr hs h hh, Y.failSub hr hs h hh⟩
  · exact ⟨Y.succAcc hr hs h hh, Y.succSub hr hs h hh⟩

theorem YI.selected_handled {g : Graph} {s : St} {y : Nat} (Y : YI g s y) (hd : s.tg y = .done) {h : Nat}
    (hsel : h ∈ selected g s.tr y) :
    ((s.pc h).accepted = true ∨ s.cerr (g.ctx (g.tryd y).owner) = true) ∧ subSeen g s y h :=
  let ⟨k, hk, hks⟩ := mem_selected_kind hsel
  Y.handled k (by rw [hd]; exact k.thr_le_five) hks hk

theorem YI.of_handled {g : Graph} {s : St} {y : Nat}
    (started : s.tg y ≠ .idle → Ev.ret (g.tryd y).owner (g.tryd y).idx true ∈ s.tr)
    (bodyAcc : s.tg y = .waitBody → (s.pc (g.tryd y).body).accepted = true)
    (v : ∀ v, (s.tg y = .subFin v ∨ s.tg y = .subFail v ∨ s.tg y = .subSucc v) →
      hasDone s.tr (g.tryd y).body ∧ (v = true ↔ Ev.done (g.tryd y).body true ∈ s.tr))
    (dn : s.tg y = .done → hasDone s.tr (g.tryd y).body)
    (active : s.tg y ≠ .idle → s.tg y ≠ .done → s.pc (g.tryd y).owner = .afterCmd (g.tryd y).idx)
    (started' : Ev.ret (g.tryd y).owner (g.tryd y).idx true ∈ s.tr → s.tg y ≠ .idle)
    (H : ∀ k : HKind, k.thr ≤ (s.tg y).rank → k.sel g s.tr y → ∀ h, k.get (g.tryd y) = some h →
      ((s.pc h).accepted = true ∨ s.cerr (g.ctx (g.tryd y).owner) = true) ∧ subSeen g s y h) :
    YI g s y where
  started := started
  bodyAcc := bodyAcc
  v := v
  dn := dn
  active := active
  started' := started'
  finAcc := fun hr h hf => (H .fin hr trivial h hf).1
  failAcc := fun hr hd h hf => (H .fail hr hd h hf).1
  succAcc := fun hr hd h hf => (H .succ hr hd h hf).1
  finSub := fun hr h hf => (H .fin hr trivial h hf).2
  failSub := fun hr hd h hf => (H .fail hr hd h hf).2
  succSub := fun hr hd h hf => (H .succ hr hd h hf).2

/-! `MI`: only top-level tasks before the current position have been decided (`early`); inside
`Runner.Run` the task was announced (`cr`); after `Wait` the trace has its `mwait` (`mw`). -/

structure MI (g : Graph) (s : St) : Prop where
  early : ∀ j, (s.mp = .sub j ∨ s.mp = .create j) → ∀ t, (Ev.acc t ∈ s.tr ∨ Ev.rej t ∈ s.tr) →
            ∃ j', j' < j ∧ g.top[j']? = some t
  cr    : ∀ j, s.mp = .create j → ∃ t, g.top[j]? = some t ∧ Ev.sub t ∈ s.tr
  mw    : ((∃ t, s.mp = .fins t) ∨ s.mp = .finished) → hasMwait s.tr

/-- the command that submits a task: (task, command index) -/
def parentOf (g : Graph) (u : Nat) : Option (Nat × Nat) :=
  match g.role u with
  | .top => none
  | .child p i => some (p, i)
  | .tbody y => some ((g.tryd y).owner, (g.tryd y).idx)
  | .hsucc y => some ((g.tryd y).owner, (g.tryd y).idx)
  | .hfail y => some ((g.tryd y).owner, (g.tryd y).idx)
  | .hfin y => some ((g.tryd y).owner, (g.tryd y).idx)

/-- the submitter of `u` is blocked in the command that submitted it -/
def parentAt (g : Graph) (s : St) (u : Nat) : Prop :=
  ∀ p i, parentOf g u = some (p, i) → s.pc p = .afterCmd i

/-- the definitions by cases on the role, evaluated at the role of a handler of kind `k` of try `y` -/
structure HandlerRole (g : Graph) (h y : Nat) (k : HKind) : Prop where
  tryOf : tryOf g h = y
  not_nameable : ¬ nameable g h
  isHandler : isHandler g h = true
  not_acceptedEv : ∀ tr, ¬ acceptedEv g tr h
  created_iff : ∀ tr tgv, created g tr tgv h ↔ k.thr ≤ tgv.rank
  submitted_iff : ∀ tr, submitted g tr h ↔ hasDone tr (g.tryd y).body ∧ k.sel g tr y
  parentOf : parentOf g h = some ((g.tryd y).owner, (g.tryd y).idx)

theorem role_kind {g : Graph} {h y : Nat} {k : HKind} (b : g.role h = k.role y) : HandlerRole g h y k := by
  constructor <;> cases k <;> simp only [HKind.role] at b <;>
    simp [tryOf, nameable, isHandler, acceptedEv, created, submitted, parentOf, b, HKind.thr, HKind.sel, hasDone]
  -- left for `fail` and `succ`: a body that closed with that verdict has closed (`hasDone`)
  · exact fun _ => Or.inr
  · exact fun _ => Or.inl

/-- a task that is accepted and has not closed keeps its submitter blocked -/
def X3 (g : Graph) (s : St) : Prop :=
  ∀ u, (s.pc u).accepted = true → s.pc u ≠ .finished → parentAt g s u

/-- a context with an error has a task that is still running or has closed with an error -/
def I3 (g : Graph) (s : St) : Prop :=
  ∀ X, s.cerr X = true → ∃ u, g.ctx u = X ∧ (s.pc u).accepted = true ∧
    (s.pc u ≠ .finished ∨ Ev.done u false ∈ s.tr)

/-! `Inv`: the per-thread invariants, the trace property itself (`ok`), and across threads: `x3` (`X3`); `i2` — an error
flag has a cause in the trace; `i3` — and a witness task (used only for the exactness of error reports,
`done_false_of_cerr`); `tgr` — only try blocks of the graph have started; `ha` — a handler whose acceptance is
logged is in the table. -/

structure Inv (g : Graph) (s : St) : Prop where
  ti : ∀ u, TIs g s u
  yi : ∀ y, y < g.tries.length → YI g s y
  x3 : X3 g s
  mi : MI g s
  i2 : ∀ X, s.cerr X = true → causeIn g X s.tr ∨ causeIn g 0 s.tr
  ok : TraceOk g s.tr
  tgr : ∀ y, s.tg y ≠ .idle → y < g.tries.length
  i3 : I3 g s
  ha : ∀ h, Ev.hacc h ∈ s.tr → (s.pc h).accepted = true

end Goat.Pipeline
