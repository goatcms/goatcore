/-
Every method of the root filespace of the heap model against the same method of the value model
(`Goat/Model/MemFS.lean`), for the repaired code.
-/
import Goat.Proofs.MemFSHeapOps
import Goat.Proofs.MemFSBridge

namespace Goat
namespace MemFSHeap

open Path (Name split join reduceAbsPath dotSeg slash)
open FS (Op Result)

theorem getNodeByPathNodes_eq (n : HNode) (segs : List Name) :
    getNodeByPathNodes n segs = n.lookup (MemFS.realPath segs) := by
  fun_induction getNodeByPathNodes n segs <;> simp_all [MemFS.realPath, HNode.lookup]

theorem getNodeByPathNodes_deref (h : Heap) (n : HNode) (segs : List Name) :
    MemFS.getNodeByPathNodes (n.deref h) segs = (getNodeByPathNodes n segs).map (HNode.deref h) := by
  rw [MemFS.getNodeByPathNodes_eq, getNodeByPathNodes_eq, lookup_deref]

theorem getNodeByPath_eq (t : HNode) (p : Bytes) :
    getNodeByPath t p = t.lookup (if p = dotSeg then [] else MemFS.realPath (split p)) := by
  unfold getNodeByPath
  split
  · rfl
  · exact getNodeByPathNodes_eq t _

theorem getNodeByPath_deref (h : Heap) (t : HNode) (p : Bytes) :
    MemFS.getNodeByPath (t.deref h) p = (getNodeByPath t p).map (HNode.deref h) := by
  unfold MemFS.getNodeByPath getNodeByPath
  split
  · simp
  · exact getNodeByPathNodes_deref h t _

theorem getNodeByPath_part (h : Heap) (t m : HNode) (p : Bytes) (e : getNodeByPath t p = some m) :
    (∀ id, m.cnt id ≤ t.cnt id) ∧ (t.Sync h → m.Sync h) := by
  rw [getNodeByPath_eq] at e
  exact ⟨fun id => lookup_cnt id _ t m e, lookup_sync h _ t m e⟩

theorem getDirByPath_deref (h : Heap) (t : HNode) (p : Bytes) :
    MemFS.getDirByPath (t.deref h) p = (getDirByPath t p).map (fun lk => lk.2.deref h) := by
  unfold MemFS.getDirByPath getDirByPath
  rw [getNodeByPath_deref]
  cases getNodeByPath t p with
  | none => simp
  | some n => cases n <;> simp

theorem getFileByPath_deref (h : Heap) (t : HNode) (p : Bytes) :
    MemFS.getFileByPath (t.deref h) p = (getFileByPath t p).map h.bytes := by
  unfold MemFS.getFileByPath getFileByPath
  split
  · simp
  · rw [getNodeByPathNodes_deref]
    cases getNodeByPathNodes t (split p) with
    | none => simp
    | some n => cases n <;> simp

theorem getFileByPath_cnt (t : HNode) (p : Bytes) (b : BufId) (e : getFileByPath t p = some b) :
    0 < t.cnt b := by
  unfold getFileByPath at e
  split at e
  · simp at e
  · cases hg : getNodeByPathNodes t (split p) with
    | none => simp [hg] at e
    | some n =>
      cases n with
      | dir l k => simp [hg] at e
      | file b' =>
        simp [hg] at e; subst e
        have := lookup_cnt b' _ t _ (getNodeByPathNodes_eq t _ ▸ hg)
        rw [cnt_file] at this; simpa using this

/-- dereferenced tree and answer of a mutating method, and its footprint -/
def RSim {α : Type} (h : Heap) (t : HNode) (r : (Heap × HNode) × α) (v : Node × α) : Prop :=
  (r.1.2.deref r.1.1, r.2) = v ∧ Tx h t r.1.1 r.1.2

theorem RSim.same {α : Type} {h : Heap} {t : HNode} (hb : Bound h t) (a : α) :
    RSim h t ((h, t), a) (t.deref h, a) := ⟨rfl, Tx.refl hb⟩

/-- the last phase of a method, run on the tree `t1` that the earlier phases have reached -/
theorem NSpec.last {α : Type} {h h1 : Heap} {t t1 : HNode} (T1 : Tx h t h1 t1) {res : Option (Heap × HNode)}
    {val : Option Node} (bad good : α) : NSpec h1 t1 res val →
    RSim h t (match res with | none => ((h1, t1), bad) | some s => (s, good))
      (match val with | none => (t1.deref h1, bad) | some t2 => (t2, good)) := by
  intro S
  rcases S.cases with ⟨e, ev⟩ | ⟨h2, t2, e, ev, T2⟩ <;> simp only [e, ev]
  · exact ⟨rfl, T1⟩
  · exact ⟨rfl, T1.trans T2⟩

theorem writeFile_sim (cfg : Cfg) (hc : cfg.old = false) (h : Heap) (t : HNode) (hb : Bound h t)
    (raw : Bytes) (data : BufId) (hd : data < h.next) (hd0 : t.cnt data = 0) :
    RSim h t (Root.writeFile cfg h t raw data) (MemFS.Root.writeFile (t.deref h) raw (h.bytes data)) := by
  unfold Root.writeFile MemFS.Root.writeFile
  cases reduceAbsPath raw with
  | none => exact RSim.same hb _
  | some p =>
    simp only
    cases MemFS.splitContainsPath p with
    | none => exact RSim.same hb _
    | some dn =>
      obtain ⟨dirPath, name⟩ := dn
      rcases (mkdirs_spec cfg dirPath h t hb).cases with ⟨e, ev⟩ | ⟨h1, t1, e, ev, T1⟩ <;> simp only [e, ev]
      · exact RSim.same hb _
      · -- the caller's buffer lies outside the tree, so it still holds its bytes after `mkdirs`
        exact NSpec.last T1 _ _ (update_spec _ _ _ (writeIn_spec cfg hc name data (h.bytes data)) dirPath h1 t1
          T1.tr.bound (T1.tr.outside data hd hd0).1)

theorem mkdirAll_sim (cfg : Cfg) (h : Heap) (t : HNode) (hb : Bound h t) (raw : Bytes) :
    RSim h t (Root.mkdirAll cfg h t raw) (MemFS.Root.mkdirAll (t.deref h) raw) := by
  unfold Root.mkdirAll MemFS.Root.mkdirAll
  cases reduceAbsPath raw with
  | none => exact RSim.same hb _
  | some p =>
    simp only
    unfold mkdirAll MemFS.mkdirAll
    cases reduceAbsPath p with
    | none => exact RSim.same hb _
    | some p' =>
      by_cases e : p' = []
      · simp only [e, if_true]; exact RSim.same hb _
      · simp only [e, if_false]
        exact NSpec.last (Tx.refl hb) _ _ (mkdirs_spec cfg (split p') h t hb)

theorem removeNodeByPath_spec (h : Heap) (t : HNode) (hb : Bound h t) (p : Bytes) (eo : Bool) :
    NSpec h t (removeNodeByPath h t p eo) (MemFS.removeNodeByPath (t.deref h) p eo) := by
  unfold removeNodeByPath MemFS.removeNodeByPath
  simp only
  cases (split p).getLast? with
  | none => exact rfl
  | some last => exact update_spec _ _ _ (removeIn_spec last eo) _ h t hb trivial

theorem remove_sim (h : Heap) (t : HNode) (hb : Bound h t) (raw : Bytes) :
    RSim h t (Root.remove h t raw) (MemFS.Root.remove (t.deref h) raw) := by
  unfold Root.remove MemFS.Root.remove
  cases reduceAbsPath raw with
  | none => exact RSim.same hb _
  | some p => exact NSpec.last (Tx.refl hb) _ _ (removeNodeByPath_spec h t hb p true)

theorem removeAll_sim (h : Heap) (t : HNode) (hb : Bound h t) (raw : Bytes) :
    RSim h t (Root.removeAll h t raw) (MemFS.Root.removeAll (t.deref h) raw) := by
  unfold Root.removeAll MemFS.Root.removeAll
  cases reduceAbsPath raw with
  | none => exact RSim.same hb _
  | some p => exact NSpec.last (Tx.refl hb) _ _ (removeNodeByPath_spec h t hb p false)

theorem copyWith_sim (cfg : Cfg) (acc : HNode → Bool) (accV : Node → Bool)
    (hacc : ∀ (h : Heap) (n : HNode), accV (n.deref h) = acc n)
    (h : Heap) (t : HNode) (hb : Bound h t) (rs rd : Bytes) :
    RSim h t (Root.copyWith cfg acc h t rs rd) (MemFS.Root.copyWith accV (t.deref h) rs rd) := by
  unfold Root.copyWith MemFS.Root.copyWith
  cases reduceAbsPath rs with
  | none => exact RSim.same hb _
  | some src =>
    cases reduceAbsPath rd with
    | none => exact RSim.same hb _
    | some dst =>
      simp only
      cases MemFS.splitContainsPath dst with
      | none => exact RSim.same hb _
      | some dn =>
        obtain ⟨dirPath, name⟩ := dn
        simp only [getNodeByPath_deref]
        cases hg0 : getNodeByPath t src with
        | none => exact RSim.same hb _
        | some src0 =>
          simp only [Option.map_some, hacc]
          by_cases ha : acc src0 = true
          · simp only [ha, not_true_eq_false, if_false]
            rcases (mkdirs_spec cfg dirPath h t hb).cases with ⟨e, ev⟩ | ⟨h1, t1, e, ev, T1⟩ <;> simp only [e, ev]
            · exact RSim.same hb _
            · simp only [getNodeByPath_deref]
              cases hg1 : getNodeByPath t1 src with
              | none => exact ⟨rfl, T1⟩
              | some srcNode =>
                have hall : ∀ id : Nat, 0 < srcNode.cnt id → id < h1.next := fun id hid =>
                  T1.tr.bound.lt id (Nat.lt_of_lt_of_le hid ((getNodeByPath_part h1 t1 srcNode src hg1).1 id))
                exact NSpec.last T1 _ _ (update_spec _ _ _ (copyIn_spec cfg name srcNode (srcNode.deref h1)) dirPath
                  h1 t1 T1.tr.bound ⟨hall, rfl⟩)
          · simp only [ha]
            exact RSim.same hb _

theorem openWriter_sim (cfg : Cfg) (h : Heap) (t : HNode) (hb : Bound h t) (raw : Bytes) :
    RSim h t (Root.openWriter cfg h t raw) (MemFS.Root.openWriter (t.deref h) raw) := by
  unfold Root.openWriter MemFS.Root.openWriter
  cases reduceAbsPath raw with
  | none => exact RSim.same hb _
  | some p =>
    simp only
    cases MemFS.splitContainsPath p with
    | none => exact RSim.same hb _
    | some dn =>
      obtain ⟨dirPath, name⟩ := dn
      rcases (mkdirs_spec cfg dirPath h t hb).cases with ⟨e, ev⟩ | ⟨h1, t1, e, ev, T1⟩ <;> simp only [e, ev]
      · exact RSim.same hb _
      · exact NSpec.last T1 _ _ (update_spec _ _ _ (openIn_spec cfg name) dirPath h1 t1 T1.tr.bound trivial)

/-- caller buffers outside the tree stay outside it, allocated, with their bytes -/
theorem Tx.args {h h' : Heap} {t t' : HNode} (T : Tx h t h' t') {cs : List BufId}
    (hc : ∀ c ∈ cs, c < h.next ∧ t.cnt c = 0) :
    (∀ c ∈ cs, c < h'.next ∧ t'.cnt c = 0) ∧ cs.map h.bytes = cs.map h'.bytes :=
  ⟨fun c hm => ((T.tr.outside c (hc c hm).1 (hc c hm).2).2.2),
   List.map_congr_left (fun c hm => (T.tr.outside c (hc c hm).1 (hc c hm).2).1.symm)⟩

theorem writeChunks_sim (cfg : Cfg) (dir : List Name) (name : Name) : ∀ (chunks : List BufId) (h : Heap)
    (t : HNode), Bound h t → (∀ c ∈ chunks, c < h.next ∧ t.cnt c = 0) →
    NSpec h t (Root.writeChunks cfg h t dir name chunks)
      (MemFS.Root.writeChunks (t.deref h) dir name (chunks.map h.bytes)) := by
  intro chunks
  induction chunks with
  | nil => intro h t hb _; exact ⟨rfl, Tx.refl hb⟩
  | cons c cs ih =>
    intro h t hb hc
    simp only [Root.writeChunks, MemFS.Root.writeChunks, List.map_cons, handleWrite_eq]
    rcases (update_spec _ _ _ (writeChunkIn_spec cfg name c (h.bytes c)) dir h t hb rfl).cases
      with ⟨e, ev⟩ | ⟨h1, t1, e, ev, T1⟩ <;> simp only [e, ev]
    · exact rfl
    · obtain ⟨hcs, hmap⟩ := T1.args (fun c' hc' => hc c' (List.mem_cons_of_mem _ hc'))
      rw [hmap]
      exact (ih h1 t1 T1.tr.bound hcs).after T1

theorem writer_sim (cfg : Cfg) (h : Heap) (t : HNode) (hb : Bound h t) (raw : Bytes) (chunks : List BufId)
    (hc : ∀ c ∈ chunks, c < h.next ∧ t.cnt c = 0) :
    RSim h t (Root.writer cfg h t raw chunks) (MemFS.Root.writer (t.deref h) raw (chunks.map h.bytes)) := by
  obtain ⟨E, T1⟩ := openWriter_sim cfg h t hb raw
  unfold Root.writer MemFS.Root.writer
  -- the value-level `openWriter` is the dereferenced heap-level one: both `match`es now look at the same term
  rw [← E]
  generalize Root.openWriter cfg h t raw = ow at T1 ⊢
  obtain ⟨⟨h1, t1⟩, o⟩ := ow
  cases o with
  | none => exact ⟨rfl, T1⟩
  | some dn =>
    obtain ⟨dir, name⟩ := dn
    obtain ⟨hcs, hmap⟩ := T1.args hc
    rw [hmap]
    exact NSpec.last T1 _ _ (writeChunks_sim cfg dir name chunks h1 t1 T1.tr.bound hcs)

/-- answer of a query: the value-level result, nothing overwritten, fresh handles only -/
structure QSim (h : Heap) (r : Heap × HRes) (v : Result) : Prop where
  val : r.2.res = v
  grew : Grew h r.1
  fresh : ∀ id ∈ r.2.out, h.next ≤ id ∧ id < r.1.next
  nodup : r.2.out.Nodup

theorem QSim.err (h : Heap) : QSim h (h, { res := .err }) .err :=
  ⟨rfl, Frame.refl _ _, fun id hid => by simp at hid, by simp⟩

theorem readDir_sim (cfg : Cfg) (hc : cfg.old = false) (h : Heap) (t : HNode) (raw : Bytes) :
    QSim h (Root.readDir cfg h t raw) (MemFS.Root.readDir (t.deref h) raw) := by
  unfold Root.readDir MemFS.Root.readDir
  cases reduceAbsPath raw with
  | none => exact QSim.err h
  | some p =>
    simp only [getDirByPath_deref]
    cases getDirByPath t p with
    | none => exact QSim.err h
    | some lk =>
      simp only [Option.map_some, hc, Bool.false_eq_true, if_false, HKids.entries_deref]
      exact ⟨rfl, frame_allocL h _, fun id hid => by simp at hid; subst hid; simp, by simp⟩

theorem readFile_sim (cfg : Cfg) (hc : cfg.old = false) (h : Heap) (t : HNode) (raw : Bytes) :
    QSim h (Root.readFile cfg h t raw) (MemFS.Root.readFile (t.deref h) raw) := by
  unfold Root.readFile MemFS.Root.readFile
  cases reduceAbsPath raw with
  | none => exact QSim.err h
  | some p =>
    simp only [getFileByPath_deref]
    cases getFileByPath t p with
    | none => exact QSim.err h
    | some b =>
      simp only [Option.map_some, handOut, hc, Bool.false_eq_true, if_false, Heap.copyB]
      exact ⟨by simp, frame_allocB h _, fun id hid => by simp at hid; subst hid; simp, by simp⟩

/-- the slice `ReadFile` hands out is the copy it has just made: it shows the answer -/
theorem readFile_out (cfg : Cfg) (hc : cfg.old = false) (h : Heap) (t : HNode) (raw : Bytes) :
    ∀ id ∈ (Root.readFile cfg h t raw).2.out,
      view (Root.readFile cfg h t raw).1 (.buf id) = (Root.readFile cfg h t raw).2.res := by
  unfold Root.readFile
  split
  · simp
  · split
    · simp
    · simp [handOut, hc, view]

/-- the same of the listing `ReadDir` hands out, at the length of its slice header -/
theorem readDir_out (cfg : Cfg) (hc : cfg.old = false) (h : Heap) (t : HNode) (raw : Bytes) :
    ∀ id ∈ (Root.readDir cfg h t raw).2.out,
      view (Root.readDir cfg h t raw).1 (.listing id (Root.readDir cfg h t raw).2.len)
        = (Root.readDir cfg h t raw).2.res := by
  unfold Root.readDir
  split
  · simp
  · split
    · simp
    · simp [hc, view, List.take_of_length_le, HKids.entries_length]

theorem allocAll_spec : ∀ (ds : List Bytes) (h : Heap),
    Grew h (h.allocAll ds).1
    ∧ (∀ id ∈ (h.allocAll ds).2, h.next ≤ id ∧ id < (h.allocAll ds).1.next)
    ∧ (h.allocAll ds).2.Nodup := by
  intro ds
  induction ds with
  | nil => intro h; exact ⟨Frame.refl _ _, fun id hid => by simp [Heap.allocAll] at hid, by simp [Heap.allocAll]⟩
  | cons d ds ih =>
    intro h
    obtain ⟨F, O, N⟩ := ih (h.allocB d).1
    simp only [Heap.allocAll]
    have := F.next_le
    simp only [allocB_next] at this O
    refine ⟨(frame_allocB h d).trans F, fun id hid => ?_, ?_⟩
    · simp only [allocB_id, List.mem_cons] at hid
      rcases hid with rfl | hid
      · omegab
      · have := O id hid; omegab
    · simp only [allocB_id, List.nodup_cons]
      exact ⟨fun hm => by have := O _ hm; omegab, N⟩

theorem reader_sim (h : Heap) (t : HNode) (raw : Bytes) (sizes : List Nat) :
    QSim h (Root.reader h t raw sizes) (MemFS.Root.reader (t.deref h) raw sizes) := by
  unfold Root.reader MemFS.Root.reader
  cases reduceAbsPath raw with
  | none => exact QSim.err h
  | some p =>
    simp only [getFileByPath_deref]
    cases getFileByPath t p with
    | none => exact QSim.err h
    | some b =>
      obtain ⟨F, O, N⟩ := allocAll_spec ((MemFS.readLoop (h.bytes b) 0 sizes).map (·.1)) h
      exact ⟨rfl, F, O, N⟩

theorem is_sim (h : Heap) (t : HNode) (raw : Bytes) :
    Root.isExist t raw = MemFS.Root.isExist (t.deref h) raw
    ∧ Root.isFile t raw = MemFS.Root.isFile (t.deref h) raw
    ∧ Root.isDir t raw = MemFS.Root.isDir (t.deref h) raw := by
  unfold Root.isExist MemFS.Root.isExist Root.isFile MemFS.Root.isFile Root.isDir MemFS.Root.isDir
  cases reduceAbsPath raw <;> simp [getNodeByPath_deref, getFileByPath_deref, getDirByPath_deref]

theorem lstat_sim (h : Heap) (t : HNode) (raw : Bytes) :
    Root.lstat h t raw = MemFS.Root.lstat (t.deref h) raw := by
  unfold Root.lstat MemFS.Root.lstat
  cases reduceAbsPath raw with
  | none => rfl
  | some p =>
    simp only [getNodeByPath_deref]
    cases getNodeByPath t p with
    | none => rfl
    | some n => cases n <;> simp

end MemFSHeap
end Goat
