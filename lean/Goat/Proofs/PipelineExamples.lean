/-
Graphs, schedules and the traces the model produces for them: the witnesses of the non-vacuity `example`s of
`Props/C14.lean` and `Props/C16.lean` (evaluated by the kernel, `decide`).
-/
import Goat.Model.Pipeline

namespace Goat.Pipeline

def rep (n : Nat) (l : Label) : List Label := List.replicate n l

/-- task 0: `p`; task 1 waits for 0: `p, f`; task 2 waits for 1: `p` -/
def gEx14 : Graph :=
  ⟨[⟨.top, 0, 0, [], [.probe]⟩, ⟨.top, 0, 0, [0], [.probe, .fail]⟩, ⟨.top, 0, 0, [1], [.probe]⟩], [], [0, 1, 2]⟩

def schedEx14 : List Label :=
  rep 6 .main ++ rep 6 (.task 0) ++ rep 8 (.task 1) ++ rep 3 (.task 2) ++ rep 6 .main

theorem gEx14_wf : wf gEx14 = true := by decide +kernel

theorem gEx14_trace : (run gEx14 schedEx14).tr =
    [.sub 0, .acc 0, .sub 1, .acc 1, .sub 2, .acc 2, .cmd 0 0, .ret 0 0 true, .done 0 true,
     .cmd 1 0, .ret 1 0 true, .cmd 1 1, .ret 1 1 false, .done 1 false, .done 2 false,
     .mwait false, .fin 0 false, .fin 1 false, .fin 2 false, .root false] := by decide +kernel

theorem gEx14_finished : (run gEx14 schedEx14).mp = .finished := by decide +kernel

/-- task 0: `p, try 0, p`; body of the try (task 1, its own context 1): `p, f`;
handlers: fail = 2, finally = 3, success = 4, each `p` -/
def gEx16 : Graph :=
  ⟨[⟨.top, 0, 0, [], [.probe, .try_ 0, .probe]⟩, ⟨.tbody 0, 1, 1, [], [.probe, .fail]⟩,
    ⟨.hfail 0, 1, 0, [], [.probe]⟩, ⟨.hfin 0, 1, 0, [], [.probe]⟩, ⟨.hsucc 0, 1, 0, [], [.probe]⟩],
   [⟨0, 1, 1, some 4, some 2, some 3⟩], [0]⟩

/-- the same graph with a FAILING fail handler (task 2: `f`) -/
def gEx16f : Graph :=
  ⟨[⟨.top, 0, 0, [], [.probe, .try_ 0, .probe]⟩, ⟨.tbody 0, 1, 1, [], [.probe, .fail]⟩,
    ⟨.hfail 0, 1, 0, [], [.fail]⟩, ⟨.hfin 0, 1, 0, [], [.probe]⟩, ⟨.hsucc 0, 1, 0, [], [.probe]⟩],
   [⟨0, 1, 1, some 4, some 2, some 3⟩], [0]⟩

def schedEx16 : List Label :=
  rep 2 .main ++ rep 6 (.task 0) ++ rep 7 (.task 1) ++ rep 4 (.tryg 0) ++ rep 6 (.task 3) ++ rep 6 (.task 2) ++
  rep 6 (.task 0) ++ rep 8 .main

theorem gEx16_wf : wf gEx16 = true := by decide +kernel

theorem gEx16_trace : (run gEx16 schedEx16).tr =
    [.sub 0, .acc 0, .cmd 0 0, .ret 0 0 true, .cmd 0 1, .ret 0 1 true, .cmd 1 0, .ret 1 0 true,
     .cmd 1 1, .ret 1 1 false, .done 1 false, .hacc 3, .hacc 2, .cmd 3 0, .ret 3 0 true, .done 3 true,
     .cmd 2 0, .ret 2 0 true, .done 2 true, .cmd 0 2, .ret 0 2 true, .done 0 true,
     .mwait false, .fin 0 true, .fin 1 false, .fin 2 true, .fin 3 true, .root true] := by decide +kernel

/-- on `gEx16f` the fail handler (2) runs and fails before `finally` (3) has entered its first command;
RunLoop of `finally` then takes the `<-Done()` branch (label `stop 3`) -/
def schedEx16f : List Label :=
  rep 2 .main ++ rep 6 (.task 0) ++ rep 7 (.task 1) ++ rep 4 (.tryg 0) ++ rep 4 (.task 2) ++ [.task 3, .stop 3, .task 3] ++
  rep 6 (.task 0) ++ rep 8 .main

theorem gEx16f_wf : wf gEx16f = true := by decide +kernel

theorem gEx16f_trace : (run gEx16f schedEx16f).tr =
    [.sub 0, .acc 0, .cmd 0 0, .ret 0 0 true, .cmd 0 1, .ret 0 1 true, .cmd 1 0, .ret 1 0 true,
     .cmd 1 1, .ret 1 1 false, .done 1 false, .hacc 3, .hacc 2, .cmd 2 0, .ret 2 0 false, .done 2 false,
     .done 3 false, .done 0 false, .mwait false, .fin 0 false, .fin 1 false, .fin 2 false, .fin 3 false,
     .root false] := by decide +kernel

/-- the body of the try (task 1, a context of its own) stops its scope at its second command: `p, stop, p`;
fail handler 2, success handler 3 -/
def gStop : Graph :=
  ⟨[⟨.top, 0, 0, [], [.probe, .try_ 0, .probe]⟩, ⟨.tbody 0, 1, 1, [], [.probe, .stop, .probe]⟩,
    ⟨.hfail 0, 1, 0, [], [.probe]⟩, ⟨.hsucc 0, 1, 0, [], [.probe]⟩],
   [⟨0, 1, 1, some 3, some 2, none⟩], [0]⟩

/-- RunLoop of the body takes the `<-Done()` branch (label `stop 1`) instead of reading the third command -/
def schedStop : List Label :=
  rep 2 .main ++ rep 6 (.task 0) ++ rep 7 (.task 1) ++ [.stop 1, .task 1] ++ rep 4 (.tryg 0) ++ rep 6 (.task 3) ++
  rep 6 (.task 0) ++ rep 8 .main

theorem gStop_wf : wf gStop = true := by decide +kernel

theorem gStop_trace : (run gStop schedStop).tr =
    [.sub 0, .acc 0, .cmd 0 0, .ret 0 0 true, .cmd 0 1, .ret 0 1 true, .cmd 1 0, .ret 1 0 true, .cmd 1 1,
     .ret 1 1 true, .done 1 true, .hacc 3, .cmd 3 0, .ret 3 0 true, .done 3 true, .cmd 0 2, .ret 0 2 true,
     .done 0 true, .mwait true, .fin 0 true, .fin 1 true, .fin 3 true, .root true] := by decide +kernel

/-! steering of `gEx16`: the fail handler (task 2) is held in its first command until `finally` (task 3) has started -/

def polSel : Nat → Steer := fun _ => .holdSel false
def polFin : Nat → Steer := fun _ => .holdFin true

/-- up to the moment the fail handler sits in its first command -/
def schedHeld : List Label :=
  rep 2 .main ++ rep 6 (.task 0) ++ rep 7 (.task 1) ++ rep 4 (.tryg 0) ++ rep 2 (.task 2)

/-- … then the held handler is scheduled five times in vain, `finally` runs, the fail handler continues -/
def schedSteered : List Label :=
  schedHeld ++ rep 5 (.task 2) ++ rep 6 (.task 3) ++ rep 6 (.task 2) ++ rep 6 (.task 0) ++ rep 8 .main

theorem gEx16_steered_trace : ((sysS gEx16 polSel).run schedSteered).tr =
    [.sub 0, .acc 0, .cmd 0 0, .ret 0 0 true, .cmd 0 1, .ret 0 1 true, .cmd 1 0, .ret 1 0 true,
     .cmd 1 1, .ret 1 1 false, .done 1 false, .hacc 3, .hacc 2, .cmd 2 0, .cmd 3 0, .ret 3 0 true, .done 3 true,
     .ret 2 0 true, .done 2 true, .cmd 0 2, .ret 0 2 true, .done 0 true,
     .mwait false, .fin 0 true, .fin 1 false, .fin 2 true, .fin 3 true, .root true] := by decide +kernel

end Goat.Pipeline
