/-
C12: the invariants about one context, each an instance of the frame lemma `ctxInv_tr`: a predicate on the context
record and, where goroutines are counted, a weight per pc.  Every proof names the kinds of access (`CtxTr` constructors)
that move the predicate or the count; all others keep both, which is the closing `| _ => exact hQ`.
-/
import Goat.Proofs.ScopeSignalInv

namespace Goat.ScopeSignal

/-- `close(done)` has been executed once if the `Once` is finished and not at all otherwise -/
def InvOnce (s : State) : Prop :=
  ∀ (c : Nat) (x : Ctx), s.ctxs[c]? = some x → x.closes = if x.once = .finished then 1 else 0

theorem invOnce_tr {s s' : State} {t : Nat} (hk : InvKnows s) (h : InvOnce s) (hs : Tr s t s') : InvOnce s' :=
  ctxInv_tr₀ hk hs (fun hl hkx hQ => by
    cases hl with
    | stopFresh ho => simpa [ho] using hQ
    | stopClose => simp_all [Knows]
    | _ => exact hQ) h

/-! ### No appended error is lost.  The write `errors = append(snap, ids…)` keeps the count because the writer
owns `errorsMU`, so `snap` is the current slice (`Knows` at `appWrite`) -/

/-- errors satisfying `q` that goroutine `pc` has been handed for context `c` and has not stored yet -/
def inflQ (q : Nat → Bool) (c : Nat) : PC → Nat
  | .appLock c' ids => if c' = c then ids.countP q else 0
  | .appRead c' ids => if c' = c then ids.countP q else 0
  | .appWrite c' ids _ => if c' = c then ids.countP q else 0
  | _ => 0

def InvErr (s : State) : Prop :=
  ∀ (q : Nat → Bool) (c : Nat) (x : Ctx), s.ctxs[c]? = some x →
    x.errors.countP q + wsum (inflQ q c) s.threads = x.requested.countP q

theorem inflQ_eq_zero (q : Nat → Bool) (c : Nat) (pc : PC) (h : pc.ctx? ≠ some c) : inflQ q c pc = 0 := by
  cases pc <;> simp_all [inflQ, PC.ctx?]

theorem invErr_tr {s s' : State} {t : Nat} (hk : InvKnows s) (h : InvErr s) (hs : Tr s t s') : InvErr s' :=
  fun q => ctxInv_tr hk hs (inflQ_eq_zero q) (P := fun x m => x.errors.countP q + m = x.requested.countP q)
    (fun _ hl hkx n hQ => by
      cases hl with
      | callAppend ids | propKill => simp_all [inflQ, List.countP_append]; omega
      | appWrite => split <;> simp_all [Knows, inflQ, List.countP_append] <;> omega
      | _ => exact hQ) (h q)

theorem inflQ_quiet {s : State} {c : Nat} (hq : s.quiet c) (q : Nat → Bool) : wsum (inflQ q c) s.threads = 0 :=
  wsum_quiet hq fun pc h => by cases pc <;> simp_all [inflQ, PC.onCtx]

/-! ### The done signal fires exactly when it should.  `sound`: a closed `done` channel is explained by a Stop call or a
held error.  `complete`: once a Stop was called or an error is held, `done` is closed or some goroutine is still inside
`Stop` of that context (so when nobody is, `done` is closed) -/

/-- goroutine `pc` is inside `Stop` of context `c` -/
def onway (c : Nat) : PC → Nat
  | .stopEnter c' => if c' = c then 1 else 0
  | .stopClose c' => if c' = c then 1 else 0
  | _ => 0

structure InvDone (s : State) : Prop where
  sound : ∀ (c : Nat) (x : Ctx), s.ctxs[c]? = some x → 1 ≤ x.closes → x.shouldBeDone
  inStopE : ∀ (t c : Nat), s.threads[t]? = some (.stopEnter c) → ∃ x, s.ctxs[c]? = some x ∧ x.shouldBeDone
  inStopC : ∀ (t c : Nat), s.threads[t]? = some (.stopClose c) → ∃ x, s.ctxs[c]? = some x ∧ x.shouldBeDone
  complete : ∀ (c : Nat) (x : Ctx), s.ctxs[c]? = some x → x.shouldBeDone →
    1 ≤ x.closes ∨ 0 < wsum (onway c) s.threads

theorem onway_eq_zero (c : Nat) (pc : PC) (h : pc.ctx? ≠ some c) : onway c pc = 0 := by
  cases pc <;> simp_all [onway, PC.ctx?]

/-- `close(done)` is executed by a goroutine inside `Stop`, which knows why; a goroutine leaves `Stop` without closing
only if the `Once` is finished, and then `done` is closed (`InvOnce`).  The write of `AppendError` enters `Stop` or
appended nothing to the current slice, so the context should be done no more than before.  `inStopE`/`inStopC` are
`Knows` at `stopEnter`/`stopClose` of the new state. -/
theorem invDone_tr {s s' : State} {t : Nat} (hk : InvKnows s) (ho : InvOnce s) (h : InvDone s) (hs : Tr s t s') :
    InvDone s' where
  sound := ctxInv_tr₀ hk hs (fun hl hkx hx hcl => by
    obtain ⟨_, _, _, keep, _⟩ := hl.keeps hkx
    cases hl with
    | stopClose => exact keep hkx.1
    | _ => exact keep (hx hcl)) h.sound
  inStopE t c ht := knows_tr hk hs t _ c ht rfl
  inStopC t c ht := let ⟨x, hx, hkx⟩ := knows_tr hk hs t _ c ht rfl; ⟨x, hx, hkx.1⟩
  complete := ctxInv_tr hk hs onway_eq_zero (P := fun x m => x.shouldBeDone → 1 ≤ x.closes ∨ 0 < m)
    (fun hx hl hkx n hQ => by
      cases hl with
      | callStop | propStop | stopClose => simp [onway]
      | appWrite => split <;> simp_all [Knows, Ctx.shouldBeDone, onway]
      | stopFinished ho' => simp_all [ho _ _ hx]
      | _ => exact hQ) h.complete

theorem onway_quiet {s : State} {c : Nat} (hq : s.quiet c) : wsum (onway c) s.threads = 0 :=
  wsum_quiet hq fun pc h => by cases pc <;> simp_all [onway, PC.onCtx]

/-! ### The propagation goroutine of an isolated context acts on its own context only, at most once, and the
state of the parent justifies what it does -/

/-- `pc` is the propagation goroutine of context `c` and has not decided yet -/
def propAlive (c : Nat) : PC → Nat
  | .propWait c' _ => if c' = c then 1 else 0
  | .propCheck c' _ => if c' = c then 1 else 0
  | _ => 0

structure InvProp (s : State) : Prop where
  killJust : ∀ (c : Nat) (x : Ctx), s.ctxs[c]? = some x → 0 < x.propKills →
    ∃ p, x.kind = .isolated p ∧ 1 ≤ s.closesOf p ∧ s.hasErr p
  stopJust : ∀ (c : Nat) (x : Ctx), s.ctxs[c]? = some x → 0 < x.propStops →
    ∃ p, x.kind = .isolated p ∧ 1 ≤ s.closesOf p
  once : ∀ (c : Nat) (x : Ctx), s.ctxs[c]? = some x → x.propKills + x.propStops + wsum (propAlive c) s.threads ≤ 1

theorem propAlive_eq_zero (c : Nat) (pc : PC) (h : pc.ctx? ≠ some c) : propAlive c pc = 0 := by
  cases pc <;> simp_all [propAlive, PC.ctx?]

/-- The propagation goroutine decides at `propCheck`, where it knows the kind of its context and that the parent is
done (`Knows`), and reads the parent's errors; what justified the decision stays true (`tr_mono`).  For `once`,
`propExit`, `propKill` and `propStop` each take the goroutine out of `propAlive` and add at most 1 to
`propKills + propStops`. -/
theorem invProp_tr {s s' : State} {t : Nat} (hk : InvKnows s) (h : InvProp s) (hs : Tr s t s') : InvProp s' where
  killJust c x hx hpos :=
    have ⟨p, h1, h2, h3⟩ := ctxInv_tr₀ hk hs
      (Q := fun x => 0 < x.propKills → ∃ p, x.kind = .isolated p ∧ 1 ≤ s.closesOf p ∧ s.hasErr p)
      (fun hl hkx hQ hpos => by
        cases hl with
        | propKill hp he => exact ⟨_, hkx.1, hkx.2, (hasErr_some hp).2 he⟩
        | _ => exact hQ hpos) h.killJust c x hx hpos
    ⟨p, h1, Nat.le_trans h2 (tr_mono hk hs p).1, (tr_mono hk hs p).2 h3⟩
  stopJust c x hx hpos :=
    have ⟨p, h1, h2⟩ := ctxInv_tr₀ hk hs (Q := fun x => 0 < x.propStops → ∃ p, x.kind = .isolated p ∧ 1 ≤ s.closesOf p)
      (fun hl hkx hQ hpos => by
        cases hl with
        | propStop => exact ⟨_, hkx⟩
        | _ => exact hQ hpos) h.stopJust c x hx hpos
    ⟨p, h1, Nat.le_trans h2 (tr_mono hk hs p).1⟩
  once := ctxInv_tr hk hs propAlive_eq_zero (P := fun x m => x.propKills + x.propStops + m ≤ 1)
    (fun _ hl _ n hQ => by
      cases hl with
      | propExit | propKill | propStop => simp_all [propAlive] <;> omega
      | appWrite => split <;> exact hQ
      | _ => exact hQ) h.once

/-! ### The history monitor: the callers' Kills are `#Canceled(requested) - propKills` -/

def InvPK (s : State) : Prop :=
  ∀ (c : Nat) (x : Ctx), s.ctxs[c]? = some x → x.propKills ≤ x.requested.countP isCanceled

theorem invPK_tr {s s' : State} {t : Nat} (hk : InvKnows s) (h : InvPK s) (hs : Tr s t s') : InvPK s' :=
  ctxInv_tr₀ hk hs (Q := fun x => x.propKills ≤ x.requested.countP isCanceled)
    (fun hl _ hQ => by
      cases hl with
      | callAppend ids => simp only [List.countP_append]; omega
      | propKill => simpa [List.countP_append, isCanceled] using hQ
      | _ => exact hQ) h

end Goat.ScopeSignal
