/-
`CopyFile` to an absent destination, under the view invariant, is a write of the source's data at the destination,
through the cache as well as directly.
-/
import Goat.Proofs.CachePath
import Goat.Proofs.CacheRead

namespace Goat
namespace Cache

open Path (Name norm join slash Reduced Plain cleanPath reduceAbsPath)
open MemFS MemAbs

theorem src_resolves {s : State} {D : Node} (V : VInv s D) (raw : Bytes) (Q : List Name) (d0 : Bytes)
    (hn : norm (cleanPath raw) = some Q) (hS : abs D Q = some (.file d0)) :
    Root.isFile (srcTree s (srcFS s raw).1) (srcFS s raw).2 = .bool true
    ∧ Root.readFile (srcTree s (srcFS s raw).1) (srcFS s raw).2 = .data d0 := by
  rw [srcFS_eq s V.hb raw Q hn]
  simp only [srcTree]
  rw [V.eq] at hS
  simp only [overlay] at hS
  cases hb : abs s.buffer Q with
  | none =>
    rw [hb] at hS
    simp only [] at hS
    simp only [Option.isSome_none, Bool.false_eq_true, if_false]
    rw [root_isFile_eq _ V.hr _ Q hn, root_readFile_eq _ V.hr _ Q hn, hS]
    exact ⟨rfl, rfl⟩
  | some e =>
    rw [hb] at hS
    simp only [] at hS
    cases hS
    simp only [Option.isSome_some, if_true]
    rw [root_isFile_eq _ V.hb _ Q hn, root_readFile_eq _ V.hb _ Q hn, hb]
    exact ⟨rfl, rfl⟩

theorem isWrite_copyFile {s : State} {D : Node} (V : VInv s D) (a b : Bytes) (Ps Pd : List Name)
    (hna : norm a = some Ps) (hnb : norm b = some Pd) (hok : FS.copyOk .fileOnly (abs D) Ps Pd) :
    ∃ d0, IsWrite s b Pd d0 (copyFile s a b) ∧ FS.writeOk (abs D) Pd
      ∧ FS.copySt (abs D) Ps Pd = FS.writeSt (abs D) Pd d0 := by
  obtain ⟨hne, hacc, hmk, habs⟩ := hok
  obtain ⟨d0, hS⟩ : ∃ d0, abs D Ps = some (.file d0) := by
    rcases h : abs D Ps with _ | (d | _) <;> simp [h, FS.CopyKind.accepts] at hacc
    exact ⟨d, rfl⟩
  have hwok : FS.writeOk (abs D) Pd := ⟨hne, hmk, by rw [habs]; simp⟩
  have hcopy : FS.copySt (abs D) Ps Pd = FS.writeSt (abs D) Pd d0 :=
    FS.copySt_file (abs_closed D) hS hne hmk habs
  have hdest : cleanPath b = join Pd := Path.cleanPath_of_norm b Pd hnb hne
  have hdest2 := Path.cleanPath_join Pd (Path.norm_reduced b Pd hnb) hne
  have hnd : norm (join Pd) = some Pd := Path.norm_join Pd (Path.norm_reduced b Pd hnb)
  have hsrc1 := Path.norm_cleanPath a Ps hna
  have hsrc2 := Path.norm_cleanPath _ Ps hsrc1
  have hPsne : Ps ≠ [] := ne_nil_of_file V.hd hS
  have hsrcS : cleanPath a = join Ps := Path.cleanPath_of_norm a Ps hna hPsne
  have hsrcS2 := Path.cleanPath_join Ps (Path.norm_reduced a Ps hna) hPsne
  -- the source is a file, the destination absent with no file above it: equal paths, source above destination and
  -- destination above source each contradict one of the three
  have hnov : overlaps (join Ps) (join Pd) = false := by
    cases hov : overlaps (join Ps) (join Pd) with
    | false => rfl
    | true =>
      exfalso
      rcases overlaps_join Ps Pd (Path.norm_reduced a Ps hna) (Path.norm_reduced b Pd hnb) hPsne hne hov with h | h
      · by_cases e : Ps = Pd
        · rw [e, habs] at hS; cases hS
        · exact hmk Ps (prefix_dropLast_of_ne h e) d0 hS
      · by_cases e : Pd = Ps
        · rw [← e, habs] at hS; cases hS
        · obtain ⟨r, rfl⟩ := h
          have hr : r ≠ [] := fun e' => e (by simp [e'])
          have := (abs_closed D).anc_dir Pd r hr (by rw [hS]; simp)
          rw [habs] at this; cases this
  -- the two resolutions of the source (in CopyFile, then in Copy)
  have r1 := src_resolves V a Ps d0 hsrc1 hS
  have r2 := src_resolves V (cleanPath a) Ps d0 hsrc2 hS
  have hcf : copyFile s a b
      = ({ s with buffer := (Root.writer s.buffer (join Pd) (ioChunks d0)).1,
                  write := jaddIf (Root.writer s.buffer (join Pd) (ioChunks d0)).2 s.write (join Pd) },
         (Root.writer s.buffer (join Pd) (ioChunks d0)).2) := by
    unfold copyFile
    simp only [hdest]
    have e1 : isTrue (Root.isFile (srcTree s (srcFS s a).1) (srcFS s a).2) = true := by rw [r1.1]; rfl
    rw [show (!isTrue (Root.isFile (srcTree s (srcFS s a).1) (srcFS s a).2)) = false by rw [e1]; rfl]
    simp only [Bool.false_eq_true, if_false]
    unfold copy
    have hs2 : (srcFS s (srcFS s a).2).2 = join Ps := by
      show cleanPath (cleanPath a) = join Ps
      rw [hsrcS, hsrcS2]
    simp only [hdest2, hs2, hnov, Bool.false_eq_true, if_false]
    unfold copier copierBuf copierFrom
    rw [show cleanPath a = (srcFS s a).2 from rfl, hs2] at r2
    have e2 : isTrue (Root.isFile (srcTree s (srcFS s (srcFS s a).2).1) (join Ps)) = true := by rw [r2.1]; rfl
    have e3 := r2.2
    simp only [srcTree] at e2 e3
    simp only [e2, if_true, e3]
  rw [hcf]
  refine ⟨d0, ⟨?_, rfl, by rw [hdest], rfl, rfl, rfl⟩, hwok, hcopy⟩
  have R := rootMut_writer s.buffer V.hb (join Pd) Pd hnd (ioChunks d0)
  rwa [ioChunks_flatten] at R

end Cache
end Goat
