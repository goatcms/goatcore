/-
Writer handles, reader handles and the `io.Copy` loop of `Goat/Model/Stream.lean`.  Writers: an `Appending` handle
stays so.  Readers: the read loop of either style as a function of the unread rest (`chunksOf`).  `io.Copy`: under ANY
plan a loop that reports success appended exactly the unread rest; with no fault and enough fuel it succeeds.
-/
import Goat.Model.Stream

namespace Goat
namespace Stream

/-- every write of this handle appends: a memory handle, or a disk handle positioned at the end -/
def Appending (w : WHandle) : Prop := w.kind = .mem ∨ w.off = w.content.length

theorem write_appending (w : WHandle) (p : Bytes) (h : Appending w) :
    (w.write p).content = w.content ++ p ∧ Appending (w.write p) := by
  unfold WHandle.write
  cases hk : w.kind with
  | mem => simp [Appending]
  | disk =>
    rcases h with h | h
    · simp [hk] at h
    · simp only [Appending]
      rw [h]
      simp [List.take_of_length_le, List.drop_of_length_le]

theorem writes_appending (chunks : List Bytes) (w : WHandle) (h : Appending w) :
    (w.writes chunks).content = w.content ++ chunks.flatten := by
  induction chunks generalizing w with
  | nil => simp [WHandle.writes]
  | cons c cs ih =>
    obtain ⟨h1, h2⟩ := write_appending w c h
    simp only [WHandle.writes]
    rw [ih (w.write c) h2, h1, List.flatten_cons, List.append_assoc]

theorem openWith_trunc_appending (kind : Backend) (old : Option Bytes) :
    Appending (WHandle.openWith true kind old) ∧ (WHandle.openWith true kind old).content = [] := by
  simp [WHandle.openWith, Appending]

theorem open_eq (kind : Backend) (old : Option Bytes) : WHandle.open kind old = ⟨kind, [], 0, 0⟩ := by
  cases kind <;> simp [WHandle.open, WHandle.openWith, truncOnOpen]

theorem open_appending (kind : Backend) (old : Option Bytes) :
    Appending (WHandle.open kind old) ∧ (WHandle.open kind old).content = [] := by
  rw [open_eq]; simp [Appending]

theorem open_kind (kind : Backend) (old : Option Bytes) : (WHandle.open kind old).kind = kind := by
  rw [open_eq]

theorem open_writes_content (kind : Backend) (old : Option Bytes) (chunks : List Bytes) :
    ((WHandle.open kind old).writes chunks).content = chunks.flatten := by
  rw [writes_appending chunks _ (open_appending kind old).1, (open_appending kind old).2, List.nil_append]

def RHandle.rest (h : RHandle) : Bytes := h.data.drop h.pos

def RHandle.Ok (h : RHandle) : Prop := h.pos ≤ h.data.length

/-- whether `Read(buf)`, `len(buf) = n`, on the unread `rest` reports `io.EOF` -/
def eofFlag : EofStyle → Bytes → Nat → Bool
  | .eager, rest, n => (rest.drop n).isEmpty
  | .lazy, rest, n => n != 0 && (rest.take n).isEmpty

/-- the read loop as a function of the unread rest (`eager`: `FS.readChunks`) -/
def chunksOf (st : EofStyle) : Bytes → List Nat → List (Bytes × Bool)
  | _, [] => []
  | rest, n :: sizes => (rest.take n, eofFlag st rest n) :: chunksOf st (rest.drop n) sizes

theorem chunksOf_eager (rest : Bytes) (sizes : List Nat) : chunksOf .eager rest sizes = FS.readChunks rest sizes := by
  induction sizes generalizing rest with
  | nil => rfl
  | cons n ns ih => simp only [chunksOf, FS.readChunks, ih, eofFlag]

theorem eofFlag_true (st : EofStyle) (rest : Bytes) (n : Nat) (h : eofFlag st rest n = true) : rest.drop n = [] := by
  cases st with
  | eager => exact List.isEmpty_iff.mp h
  | lazy =>
    simp only [eofFlag, Bool.and_eq_true, bne_iff_ne, ne_eq, List.isEmpty_iff, List.take_eq_nil_iff] at h
    rw [h.2.resolve_left h.1, List.drop_nil]

theorem drop_take_length {α} (l : List α) (n : Nat) : l.drop (l.take n).length = l.drop n := by
  simp [List.length_take]

theorem read_chunk (h : RHandle) (n : Nat) : (h.read n).1 = h.rest.take n := by
  unfold RHandle.read RHandle.rest; cases h.style <;> rfl

theorem read_data (h : RHandle) (n : Nat) : (h.read n).2.2.data = h.data := by
  unfold RHandle.read; cases h.style <;> rfl

theorem read_style (h : RHandle) (n : Nat) : (h.read n).2.2.style = h.style := by
  unfold RHandle.read; cases hs : h.style <;> simp

theorem read_pos (h : RHandle) (n : Nat) : (h.read n).2.2.pos = h.pos + (h.rest.take n).length := by
  unfold RHandle.read RHandle.rest; cases h.style <;> rfl

theorem read_rest (h : RHandle) (n : Nat) : (h.read n).2.2.rest = h.rest.drop n := by
  unfold RHandle.rest
  rw [read_data, read_pos]
  unfold RHandle.rest
  rw [← List.drop_drop, drop_take_length]

theorem read_ok (h : RHandle) (n : Nat) (hok : h.Ok) : (h.read n).2.2.Ok := by
  unfold RHandle.Ok at *
  rw [read_data, read_pos]
  unfold RHandle.rest
  rw [List.length_take, List.length_drop]
  omega

theorem rest_length (h : RHandle) : h.rest.length = h.data.length - h.pos := by
  unfold RHandle.rest; rw [List.length_drop]

theorem read_eof (h : RHandle) (n : Nat) (hok : h.Ok) : (h.read n).2.1 = eofFlag h.style h.rest n := by
  cases hs : h.style with
  | lazy => unfold RHandle.read RHandle.rest; rw [hs]; rfl
  | eager =>
    have hl := rest_length h
    unfold RHandle.Ok at hok
    have e : (h.read n).2.1 = (h.pos + (h.rest.take n).length == h.data.length) := by
      unfold RHandle.read RHandle.rest; rw [hs]
    rw [e, List.length_take, eofFlag, Bool.eq_iff_iff]
    simp only [beq_iff_eq, List.isEmpty_iff, List.drop_eq_nil_iff]
    omega

theorem reads_eq (sizes : List Nat) (h : RHandle) (hok : h.Ok) :
    h.reads sizes = chunksOf h.style h.rest sizes := by
  induction sizes generalizing h with
  | nil => rfl
  | cons n ns ih =>
    have ih' := ih (h.read n).2.2 (read_ok h n hok)
    rw [read_style, read_rest] at ih'
    simp only [RHandle.reads, chunksOf]
    rw [ih', read_chunk, read_eof h n hok]

theorem open_ok (style : EofStyle) (data : Bytes) : (RHandle.open style data).Ok := Nat.zero_le _
theorem open_rest (style : EofStyle) (data : Bytes) : (RHandle.open style data).rest = data := rfl

def delivered (out : List (Bytes × Bool)) : Bytes := (out.map Prod.fst).flatten

@[simp] theorem delivered_nil : delivered [] = [] := rfl
@[simp] theorem delivered_cons (x : Bytes × Bool) (out : List (Bytes × Bool)) :
    delivered (x :: out) = x.1 ++ delivered out := rfl
theorem delivered_append (a b : List (Bytes × Bool)) : delivered (a ++ b) = delivered a ++ delivered b := by
  simp [delivered]

theorem delivered_prefix (st : EofStyle) (sizes : List Nat) (rest : Bytes) :
    delivered (chunksOf st rest sizes) <+: rest := by
  induction sizes generalizing rest with
  | nil => exact List.nil_prefix
  | cons n ns ih =>
    rw [chunksOf, delivered_cons]
    have := (List.prefix_append_right_inj (rest.take n)).mpr (ih (rest.drop n))
    rwa [List.take_append_drop] at this

/-- a read in the middle of the loop is the first read of a loop on what was left by then -/
theorem chunksOf_split (st : EofStyle) (sizes : List Nat) (rest : Bytes) (pre : List (Bytes × Bool))
    (x : Bytes × Bool) (post : List (Bytes × Bool)) (h : chunksOf st rest sizes = pre ++ x :: post) :
    ∃ n rest', n ∈ sizes ∧ delivered pre ++ rest' = rest ∧ x = (rest'.take n, eofFlag st rest' n) := by
  induction sizes generalizing rest pre with
  | nil => simp [chunksOf] at h
  | cons n ns ih =>
    rw [chunksOf] at h
    cases pre with
    | nil => exact ⟨n, rest, List.mem_cons_self .., rfl, (List.cons.inj h).1.symm⟩
    | cons y pre' =>
      simp only [List.cons_append, List.cons.injEq] at h
      obtain ⟨rfl, h⟩ := h
      obtain ⟨m, rest', hm, hd, hx⟩ := ih (rest.drop n) pre' h
      exact ⟨m, rest', List.mem_cons_of_mem _ hm,
        by rw [delivered_cons, List.append_assoc, hd, List.take_append_drop], hx⟩

theorem take_eq_self_iff {α} (l : List α) (n : Nat) : l.take n = l ↔ l.drop n = [] := by
  have := List.take_append_drop n l
  constructor
  · intro h
    rw [h] at this
    exact List.append_cancel_left (this.trans (List.append_nil l).symm)
  · intro h
    rwa [h, List.append_nil] at this

theorem eof_iff (st : EofStyle) (sizes : List Nat) (rest : Bytes) (hpos : ∀ n ∈ sizes, 0 < n)
    (pre : List (Bytes × Bool)) (x : Bytes × Bool) (post : List (Bytes × Bool))
    (h : chunksOf st rest sizes = pre ++ x :: post) :
    x.2 = true ↔ match st with
      | .eager => delivered (pre ++ [x]) = rest
      | .lazy => delivered pre = rest := by
  obtain ⟨n, rest', hn, rfl, rfl⟩ := chunksOf_split st sizes rest pre x post h
  cases st with
  | eager =>
    simp only [eofFlag, delivered_append, delivered_cons, delivered_nil, List.append_nil, List.isEmpty_iff,
      List.append_cancel_left_eq, take_eq_self_iff]
  | lazy =>
    have hn0 : n ≠ 0 := Nat.pos_iff_ne_zero.mp (hpos n hn)
    simp only [eofFlag, Bool.and_eq_true, bne_iff_ne, ne_eq, List.isEmpty_iff, List.take_eq_nil_iff,
      List.self_eq_append_right]
    exact ⟨fun h => h.2.resolve_left hn0, fun h => ⟨hn0, Or.inr h⟩⟩

theorem eof_all (st : EofStyle) (sizes : List Nat) (rest : Bytes)
    (h : ∃ x ∈ chunksOf st rest sizes, x.2 = true) : delivered (chunksOf st rest sizes) = rest := by
  obtain ⟨x, hx, hx2⟩ := h
  obtain ⟨pre, post, hsplit⟩ := List.append_of_mem hx
  obtain ⟨n, rest', _, rfl, rfl⟩ := chunksOf_split st sizes rest pre x post hsplit
  -- with `x` everything has been delivered, and never more than everything is
  have hpre := delivered_prefix st sizes (delivered pre ++ rest')
  rw [hsplit] at hpre ⊢
  refine hpre.eq_of_length_le ?_
  rw [show pre ++ (rest'.take n, eofFlag st rest' n) :: post = pre ++ [(rest'.take n, eofFlag st rest' n)] ++ post by simp,
    delivered_append, delivered_append, delivered_cons, (take_eq_self_iff rest' n).mpr (eofFlag_true st rest' n hx2)]
  simp

theorem faultyRead_noFault (c : Calls) (r : RHandle) (n : Nat) :
    faultyRead noFault c r n
      = ((r.read n).1, if (r.read n).2.1 then .eof else .more, c.bump .read, (r.read n).2.2) := rfl

theorem faultyWrite_noFault (c : Calls) (w : WHandle) (chunk : Bytes) :
    faultyWrite noFault c w chunk = (true, c.bump .write, w.write chunk) := rfl

theorem faultyRead_cases (pl : Plan) (c : Calls) (r : RHandle) (n : Nat) :
    (∃ ch r', faultyRead pl c r n = (ch, .err, c.bump .read, r'))
    ∨ faultyRead pl c r n
        = ((r.read n).1, if (r.read n).2.1 then .eof else .more, c.bump .read, (r.read n).2.2) := by
  unfold faultyRead
  cases pl .read (c .read) with
  | none => exact Or.inr rfl
  | some m => cases m <;> exact Or.inl ⟨_, _, rfl⟩

theorem faultyWrite_cases (pl : Plan) (c : Calls) (w : WHandle) (chunk : Bytes) :
    (∃ w', faultyWrite pl c w chunk = (false, c.bump .write, w'))
    ∨ faultyWrite pl c w chunk = (true, c.bump .write, w.write chunk) := by
  unfold faultyWrite
  cases pl .write (c .write) with
  | none => exact Or.inr rfl
  | some m => cases m <;> exact Or.inl ⟨_, rfl⟩

theorem ioLoop_ok_content (pl : Plan) (fuel : Nat) (sizes : List Nat) (c : Calls) (r : RHandle) (w : WHandle)
    (hw : Appending w) (hr : r.Ok) (hok : (ioLoop pl fuel sizes c r w).ok = true) :
    (ioLoop pl fuel sizes c r w).w.content = w.content ++ r.rest := by
  induction fuel generalizing sizes c r w with
  | zero => simp [ioLoop] at hok
  | succ fuel ih =>
    simp only [ioLoop] at hok ⊢
    generalize chunkSize sizes = n at hok ⊢
    rcases faultyRead_cases pl c r n with ⟨ch, r', hf⟩ | hf
    · -- the read failed: whatever follows, the loop reports an error
      rw [hf] at hok
      split at hok
      · simp at hok
      · rcases faultyWrite_cases pl (c.bump .read) w ch with ⟨w', hfw⟩ | hfw
        · rw [hfw] at hok; simp at hok
        · rw [hfw] at hok; simp at hok
    · rw [hf] at hok ⊢
      -- the round delivers `(r.read n).1`, and what it leaves unread is nothing when it reports `io.EOF`
      have hrest := read_rest r n
      have hok' := read_ok r n hr
      have hd := fun h : (r.read n).2.1 = true => eofFlag_true r.style r.rest n (read_eof r n hr ▸ h)
      rw [show r.rest = (r.read n).1 ++ r.rest.drop n by rw [read_chunk, List.take_append_drop]]
      by_cases hemp : (r.read n).1.isEmpty = true
      · rw [if_pos hemp] at hok ⊢
        rw [List.isEmpty_iff.mp hemp, List.nil_append]
        by_cases heof : (r.read n).2.1 = true
        · rw [if_pos heof, hd heof, List.append_nil]
        · rw [if_neg heof] at hok ⊢
          rw [← hrest]
          exact ih _ _ _ w hw hok' hok
      · rw [if_neg hemp] at hok ⊢
        rcases faultyWrite_cases pl (c.bump .read) w (r.read n).1 with ⟨w', hfw⟩ | hfw
        · rw [hfw] at hok; simp at hok
        · rw [hfw] at hok ⊢
          simp only [if_true] at hok ⊢
          obtain ⟨hwc, hwa⟩ := write_appending w (r.read n).1 hw
          rw [← List.append_assoc, ← hwc]
          by_cases heof : (r.read n).2.1 = true
          · rw [if_pos heof, hd heof, List.append_nil]
          · rw [if_neg heof] at hok ⊢
            rw [← hrest]
            exact ih _ _ _ _ hwa hok' hok

/-- The fuel bound: each round uses up an entry of the oracle or, once the oracle is used up
(`chunkSize [] = bufSize > 0`), at least one byte; one more round for the read by which a `lazy` reader reports EOF,
and one because fuel 0 answers `false`. -/
theorem ioLoop_noFault_ok (fuel : Nat) (sizes : List Nat) (c : Calls) (r : RHandle) (w : WHandle)
    (hr : r.Ok) (hfuel : sizes.length + r.rest.length + 2 ≤ fuel) :
    (ioLoop noFault fuel sizes c r w).ok = true := by
  induction fuel generalizing sizes c r w with
  | zero => omega
  | succ fuel ih =>
    simp only [ioLoop]
    have hsz : sizes = [] → chunkSize sizes ≠ 0 := by
      intro h; rw [h]; decide
    generalize chunkSize sizes = n at hsz ⊢
    rw [faultyRead_noFault]
    have hnext : (r.read n).2.1 ≠ true → ∀ c w, (ioLoop noFault fuel sizes.tail c (r.read n).2.2 w).ok = true := by
      intro heof c w
      apply ih _ _ _ _ (read_ok r n hr)
      rw [read_rest, List.length_drop]
      cases sizes with
      | cons s ss => simp only [List.tail_cons, List.length_cons] at hfuel ⊢; omega
      | nil =>
        have hn0 := hsz rfl
        have hre : r.rest ≠ [] := fun hre =>
          heof (by rw [read_eof r n hr, hre]; cases r.style <;> simp [eofFlag, hn0])
        have := List.length_pos_iff.mpr hre
        simp only [List.tail_nil, List.length_nil] at hfuel ⊢; omega
    by_cases heof : (r.read n).2.1 = true
    · simp only [if_pos heof, faultyWrite_noFault, if_true]
      split <;> rfl
    · simp only [if_neg heof, faultyWrite_noFault, if_true]
      split <;> exact hnext heof _ _

theorem ioCopy_ok_content (pl : Plan) (sizes : List Nat) (c : Calls) (r : RHandle) (w : WHandle)
    (hw : Appending w) (hr : r.Ok) (hok : (ioCopy pl sizes c r w).ok = true) :
    (ioCopy pl sizes c r w).w.content = w.content ++ r.rest :=
  ioLoop_ok_content pl _ sizes c r w hw hr hok

theorem ioCopy_open_ok_content (pl : Plan) (sizes : List Nat) (c : Calls) (style : EofStyle) (data : Bytes)
    (kind : Backend) (old : Option Bytes)
    (hok : (ioCopy pl sizes c (RHandle.open style data) (WHandle.open kind old)).ok = true) :
    (ioCopy pl sizes c (RHandle.open style data) (WHandle.open kind old)).w.content = data := by
  rw [ioCopy_ok_content pl sizes c _ _ (open_appending kind old).1 (open_ok style data) hok,
    (open_appending kind old).2, open_rest, List.nil_append]

theorem ioCopy_noFault_ok (sizes : List Nat) (c : Calls) (r : RHandle) (w : WHandle) (hr : r.Ok) :
    (ioCopy noFault sizes c r w).ok = true := by
  apply ioLoop_noFault_ok _ sizes c r w hr
  rw [rest_length]; omega

end Stream
end Goat
