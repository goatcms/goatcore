/-
The abstraction `abs` from the concrete tree to the point-wise specification state, the invariant `Inv` of a root,
and how the two tree primitives look through `abs`: `mkdirs` is `FS.mkdirSt` and succeeds exactly under
`FS.mkdirOk`; `update p f` replaces the subtree at `p` and nothing else.  `abs_rebind` is the case shared by
WriteFile / Writer / Copy* / Remove*: the update binds or unbinds one name in the directory at `p`.
-/
import Goat.Proofs.Tree
import Goat.Proofs.FS
import Goat.Proofs.Lists

namespace Goat

open Path (Name)
open FS (Entry State)

def Node.entry : Node → Entry
  | .file d => .file d
  | .dir _ => .dir

/-- abstraction of a concrete tree: what stands at each path -/
def abs (t : Node) : State := fun q => (t.lookup q).map Node.entry

namespace MemAbs

theorem entry_isDir (n : Node) : n.entry.isDir = n.isDir := by cases n <;> rfl

theorem abs_nil (t : Node) : abs t [] = some t.entry := by simp [abs]

theorem abs_eq_file (t : Node) (q : List Name) (d : Bytes) :
    abs t q = some (.file d) ↔ t.lookup q = some (.file d) := by
  simp only [abs]
  cases h : t.lookup q with
  | none => simp
  | some n => cases n <;> simp [Node.entry]

theorem abs_eq_dir (t : Node) (q : List Name) :
    abs t q = some .dir ↔ ∃ k, t.lookup q = some (.dir k) := by
  simp only [abs]
  cases h : t.lookup q with
  | none => simp
  | some n => cases n <;> simp [Node.entry]

theorem abs_eq_none (t : Node) (q : List Name) : abs t q = none ↔ t.lookup q = none := by
  simp [abs]

theorem abs_append (t : Node) (p r : List Name) :
    abs t (p ++ r) = (t.lookup p).bind fun n => abs n r := by
  simp only [abs, Node.lookup_append]
  cases t.lookup p <;> simp

theorem abs_file_cons (d : Bytes) (s : Name) (r : List Name) : abs (.file d) (s :: r) = none := by
  simp [abs]

theorem abs_dir_cons (k : Kids) (s : Name) (r : List Name) :
    abs (.dir k) (s :: r) = (k.find s).bind fun c => abs c r := by
  simp only [abs, Node.lookup_dir_cons]
  cases k.find s <;> simp

theorem abs_closed (t : Node) : FS.PrefixClosed (abs t) := by
  intro q n h
  rw [abs_append] at h
  cases hl : t.lookup q with
  | none => simp [hl] at h
  | some x =>
    cases x with
    | file d => simp [hl, abs_file_cons] at h
    | dir k => simp [abs, hl, Node.entry]

theorem abs_mkdirs (t t' : Node) (p : List Name) (h : t.mkdirs p = some t') :
    abs t' = FS.mkdirSt (abs t) p := by
  funext q
  have := Node.lookup_mkdirs h q
  simp only [FS.mkdirSt]
  split at this
  · next hq =>
    obtain ⟨k', hk'⟩ := this
    simp [abs, hk', hq, Node.entry]
  · next hq => simp [abs, this, hq]

theorem mkdirs_ok_iff (t : Node) (p : List Name) : (t.mkdirs p).isSome ↔ FS.mkdirOk (abs t) p := by
  rw [Node.mkdirs_isSome_iff]
  simp only [FS.mkdirOk, ne_eq, abs_eq_file]

theorem mkdirOk_of_some {t t1 : Node} {p : List Name} (h : t.mkdirs p = some t1) : FS.mkdirOk (abs t) p :=
  (mkdirs_ok_iff t p).mp (by simp [h])

theorem not_mkdirOk_of_none {t : Node} {p : List Name} (h : t.mkdirs p = none) : ¬ FS.mkdirOk (abs t) p := fun hok => by
  simpa [h] using (mkdirs_ok_iff t p).mpr hok

theorem abs_update (t t' : Node) (p : List Name) (f : Kids → Option Kids) (k' : Kids)
    (h : t.update p f = some t') (hk' : t'.lookup p = some (.dir k')) (q : List Name) :
    abs t' q = if p <+: q then abs (.dir k') (q.drop p.length) else abs t q := by
  split
  · next hq =>
    obtain ⟨r, rfl⟩ := hq
    simp only [List.drop_left']
    rw [abs_append, hk']; rfl
  · next hq =>
    have := Node.lookup_update h q hq
    split at this
    · obtain ⟨k1, k2, h1, h2⟩ := this
      simp [abs, h1, h2, Node.entry]
    · simp [abs, this]

theorem abs_rebind {t t' : Node} {init : List Name} {name : Name} {f : Kids → Option Kids} {k k' : Kids}
    (h : t.update init f = some t') (hk : t.lookup init = some (.dir k))
    (hk' : t'.lookup init = some (.dir k')) (o : Option Node)
    (hfind : ∀ m, k'.find m = if name = m then o else k.find m) :
    abs t' = FS.graft (abs t) (init ++ [name]) (o.map abs) := by
  funext q
  simp only [FS.graft, Option.bind_map, Function.comp_def, List.length_append, List.length_singleton]
  rw [abs_update t t' init f k' h hk' q]
  by_cases hq : init <+: q
  · obtain ⟨r, rfl⟩ := hq
    simp only [List.prefix_append, if_true, List.drop_left']
    cases r with
    | nil => simp [not_snoc_prefix, abs, hk, Node.entry]
    | cons m r' =>
      simp only [snoc_prefix_cons, abs_dir_cons, hfind]
      by_cases e : name = m
      · subst e; simp
      · simp only [e, if_false]
        rw [abs_append, hk, Option.bind_some, abs_dir_cons]
  · have hp : ¬ (init ++ [name] <+: q) := fun hp => hq ((List.prefix_append init [name]).trans hp)
    simp only [hq, hp, if_false]

end MemAbs

namespace MemFS
open MemAbs

/-- the invariant of a memory filespace's root: a directory, sibling names unique, every name real -/
structure Inv (t : Node) : Prop where
  isDir : t.isDir = true
  wf : t.WF

theorem Inv.dir {t : Node} (h : Inv t) : ∃ k, t = .dir k := by
  cases t with
  | file d => have := h.isDir; simp [Node.isDir] at this
  | dir k => exact ⟨k, rfl⟩

theorem Inv.abs_nil {t : Node} (h : Inv t) : abs t [] = some .dir := by
  obtain ⟨k, rfl⟩ := h.dir
  rfl

theorem inv_empty : Inv Node.empty := ⟨rfl, by simp [Node.WF]⟩

theorem abs_empty : abs Node.empty = FS.State.empty := by
  funext q
  cases q with
  | nil => simp [abs, FS.State.empty, Node.empty, Node.entry]
  | cons a r => simp [abs, FS.State.empty, Node.empty, Node.lookup]

end MemFS
end Goat
