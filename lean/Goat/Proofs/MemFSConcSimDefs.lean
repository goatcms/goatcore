/-
The simulation invariant that links the lock-granular thread system to the abstract tree, for operations on independent
paths.

`Sim T0 progs s`, for threads running `progs` from a heap whose abstract tree was `T0`: (1) the heap is a forest
(`Shape`); (2) every thread is where its program says (`ThreadOK`): the objects its program counter holds are those at
the paths its current operation walks (`PcInv`), the results logged so far are those the operations have in `T0`
(`ResOK`); (3) the abstract tree of the heap is `T0` with the micro effects of the DECIDED operations
(`SD T0 (decAll …)`), except for directories an undecided creating operation has already made on its way (`Ext`);
(4) one thread per program (`len`), and the private trees of different copiers are disjoint (`pend`).

An operation is decided from the critical section on that fixes its result (the linking of the new node, `setData`,
`removeNodeByName`, the last `mkdir`, the read, the failed look-up).
-/
import Goat.Proofs.MemFSConcHeapStep
import Goat.Proofs.MemFSConcOps

namespace Goat.MemFSConc

/-- `mkdirAllNodes` along `path`, then continuation `k`, is what `op` does (a `Copy` holds its source
node meanwhile).  `False` for the continuation of `Writer`: stream handles are not simulated (`Op.ok`). -/
def MkOK (h : Heap) (op : Op) (path : Path) : MK → Prop
  | .done => op = .mkdirAll path
  | .write n v => op = .writeFile (path ++ [n]) v
  | .copyDst n src isDir => ∃ s, op = .copy s (path ++ [n]) ∧ resolve h 0 s = some src ∧ okind h src = some isDir
  | _ => False

/-- the walk along `path`, then continuation `k`, is what `op` does (`False` for `Reader`, a handle operation) -/
def WalkOK (op : Op) (path : Path) : WK → Prop
  | .probe want => op = .probe path want
  | .readFile => op = .readFile path
  | .readDir => op = .readDir path
  | .rmParent n true => op = .remove (path ++ [n])
  | .rmParent n false => op = .removeAll (path ++ [n])
  | .copySrc dd dn => op = .copy path (dd ++ [dn])
  | _ => False

/-- one activation of `copyDir`, on the source directory at `path`: `todo` are the nodes at `path/name` not yet copied,
`done` the copies made so far (private trees representing children of the initial tree), `hole` the child an activation
above is working on; together they are exactly the children of `path` in the initial tree -/
structure FrameInv (T0 : Tree) (h : Heap) (path : Path) (hole : Option Name) (fr : Frame) : Prop where
  src : DirAt h path fr.src
  names : (fr.done.map (·.1) ++ (hole.toList ++ fr.todo.map (·.1))).Nodup
  cover : ∀ m, T0 (path ++ [m]) ≠ none ↔ (m ∈ fr.done.map (·.1) ∨ m ∈ hole ∨ m ∈ fr.todo.map (·.1))
  todo : ∀ m co k, (m, co, k) ∈ fr.todo → resolve h 0 (path ++ [m]) = some co ∧ okind h co = some k
  done : ∀ m c, (m, c) ∈ fr.done → Priv h c (fun q => T0 (path ++ m :: q))

/-- the stack of activations of `copyDir` below the source path `s`; `ρ` is the path of the top activation relative to
`s`.  Below it: nothing (then `ρ = []`, it is the activation of the source itself), or `ρ = ρ' ++ [fr.nm]` and its caller, at
`s ++ ρ'`, has the child `fr.nm` in work. -/
def FramesInv (T0 : Tree) (h : Heap) (s : Path) : Option Name → Path → List Frame → Prop
  | _, _, [] => True
  | hole, ρ, fr :: rest => FrameInv T0 h (s ++ ρ) hole fr ∧
    match rest with
    | [] => ρ = []
    | _ :: _ => ∃ ρ', ρ = ρ' ++ [fr.nm] ∧ FramesInv T0 h s (some fr.nm) ρ' rest

/-- the private objects a copier holds -/
def Pc.pending : Pc → List Oid
  | .cAdd _ _ c => [c]
  | .cDir _ _ stack => stack.flatMap fun fr => fr.done.map (·.2)
  | _ => []

/-- the objects the program counter of a thread running `op` holds are those at the paths of `op`; a decided program
counter carries the result `op` has in `T0`.  `False` at the program counters of the handle operations and of the old
lock orders (`wSetLocked`, `oOpenLocked`): `Op.ok` and `Variant.fixed` exclude them. -/
def PcInv (T0 : Tree) (h : Heap) (op : Op) : Pc → Prop
  | .fin r => ResOK T0 op r
  | .wUnlockFin _ r => ResOK T0 op r
  | .mk cur rest k => ∃ π, DirAt h π cur ∧ rest ≠ [] ∧ MkOK h op (π ++ rest) k
  | .mkLocked cur n rest k => ∃ π, DirAt h π cur ∧ MkOK h op (π ++ n :: rest) k
  | .wLock d n v => ∃ π, DirAt h π d ∧ op = .writeFile (π ++ [n]) v
  | .wLook d n v => ∃ π, DirAt h π d ∧ op = .writeFile (π ++ [n]) v
  | .wAdd d n v => ∃ π, DirAt h π d ∧ op = .writeFile (π ++ [n]) v ∧ T0 (π ++ [n]) = none
  | .wUnlockSet d f v => ∃ π n, DirAt h π d ∧ op = .writeFile (π ++ [n]) v ∧ FileAt h (π ++ [n]) f
  | .wSet f v => ∃ p, op = .writeFile p v ∧ FileAt h p f
  | .walk cur rest k => ∃ π, DirAt h π cur ∧ rest ≠ [] ∧ WalkOK op (π ++ rest) k
  | .rData f => ∃ p, op = .readFile p ∧ FileAt h p f
  | .rList d => ∃ p, op = .readDir p ∧ DirAt h p d
  | .rmLook o n => ∃ π, DirAt h π o ∧ op = .remove (π ++ [n])
  | .rmLen o n c => ∃ π, DirAt h π o ∧ op = .remove (π ++ [n]) ∧ DirAt h (π ++ [n]) c
  | .rmDo o n => ∃ π, DirAt h π o ∧
      (op = .removeAll (π ++ [n]) ∨ (op = .remove (π ++ [n]) ∧ FS.removeOk T0 (π ++ [n])))
  | .cFile d n src => ∃ π s, DirAt h π d ∧ op = .copy s (π ++ [n]) ∧ FileAt h s src
  | .cEnter d n src => ∃ π s, DirAt h π d ∧ op = .copy s (π ++ [n]) ∧ DirAt h s src
  | .cAdd d n c => ∃ π s, DirAt h π d ∧ op = .copy s (π ++ [n]) ∧ Priv h c (fun q => T0 (s ++ q))
  | .cDir d n stack => ∃ π s ρ, DirAt h π d ∧ op = .copy s (π ++ [n]) ∧ stack ≠ [] ∧
      FramesInv T0 h s none ρ stack ∧ (stack.flatMap fun fr => fr.done.map (·.2)).Nodup
  | _ => False

/-- the result of the current operation is not fixed yet -/
def Pc.undecided : Pc → Bool
  | .idle => false
  | .fin _ => false
  | .wUnlockFin _ _ => false
  | _ => true

/-- the creating phase: directories the operation has made on its way may exist although it is not decided (a `Copy` is
not in it while it still walks to its source).  Also `true` at the counters of reads and removals: their `Op.C` is
`none`, so they add nothing to `Ext`. -/
def Pc.creating : Pc → Bool
  | .idle => false
  | .fin _ => false
  | .wUnlockFin _ _ => false
  | .walk _ _ _ => false
  | _ => true

theorem Pc.creating_undecided {pc : Pc} (h : pc.creating = true) : pc.undecided = true := by
  cases pc <;> simp [Pc.creating] at h <;> rfl

/-- the operations of its program `P` the thread has begun (`P` without what is left in `th.prog`); the last of them is
the current one -/
def begun (P : List Op) (th : Thread) : List Op := P.take (P.length - th.prog.length)

/-- the decided ones among them: all that were begun, but for the current one while it is undecided -/
def decOf (P : List Op) (th : Thread) : List Op :=
  if th.pc.undecided then (begun P th).dropLast else begun P th

/-- the decided operations of all threads, thread by thread -/
def decAll : List (List Op) → List Thread → List Op
  | P :: Ps, th :: ths => decOf P th ++ decAll Ps ths
  | _, _ => []

/-- the operation the thread is in, or has just finished (`none` before its first) -/
def curOp (P : List Op) (th : Thread) : Option Op := (begun P th).getLast?

/-- `res` are results the operations `ops` have in `T0`, one each, in order -/
def ResList (T0 : Tree) (ops : List Op) (res : List Res) : Prop :=
  res.length = ops.length ∧ ∀ (k : Nat) op r, ops[k]? = some op → res[k]? = some r → ResOK T0 op r

/-- the thread is where its program `P` says: `res`, the results it has logged, are those of the operations it has begun —
but for the current one while it is busy (`res` lags one behind `begun`) -/
structure ThreadOK (T0 : Tree) (h : Heap) (res : List Res) (P : List Op) (th : Thread) : Prop where
  split : P = begun P th ++ th.prog
  idle : th.pc = .idle → ResList T0 (begun P th) res
  busy : th.pc ≠ .idle → ∃ op, curOp P th = some op ∧ PcInv T0 h op th.pc ∧ ResList T0 (begun P th).dropLast res

/-- the thread `th` running `P` is in the creating phase of `op`, which makes missing directories along `c`, a path
through `q` -/
structure ExtBy (P : List Op) (th : Thread) (q : Path) (op : Op) (c : Path) : Prop where
  creating : th.pc.creating = true
  cur : curOp P th = some op
  C : op.C = some c
  pfx : q <+: c

/-- directories that may exist although no decided operation made them: those on the way of an
undecided creating operation.  They stay when it fails later: `mkdirAllNodes` does not roll back. -/
def Ext (progs : List (List Op)) (ths : List Thread) (q : Path) : Prop :=
  q ≠ [] ∧ ∃ τ : Nat, ∃ P th op c, progs[τ]? = some P ∧ ths[τ]? = some th ∧ ExtBy P th q op c

/-- `A` is `S` except for some additional directories at paths `X` -/
def AbsRel (A S : Tree) (X : Path → Prop) : Prop :=
  ∀ q, A q = S q ∨ (S q = none ∧ A q = some .dir ∧ X q)

/-- what the simulation assumes of the programs -/
structure Hyp (T0 : Tree) (progs : List (List Op)) : Prop where
  wf : TreeWF T0
  ok : ∀ P ∈ progs, ∀ op ∈ P, op.ok
  indep : progs.flatten.Pairwise IndepOp

def AbsOK (T0 : Tree) (progs : List (List Op)) (s : State) : Prop :=
  AbsRel (absT s.heap) (SD T0 (decAll progs s.threads)) (Ext progs s.threads)

def Thread.move (th : Thread) (pc' : Pc) (hs' : List Handle) : Thread := { th with pc := pc', handles := hs' }

/-- the state after thread `τ` (which was `th`) has left a critical section -/
def State.after (s : State) (τ : Tid) (th : Thread) (h' : Heap) (pc' : Pc) (hs' : List Handle) : State :=
  { heap := h', threads := s.threads.set τ (th.move pc' hs'), log := s.log }

structure Sim (T0 : Tree) (progs : List (List Op)) (s : State) : Prop where
  shape : Shape s.heap
  len : s.threads.length = progs.length
  thr : ∀ τ P th, progs[τ]? = some P → s.threads[τ]? = some th →
    ThreadOK T0 s.heap (resultsOf s τ) P th
  abs : AbsOK T0 progs s
  /-- when one copier links its tree, the trees of the others stay private -/
  pend : ∀ (τ τ' : Nat) th th', τ ≠ τ' → s.threads[τ]? = some th → s.threads[τ']? = some th' →
    ∀ c ∈ th.pc.pending, c ∉ th'.pc.pending

variable {T0 : Tree} {progs : List (List Op)} {s : State} {τ : Nat} {P : List Op} {th : Thread} {i : Op}

/-- the tree of a forest can be the initial tree of `Hyp` -/
theorem treeWF_absT {h : Heap} (hs : Shape h) : TreeWF (absT h) :=
  ⟨absT_root hs, fun _ _ hne => absT_parent hne⟩

theorem Sim.prog_of {T0 : Tree} {progs : List (List Op)} {s : State} (hs : Sim T0 progs s) {τ : Nat}
    {th : Thread} (hth : s.threads[τ]? = some th) : ∃ P, progs[τ]? = some P :=
  ⟨_, List.getElem?_eq_getElem (by rw [← hs.len]; exact (List.getElem?_eq_some_iff.1 hth).1)⟩

theorem resList_nil (T0 : Tree) : ResList T0 [] [] := ⟨rfl, by intro k op r h; simp at h⟩

theorem resList_snoc {ops : List Op} {res : List Res} {op : Op} {r : Res}
    (h : ResList T0 ops res) (hr : ResOK T0 op r) : ResList T0 (ops ++ [op]) (res ++ [r]) := by
  refine ⟨by simp [h.1], ?_⟩
  intro k o x ho hx
  by_cases hk : k < ops.length
  · rw [List.getElem?_append_left hk] at ho
    rw [List.getElem?_append_left (by rw [h.1]; exact hk)] at hx
    exact h.2 k o x ho hx
  · have hge : ops.length ≤ k := Nat.le_of_not_lt hk
    rw [List.getElem?_append_right hge] at ho
    rw [List.getElem?_append_right (by rw [h.1]; exact hge), h.1] at hx
    cases hkk : k - ops.length with
    | zero => simp [hkk] at ho hx; subst ho; subst hx; exact hr
    | succ m => simp [hkk] at ho

theorem ResList.eq_map_ok {ops : List Op} {res : List Res} (h : ResList T0 ops res)
    (hs : ∀ op ∈ ops, ∀ r, ResOK T0 op r → r = .ok) : res = ops.map fun _ => Res.ok := by
  apply List.ext_getElem (by rw [h.1, List.length_map])
  intro k h1 h2
  rw [List.getElem_map]
  have hk : k < ops.length := h.1 ▸ h1
  exact hs ops[k] (List.getElem_mem hk) _ (h.2 k ops[k] _ (List.getElem?_eq_getElem hk) (List.getElem?_eq_getElem h1))

theorem begun_eq {P done : List Op} {th : Thread} (h : P = done ++ th.prog) : begun P th = done := by
  unfold begun; rw [h]; simp

theorem begun_done (h : th.prog = []) : begun P th = P := begun_eq (by rw [h, List.append_nil])

theorem decOf_und (h : th.pc.undecided = true) : decOf P th = (begun P th).dropLast := by
  unfold decOf; rw [h]; rfl

theorem decOf_dec (h : th.pc.undecided = false) : decOf P th = begun P th := by
  unfold decOf; rw [h]; rfl

theorem begun_cur {op : Op} (h : curOp P th = some op) : begun P th = (begun P th).dropLast ++ [op] := by
  obtain ⟨ys, hy⟩ := List.getLast?_eq_some_iff.1 h
  rw [hy, List.dropLast_concat]

theorem curOp_mem {op : Op} (h : curOp P th = some op) : op ∈ P :=
  (List.take_sublist _ _).subset (List.mem_of_getLast? h)

theorem decOf_sublist (P : List Op) (th : Thread) : (decOf P th).Sublist P := by
  unfold decOf begun
  split
  · exact (List.dropLast_sublist _).trans (List.take_sublist _ _)
  · exact List.take_sublist _ _

theorem resultsOf_log_cons (s : State) (h' : Heap) (ths : List Thread) (t : Tid) (r : Res) (τ : Tid) :
    resultsOf { heap := h', threads := ths, log := (t, r) :: s.log } τ =
      if τ = t then resultsOf s τ ++ [r] else resultsOf s τ := by
  unfold resultsOf
  simp only [List.filter_cons]
  by_cases hτ : τ = t
  · subst hτ; simp
  · have : (t == τ) = false := by
      simp only [beq_eq_false_iff_ne, ne_eq]; exact fun e => hτ e.symm
    simp [hτ, this]

theorem decAll_sublist (progs : List (List Op)) (ths : List Thread) : (decAll progs ths).Sublist progs.flatten := by
  induction progs generalizing ths with
  | nil => simp [decAll]
  | cons P Ps ih =>
    cases ths with
    | nil => simp [decAll]
    | cons th ts =>
      simp only [decAll, List.flatten_cons]
      exact List.Sublist.append (decOf_sublist _ _) (ih ts)

theorem decAll_split {ths : List Thread}
    (hP : progs[τ]? = some P) (hth : ths[τ]? = some th) :
    ∃ A B, decAll progs ths = A ++ decOf P th ++ B ∧
      (∀ th', decAll progs (ths.set τ th') = A ++ decOf P th' ++ B) ∧
      (∀ X : List Op, X.Sublist P → (A ++ X ++ B).Sublist progs.flatten) := by
  induction progs generalizing ths τ with
  | nil => simp at hP
  | cons Q Qs ih =>
    cases ths with
    | nil => simp at hth
    | cons t0 ts =>
      cases τ with
      | zero =>
        simp at hP hth
        subst hP; subst hth
        refine ⟨[], decAll Qs ts, by simp [decAll], ?_, ?_⟩
        · intro th'; simp [decAll]
        · intro X hX
          simp only [List.nil_append, List.flatten_cons]
          exact List.Sublist.append hX (decAll_sublist Qs ts)
      | succ τ' =>
        simp at hP hth
        obtain ⟨A, B, h1, h2, h3⟩ := ih hP hth
        refine ⟨decOf Q t0 ++ A, B, ?_, ?_, ?_⟩
        · simp [decAll, h1, List.append_assoc]
        · intro th'; simp [decAll, h2, List.append_assoc]
        · intro X hX
          simp only [List.flatten_cons, List.append_assoc]
          have := h3 X hX
          simp only [List.append_assoc] at this
          exact List.Sublist.append (decOf_sublist _ _) this

/-- thread `τ` (which is `th`, running `P`) is inside its operation `i`, and `i` is not decided yet -/
structure Cur (T0 : Tree) (progs : List (List Op)) (s : State) (τ : Nat) (P : List Op) (th : Thread) (i : Op) : Prop where
  hyp : Hyp T0 progs
  sim : Sim T0 progs s
  hP : progs[τ]? = some P
  hth : s.threads[τ]? = some th
  und : th.pc.undecided = true
  cur : curOp P th = some i

theorem absRel_mono {A S : Tree} {X X' : Path → Prop} (h : AbsRel A S X) (hx : ∀ q, X q → X' q) : AbsRel A S X' := by
  intro q
  rcases h q with h1 | ⟨h1, h2, h3⟩
  · exact Or.inl h1
  · exact Or.inr ⟨h1, h2, hx q h3⟩

theorem absRel_ensure {A S : Tree} {X : Path → Prop} (h : AbsRel A S X) {x : Path} (hx : X x) :
    AbsRel ((Eff1.ensureDir x).apply A) S X := by
  intro q
  simp only [Eff1.apply]
  by_cases hq : q = x
  · subst hq
    simp only [if_true]
    cases hA : A q with
    | none =>
      rcases h q with h1 | ⟨_, h2, _⟩
      · right; exact ⟨by rw [← h1, hA], rfl, hx⟩
      · rw [hA] at h2; cases h2
    | some e =>
      have := h q
      rw [hA] at this
      exact this
  · simp only [hq, if_false]; exact h q

/-- an operation that replaces the subtree at `w` by `sub` is decided -/
theorem absRel_graft {A S : Tree} {X X' : Path → Prop} (h : AbsRel A S X) {w : Path} (sub : Tree)
    (hd : ∀ q, q ≠ [] → q <+: w → q ≠ w → A q = some .dir)
    (hx : ∀ q, X q → X' q ∨ (q ≠ [] ∧ q <+: w ∧ q ≠ w)) :
    AbsRel ((Eff1.graft w sub).apply A) (runEffs S (AOp.effects ⟨w, some sub⟩)) X' := by
  intro q
  rw [runEffs_aop_graft S w sub q]
  simp only [Eff1.apply]
  by_cases hwq : w <+: q
  · simp [hwq, List.isPrefixOf_iff_prefix.2 hwq]
  · simp only [hwq, pfx_false_iff.2 hwq, Bool.false_eq_true, if_false]
    have hne : ∀ (_ : q <+: w), q ≠ w := by
      intro _ e; apply hwq; rw [e]; exact List.prefix_refl _
    by_cases hc : q ≠ [] ∧ q <+: w ∧ S q = none
    · rw [ensureAlong_pos hc]
      exact Or.inl (hd q hc.1 hc.2.1 (hne hc.2.1))
    · rw [ensureAlong_neg hc]
      rcases h q with h1 | ⟨h1, h2, h3⟩
      · exact Or.inl h1
      · rcases hx q h3 with h4 | h4
        · exact Or.inr ⟨h1, h2, h4⟩
        · exact absurd ⟨h4.1, h4.2.1, h1⟩ hc

/-- `MkdirAll p` is decided, all directories down to `p` being there -/
theorem absRel_mk {A S : Tree} {X X' : Path → Prop} (h : AbsRel A S X) {p : Path} (hp : p ≠ [])
    (hd : ∀ q, q <+: p → A q = some .dir) (hx : ∀ q, X q → X' q ∨ (q ≠ [] ∧ q <+: p)) :
    AbsRel A (runEffs S (AOp.effects ⟨p, none⟩)) X' := by
  intro q
  rw [runEffs_aop_mk _ _ hp q]
  by_cases hq : q ≠ [] ∧ q <+: p ∧ S q = none
  · rw [ensureAlong_pos hq]
    exact Or.inl (hd q hq.2.1)
  · rw [ensureAlong_neg hq]
    rcases h q with h2 | ⟨h2, h3, h4⟩
    · exact Or.inl h2
    · rcases hx q h4 with h5 | h5
      · exact Or.inr ⟨h2, h3, h5⟩
      · exact absurd ⟨h5.1, h5.2, h2⟩ hq

theorem Ext.cases {ths : List Thread} {th : Thread} (hP : progs[τ]? = some P) (hth : ths[τ]? = some th) {q : Path}
    (h : Ext progs ths q) :
    (∃ op c, ExtBy P th q op c) ∨
      ∃ τ1 P1 th1 op c, τ1 ≠ τ ∧ progs[τ1]? = some P1 ∧ ths[τ1]? = some th1 ∧ ExtBy P1 th1 q op c := by
  obtain ⟨_, τ1, P1, th1, op, c, h1, h2, e⟩ := h
  by_cases hτ : τ1 = τ
  · subst hτ
    rw [hP] at h1; cases h1
    rw [hth] at h2; cases h2
    exact .inl ⟨op, c, e⟩
  · exact .inr ⟨τ1, P1, th1, op, c, hτ, h1, h2, e⟩

theorem ext_set {ths : List Thread} {th th' : Thread} (hP : progs[τ]? = some P) (hth : ths[τ]? = some th) {q : Path}
    (h : Ext progs ths q) : Ext progs (ths.set τ th') q ∨ ∃ op c, ExtBy P th q op c :=
  (h.cases hP hth).symm.imp_left fun ⟨τ1, P1, th1, op, c, hτ, h1, h2, e⟩ =>
    ⟨h.1, τ1, P1, th1, op, c, h1, by rw [List.getElem?_set_ne (fun e => hτ e.symm)]; exact h2, e⟩

theorem ext_set_und {ths : List Thread} {th th' : Thread}
    (hP : progs[τ]? = some P) (hth : ths[τ]? = some th)
    (hu : th.pc.creating = true → th'.pc.creating = true ∧ curOp P th' = curOp P th) {q : Path}
    (h : Ext progs ths q) : Ext progs (ths.set τ th') q := by
  rcases ext_set hP hth h with h' | ⟨op, c, e⟩
  · exact h'
  · exact ⟨h.1, τ, P, th', op, c, hP, List.getElem?_set_self (List.getElem?_eq_some_iff.1 hth).1,
      (hu e.creating).1, (hu e.creating).2 ▸ e.cur, e.C, e.pfx⟩

theorem ext_set_dec {ths : List Thread} {th th' : Thread}
    (hP : progs[τ]? = some P) (hth : ths[τ]? = some th) (hc : curOp P th = some i) {q : Path}
    (h : Ext progs ths q) :
    Ext progs (ths.set τ th') q ∨ (th.pc.creating = true ∧ q ≠ [] ∧ ∃ c, i.C = some c ∧ q <+: c) := by
  refine (ext_set hP hth h).imp_right fun ⟨op, c, e⟩ => ?_
  have := e.cur; rw [hc] at this; cases this
  exact ⟨e.creating, h.1, c, e.C, e.pfx⟩

theorem ext_of_cur {ths : List Thread}
    (hP : progs[τ]? = some P) (hth : ths[τ]? = some th) (hu : th.pc.creating = true) (hc : curOp P th = some i)
    {c q : Path} (hC : i.C = some c) (hq : q <+: c) (hne : q ≠ []) : Ext progs ths q :=
  ⟨hne, τ, P, th, i, c, hP, hth, hu, hc, hC, hq⟩

end Goat.MemFSConc
