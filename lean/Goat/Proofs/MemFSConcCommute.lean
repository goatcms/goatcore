/-
Micro effects on the path map `Path → Option Entry`, and that independent ones commute.
  `ensureDir p`  – the locked part of `mkdir` at `p` (create the directory unless a node exists),
  `graft p sub`  – `addNode` / `setData` / `removeNodeByName` at `p`: afterwards the subtree at `p` is `sub`
                   (a file, a copied tree, or nothing).
`Unrelated`, `indep_between`, `indep_all` (independence of whole `AOp`s) serve `micro_effects_commute` of `Props/C09`
alone; the simulation uses `effOf` / `effs_pairwise` of `MemFSConcOps` (independence of `Op`s by their footprints), which
rest on the same `Eff1.harmless`.
-/
import Goat.Model.MemFSConc
import Goat.Spec.FS

namespace Goat.MemFSConc

/-- the abstract tree is the one of the sequential specification (`Goat/Spec/FS.lean`): what stands at
each path, `none` = nothing -/
abbrev Entry := Goat.FS.Entry

abbrev Tree := Goat.FS.State

inductive Eff1 where
  | ensureDir (p : Path)
  | graft (p : Path) (sub : Tree)

def Eff1.apply (T : Tree) : Eff1 → Tree
  | .ensureDir p => fun q => if q = p then (match T p with | none => some .dir | some e => some e) else T q
  | .graft p sub => fun q => if p.isPrefixOf q then sub (q.drop p.length) else T q

def runEffs (T : Tree) (l : List Eff1) : Tree := l.foldl Eff1.apply T

def Eff1.path : Eff1 → Path
  | .ensureDir p => p
  | .graft p _ => p

/-- the effect does not replace anything at or above `q` -/
def Eff1.harmless (q : Path) : Eff1 → Prop
  | .ensureDir _ => True
  | .graft w _ => ¬ w <+: q

/-- the effect does nothing at `q` -/
def Eff1.untouched (q : Path) : Eff1 → Prop
  | .ensureDir x => x ≠ q
  | .graft w _ => ¬ w <+: q

/-- two micro effects that do not disturb each other: neither replaces anything at or above the other's path -/
def Indep (a b : Eff1) : Prop := a.harmless b.path ∧ b.harmless a.path

theorem pfx_false_iff {p q : Path} : p.isPrefixOf q = false ↔ ¬ p <+: q := by
  rw [← List.isPrefixOf_iff_prefix]; cases p.isPrefixOf q <;> simp

theorem ensure_graft_comm {p w : Path} (h : ¬ w <+: p) (sub T : Tree) :
    (Eff1.graft w sub).apply ((Eff1.ensureDir p).apply T) = (Eff1.ensureDir p).apply ((Eff1.graft w sub).apply T) := by
  funext q
  have h : w.isPrefixOf p = false := pfx_false_iff.2 h
  simp only [Eff1.apply]
  by_cases h1 : w.isPrefixOf q = true
  · simp only [h1, if_true]
    by_cases h2 : q = p
    · subst h2; rw [h] at h1; cases h1
    · simp [h2]
  · simp only [h1]
    by_cases h2 : q = p
    · subst h2; simp [h]
    · simp [h2]

theorem apply_comm {a b : Eff1} (h : Indep a b) (T : Tree) :
    b.apply (a.apply T) = a.apply (b.apply T) := by
  cases a with
  | ensureDir p =>
    cases b with
    | ensureDir p' =>
      funext q
      simp only [Eff1.apply]
      by_cases h1 : q = p <;> by_cases h2 : q = p'
      · subst h1; subst h2; simp
      · subst h1
        simp [h2]
      · subst h2
        simp [h1]
      · simp [h1, h2]
    | graft p' sub => exact ensure_graft_comm h.2 sub T
  | graft p sub =>
    cases b with
    | ensureDir p' => exact (ensure_graft_comm h.1 sub T).symm
    | graft p' sub' =>
      funext q
      simp only [Eff1.apply]
      by_cases h1 : p.isPrefixOf q = true <;> by_cases h2 : p'.isPrefixOf q = true
      · rcases List.prefix_or_prefix_of_prefix (List.isPrefixOf_iff_prefix.1 h1) (List.isPrefixOf_iff_prefix.1 h2) with hx | hx
        · exact absurd hx h.1
        · exact absurd hx h.2
      · simp [h1, h2]
      · simp [h1, h2]
      · simp [h1, h2]

theorem runEffs_perm {l l' : List Eff1} (hp : l.Perm l') (hind : l.Pairwise Indep) (T : Tree) :
    runEffs T l = runEffs T l' := by
  induction hp generalizing T with
  | nil => rfl
  | cons x _ ih =>
    simp only [runEffs, List.foldl_cons]
    exact ih (List.pairwise_cons.1 hind).2 _
  | swap x y l =>
    simp only [runEffs, List.foldl_cons]
    have hxy : Indep y x := (List.pairwise_cons.1 hind).1 x (by simp)
    rw [apply_comm hxy]
  | trans h1 _ ih1 ih2 =>
    rw [ih1 hind, ih2 ((h1.pairwise_iff (fun h => And.symm h)).1 hind)]

/-- an operation as seen from the root: its target path and what is at the target afterwards
(`none`: `MkdirAll`, the target itself is only ensured) -/
structure AOp where
  target : Path
  sub : Option Tree

/-- nonempty proper prefixes of a path -/
def properPrefixes : Path → List Path
  | [] => []
  | [_] => []
  | a :: b :: rest => [a] :: (properPrefixes (b :: rest)).map (a :: ·)

def AOp.effects (op : AOp) : List Eff1 :=
  (properPrefixes op.target).map .ensureDir ++
    [match op.sub with | none => .ensureDir op.target | some sub => .graft op.target sub]

def Unrelated (p q : Path) : Prop := p.isPrefixOf q = false ∧ q.isPrefixOf p = false

theorem mem_properPrefixes {p q : Path} : q ∈ properPrefixes p ↔ q ≠ [] ∧ q <+: p ∧ q ≠ p := by
  induction p generalizing q with
  | nil =>
    simp only [properPrefixes, List.not_mem_nil, List.prefix_nil, false_iff]
    rintro ⟨h1, h2, _⟩; exact h1 h2
  | cons a rest ih =>
    cases rest with
    | nil =>
      simp only [properPrefixes, List.not_mem_nil, false_iff]
      rintro ⟨h1, h2, h3⟩
      cases q with
      | nil => exact h1 rfl
      | cons c q' =>
        rw [List.cons_prefix_cons] at h2
        obtain ⟨rfl, h2⟩ := h2
        have : q' = [] := List.prefix_nil.1 h2
        subst this
        exact h3 rfl
    | cons b rest' =>
      simp only [properPrefixes, List.mem_cons, List.mem_map]
      constructor
      · rintro (rfl | ⟨q', hq', rfl⟩)
        · refine ⟨by simp, ?_, by simp⟩
          rw [List.cons_prefix_cons]; exact ⟨rfl, List.nil_prefix⟩
        · obtain ⟨h1, h2, h3⟩ := ih.1 hq'
          refine ⟨by simp, ?_, ?_⟩
          · rw [List.cons_prefix_cons]; exact ⟨rfl, h2⟩
          · intro e; exact h3 (List.cons.inj e).2
      · rintro ⟨h1, h2, h3⟩
        cases q with
        | nil => exact absurd rfl h1
        | cons c q' =>
          rw [List.cons_prefix_cons] at h2
          obtain ⟨rfl, h2⟩ := h2
          by_cases hq' : q' = []
          · left; rw [hq']
          · right
            exact ⟨q', ih.2 ⟨hq', h2, fun e => h3 (by rw [e])⟩, rfl⟩

theorem effects_located {op : AOp} {e : Eff1} (h : e ∈ op.effects) :
    e.path <+: op.target ∧ (op.target ≠ [] → e.path ≠ []) ∧
      ∀ w sub, e = .graft w sub → w = op.target ∧ op.sub = some sub := by
  simp only [AOp.effects, List.mem_append, List.mem_map, List.mem_singleton] at h
  rcases h with ⟨q, hq, rfl⟩ | rfl
  · exact ⟨(mem_properPrefixes.1 hq).2.1, fun _ => (mem_properPrefixes.1 hq).1, nofun⟩
  · cases op.sub with
    | none => exact ⟨List.prefix_refl _, id, nofun⟩
    | some sub => exact ⟨List.prefix_refl _, id, fun _ _ e => by cases e; exact ⟨rfl, rfl⟩⟩

theorem effects_harmless {op : AOp} {q : Path} (hq : ¬ op.target <+: q) : ∀ e ∈ op.effects, e.harmless q := by
  intro e he
  cases e with
  | ensureDir y => trivial
  | graft w sub => rw [((effects_located he).2.2 w sub rfl).1]; exact hq

theorem indep_within (op : AOp) : op.effects.Pairwise Indep := by
  simp only [AOp.effects]
  rw [List.pairwise_append]
  refine ⟨?_, by simp, ?_⟩
  · rw [List.pairwise_map]
    exact List.pairwise_of_forall (fun _ _ => ⟨trivial, trivial⟩)
  · intro a ha b hb
    simp only [List.mem_map] at ha
    obtain ⟨q, hq, rfl⟩ := ha
    simp only [List.mem_singleton] at hb
    subst hb
    cases op.sub with
    | none => exact ⟨trivial, trivial⟩
    | some sub =>
      obtain ⟨_, h1, h2⟩ := mem_properPrefixes.1 hq
      exact ⟨trivial, fun h => h2 (h1.eq_of_length_le h.length_le)⟩

theorem indep_between {op1 op2 : AOp} (hu : Unrelated op1.target op2.target) {a b : Eff1}
    (ha : a ∈ op1.effects) (hb : b ∈ op2.effects) : Indep a b :=
  ⟨effects_harmless (fun h => pfx_false_iff.1 hu.1 (h.trans (effects_located hb).1)) a ha,
   effects_harmless (fun h => pfx_false_iff.1 hu.2 (h.trans (effects_located ha).1)) b hb⟩

theorem indep_all {ops : List AOp} (hu : ops.Pairwise (fun a b => Unrelated a.target b.target)) :
    (ops.flatMap AOp.effects).Pairwise Indep :=
  List.pairwise_flatMap.2 ⟨fun op _ => indep_within op, hu.imp fun h _ ha _ hb => indep_between h ha hb⟩

/-- `S` with the missing directories on the way to `c` made (the root exists) -/
def ensureAlong (S : Tree) (c : Path) : Tree :=
  fun q => if q ≠ [] ∧ q <+: c ∧ S q = none then some .dir else S q

theorem ensureAlong_pos {S : Tree} {c q : Path} (h : q ≠ [] ∧ q <+: c ∧ S q = none) : ensureAlong S c q = some .dir :=
  if_pos h

theorem ensureAlong_neg {S : Tree} {c q : Path} (h : ¬ (q ≠ [] ∧ q <+: c ∧ S q = none)) : ensureAlong S c q = S q :=
  if_neg h

theorem ensureAlong_dir {S T : Tree} {c q : Path} (h : S q = T q ∨ (T q = none ∧ S q = some .dir))
    (hnf : ∀ d, T q ≠ some (.file d)) (hq0 : q ≠ []) (hq : q <+: c) : ensureAlong S c q = some .dir := by
  unfold ensureAlong
  rcases h with h | ⟨_, h⟩
  · cases hT : T q with
    | none => rw [hT] at h; simp [hq0, hq, h]
    | some e =>
      cases e with
      | dir => rw [hT] at h; simp [h]
      | file d => exact absurd hT (hnf d)
  · simp [h]

theorem runEffs_append (T : Tree) (l1 l2 : List Eff1) : runEffs T (l1 ++ l2) = runEffs (runEffs T l1) l2 := by
  simp [runEffs, List.foldl_append]

theorem runEffs_ensures (S : Tree) (l : List Path) (q : Path) :
    runEffs S (l.map .ensureDir) q = if q ∈ l ∧ S q = none then some .dir else S q := by
  induction l generalizing S with
  | nil => simp [runEffs]
  | cons x l ih =>
    simp only [List.map_cons, runEffs, List.foldl_cons]
    have := ih ((Eff1.ensureDir x).apply S)
    simp only [runEffs] at this
    rw [this]
    simp only [Eff1.apply, List.mem_cons]
    by_cases hqx : q = x
    · subst hqx
      simp only [if_true, true_or, true_and]
      cases hS : S q with
      | none => simp
      | some e => simp
    · simp [hqx]

theorem runEffs_aop_graft (S : Tree) (p : Path) (sub : Tree) (q : Path) :
    runEffs S (AOp.effects ⟨p, some sub⟩) q =
      if p <+: q then sub (q.drop p.length) else ensureAlong S p q := by
  simp only [AOp.effects, runEffs_append, ensureAlong]
  simp only [runEffs, List.foldl_cons, List.foldl_nil, Eff1.apply]
  have := runEffs_ensures S (properPrefixes p) q
  simp only [runEffs] at this
  rw [this]
  by_cases hpq : p <+: q
  · simp [List.isPrefixOf_iff_prefix.2 hpq, hpq]
  · have h1 : p.isPrefixOf q = false := pfx_false_iff.2 hpq
    simp only [h1, Bool.false_eq_true, if_false, hpq, mem_properPrefixes]
    have : ∀ (hq : q <+: p), q ≠ p := by
      intro _ e; apply hpq; rw [e]; exact List.prefix_refl _
    by_cases hx : q ≠ [] ∧ q <+: p ∧ S q = none
    · have : (q ≠ [] ∧ q <+: p ∧ q ≠ p) ∧ S q = none := ⟨⟨hx.1, hx.2.1, this hx.2.1⟩, hx.2.2⟩
      simp [hx, this]
    · have : ¬ ((q ≠ [] ∧ q <+: p ∧ q ≠ p) ∧ S q = none) := fun hh => hx ⟨hh.1.1, hh.1.2.1, hh.2⟩
      simp [hx, this]

theorem runEffs_aop_mk (S : Tree) (p : Path) (hp : p ≠ []) (q : Path) :
    runEffs S (AOp.effects ⟨p, none⟩) q = ensureAlong S p q := by
  unfold ensureAlong
  have he : AOp.effects ⟨p, none⟩ = (properPrefixes p ++ [p]).map .ensureDir := by
    simp [AOp.effects]
  rw [he, runEffs_ensures]
  simp only [List.mem_append, mem_properPrefixes, List.mem_singleton]
  by_cases hx : q ≠ [] ∧ q <+: p ∧ S q = none
  · simp [hx]
  · have : ¬ (((q ≠ [] ∧ q <+: p ∧ q ≠ p) ∨ q = p) ∧ S q = none) := by
      rintro ⟨h1 | h1, h2⟩
      · exact hx ⟨h1.1, h1.2.1, h2⟩
      · exact hx ⟨by rw [h1]; exact hp, by rw [h1]; exact List.prefix_refl _, h2⟩
    simp [hx, this]

theorem runEffs_harmless {l : List Eff1} {q : Path} (hl : ∀ e ∈ l, e.harmless q) (S : Tree) :
    runEffs S l q = S q ∨ (S q = none ∧ runEffs S l q = some .dir) := by
  induction l generalizing S with
  | nil => left; rfl
  | cons e l ih =>
    have he := hl e (by simp)
    have hstep : (e.apply S) q = S q ∨ (S q = none ∧ (e.apply S) q = some .dir) := by
      cases e with
      | ensureDir x =>
        simp only [Eff1.apply]
        by_cases hqx : q = x
        · subst hqx
          cases hS : S q with
          | none => right; simp
          | some v => left; simp
        · left; simp [hqx]
      | graft w sub =>
        simp only [Eff1.harmless] at he
        left
        simp [Eff1.apply, pfx_false_iff.2 he]
    have := ih (fun e' he' => hl e' (by simp [he'])) (e.apply S)
    simp only [runEffs, List.foldl_cons] at this ⊢
    rcases this with h1 | ⟨h1, h2⟩
    · rcases hstep with h3 | ⟨h3, h4⟩
      · left; rw [h1, h3]
      · right; exact ⟨h3, by rw [h1, h4]⟩
    · rcases hstep with h3 | ⟨h3, h4⟩
      · right; exact ⟨by rw [← h3]; exact h1, h2⟩
      · rw [h4] at h1; cases h1

theorem runEffs_untouched {l : List Eff1} {q : Path} (hl : ∀ e ∈ l, e.untouched q) (S : Tree) :
    runEffs S l q = S q := by
  induction l generalizing S with
  | nil => rfl
  | cons e l ih =>
    have he := hl e (by simp)
    have hstep : (e.apply S) q = S q := by
      cases e with
      | ensureDir x =>
        simp only [Eff1.untouched] at he
        have : ¬ q = x := fun h => he h.symm
        simp [Eff1.apply, this]
      | graft w sub =>
        simp only [Eff1.untouched] at he
        simp [Eff1.apply, pfx_false_iff.2 he]
    have := ih (fun e' he' => hl e' (by simp [he'])) (e.apply S)
    simp only [runEffs, List.foldl_cons] at this ⊢
    rw [this, hstep]

end Goat.MemFSConc
