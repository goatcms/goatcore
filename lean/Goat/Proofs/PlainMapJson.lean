/-
The scanners of the reader on rendered text: white space, string literals (`stringEnd`, `unesc`), the block scanner
on balanced text, and that what the renderer writes is balanced.  `memberText` is the form in which `PlainMapRead`
and `PlainMapEmit` take the rendering of an object apart.
-/
import Goat.Proofs.PlainMapSpec

namespace Goat.PlainMap

theorem wsOK_nil : WsOK [] := nofun

theorem skipWs_append {w : Bytes} (hw : WsOK w) (r : Bytes) : skipWs (w ++ r) = skipWs r := by
  induction w with
  | nil => rfl
  | cons c w ih =>
    rw [List.cons_append, skipWs, if_pos (hw c List.mem_cons_self)]
    exact ih (fun b hb => hw b (List.mem_cons_of_mem _ hb))

theorem skipWs_cons {c : Byte} (hc : isWs c = false) (r : Bytes) : skipWs (c :: r) = c :: r := by
  rw [skipWs]; simp [hc]

theorem skipWs_ws_cons {w : Bytes} (hw : WsOK w) {c : Byte} (hc : isWs c = false) (r : Bytes) :
    skipWs (w ++ c :: r) = c :: r := by
  rw [skipWs_append hw, skipWs_cons hc]

theorem ne_of_class {p : Byte → Bool} {b k : Byte} (hb : p b = true) (hk : p k = false) : b ≠ k :=
  fun e => by rw [e, hk] at hb; cases hb

theorem h2I_some_ne {a : Byte} {n : Nat} (h : h2I a = some n) : a ≠ dq ∧ a ≠ bsl :=
  have ha : (h2I a).isSome = true := by rw [h]; rfl
  ⟨ne_of_class (p := fun a => (h2I a).isSome) ha (by decide), ne_of_class (p := fun a => (h2I a).isSome) ha (by decide)⟩

theorem hex4_some {a b c d : Byte} {n : Nat} (h : hex4 a b c d = some n) :
    (a ≠ dq ∧ a ≠ bsl) ∧ (b ≠ dq ∧ b ≠ bsl) ∧ (c ≠ dq ∧ c ≠ bsl) ∧ (d ≠ dq ∧ d ≠ bsl) := by
  unfold hex4 at h
  split at h
  · next ha hb hc hd => exact ⟨h2I_some_ne ha, h2I_some_ne hb, h2I_some_ne hc, h2I_some_ne hd⟩
  · cases h

theorem stringEnd_plain {b : Byte} (h1 : b ≠ dq) (h2 : b ≠ bsl) (r : Bytes) :
    stringEnd false (b :: r) = (stringEnd false r).map fun x => (b :: x.1, x.2) := by
  rw [stringEnd]
  simp only [h1, h2, false_and, if_false]
  cases stringEnd false r <;> rfl

/-- after a backslash the parity is odd, so the next byte — quote or backslash included — is skipped -/
theorem stringEnd_esc (c : Byte) (r : Bytes) :
    stringEnd false (bsl :: c :: r) = (stringEnd false r).map fun x => (bsl :: c :: x.1, x.2) := by
  rw [stringEnd]
  have : ¬ bsl = dq := by decide
  simp only [this, false_and, if_false, if_true, Bool.not_false]
  rw [stringEnd]
  simp only [Bool.true_eq_false, and_false, if_false]
  have : (if c = bsl then !true else false) = false := by split <;> rfl
  rw [this]
  cases stringEnd false r <;> rfl

theorem stringEnd_strBody {s : Bytes} (hs : StrBody s) (r : Bytes) : stringEnd false (s ++ dq :: r) = some (s, r) := by
  induction hs with
  | nil => rw [List.nil_append, stringEnd, if_pos ⟨rfl, rfl⟩]
  | chr b s h1 h2 _ ih => rw [List.cons_append, stringEnd_plain h1 h2, ih]; rfl
  | esc c s _ ih => rw [List.cons_append, List.cons_append, stringEnd_esc, ih]; rfl

theorem renderItems_cons (i : SItem) (l : List SItem) : renderItems (i :: l) = i.render ++ renderItems l := by
  simp [renderItems]

theorem valItems_cons (i : SItem) (l : List SItem) : valItems (i :: l) = i.val ++ valItems l := by
  simp [valItems]

theorem unesc_plain {b : Byte} (h : b ≠ bsl) (r : Bytes) : unesc (b :: r) = (unesc r).map (b :: ·) := by
  rw [unesc.eq_def]; simp [h]

theorem unesc_esc {e x : Byte} (h : simpleEsc e = some x) (r : Bytes) :
    unesc (bsl :: e :: r) = (unesc r).map (x :: ·) := by
  rw [unesc.eq_def]; simp [h]

theorem unesc_uni {a b c d : Byte} {cp : Nat} (h : hex4 a b c d = some cp) (hs : isSurrogate cp = false) (r : Bytes) :
    unesc (bsl :: 117 :: a :: b :: c :: d :: r) = (unesc r).map (encodeRune cp ++ ·) := by
  rw [unesc.eq_def]; simp [show simpleEsc 117 = none by decide, h, hs]

/-- a surrogate code unit takes the hex digits six bytes on as its partner, whatever the two bytes in between -/
theorem unesc_pair {a b c d x y e f g h : Byte} {hi lo : Nat} (h1 : hex4 a b c d = some hi) (h2 : hex4 e f g h = some lo)
    (hs : isSurrogate hi = true) (hl : 0xDC00 ≤ lo) (r : Bytes) :
    unesc (bsl :: 117 :: a :: b :: c :: d :: x :: y :: e :: f :: g :: h :: r) =
      (unesc r).map (encodeRune (combine hi lo) ++ ·) := by
  rw [unesc.eq_def]; simp [show simpleEsc 117 = none by decide, h1, h2, hs, Nat.not_lt.mpr hl]

theorem unesc_item (i : SItem) (hi : i.WF) (r : Bytes) :
    unesc (i.render ++ r) = (unesc r).map (i.val ++ ·) := by
  cases i with
  | raw b => exact unesc_plain hi.2 r
  | esc c =>
    obtain ⟨x, hx⟩ := Option.isSome_iff_exists.mp hi
    simp only [SItem.render, SItem.val, hx]
    exact unesc_esc hx r
  | uni a b c d =>
    obtain ⟨cp, hcp, hs⟩ := hi
    simp only [SItem.render, SItem.val, hcp]
    exact unesc_uni hcp hs r
  | pair a b c d e f g h =>
    obtain ⟨hi', lo, h1, h2, r1, r2, r3, _⟩ := hi
    simp only [SItem.render, SItem.val, h1, h2]
    exact unesc_pair h1 h2 (by simp [isSurrogate]; omega) r3 r

theorem unesc_render (items : List SItem) (hw : ∀ i ∈ items, i.WF) : unesc (renderItems items) = some (valItems items) := by
  induction items with
  | nil => simp [renderItems, valItems]; rw [unesc.eq_def]
  | cons i items ih =>
    rw [renderItems_cons, unesc_item i (hw i List.mem_cons_self), ih (fun j hj => hw j (List.mem_cons_of_mem _ hj)),
      valItems_cons]
    rfl

theorem blockEnd_str (o c : Byte) (lvl : Nat) (s : Bytes) : ∀ par, blockEnd o c lvl (.str par) s =
    (stringEnd par s).bind fun x => (blockEnd o c lvl .out x.2).map fun y => (x.1 ++ dq :: y.1, y.2) := by
  induction s with
  | nil => intro par; rfl
  | cons b r ih =>
    intro par
    rw [blockEnd, stringEnd]
    split
    · next h => rw [h.1]; rfl
    · rw [ih]
      dsimp only
      cases stringEnd (if b = bsl then !par else false) r with
      | none => rfl
      | some x => exact Option.map_map ..

theorem blockEnd_strBody {s : Bytes} (hs : StrBody s) (o c : Byte) (lvl : Nat) (tail : Bytes) :
    blockEnd o c lvl (.str false) (s ++ dq :: tail) =
      (blockEnd o c lvl .out tail).map fun x => (s ++ dq :: x.1, x.2) := by
  rw [blockEnd_str, stringEnd_strBody hs]; rfl

/-- the two bracket kinds the reader scans for -/
def IsPair (o c : Byte) : Prop := (o = lbrace ∧ c = rbrace) ∨ (o = lbrack ∧ c = rbrack)

theorem IsPair.ne {o c : Byte} (hp : IsPair o c) : o ≠ dq ∧ c ≠ dq ∧ c ≠ o := by
  rcases hp with ⟨rfl, rfl⟩ | ⟨rfl, rfl⟩ <;> decide

theorem IsPair.same_or_apart {o c o' c' : Byte} (hp : IsPair o c) (hp' : IsPair o' c') :
    (o' = o ∧ c' = c) ∨ (o' ≠ o ∧ o' ≠ c ∧ c' ≠ o ∧ c' ≠ c) := by
  rcases hp with ⟨rfl, rfl⟩ | ⟨rfl, rfl⟩ <;> rcases hp' with ⟨rfl, rfl⟩ | ⟨rfl, rfl⟩ <;> decide

theorem blockEnd_out_plain {o c : Byte} (lvl : Nat) {b : Byte} (h1 : b ≠ dq) (h2 : b ≠ o) (h3 : b ≠ c) (r : Bytes) :
    blockEnd o c lvl .out (b :: r) = (blockEnd o c lvl .out r).map fun x => (b :: x.1, x.2) := by
  rw [blockEnd, if_neg h1, if_neg h2, if_neg h3]

theorem blockEnd_out_open {o c : Byte} (ho : o ≠ dq) (lvl : Nat) (r : Bytes) :
    blockEnd o c lvl .out (o :: r) = (blockEnd o c (lvl + 1) .out r).map fun x => (o :: x.1, x.2) := by
  rw [blockEnd, if_neg ho, if_pos rfl]

theorem blockEnd_out_close {o c : Byte} (hc : c ≠ dq) (hco : c ≠ o) {lvl : Nat} (hl : 1 ≤ lvl) (r : Bytes) :
    blockEnd o c (lvl + 1) .out (c :: r) = (blockEnd o c lvl .out r).map fun x => (c :: x.1, x.2) := by
  rw [blockEnd, if_neg hc, if_neg hco, if_pos rfl, if_neg (by omega), Nat.add_sub_cancel]

/-- scanning for `o … c` inside a block passes over `a` without changing the nesting level -/
def Skips (o c : Byte) (a : Bytes) : Prop := ∀ (lvl : Nat) (tail : Bytes), 1 ≤ lvl →
  blockEnd o c lvl .out (a ++ tail) = (blockEnd o c lvl .out tail).map fun x => (a ++ x.1, x.2)

theorem Skips.nested {o c o' c' : Byte} (hp : IsPair o c) (hp' : IsPair o' c') {a r : Bytes} (ha : Skips o c a)
    (hr : Skips o c r) : Skips o c (o' :: a ++ c' :: r) := by
  intro lvl tail hl
  obtain ⟨hod, hcd, hco⟩ := hp.ne
  obtain ⟨hod', hcd', _⟩ := hp'.ne
  have e : (o' :: a ++ c' :: r) ++ tail = o' :: (a ++ (c' :: (r ++ tail))) := by simp
  rw [e]
  rcases hp.same_or_apart hp' with ⟨rfl, rfl⟩ | ⟨h1, h2, h3, h4⟩
  · -- the kind scanned for: one level deeper and back
    rw [blockEnd_out_open hod, ha (lvl + 1) _ (by omega), blockEnd_out_close hcd hco hl, hr lvl tail hl,
      Option.map_map, Option.map_map, Option.map_map]
    congr 1; funext x; simp
  · -- the other kind: its brackets are ordinary bytes
    rw [blockEnd_out_plain lvl hod' h1 h2, ha lvl _ hl, blockEnd_out_plain lvl hcd' h3 h4, hr lvl tail hl,
      Option.map_map, Option.map_map, Option.map_map]
    congr 1; funext x; simp

theorem blockEnd_bal {a : Bytes} (ha : Bal a) {o c : Byte} (hp : IsPair o c) : Skips o c a := by
  induction ha with
  | nil => intro lvl tail _; simp
  | chr b r h1 h2 h3 h4 h5 _ ih =>
    intro lvl tail hl
    have hbo : b ≠ o := by rcases hp with ⟨rfl, _⟩ | ⟨rfl, _⟩ <;> assumption
    have hbc : b ≠ c := by rcases hp with ⟨_, rfl⟩ | ⟨_, rfl⟩ <;> assumption
    rw [List.cons_append, blockEnd_out_plain lvl h1 hbo hbc, ih lvl tail hl, Option.map_map]; rfl
  | str s r hs _ ih =>
    intro lvl tail hl
    have : (dq :: s ++ dq :: r) ++ tail = dq :: (s ++ dq :: (r ++ tail)) := by simp
    rw [this, blockEnd, if_pos rfl, blockEnd_strBody hs, ih lvl tail hl, Option.map_map, Option.map_map]
    congr 1; funext x; simp
  | brace a r _ _ iha ihr => exact Skips.nested hp (Or.inl ⟨rfl, rfl⟩) iha ihr
  | brack a r _ _ iha ihr => exact Skips.nested hp (Or.inr ⟨rfl, rfl⟩) iha ihr

theorem blockEnd_block {a : Bytes} (ha : Bal a) {o c : Byte} (hp : IsPair o c) (tail : Bytes) :
    blockEnd o c 0 .out (o :: a ++ c :: tail) = some (o :: a ++ [c], tail) := by
  obtain ⟨hod, hcd, hco⟩ := hp.ne
  rw [List.cons_append, blockEnd_out_open hod, blockEnd_bal ha hp 1 _ (Nat.le_refl 1), blockEnd, if_neg hcd, if_neg hco,
    if_pos rfl, if_pos (Nat.le_refl 1)]
  simp

theorem Bal.append {a b : Bytes} (ha : Bal a) (hb : Bal b) : Bal (a ++ b) := by
  induction ha with
  | nil => simpa using hb
  | chr c r h1 h2 h3 h4 h5 _ ih => exact Bal.chr c _ h1 h2 h3 h4 h5 ih
  | str s r hs _ ih =>
    have : (dq :: s ++ dq :: r) ++ b = dq :: s ++ dq :: (r ++ b) := by simp
    rw [this]; exact Bal.str s _ hs ih
  | brace x r hx _ _ ih =>
    have : (lbrace :: x ++ rbrace :: r) ++ b = lbrace :: x ++ rbrace :: (r ++ b) := by simp
    rw [this]; exact Bal.brace x _ hx ih
  | brack x r hx _ _ ih =>
    have : (lbrack :: x ++ rbrack :: r) ++ b = lbrack :: x ++ rbrack :: (r ++ b) := by simp
    rw [this]; exact Bal.brack x _ hx ih

theorem Bal.of_plain {w : Bytes} (hw : ∀ b ∈ w, b ≠ dq ∧ b ≠ lbrace ∧ b ≠ rbrace ∧ b ≠ lbrack ∧ b ≠ rbrack) : Bal w := by
  induction w with
  | nil => exact Bal.nil
  | cons c w ih =>
    obtain ⟨h1, h2, h3, h4, h5⟩ := hw c List.mem_cons_self
    exact Bal.chr c w h1 h2 h3 h4 h5 (ih fun b hb => hw b (List.mem_cons_of_mem _ hb))

theorem Bal.of_class {p : Byte → Bool} (h1 : p dq = false) (h2 : p lbrace = false) (h3 : p rbrace = false)
    (h4 : p lbrack = false) (h5 : p rbrack = false) {w : Bytes} (hw : ∀ b ∈ w, p b = true) : Bal w :=
  Bal.of_plain fun b hb => ⟨ne_of_class (hw b hb) h1, ne_of_class (hw b hb) h2, ne_of_class (hw b hb) h3,
    ne_of_class (hw b hb) h4, ne_of_class (hw b hb) h5⟩

theorem Bal.of_ws {w : Bytes} (hw : WsOK w) : Bal w :=
  Bal.of_class (by decide) (by decide) (by decide) (by decide) (by decide) hw

theorem StrBody.of_hex4 {a b c d : Byte} {n : Nat} (h : hex4 a b c d = some n) {r : Bytes} (hr : StrBody r) :
    StrBody (a :: b :: c :: d :: r) :=
  have ⟨ha, hb, hc, hd⟩ := hex4_some h
  .chr a _ ha.1 ha.2 (.chr b _ hb.1 hb.2 (.chr c _ hc.1 hc.2 (.chr d _ hd.1 hd.2 hr)))

theorem strBody_item (i : SItem) (hi : i.WF) {r : Bytes} (hr : StrBody r) : StrBody (i.render ++ r) := by
  cases i with
  | raw b => exact .chr b r hi.1 hi.2 hr
  | esc c => exact .esc c r hr
  | uni a b c d =>
    obtain ⟨cp, hcp, _⟩ := hi
    exact .esc 117 _ (.of_hex4 hcp hr)
  | pair a b c d e f g h =>
    obtain ⟨hi', lo, h1, h2, _⟩ := hi
    exact .esc 117 _ (.of_hex4 h1 (.esc 117 _ (.of_hex4 h2 hr)))

theorem strBody_render (items : List SItem) (hw : ∀ i ∈ items, i.WF) : StrBody (renderItems items) := by
  induction items with
  | nil => exact StrBody.nil
  | cons i items ih =>
    rw [renderItems_cons]
    exact strBody_item i (hw i List.mem_cons_self) (ih fun j hj => hw j (List.mem_cons_of_mem _ hj))

theorem stringEnd_render (items : List SItem) (hw : ∀ i ∈ items, i.WF) (r : Bytes) :
    stringEnd false (renderItems items ++ dq :: r) = some (renderItems items, r) :=
  stringEnd_strBody (strBody_render items hw) r

theorem Bal.of_leaf (v : CLeaf) (hv : v.WF) : Bal v.render := by
  cases v with
  | str items => exact Bal.str _ [] (strBody_render items hv) Bal.nil
  | num lit => exact Bal.of_class (by decide) (by decide) (by decide) (by decide) (by decide) hv.2
  | other raw =>
    rcases hv with rfl | rfl | rfl | ⟨a, rfl, ha⟩
    · exact Bal.of_plain (by decide)
    · exact Bal.of_plain (by decide)
    · exact Bal.of_plain (by decide)
    · exact Bal.brack a [] ha Bal.nil

theorem Bal.of_sep (o : CObj) : Bal o.sep := by
  cases o with
  | nil => exact Bal.nil
  | _ => show Bal [comma]; exact Bal.of_plain (by decide)

def memberText (w0 : Bytes) (key : List SItem) (w1 w2 val w3 : Bytes) (rest : CObj) (t : Bytes) : Bytes :=
  w0 ++ dq :: (renderItems key ++ dq :: (w1 ++ colon :: (w2 ++ (val ++ (w3 ++ (rest.sep ++ (rest.renderMs ++ t)))))))

theorem memberText_ne_nil (w0 : Bytes) (key : List SItem) (w1 w2 val w3 : Bytes) (rest : CObj) (t : Bytes) :
    memberText w0 key w1 w2 val w3 rest t ≠ [] :=
  List.append_ne_nil_of_right_ne_nil _ (List.cons_ne_nil _ _)

theorem renderMs_leaf_append (w0 : Bytes) (key : List SItem) (w1 w2 : Bytes) (v : CLeaf) (w3 : Bytes) (rest : CObj)
    (t : Bytes) :
    (CObj.leaf w0 key w1 w2 v w3 rest).renderMs ++ t = memberText w0 key w1 w2 v.render w3 rest t := by
  simp only [CObj.renderMs, memberText, List.append_assoc, List.cons_append]

theorem renderMs_sub_append (w0 : Bytes) (key : List SItem) (w1 w2 wo : Bytes) (child : CObj) (w3 : Bytes)
    (rest : CObj) (t : Bytes) :
    (CObj.sub w0 key w1 w2 wo child w3 rest).renderMs ++ t =
      memberText w0 key w1 w2 (lbrace :: (wo ++ child.renderMs) ++ [rbrace]) w3 rest t := by
  simp only [CObj.renderMs, memberText, List.append_assoc, List.cons_append, List.nil_append]

theorem Bal.of_memberText {w0 w1 w2 val w3 t : Bytes} {key : List SItem} {rest : CObj} (h0 : WsOK w0)
    (hk : ∀ i ∈ key, i.WF) (h1 : WsOK w1) (h2 : WsOK w2) (hv : Bal val) (h3 : WsOK w3) (hr : Bal (rest.renderMs ++ t)) :
    Bal (memberText w0 key w1 w2 val w3 rest t) :=
  (Bal.of_ws h0).append (Bal.str _ _ (strBody_render key hk) ((Bal.of_ws h1).append
    (Bal.chr colon _ (by decide) (by decide) (by decide) (by decide) (by decide)
      ((Bal.of_ws h2).append (hv.append ((Bal.of_ws h3).append ((Bal.of_sep rest).append hr)))))))

theorem Bal.of_members_append (o : CObj) (hw : o.WF) {t : Bytes} (ht : Bal t) : Bal (o.renderMs ++ t) := by
  induction o generalizing t with
  | nil => exact ht
  | leaf w0 key w1 w2 v w3 rest ih =>
    obtain ⟨h0, h1, h2, h3, hk, hv, hr⟩ := hw
    rw [renderMs_leaf_append]
    exact Bal.of_memberText h0 hk h1 h2 (Bal.of_leaf v hv) h3 (ih hr ht)
  | sub w0 key w1 w2 wo child w3 rest ihc ih =>
    obtain ⟨h0, h1, h2, ho, h3, hk, hc, hr⟩ := hw
    have hc' := ihc hc Bal.nil
    rw [List.append_nil] at hc'
    rw [renderMs_sub_append]
    exact Bal.of_memberText h0 hk h1 h2 (Bal.brace _ [] ((Bal.of_ws ho).append hc') Bal.nil) h3 (ih hr ht)

theorem Bal.of_members (o : CObj) (hw : o.WF) : Bal o.renderMs :=
  List.append_nil o.renderMs ▸ Bal.of_members_append o hw Bal.nil

end Goat.PlainMap
