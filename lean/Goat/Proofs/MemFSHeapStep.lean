/-
One call through any handle (root filespace or child view) of the heap model is the same call of the
value model, with a footprint.
-/
import Goat.Proofs.MemFSHeapRoot
import Goat.Proofs.MemFSStep

namespace Goat
namespace MemFSHeap

open Path (Name split join reduceAbsPath dotSeg slash)
open FS (Op Result)
open MemFS (FSRef)

/-- a call: dereferenced answer = value-level answer, footprint, only fresh handles handed out -/
structure CSim (h : Heap) (t : HNode) (r : (Heap × HNode) × HRes) (v : Node × Result) : Prop where
  val : (r.1.2.deref r.1.1, r.2.res) = v
  tx : Tx h t r.1.1 r.1.2
  fresh : ∀ id ∈ r.2.out, h.next ≤ id ∧ id < r.1.1.next ∧ r.1.2.cnt id = 0
  nodup : r.2.out.Nodup

variable {h : Heap} {t : HNode}

theorem CSim.ofR {r : (Heap × HNode) × Result} {v : Node × Result} (R : RSim h t r v) :
    CSim h t (r.1, noOut r.2) v := ⟨R.1, R.2, fun id hid => by simp [noOut] at hid, by simp [noOut]⟩

theorem CSim.ofQ (hb : Bound h t) {q : Heap × HRes} {res : Result} (Q : QSim h q res) :
    CSim h t ((q.1, t), q.2) (t.deref h, res) :=
  ⟨by simp only [(Q.grew.untouched hb).1, Q.val], Tx.of_grew hb Q.grew,
   fun id hid => ⟨(Q.fresh id hid).1, (Q.fresh id hid).2, hb.zero id (Q.fresh id hid).1⟩, Q.nodup⟩

theorem CSim.pure (hb : Bound h t) {res res' : Result} (e : res = res') :
    CSim h t ((h, t), noOut res) (t.deref h, res') :=
  e ▸ CSim.ofR (RSim.same hb res)

open Views (OnePath NonRoot TwoPath failResult)

/-! A handle is the root filespace or a wrapper; either way the root filespace gets the call on `via ref p`, or the
wrapper refuses (`MemFS.step_on1`, `step_nonRoot`, `step_on2`). -/

theorem CSim.via1 {k : Bytes → Op} (hk : OnePath k) (ref : FSRef) (p : Bytes) (hb : Bound h t)
    {X : Bytes → (Heap × HNode) × HRes} (H : ∀ p', CSim h t (X p') (MemFS.step .root (t.deref h) (k p'))) :
    CSim h t (match via ref p with | some p' => X p' | none => ((h, t), noOut (failResult (k p))))
      (MemFS.step ref (t.deref h) (k p)) := by
  cases ref with
  | root => exact H p
  | wrap b =>
    rw [MemFS.step_on1 hk]
    unfold via MemFS.Wrap.on1
    cases reduceAbsPath p with
    | none => exact CSim.pure hb rfl
    | some j => exact H _

theorem CSim.rm {k : Bytes → Op} (hk : NonRoot k) (ref : FSRef) (p : Bytes) (hb : Bound h t)
    {X : Bytes → (Heap × HNode) × HRes} (H : ∀ p', CSim h t (X p') (MemFS.step .root (t.deref h) (k p'))) :
    CSim h t (match viaRm ref p with | some p' => X p' | none => ((h, t), noOut .err))
      (MemFS.step ref (t.deref h) (k p)) := by
  cases ref with
  | root => exact H p
  | wrap b =>
    rw [MemFS.step_nonRoot hk]
    unfold viaRm
    cases reduceAbsPath p with
    | none => exact CSim.pure hb rfl
    | some j =>
      by_cases e : j = [] <;> simp only [e, if_true, if_false]
      · exact CSim.pure hb rfl
      · exact H _

theorem CSim.via2 {k : Bytes → Bytes → Op} (hk : TwoPath k) (ref : FSRef) (s d : Bytes) (hb : Bound h t)
    {X : Bytes → Bytes → (Heap × HNode) × HRes}
    (H : ∀ s' d', CSim h t (X s' d') (MemFS.step .root (t.deref h) (k s' d'))) :
    CSim h t (match via ref s, via ref d with | some s', some d' => X s' d' | _, _ => ((h, t), noOut .err))
      (MemFS.step ref (t.deref h) (k s d)) := by
  cases ref with
  | root => exact H s d
  | wrap b =>
    rw [MemFS.step_on2 hk]
    unfold via MemFS.Wrap.on2
    cases reduceAbsPath s with
    | none => exact CSim.pure hb rfl
    | some s' =>
      cases reduceAbsPath d with
      | none => exact CSim.pure hb rfl
      | some d' => exact H _ _

theorem callOn_sim (cfg : Cfg) (hc : cfg.old = false) (ref : FSRef) (h : Heap) (t : HNode) (hb : Bound h t)
    (c : HCall) (hargs : ∀ id ∈ c.args, id < h.next ∧ t.cnt id = 0) :
    CSim h t (callOn cfg ref h t c) (MemFS.step ref (t.deref h) (c.toOp h)) := by
  have copy := fun acc accV hacc s' d' => CSim.ofR (copyWith_sim cfg acc accV hacc h t hb s' d')
  have hnot : ∀ (h : Heap) (n : HNode), (!(n.deref h).isDir) = !n.isDir := fun h n => by rw [isDir_deref]
  cases c with
  | copy s d => exact CSim.via2 .copy ref s d hb (copy (fun _ => true) (fun _ => true) (fun _ _ => rfl))
  | copyDirectory s d => exact CSim.via2 .copyDirectory ref s d hb (copy HNode.isDir Node.isDir isDir_deref)
  | copyFile s d => exact CSim.via2 .copyFile ref s d hb (copy (fun n => !n.isDir) (fun n => !n.isDir) hnot)
  | readDir p => exact CSim.via1 .readDir ref p hb (fun p' => CSim.ofQ hb (readDir_sim cfg hc h t p'))
  | isExist p => exact CSim.via1 .isExist ref p hb (fun p' => CSim.pure hb (is_sim h t p').1)
  | isFile p => exact CSim.via1 .isFile ref p hb (fun p' => CSim.pure hb (is_sim h t p').2.1)
  | isDir p => exact CSim.via1 .isDir ref p hb (fun p' => CSim.pure hb (is_sim h t p').2.2)
  | mkdirAll p => exact CSim.via1 .mkdirAll ref p hb (fun p' => CSim.ofR (mkdirAll_sim cfg h t hb p'))
  | readFile p => exact CSim.via1 .readFile ref p hb (fun p' => CSim.ofQ hb (readFile_sim cfg hc h t p'))
  | writeFile p data =>
    exact CSim.via1 (.writeFile _) ref p hb (fun p' => CSim.ofR (writeFile_sim cfg hc h t hb p' data
      (hargs data (by simp [HCall.args])).1 (hargs data (by simp [HCall.args])).2))
  | filespace p => cases ref <;> exact CSim.pure hb rfl
  | reader p sizes => exact CSim.via1 (.reader sizes) ref p hb (fun p' => CSim.ofQ hb (reader_sim h t p' sizes))
  | writer p cs => exact CSim.via1 (.writer _) ref p hb (fun p' => CSim.ofR (writer_sim cfg h t hb p' cs hargs))
  | remove p => exact CSim.rm .remove ref p hb (fun p' => CSim.ofR (remove_sim h t hb p'))
  | removeAll p => exact CSim.rm .removeAll ref p hb (fun p' => CSim.ofR (removeAll_sim h t hb p'))
  | lstat p => exact CSim.via1 .lstat ref p hb (fun p' => CSim.pure hb (lstat_sim h t p'))

end MemFSHeap
end Goat
