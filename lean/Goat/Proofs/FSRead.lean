/-
The read-type clauses of `Step` as functions: what such a call answers is a function (`ansE`; for `ReadDir` a
predicate) of the entry at its path, `ReadAns`; `Step_read` is the clause of `Step` in that form.
-/
import Goat.Spec.FS

namespace Goat
namespace FS

open Path (Name norm)

def isFileE : Option Entry → Bool
  | some (.file _) => true
  | _ => false

def isDirE : Option Entry → Bool
  | some .dir => true
  | _ => false

def readFileE : Option Entry → Result
  | some (.file d) => .data d
  | _ => .err

def readerE (sizes : List Nat) : Option Entry → Result
  | some (.file d) => .chunks (readChunks d sizes)
  | _ => .err

def lstatE (Q : List Name) : Option Entry → Result
  | some (.file d) => .stat (statName Q) false d.length
  | some .dir => .stat (statName Q) true 0
  | none => .err

/-- the answer of a read-type method other than `ReadDir`, from the entry at its path `Q` -/
def ansE (Q : List Name) : Op → Option Entry → Result
  | .isExist _, e => .bool e.isSome
  | .isFile _, e => .bool (isFileE e)
  | .isDir _, e => .bool (isDirE e)
  | .readFile _, e => readFileE e
  | .reader _ sizes, e => readerE sizes e
  | .lstat _, e => lstatE Q e
  | _, _ => .err

def Op.readPath : Op → Option Bytes
  | .readDir p | .isExist p | .isFile p | .isDir p | .readFile p | .reader p _ | .lstat p => some p
  | _ => none

/-- what the specification lets a read-type call answer on `S` when its path is `Q`; a climbing path (`none`) answers
as a path without an entry does (`ReadDir` has no arm in `ansE`: its `.err` is the catch-all there) -/
def ReadAns (S : State) : Option (List Name) → Op → Result → Prop
  | none, op, r => r = ansE [] op none
  | some Q, .readDir _, r =>
    match S Q with
    | some .dir => ∃ l, r = .list l ∧ IsListing S Q l
    | _ => r = .err
  | some Q, op, r => r = ansE Q op (S Q)

theorem Step_read (b : List Name) (S S' : State) (op : Op) (r : Result) (raw : Bytes) (h : op.readPath = some raw) :
    Step b S op r S' ↔ S' = S ∧ ReadAns S ((norm raw).map (b ++ ·)) op r := by
  cases op <;> cases h <;> simp only [Step, and_congr_right_iff] <;> intro _ <;>
    cases norm raw <;> simp only [Option.map, ReadAns, ansE, isFileE, isDirE, readFileE, readerE, lstatE, Option.isSome_none]
  all_goals rcases S (b ++ _) with _ | (d | _) <;> simp

end FS
end Goat
