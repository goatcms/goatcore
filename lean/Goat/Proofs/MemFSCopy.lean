/-
The three copies of the root filespace (`root_copyWith`) and, from `readLoop_eq` on, every read-type method
(`root_read`, over `Proofs/FSRead`).
-/
import Goat.Proofs.MemFS
import Goat.Proofs.FSRead

namespace Goat
namespace MemFS

open Path (Name split join reduceAbsPath norm Reduced Plain NoSlash dotSeg slash)
open FS (Entry State Result Mut CopyKind)
open MemAbs
open FS (ReadAns ansE isFileE isDirE readFileE readerE lstatE)

/-- the source type test of the three copy methods -/
def acceptOf : CopyKind → Node → Bool
  | .any => fun _ => true
  | .dirOnly => Node.isDir
  | .fileOnly => fun n => !n.isDir

theorem accept_iff (kind : CopyKind) (n : Node) :
    acceptOf kind n = true ↔ kind.accepts (some n.entry) := by
  cases kind <;> cases n <;> simp [acceptOf, CopyKind.accepts, Node.entry, Node.isDir]

theorem add_putLike (name : Name) (x : Node) : PutLike (fun k => k.add name x) name x (· = none) := by
  intro k k'
  simp only [Kids.add]
  cases k.find name <;> simp [eq_comm]

theorem source_after_mkdirs (t t1 : Node) (init s : List Name) (n0 : Node)
    (h1 : t.mkdirs init = some t1) (hs : t.lookup s = some n0) :
    ∃ x, t1.lookup s = some x ∧ ∀ r, abs x r = FS.mkdirSt (abs t) init (s ++ r) := by
  obtain ⟨x, hx⟩ : ∃ x, t1.lookup s = some x := by
    have := Node.lookup_mkdirs h1 s
    split at this
    · exact this.elim fun _ hk => ⟨_, hk⟩
    · exact ⟨n0, this.trans hs⟩
  refine ⟨x, hx, ?_⟩
  intro r
  rw [← abs_mkdirs t t1 init h1, abs_append, hx]; rfl

/-- The refusals come in the order of the Go code: the destination is the root; the source is missing or of the wrong
kind; a parent of the destination is a file; the destination exists (and then the parents just created were there
already).  Otherwise the source *as it is after `mkdirs`* is bound in the destination's parent. -/
theorem root_copyWith (kind : CopyKind) (t : Node) (ht : Inv t) (rs rd : Bytes) (s d : List Name)
    (hs : norm rs = some s) (hd : norm rd = some d) :
    MutOK (FS.copyOk kind (abs t) s d) (FS.copySt (abs t) s d) t d (Root.copyWith (acceptOf kind) t rs rd) := by
  have hsr := Path.norm_reduced rs s hs
  have hdr := Path.norm_reduced rd d hd
  simp only [Root.copyWith, reduceAbsPath_of_norm hs, reduceAbsPath_of_norm hd]
  rcases eq_nil_or_snoc d with rfl | ⟨init, name, rfl⟩
  · rw [splitContainsPath_nil]
    refine MutOK.refuse ht ?_; simp [FS.copyOk]
  · simp only [splitContainsPath_concat hdr, getNodeByPath_join t hsr, FS.copyOk_concat]
    cases hl0 : t.lookup s with
    | none => refine MutOK.refuse ht fun hok => ?_; simp [abs, hl0, CopyKind.accepts] at hok
    | some n0 =>
      have hacc : acceptOf kind n0 = true ↔ kind.accepts (abs t s) := by
        rw [accept_iff, abs, hl0]; rfl
      by_cases ha : acceptOf kind n0 = true
      · simp only [ha, not_true_eq_false, if_false]
        cases h1 : t.mkdirs init with
        | none => exact MutOK.refuse ht fun hok => not_mkdirOk_of_none h1 hok.2.1
        | some t1 =>
          obtain ⟨x, hx, habsx⟩ := source_after_mkdirs t t1 init s n0 h1 hl0
          simp only [getNodeByPath_join t1 hsr, hx]
          -- the names of the copied subtree are names of the tree already
          rcases put_spec (add_putLike name (copyNode x)) rfl h1 (fun H h => (H.lookup t1 s x h hx).1)
            with ⟨hc, e, rfl⟩ | ⟨hc, t2, e, hkeep, habs⟩ <;> rw [e]
          · refine MutOK.refuse ht fun hok => ?_; exact hc hok.2.2
          · exact MutOK.done ⟨hacc.mp ha, mkdirOk_of_some h1, hc⟩ hkeep
              (habs.trans (by rw [FS.copySt_eq_graft, List.dropLast_concat, ← funext habsx]; rfl))
      · simp only [ha]
        refine MutOK.refuse ht fun hok => ?_; exact ha (hacc.mpr hok.1)

theorem copyWith_none (acc : Node → Bool) (t : Node) (rs rd : Bytes) (h : norm rs = none ∨ norm rd = none) :
    Root.copyWith acc t rs rd = (t, .err) := by
  rcases h with h | h <;> simp only [Root.copyWith, reduceAbsPath_none h]
  -- the destination climbs: refused whatever the source reduces to
  cases reduceAbsPath rs <;> rfl

theorem readLoop_eq (data : Bytes) (ptr : Nat) (hptr : ptr ≤ data.length) (sizes : List Nat) :
    readLoop data ptr sizes = FS.readChunks (data.drop ptr) sizes := by
  induction sizes generalizing ptr with
  | nil => rfl
  | cons size rest ih =>
    simp only [readLoop, FS.readChunks, List.drop_drop]
    have hlen : ((data.drop ptr).take size).length = min size (data.length - ptr) := by
      simp [List.length_take, List.length_drop]
    rw [hlen]
    by_cases hcase : ptr + size ≤ data.length
    · -- the read stays inside the data
      have hm : min size (data.length - ptr) = size := by omega
      rw [hm, ih (ptr + size) hcase]
      have hflag : (ptr + size == data.length) = (data.drop (ptr + size)).isEmpty := by
        by_cases e : ptr + size = data.length
        · simp [e]
        · have hne : data.drop (ptr + size) ≠ [] := by
            rw [Ne, List.drop_eq_nil_iff]; omega
          cases hd : data.drop (ptr + size) with
          | nil => exact absurd hd hne
          | cons a b => simp [e]
      rw [hflag]
    · -- the read reaches the end: it delivers the rest, every later read is empty
      have hm : min size (data.length - ptr) = data.length - ptr := by omega
      have hp : ptr + (data.length - ptr) = data.length := by omega
      rw [hm, hp, ih data.length (Nat.le_refl _)]
      have hd1 : data.drop data.length = [] := by simp
      have hd2 : data.drop (ptr + size) = [] := by
        rw [List.drop_eq_nil_iff]; omega
      rw [hd1, hd2]
      simp

theorem isListing_entries (t : Node) (ht : Inv t) (p : List Name) (k : Kids)
    (h : t.lookup p = some (.dir k)) : FS.IsListing (abs t) p k.entries := by
  have hnd : k.NoDup := (Node.nodup_dir k).mp (Node.lookup_nodup t p _ ht.wf.1 h)
  refine ⟨by rw [Kids.entries_map_fst]; exact Kids.names_nodup k hnd, ?_⟩
  intro n b
  rw [Kids.mem_entries k hnd n b]
  have : abs t (p ++ [n]) = (k.find n).map Node.entry := by
    simp only [abs, Node.lookup_snoc t p n k h]
  rw [this]
  cases k.find n with
  | none => simp
  | some c => simp [entry_isDir]

theorem nodeName_join {p : List Name} (hp : Reduced p) : Root.nodeName (join p) = FS.statName p := by
  simp only [Root.nodeName, FS.statName, realPath_split_join hp]
  cases p.getLast? <;> rfl

theorem root_read (t : Node) (ht : Inv t) (op : FS.Op) (raw : Bytes) (h : op.readPath = some raw) :
    ReadAns (abs t) (norm raw) op (step .root t op).2 := by
  -- one goal per read-type method and per outcome of `norm raw`; the climbing goals close by `rfl` inside the last
  -- `dsimp`, left is one goal per method with `norm raw = some p`
  cases op <;> cases h <;>
    dsimp only [step, Root.readDir, Root.isExist, Root.isFile, Root.isDir, Root.readFile, Root.reader, Root.lstat,
      reduceAbsPath] <;>
    cases hn : norm raw <;>
    dsimp only [Option.map, ReadAns, ansE, isFileE, isDirE, readFileE, readerE, lstatE, Option.isSome_none]
  all_goals
    rename_i p
    have hp := Path.norm_reduced raw p hn
    simp only [getNodeByPath_join t hp, getDirByPath_join t hp, getFileByPath_join t hp, nodeName_join hp, abs]
  case readDir.refl.some =>
    cases hl : t.lookup p with
    | none => rfl
    | some n =>
      cases n with
      | file d => rfl
      | dir k => exact ⟨_, rfl, isListing_entries t ht p k hl⟩
  case reader.refl.some sizes =>
    cases t.lookup p with
    | none => rfl
    | some n => cases n <;> simp [asFile, Node.entry, readLoop_eq _ 0 (Nat.zero_le _)]
  all_goals
    cases t.lookup p with
    | none => rfl
    | some n => cases n <;> rfl

end MemFS
end Goat
