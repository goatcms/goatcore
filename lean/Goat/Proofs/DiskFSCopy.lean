/-
`disk.CopyDirectory`: the walk lists exactly the nodes below the source, a directory before its content; on a
well-formed host the call is `copyDir`, the walk replaced by what it collects, so the callback never panics; the
copying loop, run where the destination is absent, ends with `FS.copySt`.
-/
import Goat.Proofs.DiskFSSys

namespace Goat
namespace DiskFS

open Path (Name norm)
open FS (Op Result Entry State TreeLike)

theorem prefix_drop {α} {s k : List α} (h : s <+: k) : k = s ++ k.drop s.length :=
  (List.prefix_iff_eq_append.mp h).symm

theorem below_keys (src : HPath) (kv : HPath × Entry) (x : HPath × Bool) :
    (if src <+: kv.1 ∧ kv.1 ≠ src then some (kv.1.drop src.length, kv.2.isDir) else none) = some x
      ↔ x.1 ≠ [] ∧ kv.1 = src ++ x.1 ∧ x.2 = kv.2.isDir := by
  constructor
  · intro hx
    split at hx
    · next hc =>
      cases hx
      have hk := prefix_drop hc.1
      exact ⟨fun h0 => hc.2 (by rw [hk]; exact (congrArg (src ++ ·) h0).trans (List.append_nil src)), hk, rfl⟩
    · cases hx
  · rintro ⟨hne, hk, hb⟩
    have h2 : src ++ x.1 ≠ src := fun hc => hne (List.append_right_eq_self.mp hc)
    rw [hk, ← hb, if_pos ⟨List.prefix_append _ _, h2⟩, List.drop_left]

theorem mem_below {H : Host} (h : H.WF) (src sub : HPath) (b : Bool) :
    (sub, b) ∈ below H src ↔ sub ≠ [] ∧ (H.get (src ++ sub)).map Entry.isDir = some b :=
  Host.mem_filterMap_keys (emb := (src ++ ·)) (D := (· ≠ [])) (below_keys src) (fun _ hk => by simp [hk]) h sub b

theorem below_nodup {H : Host} (hn : (H.map (·.1)).Nodup) (src : HPath) :
    ((below H src).map (·.1)).Nodup :=
  Host.nodup_filterMap_keys (emb := (src ++ ·)) (D := (· ≠ [])) (below_keys src) hn

theorem lt_concat (p : HPath) (n : Name) : p < p ++ [n] := by
  induction p with
  | nil => exact List.Lex.nil
  | cons a t ih => exact List.Lex.cons ih

theorem not_keyLe_parent (a b : HPath × Bool) (ha : a.1 ≠ []) (hb : b.1 = a.1.dropLast) :
    keyLe a b ≠ true := by
  intro hle
  have hle' : a.1 ≤ b.1 := by simpa [keyLe] using hle
  rw [hb] at hle'
  have h1 := lt_concat a.1.dropLast (a.1.getLast ha)
  rw [List.dropLast_concat_getLast ha] at h1
  exact hle' h1

theorem collect_nodes (items acc : List (HPath × Bool)) :
    collect (items.map fun it => ⟨it.1, some it.2, false⟩) acc = .nodes (acc.reverse ++ items) := by
  induction items generalizing acc with
  | nil => simp [collect]
  | cons it rest ih =>
    simp only [List.map_cons, collect]
    rw [ih]
    simp

theorem collect_walk_dir (H : Host) (src : HP) (hs : osStat H src = some .dir) :
    collect (walkItems H src) [] = .nodes (([], true) :: sortBy keyLe (below H src.path)) := by
  simp only [walkItems, hs, Entry.isDir]
  have := collect_nodes ((([] : HPath), true) :: sortBy keyLe (below H src.path)) []
  simpa using this

/-- the collecting callback never dereferences a nil `FileInfo` -/
theorem collect_walk_no_panic (H : Host) (src : HP) : collect (walkItems H src) [] ≠ .panic := by
  simp only [walkItems]
  cases osStat H src with
  | none => simp [collect]
  | some e =>
    have := collect_nodes ((([] : HPath), e.isDir) :: sortBy keyLe (below H src.path)) []
    simp only [List.map_cons, List.reverse_nil, List.nil_append] at this
    simp only [this]
    intro hc; cases hc

/-- `disk.CopyDirectory` with the walk and its callback replaced by what they collect: the source directory, then what
is below it in walk order -/
def copyDir (H : Host) (src dest : HP) : Eff :=
  match osStat H src with
  | some .dir =>
    match osMkdirAll H dest.dir.path with
    | none => (H, false)
    | some H1 => copyNodes src dest H1 (([], true) :: sortBy keyLe (below H1 src.path))
  | _ => (H, false)

/-- `disk.Copy`, over `copyDir` -/
def copyAny (H : Host) (src dest : HP) : Eff := if isDir H src then copyDir H src dest else copyFile H src dest

theorem copyDirectory_eq {H : Host} (hwf : H.WF) (src dest : HP) :
    copyDirectory H src dest = .eff (copyDir H src dest) := by
  simp only [copyDirectory, copyDir]
  rcases hs : osStat H src with _ | _ | _ <;> dsimp only
  cases hm : osMkdirAll H dest.dir.path with
  | none => rfl
  | some H1 =>
    -- `MkdirAll` removes no directory: the walk starts at a directory again
    have hs1 : osStat H1 src = some .dir := by
      have := (osMkdirAll_some hwf hm).2.2 ▸ FS.mkdirSt_dir (S := H.get) dest.dir.path (osStat_some hs)
      simp [osStat, this]
    simp only [collect_walk_dir H1 src hs1]

theorem copy_eq {H : Host} (hwf : H.WF) (src dest : HP) : copy H src dest = .eff (copyAny H src dest) := by
  simp only [copy, copyAny]
  split
  · exact copyDirectory_eq hwf src dest
  · rfl

/-- every node's parent is among `done` or earlier in the list; the walk's lexicographic order is such
(`not_keyLe_parent`) -/
def Ordered : List HPath → List (HPath × Bool) → Prop
  | _, [] => True
  | done, x :: rest => x.1.dropLast ∈ done ∧ Ordered (x.1 :: done) rest

theorem ordered_of_sorted (done : List HPath) (L : List (HPath × Bool))
    (hs : L.Pairwise fun a b => keyLe a b = true)
    (hpar : ∀ x ∈ L, x.1 ≠ [] ∧ (x.1.dropLast ∈ done ∨ ∃ y ∈ L, y.1 = x.1.dropLast)) : Ordered done L := by
  induction L generalizing done with
  | nil => trivial
  | cons x rest ih =>
    rw [List.pairwise_cons] at hs
    obtain ⟨hx0, hx1⟩ := hpar x (by simp)
    refine ⟨?_, ih (x.1 :: done) hs.2 ?_⟩
    · rcases hx1 with h | ⟨y, hy, hyx⟩
      · exact h
      · exfalso
        rcases List.mem_cons.mp hy with rfl | hy
        · exact dropLast_ne_self hx0 hyx.symm
        · exact not_keyLe_parent x y hx0 hyx (hs.1 y hy)
    · intro z hz
      obtain ⟨hz0, hz1⟩ := hpar z (List.mem_cons_of_mem _ hz)
      refine ⟨hz0, ?_⟩
      rcases hz1 with h | ⟨y, hy, hyz⟩
      · exact Or.inl (List.mem_cons_of_mem _ h)
      · rcases List.mem_cons.mp hy with rfl | hy
        · exact Or.inl (by rw [← hyz]; simp)
        · exact Or.inr ⟨y, hy, hyz⟩

/-- the tree while the copy is under way: the nodes in `done` have arrived below `destP` -/
def Partial (S1 : State) (srcP destP : HPath) (done : List HPath) : State := fun q =>
  if destP <+: q ∧ q.drop destP.length ∈ done then S1 (srcP ++ q.drop destP.length) else S1 q

theorem partial_nil (S1 : State) (srcP destP : HPath) : Partial S1 srcP destP [] = S1 := by
  funext q; simp [Partial]

theorem partial_cons (S1 : State) (srcP destP : HPath) (done : List HPath) (sub : HPath) :
    (fun q => if q = destP ++ sub then S1 (srcP ++ sub) else Partial S1 srcP destP done q)
      = Partial S1 srcP destP (sub :: done) := by
  funext q
  simp only [Partial]
  by_cases hq : q = destP ++ sub
  · subst hq; simp
  · simp only [hq, if_false, List.mem_cons]
    by_cases hp : destP <+: q
    · have hne : q.drop destP.length ≠ sub := by
        intro hc; apply hq; rw [← hc]; exact prefix_drop hp
      simp [hp, hne]
    · simp [hp]

theorem isDir_some_true {o : Option Entry} (h : o.map Entry.isDir = some true) : o = some .dir := by
  cases o with
  | none => simp at h
  | some e => cases e <;> simp [Entry.isDir] at h ⊢

theorem isDir_some_false {o : Option Entry} (h : o.map Entry.isDir = some false) : ∃ x, o = some (.file x) := by
  cases o with
  | none => simp at h
  | some e => cases e <;> simp [Entry.isDir] at h ⊢

/-- The loop invariant.  `S1` is the tree when the walk was taken; `L` is what is still to copy, parents first.  One
step puts one node at `dest ++ sub` (`partial_cons`): its parent has arrived, so `MkdirAll` / `CopyFile` find a
directory to create it in. -/
theorem copyNodes_spec (S1 : State) (hS1 : TreeLike S1) (src dest : HP) (hdabs : S1 dest.path = none)
    (L : List (HPath × Bool)) (done : List HPath) (H : Host) (hwf : H.WF)
    (hget : H.get = Partial S1 src.path dest.path done)
    (hL : ∀ x ∈ L, x.1 ≠ [] ∧ (S1 (src.path ++ x.1)).map Entry.isDir = some x.2)
    (hnd : (L.map (·.1)).Nodup) (hdis : ∀ x ∈ L, x.1 ∉ done) (hord : Ordered done L) :
    ∃ H', copyNodes src dest H L = (H', true) ∧ H'.WF
      ∧ H'.get = Partial S1 src.path dest.path (L.reverse.map (·.1) ++ done) := by
  induction L generalizing done H with
  | nil => exact ⟨H, rfl, hwf, by simpa using hget⟩
  | cons x rest ih =>
    obtain ⟨sub, b⟩ := x
    obtain ⟨hsub, hsb⟩ := hL (sub, b) (by simp)
    obtain ⟨hparent, hord'⟩ := hord
    simp only [List.map_cons, List.nodup_cons] at hnd
    have hsrcne : S1 (src.path ++ sub) ≠ none := by
      intro hc; rw [hc] at hsb; simp at hsb
    have hpd : H.get (dest.path ++ sub).dropLast = some .dir := by
      rw [List.dropLast_append_of_ne_nil hsub, hget]
      have hsp : S1 (src.path ++ sub.dropLast) = some .dir := by
        apply hS1.closed.anc_dir (src.path ++ sub.dropLast) [sub.getLast hsub] (by simp)
        rw [List.append_assoc, List.dropLast_concat_getLast hsub]
        exact hsrcne
      simp [Partial, hparent, hsp]
    have hda : H.get (dest.path ++ sub) = none := by
      rw [hget]
      have : sub ∉ done := hdis (sub, b) (by simp)
      simp only [Partial, List.prefix_append, List.drop_left, this, and_false, if_false]
      exact hS1.closed.below_none dest.path sub hsub (by rw [hdabs]; intro hc; cases hc)
    have hdne : dest.path ++ sub ≠ [] := by simp [hsub]
    have hstep : ∃ H1, copyNodes src dest H ((sub, b) :: rest) = copyNodes src dest H1 rest ∧ H1.WF
        ∧ H1.get = Partial S1 src.path dest.path (sub :: done) := by
      cases b with
      | true =>
        obtain ⟨H1, h1, hwf1, hget1⟩ := osMkdirAll_leaf hwf _ hdne hpd hda
        refine ⟨H1, by simp [copyNodes, HP.join, h1], hwf1, ?_⟩
        rw [hget1, hget, ← partial_cons, isDir_some_true hsb]
      | false =>
        obtain ⟨xd, hx⟩ := isDir_some_false hsb
        have hsg : H.get (src.path ++ sub) = some (.file xd) := by
          rw [hget]
          have : ¬ dest.path <+: src.path ++ sub := by
            intro hc
            by_cases he : dest.path = src.path ++ sub
            · rw [he] at hdabs; exact hsrcne hdabs
            · have := hS1.closed.prefix_dir hc he hsrcne
              rw [hdabs] at this; cases this
          simp [Partial, this, hx]
        obtain ⟨H1, h1, hwf1, hget1⟩ := copyFile_ok hwf _ _ xd hsg hdne hpd hda
        refine ⟨H1, by simp [copyNodes, HP.join, h1], hwf1, ?_⟩
        rw [hget1, hget, ← partial_cons, hx]
    obtain ⟨H1, hc1, hwf1, hget1⟩ := hstep
    have hdis' : ∀ y ∈ rest, y.1 ∉ sub :: done := by
      intro y hy hm
      rcases List.mem_cons.mp hm with h | h
      · exact hnd.1 (List.mem_map.mpr ⟨y, hy, h⟩)
      · exact hdis y (List.mem_cons_of_mem _ hy) h
    obtain ⟨H', hc2, hwf2, hget2⟩ :=
      ih (sub :: done) H1 hwf1 hget1 (fun y hy => hL y (List.mem_cons_of_mem _ hy)) hnd.2 hdis' hord'
    refine ⟨H', by rw [hc1, hc2], hwf2, ?_⟩
    rw [hget2]
    simp [List.append_assoc]

theorem partial_congr (S1 : State) (srcP destP : HPath) (d1 d2 : List HPath) (h : ∀ s, s ∈ d1 ↔ s ∈ d2) :
    Partial S1 srcP destP d1 = Partial S1 srcP destP d2 := by
  funext q
  simp only [Partial, h]

theorem copyDirectory_ok {H : Host} (h : H.WF) (src : HP) (destP : HPath)
    (hs : H.get src.path = some .dir) (hne : destP ≠ []) (hok : FS.mkdirOk H.get destP.dropLast)
    (habs : H.get destP = none) :
    ∃ H', copyDir H src ⟨destP, false⟩ = (H', true) ∧ H'.WF
      ∧ H'.get = FS.copySt H.get src.path destP := by
  -- `MkdirAll(Dir(dest))` gives `H1`; the first node `[]` makes `dest` itself (`H2`, `Partial … [[]]`); then
  -- `copyNodes_spec` with the sorted `below H1 src`, which is `Ordered`; at the end `Partial` with every node done
  -- is `FS.copySt`, because `below` lists exactly what stands under the source
  have hstat : osStat H src = some .dir := by simp [osStat, hs]
  obtain ⟨H1, hm1, hwf1, hget1⟩ := osMkdirAll_ok h destP.dropLast hok
  have hT1 := Host.wf_treeLike hwf1
  have hs1 : H1.get src.path = some .dir := by rw [hget1]; exact FS.mkdirSt_dir _ hs
  have hd1 : H1.get destP = none := by rw [hget1, FS.mkdirSt_dropLast _ hne]; exact habs
  have hpd1 : H1.get destP.dropLast = some .dir := by rw [hget1]; exact FS.mkdirSt_self _ _
  let L := sortBy keyLe (below H1 src.path)
  have hperm : L.Perm (below H1 src.path) := sortBy_perm _ _
  have hLmem : ∀ x ∈ L, x.1 ≠ [] ∧ (H1.get (src.path ++ x.1)).map Entry.isDir = some x.2 := by
    intro x hx
    exact (mem_below hwf1 src.path x.1 x.2).mp (hperm.mem_iff.mp hx)
  have hLnd : (L.map (·.1)).Nodup := (hperm.map _).nodup_iff.mpr (below_nodup hwf1.1 src.path)
  have hLsorted : L.Pairwise fun a b => keyLe a b = true := sortBy_pairwise _ keyLe_trans keyLe_total _
  have hLord : Ordered [[]] L := by
    apply ordered_of_sorted _ _ hLsorted
    intro x hx
    obtain ⟨hx0, hx1⟩ := hLmem x hx
    refine ⟨hx0, ?_⟩
    by_cases hp : x.1.dropLast = []
    · exact Or.inl (by simp [hp])
    · right
      have hpdir : H1.get (src.path ++ x.1.dropLast) = some .dir := by
        apply hT1.closed.anc_dir _ [x.1.getLast hx0] (by simp)
        rw [List.append_assoc, List.dropLast_concat_getLast hx0]
        intro hc; rw [hc] at hx1; simp at hx1
      have := (mem_below hwf1 src.path x.1.dropLast true).mpr ⟨hp, by simp [hpdir, Entry.isDir]⟩
      exact ⟨(x.1.dropLast, true), hperm.mem_iff.mpr this, rfl⟩
  obtain ⟨H2, hm2, hwf2, hget2⟩ := osMkdirAll_leaf hwf1 destP hne hpd1 hd1
  have hget2' : H2.get = Partial H1.get src.path destP [[]] := by
    rw [hget2, ← partial_cons, partial_nil, List.append_nil, List.append_nil, hs1]
  have hdis : ∀ x ∈ L, x.1 ∉ [([] : HPath)] := by
    intro x hx hm
    simp at hm
    exact (hLmem x hx).1 hm
  obtain ⟨H', hc, hwf', hget'⟩ :=
    copyNodes_spec H1.get hT1 src ⟨destP, false⟩ hd1 L [[]] H2 hwf2 hget2' hLmem hLnd hdis hLord
  refine ⟨H', ?_, hwf', ?_⟩
  · simp only [copyDir, hstat]
    rw [show (HP.dir ⟨destP, false⟩).path = destP.dropLast from rfl, hm1]
    simp only [copyNodes, HP.join, List.append_nil, hm2]
    exact hc
  · rw [hget']
    funext q
    simp only [Partial, FS.copySt, ← hget1]
    by_cases hq : destP <+: q
    · simp only [hq, true_and, if_true]
      by_cases hmem : q.drop destP.length ∈ L.reverse.map (·.1) ++ [[]]
      · rw [if_pos hmem]
      · rw [if_neg hmem]
        -- not copied: nothing stands at the source either, and nothing below the absent destination
        have hq2 := prefix_drop hq
        have hne2 : q.drop destP.length ≠ [] := by
          intro hc; apply hmem; simp [hc]
        have hsn : H1.get (src.path ++ q.drop destP.length) = none := by
          cases hg : H1.get (src.path ++ q.drop destP.length) with
          | none => rfl
          | some e =>
            exfalso; apply hmem
            have := (mem_below hwf1 src.path (q.drop destP.length) e.isDir).mpr ⟨hne2, by simp [hg]⟩
            have := hperm.mem_iff.mpr this
            simp only [List.map_reverse, List.mem_append, List.mem_reverse, List.mem_map]
            exact Or.inl ⟨_, this, rfl⟩
        rw [hsn, hq2]
        exact hT1.closed.below_none destP _ hne2 (by rw [hd1]; intro hc; cases hc)
    · simp [hq]

end DiskFS
end Goat
