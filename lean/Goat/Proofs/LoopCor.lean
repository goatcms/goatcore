/-
Consequences of the fsloop invariant (`LoopInv`), in the form used by `Goat/Props/C08.lean`.
-/
import Goat.Proofs.LoopInv

namespace Goat.Loop
open Goat.LTS

def AllExited (s : St) : Prop := ∀ pc ∈ s.cons, pc = PC.exited

theorem wait_iff_allExited {P : Params} {prog : List PAct} {n : Nat} {s : St} (hI : Inv P prog n s) :
    waitEnabled s ↔ AllExited s := by
  unfold waitEnabled AllExited
  rw [hI.pool, lsum_eq_zero_iff]
  simp [liveW]

theorem idle_allExited (l : List PC) (h : ∀ pc ∈ l, pc = PC.exited) : inflight l = [] ∧ reporting l = [] := by
  induction l with
  | nil => exact ⟨rfl, rfl⟩
  | cons a r ih =>
    obtain rfl := h a (by simp)
    simpa [inflight, reporting] using ih fun pc hpc => h pc (by simp [hpc])

theorem gone_of_ppool {P : Params} {prog : List PAct} {n : Nat} {s : St} (hI : Inv P prog n s)
    (h0 : s.ppool = 0) : ∀ pr ∈ s.prods, pr = Prod.gone := by
  intro pr hpr
  have := (lsum_eq_zero_iff liveP s.prods).mp (by rw [← hI.ppool]; exact h0) pr hpr
  cases pr <;> simp [liveP] at this ⊢

theorem killed_iff_ctxerr {s : St} : s.killed = true ↔ s.ctx.err ≠ [] :=
  Ctx.err_ne_nil.symm

theorem drained_of_exit {P : Params} {prog : List PAct} {n : Nat} {s : St} (hI : Inv P prog n s)
    (hk : s.killed = false) {pc : PC} (hpc : pc ∈ s.cons) (he : pc = .exiting ∨ pc = .exited) :
    s.ppool = 0 ∧ s.qd = [] ∧ s.qf = [] := by
  have hg := hI.good pc hpc
  have : ExitOK s := by rcases he with rfl | rfl <;> exact hg
  rcases this with h | ⟨h1, h2, h3⟩
  · rw [hk] at h; cases h
  · exact ⟨(closerOK_order hI.closer).2.1 h3, h1, h2⟩

theorem drained_of_allExited {P : Params} {prog : List PAct} {n : Nat} {s : St} (hI : Inv P prog n s)
    (hn : 0 < n) (hk : s.killed = false) (hall : AllExited s) :
    s.ppool = 0 ∧ s.qd = [] ∧ s.qf = [] := by
  have hl := hI.len
  cases hc : s.cons with
  | nil => rw [hc] at hl; simp at hl; omega
  | cons a r =>
    have ha : a ∈ s.cons := by simp [hc]
    exact drained_of_exit hI hk ha (Or.inr (hall a ha))

theorem done_perm_of_wait {P : Params} {prog : List PAct} {n : Nat} {s : St} (hI : Inv P prog n s)
    (hn : 0 < n) (hw : waitEnabled s) (he : errorsOf s = []) : s.done.Perm (sendsL prog) := by
  have hall := (wait_iff_allExited hI).mp hw
  have hk : s.killed = false := (errorsOf_nil.mp he).2
  obtain ⟨h1, h2, h3⟩ := drained_of_allExited hI hn hk hall
  rw [List.perm_iff_count]
  intro x
  have := hI.items x
  rw [lsum_const_zero (f := unsentC x) rfl (gone_of_ppool hI h1), hI.dropped hk,
    lsum_const_zero (f := cbW x) (by simp [cbW]) hall] at this
  simp [qItems, h2, h3] at this
  exact this

theorem done_count_le {P : Params} {prog : List PAct} {n : Nat} {s : St} (hI : Inv P prog n s) (x : Item) :
    s.done.count x + (inflight s.cons).count x ≤ (sendsL prog).count x := by
  have := hI.items x
  rw [count_inflight]
  omega

theorem inflight_exited_le {P : Params} {prog : List PAct} {n : Nat} {s : St} (hI : Inv P prog n s) :
    (inflight s.cons).length + s.cons.countP (fun pc => pc == .exiting || pc == .exited) ≤ n := by
  rw [← hI.len]
  induction s.cons with
  | nil => simp [inflight]
  | cons a r ih =>
    rw [List.countP_cons, List.length_cons]
    have : (if (a == PC.exiting || a == .exited) = true then 1 else 0) ≤ 1 := by split <;> omega
    cases a with
    | inCb d x => simp [inflight]; omega
    | _ => rw [← Nat.add_assoc]; exact Nat.add_le_add ih this

theorem nodup_done_inflight {P : Params} {prog : List PAct} {n : Nat} {s : St} (hI : Inv P prog n s)
    (hnd : (sendsL prog).Nodup) : (s.done ++ inflight s.cons).Nodup := by
  rw [List.nodup_iff_count]
  intro x
  rw [List.count_append]
  have := done_count_le hI x
  have := List.nodup_iff_count.mp hnd x
  omega

theorem failed_cb_recorded {P : Params} {prog : List PAct} {n : Nat} {s : St} (hI : Inv P prog n s)
    (hall : AllExited s) {d : Bool} {x : Path} (hx : (d, x) ∈ s.done) (hf : P.failCb d x = true) :
    Err.cb d x ∈ s.errors := by
  have h : s.errors.count (.cb d x) + lsum (repW (d, x)) s.cons
      = if P.failCb d x then s.done.count (d, x) else 0 := hI.cbfail (d, x)
  rw [lsum_const_zero (f := repW (d, x)) (by simp [repW]) hall, if_pos hf] at h
  have := List.count_pos_iff.mpr hx
  exact List.count_pos_iff.mp (by omega)

theorem listing_recorded_or_reporting {P : Params} {prog : List PAct} {n : Nat} {s : St} (hI : Inv P prog n s)
    (p : Path) (hp : p ∈ s.lfailed) : Err.listing p ∈ s.errors ∨ p ∈ reportingP s.prods := by
  have h := hI.lrep p
  have hpos : 0 < s.lfailed.count p := List.count_pos_iff.mpr hp
  rw [← count_reportingP] at h
  by_cases he : 0 < s.errors.count (.listing p)
  · exact Or.inl (List.count_pos_iff.mp he)
  · exact Or.inr (List.count_pos_iff.mp (by omega))

theorem ppool_of_reporting {P : Params} {prog : List PAct} {n : Nat} {s : St} (hI : Inv P prog n s)
    (p : Path) (hp : p ∈ reportingP s.prods) : s.ppool ≠ 0 := by
  have hpos : 0 < (reportingP s.prods).count p := List.count_pos_iff.mpr hp
  rw [count_reportingP] at hpos
  intro h0
  have := lsum_const_zero (f := lrepW p) rfl (gone_of_ppool hI h0)
  omega

theorem no_cons_step {P : Params} {s t : St} (h : AllExited s) {i : Nat} (hs : step P s (.cons i) = some t) :
    False := by
  obtain ⟨pc, _, _, hpc, hne, _⟩ := consStep_move hs
  exact hne (h pc (List.mem_of_getElem? hpc))

theorem allExited_step {P : Params} {s t : St} (h : AllExited s) (l : Label) (hs : step P s l = some t) :
    AllExited t ∧ t.done = s.done := by
  obtain ⟨h1, h2⟩ := step_cons_done hs (by rintro i rfl; exact no_cons_step h hs)
  exact ⟨fun pc hpc => h pc (h1 ▸ hpc), h2⟩

theorem allExited_runFrom {P : Params} {prog : List PAct} {n : Nat} {s : St} (h : AllExited s)
    (sched : List Label) :
    AllExited ((sys P prog n).runFrom s sched) ∧ ((sys P prog n).runFrom s sched).done = s.done :=
  runFrom_induction (sys P prog n) (fun u => AllExited u ∧ u.done = s.done)
    (fun _ l _ hu hs => ⟨(allExited_step hu.1 l hs).1, (allExited_step hu.1 l hs).2.trans hu.2⟩) ⟨h, rfl⟩ sched

theorem consumer_remains {P : Params} {prog : List PAct} {n : Nat} {s : St} (hI : Inv P prog n s)
    (hk : s.killed = false) (hp : s.ppool ≠ 0) :
    ∀ pc ∈ s.cons, pc ≠ .exiting ∧ pc ≠ .exited := by
  intro pc hpc
  refine ⟨fun e => ?_, fun e => ?_⟩
  · exact hp (drained_of_exit hI hk hpc (Or.inl e)).1
  · exact hp (drained_of_exit hI hk hpc (Or.inr e)).1

theorem consumerCount_spec (configured maxJob : Nat) :
    consumerCount configured maxJob ≤ maxJob
    ∧ (configured ≠ 0 → consumerCount configured maxJob ≤ configured)
    ∧ (1 ≤ configured → configured ≤ maxJob → consumerCount configured maxJob = configured)
    ∧ (0 < maxJob → 0 < consumerCount configured maxJob) := by
  simp only [consumerCount, poolAdd]
  split <;> omega

theorem consumerCount_zero (maxJob : Nat) : consumerCount 0 maxJob = maxJob := by
  simp [consumerCount, poolAdd]

end Goat.Loop
