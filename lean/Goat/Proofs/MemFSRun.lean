/-
Whole histories over a memory filespace and its child views refine `FS.Run`, and every name that is
ever in the tree was supplied by some call.
-/
import Goat.Proofs.MemFSStep

namespace Goat
namespace MemFS

open Path (Name split join reduceAbsPath norm Reduced Plain NoSlash dotSeg slash)
open FS (Entry State Result Mut CopyKind Op)
open MemAbs

/-- the root path of a handle (determined by its `basePath`) -/
def baseOf : FSRef → List Name
  | .root => []
  | .wrap base => (norm base).getD []

theorem baseOf_of_viewOK {ref : FSRef} {b : List Name} (h : ViewOK ref b) : baseOf ref = b := by
  cases ref with
  | root => simp only [ViewOK] at h; simp [baseOf, h]
  | wrap base =>
    obtain ⟨hb, rfl⟩ := h
    simp [baseOf, Path.norm_append_slash, Path.norm_join b hb]

/-- a handle produced by `Filespace` calls -/
def GoodRef (ref : FSRef) : Prop := ViewOK ref (baseOf ref)

theorem goodRef_of_viewOK {ref : FSRef} {b : List Name} (h : ViewOK ref b) : GoodRef ref := by
  unfold GoodRef; rw [baseOf_of_viewOK h]; exact h

structure WorldOK (w : World) : Prop where
  inv : Inv w.root
  views : ∀ ref ∈ w.views, GoodRef ref

theorem worldOK_init : WorldOK World.init :=
  ⟨inv_empty, by intro ref h; simp [World.init] at h; subst h; simp [GoodRef, ViewOK, baseOf]⟩

/-- the open handles after a call through `ref`: the `match` inside `World.step`, under a name -/
def viewsNext (views : List FSRef) (ref : FSRef) (op : Op) : List FSRef :=
  match op with
  | .filespace p =>
    match openView ref p with
    | some v => views ++ [v]
    | none => views
  | _ => views

theorem world_step_none (w : World) (h : Nat) (op : Op) (hh : w.views[h]? = none) :
    w.step h op = (w, .err) := by
  simp [World.step, hh]

theorem world_step_some (w : World) (h : Nat) (op : Op) (ref : FSRef) (hh : w.views[h]? = some ref) :
    w.step h op = (⟨(step ref w.root op).1, viewsNext w.views ref op⟩, (step ref w.root op).2) := by
  simp only [World.step, hh, viewsNext]
  cases op <;> try rfl
  case filespace p => cases hv : openView ref p <;> simp [hv]

theorem run_nil (w : World) : w.run [] = (w, []) := rfl

theorem run_cons (w : World) (h : Nat) (op : Op) (rest : List (Nat × Op)) :
    w.run ((h, op) :: rest)
      = (((w.step h op).1.run rest).1, (w.step h op).2 :: ((w.step h op).1.run rest).2) := rfl

theorem viewsNext_bases (views : List FSRef) (ref : FSRef) (h : Nat) (op : Op)
    (hh : views[h]? = some ref) (hg : GoodRef ref) :
    (viewsNext views ref op).map baseOf = FS.viewsAfter (views.map baseOf) h op
    ∧ ∀ v ∈ viewsNext views ref op, v ∈ views ∨ (GoodRef v ∧ ∀ s ∈ baseOf v, s ∈ baseOf ref ∨ s ∈ opSegs op) := by
  have hb : (views.map baseOf)[h]? = some (baseOf ref) := by simp [hh]
  cases op with
  | filespace raw =>
    simp only [viewsNext, FS.viewsAfter, hb]
    cases hn : norm raw with
    | none =>
      simp only [openView_none ref raw hn]
      exact ⟨by simp, fun v hv => Or.inl hv⟩
    | some q =>
      obtain ⟨v, hv, hok⟩ := openView_some ref (baseOf ref) hg raw q hn
      simp only [hv, List.map_append, List.map_cons, List.map_nil, baseOf_of_viewOK hok]
      refine ⟨by simp, ?_⟩
      intro v' hv'
      rcases List.mem_append.mp hv' with h1 | h1
      · exact Or.inl h1
      · simp at h1; subst h1
        refine Or.inr ⟨goodRef_of_viewOK hok, ?_⟩
        rw [baseOf_of_viewOK hok]
        intro s hs
        rcases List.mem_append.mp hs with h2 | h2
        · exact Or.inl h2
        · exact Or.inr (show s ∈ segsOf raw by rw [segsOf, hn]; exact h2)
  | _ =>
    simp only [viewsNext, FS.viewsAfter]
    exact ⟨by simp, fun v hv => Or.inl hv⟩

theorem world_step_ok (w : World) (hw : WorldOK w) (h : Nat) (op : Op) (ref : FSRef)
    (hh : w.views[h]? = some ref) :
    Ref (baseOf ref) w.root op ((w.step h op).1.root, (w.step h op).2)
    ∧ WorldOK (w.step h op).1
    ∧ (w.step h op).1.views.map baseOf = FS.viewsAfter (w.views.map baseOf) h op := by
  have hmem : ref ∈ w.views := List.mem_of_getElem? hh
  have hg := hw.views ref hmem
  obtain ⟨hv1, hv2⟩ := viewsNext_bases w.views ref h op hh hg
  rw [world_step_some w h op ref hh]
  refine ⟨step_refines ref (baseOf ref) hg w.root hw.inv op, ⟨?_, ?_⟩, hv1⟩
  · exact step_inv ref (baseOf ref) hg w.root hw.inv op
  · intro v hv
    rcases hv2 v hv with h1 | h1
    · exact hw.views v h1
    · exact h1.1

theorem run_refines_from (w : World) (hw : WorldOK w) (ops : List (Nat × Op)) :
    FS.Run (w.views.map baseOf) (abs w.root) ops (w.run ops).2 (abs (w.run ops).1.root)
    ∧ WorldOK (w.run ops).1 := by
  induction ops generalizing w with
  | nil => exact ⟨⟨rfl, rfl⟩, hw⟩
  | cons x rest ih =>
    obtain ⟨h, op⟩ := x
    rw [run_cons]
    simp only [FS.Run]
    cases hh : w.views[h]? with
    | none =>
      have hb : (w.views.map baseOf)[h]? = none := by simp [hh]
      rw [world_step_none w h op hh]
      simp only [hb]
      exact ⟨⟨_, rfl, (ih w hw).1⟩, (ih w hw).2⟩
    | some ref =>
      have hb : (w.views.map baseOf)[h]? = some (baseOf ref) := by simp [hh]
      obtain ⟨hR, hok, hviews⟩ := world_step_ok w hw h op ref hh
      simp only [hb]
      have := ih (w.step h op).1 hok
      rw [hviews] at this
      exact ⟨⟨_, _, _, rfl, hR.spec, this.1⟩, this.2⟩

theorem run_append (w : World) (ops more : List (Nat × Op)) :
    (w.run (ops ++ more)).2 = (w.run ops).2 ++ ((w.run ops).1.run more).2
    ∧ (w.run (ops ++ more)).1 = ((w.run ops).1.run more).1 := by
  induction ops generalizing w with
  | nil => simp [run_nil]
  | cons x rest ih =>
    obtain ⟨h, op⟩ := x
    simp only [List.cons_append, run_cons]
    have := ih (w.step h op).1
    exact ⟨by rw [this.1], this.2⟩

/-- every real name the calls of a history supply -/
def supplied (ops : List (Nat × Op)) : List Name := ops.flatMap fun x => opSegs x.2

theorem run_all (P : Name → Prop) (w : World) (hw : WorldOK w) (ops : List (Nat × Op))
    (hroot : w.root.All P) (hviews : ∀ ref ∈ w.views, ∀ s ∈ baseOf ref, P s)
    (hops : ∀ s ∈ supplied ops, P s) : (w.run ops).1.root.All P := by
  induction ops generalizing w with
  | nil => exact hroot
  | cons x rest ih =>
    obtain ⟨h, op⟩ := x
    rw [run_cons]
    have hrest : ∀ s ∈ supplied rest, P s := fun s hs => hops s (by simp [supplied] at hs ⊢; exact Or.inr hs)
    have hop : ∀ s ∈ opSegs op, P s := fun s hs => hops s (by simp [supplied]; exact Or.inl hs)
    cases hh : w.views[h]? with
    | none =>
      rw [world_step_none w h op hh]
      exact ih w hw hroot hviews hrest
    | some ref =>
      have hmem : ref ∈ w.views := List.mem_of_getElem? hh
      obtain ⟨hR, hok, _⟩ := world_step_ok w hw h op ref hh
      apply ih _ hok
      · apply hR.keeps.all P hroot
        intro s hs
        rcases List.mem_append.mp hs with h1 | h1
        · exact hviews ref hmem s h1
        · exact hop s h1
      · intro v hv s hs
        rw [world_step_some w h op ref hh] at hv
        obtain ⟨_, hv2⟩ := viewsNext_bases w.views ref h op hh (hw.views ref hmem)
        rcases hv2 v hv with h1 | ⟨_, h1⟩
        · exact hviews v h1 s hs
        · rcases h1 s hs with h2 | h2
          · exact hviews ref hmem s h2
          · exact hop s h2
      · exact hrest

theorem supplied_literal (ops : List (Nat × Op)) (s : Name) (h : s ∈ supplied ops) :
    Plain s ∧ ∃ x ∈ ops, ∃ raw ∈ opPaths x.2, s ∈ split raw := by
  simp only [supplied, List.mem_flatMap] at h
  obtain ⟨x, hx, hs⟩ := h
  obtain ⟨raw, hr, hs⟩ := opSegs_sub x.2 s hs
  exact ⟨(segsOf_literal raw s hs).1, x, hx, raw, hr, (segsOf_literal raw s hs).2⟩

theorem no_phantom_run (ops : List (Nat × Op)) (q : List Name)
    (h : abs (World.init.run ops).1.root q ≠ none) : ∀ s ∈ q, s ∈ supplied ops := by
  have hall := run_all (fun s => s ∈ supplied ops) World.init worldOK_init ops
    (by simp [World.init]) (by intro ref hr; simp [World.init] at hr; subst hr; simp [baseOf])
    (fun s hs => hs)
  cases hl : (World.init.run ops).1.root.lookup q with
  | none => simp [abs, hl] at h
  | some n => exact (Node.lookup_all _ q n hall hl).2

end MemFS
end Goat
