/-
`NewStaticProvider`.  `Sim a b`: `b` is a static twin of the blocked provider `a`.  Every `Get` keeps the two in step
and answers the same (`get_sim`), hence so does every history without `Keys`.  They run on different fuel: `toStatic`
lists as `keys` only the names that have a factory, so `fuelFor` differs between the twins.
-/
import Goat.Proofs.DIHist

namespace Goat.DI

structure Sim (a b : St) : Prop where
  ablocked : a.blocked = true
  bblocked : b.blocked = true
  instances : b.instances = a.instances
  facs : ∀ n, a.instances n = none → mergedFactories b n = mergedFactories a n
  callstack : b.callstack = a.callstack
  injectors : b.injectors = a.injectors
  nextId : b.nextId = a.nextId
  log : b.log = a.log

theorem Sim.push {a b : St} (h : Sim a b) (n : Name) : Sim (push a n) (push b n) where
  ablocked := h.ablocked
  bblocked := h.bblocked
  instances := h.instances
  facs := h.facs
  callstack := by simp [h.callstack]
  injectors := h.injectors
  nextId := h.nextId
  log := by simp [h.log]

theorem Sim.source {a b : St} (h : Sim a b) (n : Name) : source b n = source a n := by
  cases hi : a.instances n with
  | some i => rw [source_of_inst hi, source_of_inst (h.instances ▸ hi)]
  | none => rw [source_of_no_inst hi, source_of_no_inst (h.instances ▸ hi), h.facs n hi]

theorem mergedFactories_congr {a b : St} {m : Name} (h1 : a.factories m = b.factories m)
    (h2 : a.defaultFactories m = b.defaultFactories m) : mergedFactories a m = mergedFactories b m := by
  simp [mergedFactories, h1, h2]

theorem Sim.unwind {a b : St} (h : Sim a b) (k : Nat) : Sim (unwind a k) (unwind b k) :=
  ⟨h.ablocked, h.bblocked, h.instances, h.facs, by rw [DI.unwind, DI.unwind, h.callstack], h.injectors, h.nextId,
    h.log⟩

theorem Sim.store {a b : St} (h : Sim a b) (n : Name) (i : Inst) (k : Nat) (a1 a2 b1 b2 : Bool) :
    Sim (store a n i k a1 a2) (store b n i k b1 b2) where
  ablocked := h.ablocked
  bblocked := h.bblocked
  instances := congrArg (Tab.set · n i) h.instances
  facs := fun m hm =>
    have ⟨hne, hm⟩ := Tab.set_none hm
    (mergedFactories_congr (Tab.delIf_ne _ _ hne) (Tab.delIf_ne _ _ hne)).trans
      ((h.facs m hm).trans (mergedFactories_congr (Tab.delIf_ne _ _ hne) (Tab.delIf_ne _ _ hne)).symm)
  callstack := h.callstack
  injectors := h.injectors
  nextId := rfl
  log := congrArg (· ++ [Ev.done n i]) h.log

structure Twin (f1 f2 : Nat) (a b : St) : Prop where
  sim : Sim a b
  fuelA : FuelOK f1 a
  fuelB : FuelOK f2 b

section body
variable {f1 f2 : Nat} (hg : ∀ a b n, Twin f1 f2 a b →
  Twin f1 f2 (get f1 a n).1 (get f2 b n).1 ∧ (get f1 a n).2 = (get f2 b n).2)
include hg

theorem visit_sim (fld : Field) (a b : St) (h : Twin f1 f2 a b) :
    Twin f1 f2 (visit (get f1) a fld).1 (visit (get f2) b fld).1 ∧
      (visit (get f1) a fld).2 = (visit (get f2) b fld).2 := by
  unfold visit
  cases fld.dep with
  | none => exact ⟨h, rfl⟩
  | some p => exact ⟨(hg a b p.1 h).1, congrArg (fieldOut p.2) (hg a b p.1 h).2⟩

theorem injectFields_sim : ∀ (fs : List Field) (a b : St), Twin f1 f2 a b →
      Twin f1 f2 (injectFields (get f1) a fs).1 (injectFields (get f2) b fs).1 ∧
      (injectFields (get f1) a fs).2 = (injectFields (get f2) b fs).2 := by
  intro fs
  induction fs with
  | nil => intro a b h; exact ⟨h, rfl⟩
  | cons fld rest ih =>
    intro a b h
    obtain ⟨h1, h2⟩ := visit_sim hg fld a b h
    rw [injectFields_cons, injectFields_cons, ← h2]
    split
    · exact ⟨h1, rfl⟩
    · exact ⟨(ih _ _ h1).1, by simp only [(ih _ _ h1).2]⟩

theorem injectAll_sim (fs : List Field) (a b : St) (h : Twin f1 f2 a b) :
    Twin f1 f2 (injectAll (get f1) a fs).1 (injectAll (get f2) b fs).1 ∧
      (injectAll (get f1) a fs).2 = (injectAll (get f2) b fs).2 := by
  obtain ⟨h1, h2⟩ := injectFields_sim hg fs a b h
  rw [injectAll_fst, injectAll_fst, injectAll_snd, injectAll_snd, ← h2, h1.sim.injectors]
  exact ⟨h1, rfl⟩

theorem depStep_sim (d : Dep) (a b : St) (h : Twin f1 f2 a b) :
    Twin f1 f2 (depStep (get f1) a d).1 (depStep (get f2) b d).1 ∧
      (depStep (get f1) a d).2 = (depStep (get f2) b d).2 := by
  rw [depStep_eq, depStep_eq]
  cases d.eff with
  | none => exact ⟨h, by rw [h.sim.injectors]⟩
  | some p => exact ⟨(hg a b p.1 h).1, by simp only [(hg a b p.1 h).2, (hg a b p.1 h).1.sim.injectors]⟩

theorem runDeps_sim : ∀ (ds : List Dep) (a b : St), Twin f1 f2 a b →
      Twin f1 f2 (runDeps (get f1) a ds).1 (runDeps (get f2) b ds).1 ∧
      (runDeps (get f1) a ds).2 = (runDeps (get f2) b ds).2 := by
  intro ds
  induction ds with
  | nil => intro a b h; exact ⟨h, rfl⟩
  | cons d rest ih =>
    intro a b h
    obtain ⟨h1, h2⟩ := depStep_sim hg d a b h
    rw [runDeps_cons, runDeps_cons, ← h2]
    split
    · exact ih _ _ h1
    · exact ⟨h1, rfl⟩

theorem construct_sim {a b : St} {n : Name} (f : Factory) (da db : Bool)
    (hab : Sim a b) (hp : Twin f1 f2 (push a n) (push b n)) :
    Sim (construct (get f1) a n f da).1 (construct (get f2) b n f db).1 ∧
    (construct (get f1) a n f da).2 = (construct (get f2) b n f db).2 := by
  obtain ⟨hr1, hr2⟩ := runDeps_sim hg f.deps _ _ hp
  have hu := hr1.sim.unwind a.callstack.length
  rw [construct_eq, construct_eq]
  simp only [← hr2, hr1.sim.nextId, hab.callstack]
  split
  · exact ⟨hu.store .., rfl⟩
  · exact ⟨hu, rfl⟩

end body

theorem get_sim : ∀ (f1 f2 : Nat) (a b : St) (n : Name), Twin f1 f2 a b →
    Twin f1 f2 (get f1 a n).1 (get f2 b n).1 ∧ (get f1 a n).2 = (get f2 b n).2 := by
  intro f1
  induction f1 with
  | zero => intro _ _ _ _ h; exact absurd h.fuelA.pos (Nat.lt_irrefl 0)
  | succ f1 ih =>
    intro f2 a b n ⟨hab, hfa, hfb⟩
    suffices hs : Sim (get (f1 + 1) a n).1 (get f2 b n).1 ∧ (get (f1 + 1) a n).2 = (get f2 b n).2 from
      ⟨⟨hs.1, get_fuelOK n hfa, get_fuelOK n hfb⟩, hs.2⟩
    cases f2 with
    | zero => exact absurd hfb.pos (Nat.lt_irrefl 0)
    | succ f2 =>
      rw [get_succ, get_succ, block_of_blocked hab.ablocked, block_of_blocked hab.bblocked,
        hab.callstack, hab.source n]
      split
      · exact ⟨hab, rfl⟩
      · rename_i hc
        split
        · exact ⟨hab, rfl⟩
        · rename_i f hsrc
          exact construct_sim (ih f2) f _ _ hab
            ⟨hab.push n, hfa.push hab.ablocked hc (hfa.merged_keys (source_fac hsrc).2),
              hfb.push hab.bblocked (hab.callstack ▸ hc)
                (hfb.merged_keys (source_fac (hab.source n ▸ hsrc)).2)⟩
        · exact ⟨hab, rfl⟩

theorem step_sim {a b : St} (h : Sim a b) (ia : Inv a) (ib : Inv b) (o : Op) (hk : o.isKeys = false) :
    Sim (step a o).1 (step b o).1 ∧ (step a o).2 = (step b o).2 := by
  by_cases hdef : o.isDef = true
  · rw [step_def_blocked h.ablocked hdef, step_def_blocked h.bblocked hdef]
    exact ⟨h, rfl⟩
  · cases o with
    | get n =>
      obtain ⟨r1, r2⟩ := get_sim (fuelFor a) (fuelFor b) a b n ⟨h, ia.fuelOK, ib.fuelOK⟩
      exact ⟨r1.sim, by simp only [step, Get]; rw [r2]⟩
    | injectTo fs =>
      obtain ⟨r1, r2⟩ := injectAll_sim (get_sim (fuelFor a) (fuelFor b)) fs a b ⟨h, ia.fuelOK, ib.fuelOK⟩
      exact ⟨r1.sim, by simp only [step, InjectTo]; rw [r2]⟩
    | keys => simp [Op.isKeys] at hk
    | injectBad => exact ⟨h, rfl⟩
    | _ => simp [Op.isDef] at hdef

theorem results_sim : ∀ (rs : List Op) (a b : St), Sim a b → Inv a → Inv b →
    (∀ o, o ∈ rs → o.isKeys = false) → results a rs = results b rs ∧ Sim (exec a rs) (exec b rs) := by
  intro rs
  induction rs with
  | nil => intro a b h _ _ _; exact ⟨rfl, h⟩
  | cons o rest ih =>
    intro a b h ia ib hk
    obtain ⟨s1, s2⟩ := step_sim h ia ib o (hk o (List.mem_cons_self ..))
    obtain ⟨r1, r2⟩ := ih _ _ s1 (inv_step ia o) (inv_step ib o)
      (fun o' ho' => hk o' (List.mem_cons_of_mem _ ho'))
    exact ⟨by simp only [results]; rw [s2, r1], r2⟩

theorem inv_toStatic {s : St} (h : Inv s) (order : List Name)
    (hord : ∀ n, mergedFactories (block s) n ≠ none → n ∈ order) : Inv (toStatic s order) := by
  have hb := h.block
  exact
    { stack := rfl
      fac_keys := by
        intro n f hf
        have hf' : mergedFactories (block s) n = some f := hf
        show n ∈ order.filter fun k => (mergedFactories (block s) k).isSome
        exact List.mem_filter.2 ⟨hord n (by rw [hf']; simp), by rw [hf']; rfl⟩
      dfac_keys := fun _ _ hf => nomatch hf
      notex := hb.notex
      log := ⟨hb.log.no_start, hb.log.done_inst, hb.log.norerun, hb.log.nodup⟩ }

theorem sim_toStatic {s : St} (h : Inv s) (order : List Name) : Sim (block s) (toStatic s order) where
  ablocked := block_blocked s
  bblocked := rfl
  instances := rfl
  facs := fun n _ => orElse_none_right _
  callstack := by
    show [] = (block s).callstack
    rw [block_callstack, h.stack]
  injectors := rfl
  nextId := rfl
  log := rfl

end Goat.DI
