/-
For properties C14/C16: the frame theorem for `Inv`.  All transitions of the pipeline model have one shape: the trace
grows by at most one event, a few tasks move, error flags and try goroutines only rise.  `inv_frame` proves the
invariant for that shape once; a transition supplies what is specific to the parts that move (`Moves`).  `inv_go`,
`inv_silent`: its instances for a step of one runner without a submission (the close of the task included), where
only the `Loc` clause of the new location is left to show.
-/
import Goat.Proofs.PipelineFacts

namespace Goat.Pipeline

theorem accepted_upd {pc : Nat → PC} {t : Nat} {q : PC} (hq : (pc t).accepted = true → q.accepted = true)
    (u : Nat) (h : (pc u).accepted = true) : (upd pc t q u).accepted = true := by
  rw [upd_apply]; split
  · rename_i h1; subst h1; exact hq h
  · exact h

theorem freshDone_single {tr : List Ev} {e : Ev} (h : ∀ u b, e ≠ .done u b) : FreshDone tr [e] :=
  fun u b hm => absurd (List.mem_singleton.mp hm).symm (h u b)

theorem causeIn_self {g : Graph} {tr : List Ev} {t i : Nat} :
    causeIn g (g.ctx t) (tr ++ [Ev.ret t i false]) :=
  causeIn_iff.mpr ⟨t, i, by simp, rfl⟩

theorem TI.frame {g : Graph} {t : Nat} {pc : PC} {tr : List Ev} {ce : Bool} {tgv : TG}
    (h : TI g t pc tr ce tgv) {es : List Ev} {ce' : Bool} {tgv' : TG}
    (hno : ∀ e ∈ es, ¬ touches g t e) (hd : FreshDone tr es)
    (hce : ce = true → ce' = true) (htg : tgv.rank ≤ tgv'.rank) :
    TI g t pc (tr ++ es) ce' tgv' := by
  have memOld : ∀ {e}, touches g t e → e ∈ tr ++ es → e ∈ tr := fun ht hm =>
    (List.mem_append.mp hm).resolve_right fun hm => hno _ hm ht
  have own : ∀ {j}, touches g t (.cmd t j) := rfl
  have ownR : ∀ {j b}, touches g t (.ret t j b) := Or.inl rfl
  have ownD : ∀ {b}, touches g t (.done t b) := rfl
  refine ⟨h.range, fun hp => created_mono es htg (h.once hp), fun hp => submitted_mono es (h.sub hp),
    fun hp hn => acceptedEv_mono es (h.accEv hp hn), fun ha => h.accEv' ?_,
    fun m hm j hj => h.cmdB m hm j (memOld own hj), fun m hm j b hj => h.retB m hm j b (memOld ownR hj),
    fun m hm => OkTo.mono es hd (h.okB m hm),
    fun k hk j hj w hw => List.mem_append_left _ (h.wait k hk j hj w hw),
    fun i hi => ⟨(h.inc i hi).1, List.mem_append_left _ (h.inc i hi).2⟩,
    fun i hi => ⟨(h.aft i hi).1, List.mem_append_left _ (h.aft i hi).2⟩, h.runB, fun f hf => ?_,
    fun hp hdn => h.nodone hp (hdn.imp (memOld ownD) (memOld ownD)),
    fun hp => ⟨hasDone_mono es (h.fin hp).1, (h.fin hp).2.imp (List.mem_append_left _) hce⟩,
    fun hdf => hce (h.df (memOld ownD hdf)), fun hdu => h.duniq ⟨memOld ownD hdu.1, memOld ownD hdu.2⟩⟩
  · unfold acceptedEv at *
    split at ha
    · exact memOld rfl ha
    · rename_i p i hr
      exact memOld (Or.inr (Or.inl hr)) ha
    · rename_i y hr
      exact memOld (Or.inr (Or.inr ⟨y, hr, rfl, rfl⟩)) ha
    · exact ha
  · refine ⟨fun i hi hc => hasRet_mono es ((h.clo f hf).1 i hi (memOld own hc)), fun hff => ?_⟩
    rcases (h.clo f hf).2 hff with h1 | ⟨⟨h0, i, hi, hc, hm⟩, h2⟩
    · exact Or.inl (hce h1)
    · exact Or.inr ⟨⟨List.mem_append_left _ h0, i, hi, hc, List.mem_append_left _ hm⟩,
        fun j hj => cmdDoneOk_mono es hd (h2 j (memOld own hj))⟩

theorem subSeen_mono {g : Graph} {s s' : St} {y h : Nat} (htr : ∀ e, e ∈ s.tr → e ∈ s'.tr)
    (hacc : ∀ u, (s.pc u).accepted = true → (s'.pc u).accepted = true) (hs : subSeen g s y h) :
    subSeen g s' y h := by
  rcases hs with ⟨h1, h2⟩ | ⟨h', hh, hr⟩
  · exact Or.inl ⟨hacc _ h1, htr _ h2⟩
  · exact Or.inr ⟨h', hh, htr _ hr⟩

theorem YI.bodyDone {g : Graph} {s : St} {y : Nat} (h : YI g s y) (hr : 2 ≤ (s.tg y).rank) :
    hasDone s.tr (g.tryd y).body := by
  cases hq : s.tg y with
  | subFin v => exact (h.v v (Or.inl hq)).1
  | subFail v => exact (h.v v (Or.inr (Or.inl hq))).1
  | subSucc v => exact (h.v v (Or.inr (Or.inr hq))).1
  | done => exact h.dn hq
  | _ => rw [hq] at hr; simp [TG.rank] at hr

theorem YI.frame {g : Graph} {s s' : St} {y : Nat} (h : YI g s y) {es : List Ev}
    (htr : s'.tr = s.tr ++ es) (hfd : FreshDone s.tr es)
    (htg : s'.tg y = s.tg y)
    (hce : ∀ X, s.cerr X = true → s'.cerr X = true)
    (hacc : ∀ u, (s.pc u).accepted = true → (s'.pc u).accepted = true)
    (hown : s.tg y ≠ .idle → s.tg y ≠ .done → s'.pc (g.tryd y).owner = s.pc (g.tryd y).owner)
    (hnr : Ev.ret (g.tryd y).owner (g.tryd y).idx true ∈ es → s.tg y ≠ .idle) :
    YI g s' y := by
  have hmem : ∀ e, e ∈ s.tr → e ∈ s'.tr := fun e he => by rw [htr]; exact List.mem_append_left _ he
  refine .of_handled (fun hs => hmem _ (h.started (htg ▸ hs))) (fun hs => hacc _ (h.bodyAcc (htg ▸ hs)))
    (fun v hv => ?_) (fun hs => htr ▸ hasDone_mono es (h.dn (htg ▸ hs)))
    (fun h1 h2 => by rw [htg] at h1 h2; rw [hown h1 h2]; exact h.active h1 h2) (fun hm => ?_)
    (fun k hr hs x hx => ?_)
  · rw [htg] at hv
    have := h.v v hv
    rw [htr, done_stable hfd this.1]
    exact ⟨hasDone_mono es this.1, this.2⟩
  · rw [htg]
    rcases List.mem_append.mp (htr ▸ hm) with hm | hm
    · exact h.started' hm
    · exact hnr hm
  · rw [htg] at hr
    -- the way the body closed is read off the old trace
    have hs0 : k.sel g s.tr y := by
      have hb := h.bodyDone (Nat.le_trans (Nat.le_trans (by decide) k.three_le_thr) hr)
      cases k
      · trivial
      · exact (done_stable hfd hb _).mp (htr ▸ hs)
      · exact (done_stable hfd hb _).mp (htr ▸ hs)
    obtain ⟨a, b⟩ := h.handled k hr hs0 hx
    exact ⟨a.imp (hacc _) (hce _), subSeen_mono hmem hacc b⟩

theorem MI.frame {g : Graph} {s s' : St} (h : MI g s) {es : List Ev}
    (htr : s'.tr = s.tr ++ es) (hmp : s'.mp = s.mp)
    (hno : ∀ t, Ev.acc t ∉ es ∧ Ev.rej t ∉ es) : MI g s' := by
  refine ⟨fun j hj t ht => ?_, fun j hj => ?_, fun hm => ?_⟩
  · rw [hmp] at hj; rw [htr] at ht
    exact h.early j hj t (ht.imp (mem_old (hno t).1) (mem_old (hno t).2))
  · rw [hmp] at hj
    obtain ⟨t, h1, h2⟩ := h.cr j hj
    exact ⟨t, h1, by rw [htr]; exact List.mem_append_left _ h2⟩
  · rw [hmp] at hm; rw [htr]; exact hasMwait_mono es (h.mw hm)

/-- what `inv_frame` asks of a task that moves: its invariant; it stays in the table; it closes with `done … false`
if its context has failed; it leaves a command only under the guard; it becomes active only with its submitter
blocked in the submitting command -/
structure Moves (g : Graph) (s s' : St) (u : Nat) : Prop where
  ti  : TIs g s' u
  acc : (s.pc u).accepted = true → (s'.pc u).accepted = true
  fin : s'.pc u = .finished → s.pc u = .finished ∨ (s.cerr (g.ctx u) = true → Ev.done u false ∈ s'.tr)
  aft : ∀ j, s.pc u = .afterCmd j →
          s'.pc u = .afterCmd j ∨ ∃ c, g.cmdAt u j = some c ∧ cmdChildrenFinished g s c = true
  par : (s'.pc u).accepted = true → s'.pc u ≠ .finished →
          ((s.pc u).accepted = true ∧ s.pc u ≠ .finished) ∨ parentAt g s' u

theorem Moves.task {g : Graph} {s s' : St} {t : Nat} {p q : PC} (hp : s.pc t = p) (hq : s'.pc t = q)
    (hpl : p.accepted = true ∧ p ≠ .finished) (hqa : q.accepted = true)
    (hfin : q = .finished → s.cerr (g.ctx t) = true → Ev.done t false ∈ s'.tr)
    (haft : ∀ j, p = .afterCmd j → ∃ c, g.cmdAt t j = some c ∧ cmdChildrenFinished g s c = true)
    (T : TIs g s' t) : Moves g s s' t where
  ti := T
  acc := fun _ => hq ▸ hqa
  fin := fun h => Or.inr (hfin (hq ▸ h))
  aft := fun j hj => Or.inr (haft j (hp ▸ hj))
  par := fun _ _ => Or.inl (hp ▸ hpl)

theorem Moves.created {g : Graph} {s s' : St} {c : Nat} (hc : s.pc c = .idle)
    (hq : s'.pc c = .waiting 0 ∨ s'.pc c = .rejected) (T : TIs g s' c)
    (hpar : s'.pc c = .waiting 0 → parentAt g s' c) : Moves g s s' c where
  ti := T
  acc := fun h => by rw [hc] at h; cases h
  fin := fun h => by rcases hq with h' | h' <;> rw [h'] at h <;> cases h
  aft := fun j h => by rw [hc] at h; cases h
  par := fun ha _ => Or.inr (hpar (hq.resolve_right fun h' => by rw [h'] at ha; cases ha))

/-- * `htr`, `hes`: the trace grows by at most one event, which is `Ok` after the old trace (so a `done` event closes
  its task for the first time);
* `mv`, `hsame`, `hmv`: the tasks in `mv` move (`Moves`); every other task keeps its location and no event of `es`
  `touches` it;
* `hce`, `hcn`: error flags only rise, and one that rises has a cause in the new trace and a task of its context that
  is accepted and not finished;
* `ytg`, `htg`, `hyi`: the try goroutines in `ytg` move, within range, upwards in rank and to a state satisfying
  `YI`; every other one keeps its state and no `ret … true` of its `pip:try` is in `es`;
* `hha`: a handler whose acceptance is logged in `es` is in the table. -/
theorem inv_frame {g : Graph} {s s' : St} (hw : WF g) (hI : Inv g s) {es : List Ev}
    (htr : s'.tr = s.tr ++ es) (hes : es = [] ∨ ∃ e, es = [e] ∧ Ok g s.tr e)
    (mv : Nat → Prop)
    (hsame : ∀ u, ¬ mv u → s'.pc u = s.pc u ∧ ∀ e ∈ es, ¬ touches g u e)
    (hmv : ∀ u, mv u → Moves g s s' u)
    (hce : ∀ X, s.cerr X = true → s'.cerr X = true)
    (hcn : ∀ X, s'.cerr X = true → s.cerr X = true ∨
      ((causeIn g X s'.tr ∨ causeIn g 0 s'.tr) ∧
        ∃ u, g.ctx u = X ∧ (s'.pc u).accepted = true ∧ s'.pc u ≠ .finished))
    (ytg : Nat → Prop)
    (htg : ∀ y, ¬ ytg y → s'.tg y = s.tg y ∧
      (y < g.tries.length → Ev.ret (g.tryd y).owner (g.tryd y).idx true ∉ es))
    (hyi : ∀ y, ytg y → y < g.tries.length ∧ (s.tg y).rank ≤ (s'.tg y).rank ∧ YI g s' y)
    (hmi : MI g s')
    (hha : ∀ h, Ev.hacc h ∈ es → (s'.pc h).accepted = true) : Inv g s' := by
  have hfd : FreshDone s.tr es := by
    rcases hes with rfl | ⟨e, rfl, he⟩
    · nofun
    · intro u b hm; cases List.mem_singleton.mp hm; exact he.1
  have hacc : ∀ u, (s.pc u).accepted = true → (s'.pc u).accepted = true := by
    intro u hu
    by_cases h : mv u
    · exact (hmv u h).acc hu
    · rw [(hsame u h).1]; exact hu
  have hrk : ∀ y, (s.tg y).rank ≤ (s'.tg y).rank := by
    intro y
    by_cases h : ytg y
    · exact (hyi y h).2.1
    · rw [(htg y h).1]; exact Nat.le_refl _
  have haft : ∀ p j, s.pc p = .afterCmd j →
      s'.pc p = .afterCmd j ∨ ∃ c, g.cmdAt p j = some c ∧ cmdChildrenFinished g s c = true := by
    intro p j hp
    by_cases h : mv p
    · exact (hmv p h).aft j hp
    · exact Or.inl (by rw [(hsame p h).1]; exact hp)
  refine ⟨?_, ?_, ?_, hmi, ?_, ?_, ?_, ?_, ?_⟩
  · intro u
    by_cases h : mv u
    · exact (hmv u h).ti
    · obtain ⟨hpc, hno⟩ := hsame u h
      unfold TIs
      rw [hpc, htr]
      exact (hI.ti u).frame hno hfd (hce _) (hrk _)
  · intro y hy
    by_cases h : ytg y
    · exact (hyi y h).2.2
    · have Y := hI.yi y hy
      refine Y.frame htr hfd (htg y h).1 hce hacc ?_ (fun hm => absurd hm ((htg y h).2 hy))
      intro h1 h2
      have hact := Y.active h1 h2
      rcases haft _ _ hact with h3 | ⟨c, hc, hg⟩
      · rw [h3, hact]
      · -- the owner leaves the `pip:try` only when the try goroutine is done
        rw [(hw.tryOwner hy).2.1] at hc; cases hc
        exact absurd (guard_try hg).1 h2
  · intro u ha hf
    have hold : ((s.pc u).accepted = true ∧ s.pc u ≠ .finished) ∨ parentAt g s' u := by
      by_cases h : mv u
      · exact (hmv u h).par ha hf
      · rw [(hsame u h).1] at ha hf; exact Or.inl ⟨ha, hf⟩
    rcases hold with ⟨ha0, hf0⟩ | h
    · intro p j hp
      rcases haft p j (hI.x3 u ha0 hf0 p j hp) with h | ⟨c, hc, hg⟩
      · exact h
      · exact absurd (guard_child hw hp hc hg ha0) hf0
    · exact h
  · intro X hX
    rcases hcn X hX with h | h
    · rw [htr]; exact (hI.i2 X h).imp (causeIn_mono es) (causeIn_mono es)
    · exact h.1
  · rw [htr]
    rcases hes with rfl | ⟨e, rfl, he⟩
    · rw [List.append_nil]; exact hI.ok
    · exact traceOk_snoc hI.ok he
  · intro y hy
    by_cases h : ytg y
    · exact (hyi y h).1
    · rw [(htg y h).1] at hy; exact hI.tgr y hy
  · intro X hX
    rcases hcn X hX with h | ⟨_, u, h1, h2, h3⟩
    · obtain ⟨u, hu, ha, hd⟩ := hI.i3 X h
      refine ⟨u, hu, hacc u ha, ?_⟩
      by_cases hfin : s'.pc u = .finished
      · right
        have hfin0 : s.pc u = .finished ∨ (s.cerr (g.ctx u) = true → Ev.done u false ∈ s'.tr) := by
          by_cases hm : mv u
          · exact (hmv u hm).fin hfin
          · rw [(hsame u hm).1] at hfin; exact Or.inl hfin
        rcases hfin0 with h4 | h4
        · rcases hd with h5 | h5
          · exact absurd h4 h5
          · rw [htr]; exact List.mem_append_left _ h5
        · exact h4 (by rw [hu]; exact h)
      · exact Or.inl hfin
    · exact ⟨u, h1, h2, Or.inl h3⟩
  · intro h hm
    rw [htr] at hm
    rcases List.mem_append.mp hm with hm | hm
    · exact hacc _ (hI.ha h hm)
    · exact hha h hm

/-- events of the runner of `t` that concern no other task and no try goroutine -/
def Own (g : Graph) (t : Nat) : Ev → Prop
  | .cmd u _ => u = t
  | .done u _ => u = t
  | .ret u i _ => u = t ∧ (∀ c, g.cmdAt t i ≠ some (.spawn c)) ∧ ∀ y, g.cmdAt t i ≠ some (.try_ y)
  | _ => False

theorem Own.not_touch {g : Graph} (hw : WF g) {t u : Nat} {e : Ev} (h : Own g t e) (hne : u ≠ t) :
    ¬ touches g u e := by
  cases e <;> simp only [Own] at h
  case cmd => exact fun hu => hne (hu ▸ h)
  case done => exact fun hu => hne (hu ▸ h)
  case ret v i b =>
    obtain ⟨rfl, hs, hy⟩ := h
    intro ht
    rcases touches_ret hw hne ht with h | ⟨y, h, _⟩
    · exact hs u h
    · exact hy y h

/-- `TI` of a runner after a step of its own: left to show is the `Loc` clause of the new location.
`hd`: the step logs a `done` event only when it closes the task. -/
theorem TI.move {g : Graph} {t : Nat} {p q : PC} {tr tr' es : List Ev} {ce ce' : Bool} {tgv tgv' : TG}
    (T : TI g t p tr ce tgv) (hpl : p.accepted = true ∧ p ≠ .finished) (hqa : q.accepted = true)
    (htr : tr' = tr ++ es) (htg : tgv.rank ≤ tgv'.rank)
    (hd : ∀ b, Ev.done t b ∈ es → q = .finished ∧ es = [.done t b] ∧ (b = false → ce' = true))
    (L : Loc g t tr' ce' q) : TI g t q tr' ce' tgv' := by
  subst htr
  have hpi : p ≠ .idle := by rintro rfl; cases hpl.1
  -- `t` has not closed so far: a `done` event of `t` in the new trace is the one in `es`
  have new : ∀ {b}, Ev.done t b ∈ tr ++ es → Ev.done t b ∈ es := fun {b} h =>
    (List.mem_append.mp h).resolve_left fun h' => T.nodone hpl.2 (by cases b <;> simp [hasDone, h'])
  exact .of_loc (fun _ => T.range hpi) (fun _ => created_mono es htg (T.once hpi))
    (fun _ => submitted_mono es (T.sub hpl.1)) (fun _ hn => acceptedEv_mono es (T.accEv hpl.1 hn))
    (fun _ => hqa) (fun hq h => h.elim (fun h => hq (hd _ (new h)).1) fun h => hq (hd _ (new h)).1)
    (fun h => (hd _ (new h)).2.2 rfl)
    (fun h => by have h2 := new h.2; rw [(hd _ (new h.1)).2.1] at h2; cases List.mem_singleton.mp h2) L

/-- A step of the runner of `t` alone, from location `p` to `q`, logging `es`.
`hcerr`: the error flags stay, or the flag of the task's own context is raised, with a cause in the new trace, by a
step that does not close the task.  `hd`, `hfin`: a `done` event is logged exactly by the step that closes the task,
and reports an error if the context has failed.  `k`: left to show, given `TI` at the old location, are that the
event (if any) is `Ok` and the `Loc` clause of the new location. -/
theorem inv_go {g : Graph} {s : St} (hw : WF g) (hI : Inv g s) {t : Nat} {p q : PC} {cerr' : Nat → Bool}
    {ce' : Bool} {tr' es : List Ev} (hp : s.pc t = p) (hpl : p.accepted = true ∧ p ≠ .finished)
    (hqa : q.accepted = true)
    (hfin : q = .finished → s.cerr (g.ctx t) = true → Ev.done t false ∈ tr')
    (haft : ∀ j, p = .afterCmd j → ∃ c, g.cmdAt t j = some c ∧ cmdChildrenFinished g s c = true)
    (htr : tr' = s.tr ++ es)
    (hd : ∀ b, Ev.done t b ∈ es → q = .finished ∧ es = [.done t b] ∧ (b = false → ce' = true))
    (hcerr : (cerr' = s.cerr ∧ ce' = s.cerr (g.ctx t)) ∨ (cerr' = upd s.cerr (g.ctx t) true ∧ ce' = true ∧
      q ≠ .finished ∧ (causeIn g (g.ctx t) tr' ∨ causeIn g 0 tr')))
    (k : TI g t p s.tr (s.cerr (g.ctx t)) (s.tg (tryOf g t)) →
      (es = [] ∨ ∃ e, es = [e] ∧ Ok g s.tr e ∧ Own g t e) ∧ Loc g t tr' ce' q) :
    Inv g ⟨upd s.pc t q, s.tg, s.mp, cerr', tr'⟩ := by
  have T := hI.ti t
  unfold TIs at T; rw [hp] at T
  obtain ⟨hes, L⟩ := k T
  have hce' : cerr' (g.ctx t) = ce' := by
    rcases hcerr with ⟨rfl, rfl⟩ | ⟨rfl, rfl, _⟩
    · rfl
    · exact upd_same _ _ _
  have hown : ∀ e ∈ es, Own g t e := by
    rcases hes with rfl | ⟨e, rfl, _, h⟩
    · nofun
    · intro e' he'; rw [List.mem_singleton.mp he']; exact h
  refine inv_frame hw hI (es := es) htr (hes.imp id fun ⟨e, h1, h2, _⟩ => ⟨e, h1, h2⟩) (· = t)
    ?_ ?_ ?_ ?_ (fun _ => False) ?_ (fun _ h => h.elim) (hI.mi.frame htr rfl ?_) ?_
  · -- `hsame`
    intro u hu
    exact ⟨upd_other _ _ hu, fun e he => (hown e he).not_touch hw hu⟩
  · -- `hmv`
    rintro u rfl
    exact Moves.task hp (upd_same _ _ _) hpl hqa hfin haft
      (by show TI g u (upd s.pc u q u) tr' (cerr' (g.ctx u)) _; rw [upd_same, hce']; exact T.move hpl hqa htr (Nat.le_refl _) hd L)
  · -- `hce`
    rcases hcerr with ⟨rfl, _⟩ | ⟨rfl, _⟩
    · exact fun _ h => h
    · intro X h; show upd s.cerr (g.ctx t) true X = true; rw [upd_apply]; split <;> simp [h]
  · -- `hcn`: the witness is `t` itself
    intro X hX
    rcases hcerr with ⟨rfl, _⟩ | ⟨rfl, _, hqf, hc⟩
    · exact Or.inl hX
    · by_cases hXt : X = g.ctx t
      · subst hXt
        exact Or.inr ⟨hc, t, rfl, by show (upd s.pc t q t).accepted = true; rw [upd_same]; exact hqa,
          by show upd s.pc t q t ≠ _; rw [upd_same]; exact hqf⟩
      · exact Or.inl (by rw [← upd_other s.cerr true hXt]; exact hX)
  · -- `htg`: an own event is not the return of a `pip:try`
    intro y _
    refine ⟨rfl, fun hyl hm => ?_⟩
    have := hown _ hm
    obtain ⟨rfl, _, hy⟩ := this
    exact hy y (hw.tryOwner hyl).2.1
  · -- `MI.frame`: no `acc`, no `rej`
    intro u
    constructor <;> intro hm <;> exact (hown _ hm).elim
  · -- `hha`
    intro h hm; exact (hown _ hm).elim

theorem inv_silent {g : Graph} {s : St} (hw : WF g) (hI : Inv g s) {t : Nat} {p q : PC}
    (hp : s.pc t = p) (hpl : p.accepted = true ∧ p ≠ .finished) (hql : q.accepted = true ∧ q ≠ .finished)
    (haft : ∀ j, p = .afterCmd j → ∃ c, g.cmdAt t j = some c ∧ cmdChildrenFinished g s c = true)
    (k : TI g t p s.tr (s.cerr (g.ctx t)) (s.tg (tryOf g t)) → Loc g t s.tr (s.cerr (g.ctx t)) q) :
    Inv g ⟨upd s.pc t q, s.tg, s.mp, s.cerr, s.tr⟩ :=
  inv_go hw hI hp hpl hql.1 (fun h => absurd h hql.2) haft (List.append_nil _).symm nofun (Or.inl ⟨rfl, rfl⟩)
    fun T => ⟨Or.inl rfl, k T⟩

end Goat.Pipeline
