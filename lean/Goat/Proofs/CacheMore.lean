/-
Unconditional facts about the cache model: the merged listing never repeats a name, read-after-write, direct
application is a run of the specification; sequences of pending writes to one path (for `pending_writes_view` of
Props/C07): in every intermediate state the path reads the value written last, never the remote's.
-/
import Goat.Proofs.CacheWF
import Goat.Proofs.CacheRyw

namespace Goat
namespace Cache

open Path (Name norm join slash Reduced Plain cleanPath reduceAbsPath)
open FS (Op Result Entry Mut)
open MemFS MemAbs

theorem root_readDir_nodup (t : Node) (ht : Inv t) (src : Bytes) (l : List (Name × Bool))
    (h : Root.readDir t src = .list l) : (l.map Prod.fst).Nodup := by
  cases hn : norm src with
  | none => rw [(root_climb t src hn).readDir] at h; cases h
  | some Q =>
    obtain ⟨l', hl, ⟨_, e⟩ | ⟨_, e, _⟩⟩ := root_listing t ht src Q hn <;> rw [e] at h <;> cases h
    exact hl.1

/-- "created directories are listed once" -/
theorem readDir_nodup_of_winv (s : State) (W : WInv s) (raw : Bytes) (l : List (Name × Bool))
    (h : readDir s raw = .list l) : (l.map Prod.fst).Nodup := by
  unfold readDir at h
  simp only [] at h
  split at h <;> cases h
  · next hr hb => exact mergeDirs_nodup _ _ (root_readDir_nodup _ W.2 _ _ hr) (root_readDir_nodup _ W.1 _ _ hb)
  · next hr _ => exact mergeDirs_nodup _ _ (root_readDir_nodup _ W.2 _ _ hr) List.nodup_nil
  · next hb _ => exact mergeDirs_nodup _ _ List.nodup_nil (root_readDir_nodup _ W.1 _ _ hb)

theorem step_readDir_nodup (h : Handle) (s : State) (W : WInv s) (raw : Bytes) (l : List (Name × Bool))
    (hl : (step h s (.readDir raw)).2 = .list l) : (l.map Prod.fst).Nodup := by
  cases h with
  | cache => exact readDir_nodup_of_winv s W raw l hl
  | sub base =>
    simp only [step, subOp] at hl
    cases hr : reduceAbsPath raw with
    | none => simp [hr, failResult] at hl
    | some q =>
      simp only [hr, Option.map_some, stepCache] at hl
      exact readDir_nodup_of_winv s W _ l hl

theorem readFile_buffer_first (s : State) (hb : Inv s.buffer) (c : Bytes) (P : List Name)
    (hn : norm (cleanPath c) = some P) (d : Bytes) (hP : abs s.buffer P = some (.file d)) :
    readFile s c = .data d ∧ ∀ sizes, reader s c sizes = .chunks (FS.readChunks d sizes) := by
  have hs : srcFS s c = (true, cleanPath c) := by rw [srcFS_eq s hb c P hn, hP]; rfl
  refine ⟨?_, fun sizes => ?_⟩
  · unfold readFile; rw [hs]; simp only [srcTree, if_true]
    rw [root_readFile_eq _ hb _ P hn, hP]; rfl
  · unfold reader; rw [hs]; simp only [srcTree, if_true]
    exact (root_ansE _ hb _ P hn (.reader _ sizes) rfl rfl (fun _ h => by cases h)).trans (by rw [hP]; rfl)

theorem read_after_isWrite {s : State} {raw d : Bytes} {P : List Name} {y : State × Result} (W : IsWrite s raw P d y)
    (hok : y.2 = .ok) {h' : Handle} {b' : List Name} (hs' : HandleShape h' b') (raw' : Bytes) (p' : List Name)
    (hn' : norm raw' = some p') (hP : b' ++ p' = P) :
    (step h' y.1 (.readFile raw')).2 = .data d
    ∧ ∀ sizes, (step h' y.1 (.reader raw' sizes)).2 = .chunks (FS.readChunks d sizes) := by
  obtain ⟨_, hst⟩ := W.root.ok (W.root.ok_iff.mp hok)
  have hat : abs y.1.buffer P = some (.file d) := by rw [hst]; exact FS.writeSt_at _ _ _
  have hc' := Path.norm_cleanPath _ _ (norm_cachePath hs' raw' p' hn')
  rw [hP] at hc'
  have := readFile_buffer_first _ W.root.inv _ _ hc' d hat
  rw [step_one hs' .readFile _ raw' p' hn']
  refine ⟨this.1, fun sizes => ?_⟩
  rw [step_one hs' (.reader sizes) _ raw' p' hn']
  exact this.2 sizes

/-- Read-after-write, whatever the remote holds and whatever is journalled: through any ok handles and spellings that
reach the same path. -/
theorem read_after_write_gen (s : State) (hb : Inv s.buffer) (h h' : Handle) (hok : h.ok = true)
    (hok' : h'.ok = true) (b b' : List Name) (hbase : handleBase h = some b) (hbase' : handleBase h' = some b')
    (raw raw' : Bytes) (p p' : List Name) (hn : norm raw = some p) (hn' : norm raw' = some p')
    (hsame : b ++ p = b' ++ p') :
    (∀ data, (step h s (.writeFile raw data)).2 = .ok →
      (step h' (step h s (.writeFile raw data)).1 (.readFile raw')).2 = .data data
      ∧ ∀ sizes, (step h' (step h s (.writeFile raw data)).1 (.reader raw' sizes)).2
          = .chunks (FS.readChunks data sizes))
    ∧ (∀ cs, (step h s (.writer raw cs)).2 = .ok →
      (step h' (step h s (.writer raw cs)).1 (.readFile raw')).2 = .data cs.flatten
      ∧ ∀ sizes, (step h' (step h s (.writer raw cs)).1 (.reader raw' sizes)).2
          = .chunks (FS.readChunks cs.flatten sizes)) := by
  have hshape := (rooted_of_base hok hbase).shape
  have hshape' := (rooted_of_base hok' hbase').shape
  have hc := norm_cachePath hshape raw p hn
  constructor
  · intro data hw
    rw [step_one hshape (.writeFile data) s raw p hn] at hw ⊢
    exact read_after_isWrite (isWrite_writeFile s hb _ data _ hc) hw hshape' raw' p' hn' hsame.symm
  · intro cs hw
    rw [step_one hshape (.writer cs) s raw p hn] at hw ⊢
    exact read_after_isWrite (isWrite_writer s hb _ cs _ hc) hw hshape' raw' p' hn' hsame.symm

theorem direct_is_spec (h : Handle) (hok : h.ok = true) (D : Node) (hD : Inv D) (op : Op) :
    ∃ b, handleBase h = some b ∧ FS.Step b (abs D) op (directStep D h op).2 (abs (directStep D h op).1) := by
  obtain ⟨b, R⟩ := handle_ok hok
  obtain ⟨ref, hs, hv⟩ := R.spec
  refine ⟨b, R.base, ?_⟩
  simp only [directStep, hs]
  exact (step_refines ref b hv D hD op).spec

theorem pending_writes_last (s : State) (W : WInv s) (hist : List (Handle × Op)) (h h' : Handle) (hok : h.ok = true)
    (hok' : h'.ok = true) (b b' : List Name) (hbase : handleBase h = some b) (hbase' : handleBase h' = some b')
    (raw raw' : Bytes) (p p' : List Name) (hn : norm raw = some p) (hn' : norm raw' = some p')
    (hsame : b ++ p = b' ++ p') (pre : List Bytes) (d : Bytes)
    (hw : (step h (run s (hist ++ pre.map fun x => (h, Op.writeFile raw x))) (.writeFile raw d)).2 = .ok) :
    (step h' (run s (hist ++ (pre ++ [d]).map fun x => (h, Op.writeFile raw x))) (.readFile raw')).2 = .data d
    ∧ ∀ sizes, (step h' (run s (hist ++ (pre ++ [d]).map fun x => (h, Op.writeFile raw x))) (.reader raw' sizes)).2
        = .chunks (FS.readChunks d sizes) := by
  have hrun : run s (hist ++ (pre ++ [d]).map fun x => (h, Op.writeFile raw x))
      = (step h (run s (hist ++ pre.map fun x => (h, Op.writeFile raw x))) (.writeFile raw d)).1 := by
    rw [List.map_append, ← List.append_assoc, run_append]
    rfl
  rw [hrun]
  have W' := run_winv s W (hist ++ pre.map fun x => (h, Op.writeFile raw x))
  exact (read_after_write_gen _ W'.1 h h' hok hok' b b' hbase hbase' raw raw' p p' hn hn' hsame).1 d hw

def writeOps (ws : List (Handle × Bytes × Bytes)) : List (Handle × Op) :=
  ws.map fun w => (w.1, Op.writeFile w.2.1 w.2.2)

theorem pending_writes_seq (s : State) (W : WInv s) (hist : List (Handle × Op)) (q : List Name)
    (ws : List (Handle × Bytes × Bytes))
    (hall : ∀ w ∈ ws, w.1.ok = true ∧ ∃ b p, handleBase w.1 = some b ∧ norm w.2.1 = some p ∧ b ++ p = q)
    (h' : Handle) (hok' : h'.ok = true) (b' : List Name) (hbase' : handleBase h' = some b')
    (raw' : Bytes) (p' : List Name) (hn' : norm raw' = some p') (hq : b' ++ p' = q)
    (k : Nat) (hk : k < ws.length)
    (hw : (step ws[k].1 (run s (hist ++ writeOps (ws.take k))) (.writeFile ws[k].2.1 ws[k].2.2)).2 = .ok) :
    (step h' (run s (hist ++ writeOps (ws.take (k + 1)))) (.readFile raw')).2 = .data ws[k].2.2
    ∧ ∀ sizes, (step h' (run s (hist ++ writeOps (ws.take (k + 1)))) (.reader raw' sizes)).2
        = .chunks (FS.readChunks ws[k].2.2 sizes) := by
  obtain ⟨hok, b, p, hbase, hn, hbp⟩ := hall ws[k] (List.getElem_mem hk)
  have hrun : run s (hist ++ writeOps (ws.take (k + 1)))
      = (step ws[k].1 (run s (hist ++ writeOps (ws.take k))) (.writeFile ws[k].2.1 ws[k].2.2)).1 := by
    rw [List.take_succ_eq_append_getElem hk]
    unfold writeOps
    rw [List.map_append, ← List.append_assoc, run_append]
    rfl
  rw [hrun]
  have W' := run_winv s W (hist ++ writeOps (ws.take k))
  exact (read_after_write_gen _ W'.1 ws[k].1 h' hok hok' b b' hbase hbase' ws[k].2.1 raw' p p' hn hn'
    (hbp.trans hq.symm)).1 ws[k].2.2 hw

end Cache
end Goat
