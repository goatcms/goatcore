/-
The steps of `Copy` keep the simulation invariant (`cFile`, `cEnter`, `cDir`, `cAdd`): the copier lists the source under
the source directory's lock, copies files and sub-directories into private objects, builds the new directories over
them, and links the result below the destination directory in one critical section.
-/
import Goat.Proofs.MemFSConcSimCore

namespace Goat.MemFSConc

variable {T0 : Tree} {progs : List (List Op)} {s : State} {τ : Nat} {P : List Op} {th : Thread} {i : Op}

theorem priv_new_file {h : Heap} (hs : Shape h) (hw : TreeWF T0) {path : Path}
    (hown : ∀ q, path <+: q → absT h q = T0 q) {src : Oid} (hsrc : FileAt h path src)
    {ff : FileObj} (hff : getFile h src = some ff) :
    Priv (h ++ [.file { data := ff.data, committed := [ff.data] }]) h.length (fun q => T0 (path ++ q)) := by
  obtain ⟨he, hk, hent⟩ := alloc_file (h := h) { data := ff.data, committed := [ff.data] }
  refine ⟨⟨Nat.ne_of_gt hs.length_pos, by simp, ?_⟩, ?_⟩
  · intro a m e
    rw [he] at e
    exact absurd (hs.closed _ _ _ e).1 (Nat.lt_irrefl _)
  · have hown := hown path (List.prefix_refl _)
    have hA : absT h path = some (.file ff.data) := by
      rw [absT_of_resolve hsrc.1]; exact entryOf_of_getFile hff
    funext q
    cases q with
    | nil =>
      simp only [absAt, resolve_nil, Option.bind_some, List.append_nil]
      rw [hent, ← hown, hA]
    | cons m r =>
      simp only [absAt, resolve_cons]
      rw [he]
      rw [edge_unalloc (Nat.le_refl _)]
      simp only [Option.bind_none]
      exact (hw.closed.below_none path _ (by simp) (by rw [← hown, hA]; simp)).symm

/-- the activation of `copyDir` right after it has listed the source directory at `path` -/
theorem frame_of_snapshot {h : Heap} (hs : Shape h) {path : Path}
    (hown : ∀ q, path <+: q → absT h q = T0 q) {src : Oid} (hsrc : DirAt h path src)
    {dd : DirObj} (hdd : getDir h src = some dd) (nm : Name) :
    FrameInv T0 h path none
      { src := src, nm := nm, todo := dd.nodes.map fun p => (p.1, p.2, kindOf h p.2), done := [] } := by
  have hinvd := hs.inv src dd hdd
  refine ⟨hsrc, ?_, ?_, ?_, ?_⟩
  · simp only [List.map_nil, List.nil_append, Option.toList, List.map_map]
    exact hinvd.1
  · intro m
    rw [← hown _ (List.prefix_append _ _)]
    simp only [List.map_nil, List.not_mem_nil, false_or, Option.mem_def, reduceCtorEq, List.map_map, List.mem_map,
      Function.comp]
    constructor
    · intro hne
      cases he : edge h src m with
      | none => exact absurd (hsrc.abs_child_none he) hne
      | some c =>
        exact ⟨(m, c), (hinvd.2 m c).1 (by rw [← edge_eq_index hdd]; exact he), rfl⟩
    · rintro ⟨⟨m', c⟩, hmem, rfl⟩
      exact hsrc.abs_child_ne_none hs (by rw [edge_eq_index hdd]; exact (hinvd.2 m' c).2 hmem)
  · intro m co k hmem
    simp only [List.mem_map, Prod.mk.injEq] at hmem
    obtain ⟨⟨m', c⟩, hmem', rfl, rfl, rfl⟩ := hmem
    have he : edge h src m' = some c := by rw [edge_eq_index hdd]; exact (hinvd.2 m' c).2 hmem'
    obtain ⟨hr, hlt⟩ := hsrc.child hs he
    exact ⟨hr, okind_eq_kindOf hlt⟩
  · intro m c hmem; simp at hmem

/-- an activation moves on: names leave the front of `hole ++ todo`, those of `new` as finished copies -/
theorem FrameInv.advance {h : Heap} {path : Path} {hole hole' : Option Name} {fr : Frame}
    {todo' : List (Name × Oid × Bool)} {new : List (Name × Oid)} (hi : FrameInv T0 h path hole fr)
    (hn : hole.toList ++ fr.todo.map (·.1) = new.map (·.1) ++ (hole'.toList ++ todo'.map (·.1)))
    (ht : ∀ x ∈ todo', x ∈ fr.todo) (hnew : ∀ p ∈ new, Priv h p.2 (fun q => T0 (path ++ p.1 :: q))) :
    FrameInv T0 h path hole' { fr with todo := todo', done := fr.done ++ new } := by
  have hmem : ∀ m, (m ∈ hole ∨ m ∈ fr.todo.map (·.1)) ↔ (m ∈ new.map (·.1) ∨ m ∈ hole' ∨ m ∈ todo'.map (·.1)) := by
    intro m
    have := congrArg (m ∈ ·) hn
    simp only [List.mem_append, Option.mem_toList, eq_iff_iff] at this
    exact this
  refine ⟨hi.src, ?_, ?_, fun m co k hm => hi.todo m co k (ht _ hm), ?_⟩
  · have := hi.names
    rw [hn] at this
    simpa only [List.map_append, List.append_assoc] using this
  · intro m
    rw [hi.cover m, hmem m]
    simp only [List.map_append, List.mem_append, or_assoc]
  · intro m c hm
    rcases List.mem_append.1 hm with h1 | h1
    · exact hi.done m c h1
    · exact hnew (m, c) h1

theorem copyStep_pending {d : Oid} {n : Name} {fr : Frame} {rest : List Frame} {N c : Oid}
    (hc : c ∈ (copyStep d n fr rest (.oid N)).pending) : c ∈ (Pc.cDir d n (fr :: rest)).pending ∨ c = N := by
  cases htodo : fr.todo with
  | nil =>
    cases rest with
    | nil => simp only [copyStep, htodo, Pc.pending, List.mem_singleton] at hc; exact .inr hc
    | cons par rest' =>
      simp only [copyStep, htodo, Pc.pending, List.flatMap_cons, List.map_append, List.map_cons, List.map_nil,
        List.mem_append, List.mem_singleton] at hc ⊢
      rcases hc with (h | h) | h
      · exact .inl (.inr (.inl h))
      · exact .inr h
      · exact .inl (.inr (.inr h))
  | cons e todo' =>
    obtain ⟨cn, co, k⟩ := e
    cases k with
    | false =>
      simp only [copyStep, htodo, Pc.pending, List.flatMap_cons, List.map_append, List.map_cons, List.map_nil,
        List.mem_append, List.mem_singleton] at hc ⊢
      rcases hc with (h | h) | h
      · exact .inl (.inl h)
      · exact .inr h
      · exact .inl (.inr h)
    | true => simp [copyStep, htodo, Pc.pending] at hc

theorem copyStep_hpend {d : Oid} {n : Name} {fr : Frame} {rest : List Frame} (hpc : th.pc = .cDir d n (fr :: rest))
    (h : Heap) : ∀ c ∈ (copyStep d n fr rest (.oid h.length)).pending, c ∈ th.pc.pending ∨ h.length ≤ c :=
  fun c hc => by rw [hpc]; exact (copyStep_pending hc).imp_right fun e => Nat.le_of_eq e.symm

theorem step_cFile {d src n} : StepOK (.cFile d n src) := by
  intro T0 progs s τ P th i hc hpc hinv h' r hs' hap
  obtain ⟨π, s0, hd, hop, hsrc⟩ := hinv
  subst hop
  obtain ⟨ff, hff⟩ := getFile_of_okind hsrc.2
  obtain ⟨rfl, rfl⟩ := act_copyFile hff hap
  simp only [resume]
  have hst := HeapStep.allocFile hc.shape { data := ff.data, committed := [ff.data] }
  refine sim_stay hc hst rfl ⟨π, s0, hst.dirAt hc.shape nofun hd, rfl,
    priv_new_file hc.shape hc.hyp.wf (fun _ => hc.own_src) hsrc hff⟩ (hpend := ?_)
  intro c hc'
  exact .inr (Nat.le_of_eq (List.mem_singleton.1 hc').symm)

theorem step_cEnter {d src n} : StepOK (.cEnter d n src) := by
  intro T0 progs s τ P th i hc hpc hinv h' r hs' hap
  obtain ⟨π, s0, hd, hop, hsrc⟩ := hinv
  subst hop
  obtain ⟨dd, hdd⟩ := hsrc.getDir
  obtain ⟨rfl, rfl⟩ := act_snapshot hdd hap
  simp only [resume]
  have hfr := frame_of_snapshot hc.shape (fun _ => hc.own_src) hsrc hdd n
  exact sim_stay hc hc.same rfl ⟨π, s0, [], hd, rfl, by simp, ⟨by simpa using hfr, rfl⟩, by simp⟩

theorem step_cAdd {d c n} : StepOK (.cAdd d n c) := by
  intro T0 progs s τ P th i hc hpc hinv h' r hs' hap
  obtain ⟨π, s0, hd, hop, hpr⟩ := hinv
  subst hop
  obtain ⟨dd, hdd⟩ := hd.getDir
  have hown : absT s.heap (π ++ [n]) = T0 (π ++ [n]) := hc.own_W rfl
  rcases act_addNode hdd hap with ⟨hi, rfl, rfl⟩ | ⟨hi, dd', hadd, rfl, rfl⟩
  · have hT : T0 (π ++ [n]) ≠ none := by
      rw [← hown]
      cases hx : dd.index n with
      | none => exact absurd hx hi
      | some x => exact hd.abs_child_ne_none hc.shape (by rw [edge_eq_index hdd]; exact hx)
    have hns : ¬ succ T0 (.copy s0 (π ++ [n])) := fun h => hT h.2.2.2
    simp only [resume]
    exact sim_same_noeff hc rfl (Or.inr ⟨hns, rfl⟩) (effOf_fail hns)
      fun _ _ _ hC hq _ => junk_of_target hc.hyp.wf rfl hT hC hq
  · simp only [resume]
    have hTd : T0 (π ++ [n]) = none := by
      rw [← hown]; apply hd.abs_child_none; rw [edge_eq_index hdd]; exact hi
    have hTs : T0 s0 ≠ none := by
      have := congrFun hpr.2 []
      simp only [absAt, resolve_nil, Option.bind_some, List.append_nil] at this
      rw [← this]; exact entryOf_ne_none_of_lt hpr.1.lt
    have hsucc : succ T0 (.copy s0 (π ++ [n])) := by
      refine ⟨by simp, ?_, ?_, hTd⟩
      · cases hx : T0 s0 with
        | none => exact absurd hx hTs
        | some e => trivial
      · rw [List.dropLast_concat]
        exact hc.mkdirOk_parent hd (by simp [Op.C])
    exact sim_graft hc (HeapStep.addTree hc.shape hd.1 hdd hadd hpr) hd
      hsucc rfl rfl (Or.inl ⟨hsucc, rfl⟩)
      (hL := by rw [hpc]; simp [Pc.pending])

/-- the top activation copies a file child -/
theorem step_cDir_file (hc : Cur T0 progs s τ P th i)
    {d : Oid} {n : Name} {fr : Frame} {rest : List Frame} (hpc : th.pc = .cDir d n (fr :: rest))
    (hinv : PcInv T0 s.heap i (.cDir d n (fr :: rest)))
    {cn : Name} {co : Oid} {todo' : List (Name × Oid × Bool)} (htodo : fr.todo = (cn, co, false) :: todo')
    {h' : Heap} {r : Ret} (hap : applyAct s.heap τ (.copyFile co) = some (h', r)) {hs' : List Handle} :
    Sim T0 progs (s.after τ th h' (copyStep d n fr rest r) hs') := by
  have hflat := hinv.pending_lt
  obtain ⟨π, s0, ρ, hd, hop, _, hfi, hnd⟩ := hinv
  subst hop
  obtain ⟨hrco, hkco⟩ := hfi.1.todo cn co false (by rw [htodo]; simp)
  obtain ⟨ff, hff⟩ := getFile_of_okind hkco
  obtain ⟨rfl, rfl⟩ := act_copyFile hff hap
  have hpend := copyStep_hpend hpc s.heap
  simp only [copyStep, htodo] at hpend ⊢
  have hst := HeapStep.allocFile hc.shape { data := ff.data, committed := [ff.data] }
  have hpriv := priv_new_file hc.shape hc.hyp.wf (path := (s0 ++ ρ) ++ [cn])
    (fun _ hq => hc.own_src (.trans (by rw [List.append_assoc]; exact List.prefix_append _ _) hq)) ⟨hrco, hkco⟩ hff
  obtain ⟨hF', hrest'⟩ := FramesInv.frame (T0 := T0) hc.shape hst.frame (s := s0) (fun _ _ _ hr => hst.mono nofun hr)
    (fr :: rest) none ρ (by intro _ _ _ _ h; cases h) hfi
  refine sim_stay hc hst rfl ⟨π, s0, ρ, hst.dirAt hc.shape nofun hd, rfl, by simp, ⟨?_, hrest'⟩, ?_⟩ (hpend := hpend)
  · refine hF'.advance (hole' := none) (new := [(cn, s.heap.length)]) (by simp [htodo])
      (fun x hx => by rw [htodo]; exact List.mem_cons_of_mem _ hx) fun p hp => ?_
    rw [List.mem_singleton.1 hp]
    simpa using hpriv
  · -- the fresh object is none of the copies held
    simp only [List.flatMap_cons, List.map_append, List.map_cons, List.map_nil] at hnd ⊢
    apply nodup_insert_mid hnd
    intro hmem
    exact absurd (hflat _ (by simpa [Pc.pending] using hmem)) (Nat.lt_irrefl _)

/-- the top activation enters a directory child -/
theorem step_cDir_dir (hc : Cur T0 progs s τ P th i)
    {d : Oid} {n : Name} {fr : Frame} {rest : List Frame} (hpc : th.pc = .cDir d n (fr :: rest))
    (hinv : PcInv T0 s.heap i (.cDir d n (fr :: rest)))
    {cn : Name} {co : Oid} {todo' : List (Name × Oid × Bool)} (htodo : fr.todo = (cn, co, true) :: todo')
    {h' : Heap} {r : Ret} (hap : applyAct s.heap τ (.snapshot co false) = some (h', r)) {hs' : List Handle} :
    Sim T0 progs (s.after τ th h' (copyStep d n fr rest r) hs') := by
  obtain ⟨π, s0, ρ, hd, hop, _, hfi, hnd⟩ := hinv
  subst hop
  obtain ⟨hF, hrest⟩ := hfi
  obtain ⟨hrco, hkco⟩ := hF.todo cn co true (by rw [htodo]; simp)
  obtain ⟨dd, hdd⟩ := getDir_of_okind hkco
  obtain ⟨rfl, rfl⟩ := act_snapshot hdd hap
  simp only [copyStep, htodo]
  have hnew := frame_of_snapshot hc.shape (path := (s0 ++ ρ) ++ [cn])
    (fun _ hq => hc.own_src (.trans (by rw [List.append_assoc]; exact List.prefix_append _ _) hq)) ⟨hrco, hkco⟩ hdd cn
  -- the new activation on top; the one below it now has `cn` in work
  refine sim_stay hc hc.same rfl
    ⟨π, s0, ρ ++ [cn], hd, rfl, by simp, ⟨by simpa [List.append_assoc] using hnew, ρ, rfl, ?_, hrest⟩, ?_⟩ (hpend := ?_)
  · have := hF.advance (hole' := some cn) (todo' := todo') (new := []) (by simp [htodo])
      (fun x hx => by rw [htodo]; exact List.mem_cons_of_mem _ hx) (by simp)
    simpa using this
  · simpa using hnd
  · intro c hc'
    left
    rw [hpc]
    simpa [Pc.pending] using hc'

/-- the new directory over the copies of all children of the source directory at `path` represents it -/
theorem priv_new_dir {h : Heap} (hs : Shape h) (hw : TreeWF T0) {path : Path}
    (hown : ∀ q, path <+: q → absT h q = T0 q) {fr : Frame} (hF : FrameInv T0 h path none fr)
    (htodo : fr.todo = []) :
    Priv (h ++ [.dir (newDirObj fr.done)]) h.length (fun q => T0 (path ++ q)) := by
  have hnames : (fr.done.map Prod.fst).Nodup := by
    have := hF.names; simpa [htodo] using this
  have hlt : ∀ p ∈ fr.done, p.2 < h.length := fun p hp => (hF.done p.1 p.2 hp).1.lt
  refine ⟨⟨Nat.ne_of_gt hs.length_pos, by simp, edge_alloc_dir_ne hs hnames hlt⟩, ?_⟩
  have hown := hown path (List.prefix_refl _)
  funext q
  rw [absAt_new_dir hs hnames hlt q]
  cases q with
  | nil => simp only [List.append_nil]; rw [← hown]; exact hF.src.abs.symm
  | cons m r =>
    simp only
    cases hf : fr.done.find? (fun p => p.1 == m) with
    | some p =>
      have hmem := List.mem_of_find?_eq_some hf
      have hpm : p.1 = m := by simpa using List.find?_some hf
      simp only
      have := (hF.done p.1 p.2 hmem).2
      rw [this, hpm]
    | none =>
      simp only
      have hnot : m ∉ fr.done.map Prod.fst := by
        intro hm
        obtain ⟨p, hp, rfl⟩ := List.mem_map.1 hm
        have := List.find?_eq_none.1 hf p hp
        simp at this
      have hTm : T0 (path ++ [m]) = none := by
        cases hT : T0 (path ++ [m]) with
        | none => rfl
        | some e =>
          have := (hF.cover m).1 (by rw [hT]; simp)
          simp [htodo, hnot] at this
      exact (hw.closed.none_below hTm (snoc_pfx path m r)).symm

/-- the top activation is through: `NewDir` over its copies, handed to the activation below (or to `addNode`) -/
theorem step_cDir_done (hc : Cur T0 progs s τ P th i)
    {d : Oid} {n : Name} {fr : Frame} {rest : List Frame} (hpc : th.pc = .cDir d n (fr :: rest))
    (hinv : PcInv T0 s.heap i (.cDir d n (fr :: rest))) (htodo : fr.todo = [])
    {h' : Heap} {r : Ret} (hap : applyAct s.heap τ (.newDir fr.done none) = some (h', r)) {hs' : List Handle} :
    Sim T0 progs (s.after τ th h' (copyStep d n fr rest r) hs') := by
  have hflat := hinv.pending_lt
  obtain ⟨π, s0, ρ, hd, hop, _, hfi, hnd⟩ := hinv
  subst hop
  obtain ⟨hF, hrest⟩ := hfi
  obtain ⟨rfl, rfl⟩ := act_newDir hap
  have hpend := copyStep_hpend hpc s.heap
  have hnd' := hnd
  simp only [List.flatMap_cons] at hnd'
  have hnames : (fr.done.map Prod.fst).Nodup := by
    have := hF.names; simpa [htodo] using this
  have hst := HeapStep.allocDir hc.shape hnames (List.nodup_append.1 hnd').1
    (fun p hp => (hF.done p.1 p.2 hp).1)
  have hpriv := priv_new_dir hc.shape hc.hyp.wf (path := s0 ++ ρ)
    (fun _ hq => hc.own_src (.trans (List.prefix_append _ _) hq)) hF htodo
  have hLown : ∀ c ∈ fr.done.map Prod.snd, c ∈ th.pc.pending := by
    intro c hc'
    rw [hpc]
    simp only [Pc.pending, List.flatMap_cons, List.mem_append]
    exact Or.inl hc'
  have hd' := hst.dirAt hc.shape nofun hd
  cases rest with
  | nil =>
    simp only [copyStep, htodo] at hpend ⊢
    have hρ : ρ = [] := hrest
    subst hρ
    simp only [List.append_nil] at hpriv
    exact sim_stay hc hst rfl ⟨π, s0, hd', rfl, hpriv⟩ hLown (hpend := hpend)
  | cons par rest' =>
    simp only [copyStep, htodo] at hpend ⊢
    obtain ⟨ρ', hρ, hpar, hbelow⟩ := hrest
    have hrestInv : FramesInv T0 s.heap s0 (some fr.nm) ρ' (par :: rest') := ⟨hpar, hbelow⟩
    subst hρ
    have hdisj : ∀ fr' ∈ par :: rest', ∀ p ∈ fr'.done, p.2 ∉ fr.done.map Prod.snd := by
      intro fr' hfr' p hp hmem
      have := (List.nodup_append.1 hnd').2.2 p.2 hmem p.2
        (by simp only [List.mem_flatMap, List.mem_map]; exact ⟨fr', hfr', p, hp, rfl⟩)
      exact this rfl
    obtain ⟨hP, hrest2⟩ := FramesInv.frame (T0 := T0) hc.shape hst.frame (s := s0) (fun π o _ hr => hst.mono nofun hr)
      (par :: rest') (some fr.nm) ρ' hdisj hrestInv
    refine sim_stay hc hst rfl ⟨π, s0, ρ', hd', rfl, by simp, ⟨?_, hrest2⟩, ?_⟩ hLown (hpend := hpend)
    · refine hP.advance (hole' := none) (new := [(fr.nm, s.heap.length)]) (by simp) (fun x hx => hx) fun p hp => ?_
      rw [List.mem_singleton.1 hp]
      simpa using hpriv
    · have hold : ((par.done.map Prod.snd) ++ rest'.flatMap (fun fr => fr.done.map (·.2))).Nodup := by
        have := (List.nodup_append.1 hnd').2.1
        simpa using this
      simp only [List.flatMap_cons, List.map_append, List.map_cons, List.map_nil]
      apply nodup_insert_mid hold
      intro hmem
      have : s.heap.length ∈ (fr :: par :: rest').flatMap (fun fr => fr.done.map (·.2)) := by
        simp only [List.flatMap_cons, List.mem_append] at hmem ⊢
        exact Or.inr hmem
      exact absurd (hflat _ this) (Nat.lt_irrefl _)

theorem step_cDir {d n fr rest} : StepOK (.cDir d n (fr :: rest)) := by
  intro T0 progs s τ P th i hc hpc hinv h' r hs' hap
  simp only [resume]
  cases htodo : fr.todo with
  | nil =>
    simp only [actOf, htodo, Variant.fixed, Bool.false_eq_true, if_false] at hap
    exact step_cDir_done hc hpc hinv htodo hap
  | cons e todo' =>
    obtain ⟨cn, co, k⟩ := e
    cases k with
    | false =>
      simp only [actOf, htodo] at hap
      exact step_cDir_file hc hpc hinv htodo hap
    | true =>
      simp only [actOf, htodo, Variant.fixed] at hap
      exact step_cDir_dir hc hpc hinv htodo hap

end Goat.MemFSConc
