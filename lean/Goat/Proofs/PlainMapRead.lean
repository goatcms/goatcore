/-
The reader on rendered documents: `getValue` on every kind of rendered value, one step of `members` on a rendered
member, and `members_render`: reading the rendering of a well-formed concrete syntax tree yields its leaves.
-/
import Goat.Proofs.PlainMapJson

namespace Goat.PlainMap

/-- the text after a value starts with a byte that ends a bare token -/
def TermHead (r : Bytes) : Prop := ∃ c r', r = c :: r' ∧ isTerm c = true

theorem tokenSplit_lit (lit : Bytes) (hl : ∀ b ∈ lit, isTerm b = false) {rest : Bytes} (hr : TermHead rest) :
    tokenSplit (lit ++ rest) = (lit, rest) := by
  induction lit with
  | nil =>
    obtain ⟨c, r', rfl, hc⟩ := hr
    rw [List.nil_append, tokenSplit, if_pos hc]
  | cons b lit ih =>
    rw [List.cons_append, tokenSplit, if_neg (by rw [hl b List.mem_cons_self]; decide),
      ih fun x hx => hl x (List.mem_cons_of_mem _ hx)]

theorem getValue_bare {c : Byte} {r : Bytes} (h1 : c ≠ dq) (h2 : c ≠ lbrack) (h3 : c ≠ lbrace)
    (hl : ∀ b ∈ c :: r, isTerm b = false) {rest : Bytes} (hr : TermHead rest) :
    getValue (c :: r ++ rest) =
      if c = 116 ∨ c = 102 then
        if c :: r = litTrue ∨ c :: r = litFalse then some (.boolean, c :: r, rest) else none
      else if c = 117 ∨ c = 110 then
        if c :: r = litNull then some (.null, c :: r, rest) else none
      else if inRange 48 57 c ∨ c = 45 then some (.number, c :: r, rest)
      else none := by
  have hts := tokenSplit_lit (c :: r) hl hr
  rw [List.cons_append] at hts ⊢
  simp only [getValue, if_neg h1, if_neg h2, if_neg h3, hts]

theorem isTerm_cases {b : Byte} (h : isTerm b = true) : b = 32 ∨ b = 10 ∨ b = 13 ∨ b = 9 ∨ b = comma ∨ b = rbrace ∨ b = rbrack := by
  simp only [isTerm, isWs, Bool.or_eq_true, decide_eq_true_eq] at h
  rcases h with (((((h | h) | h) | h) | h) | h) | h <;> subst h <;> decide

theorem numChar_not_term {b : Byte} (h : isNumChar b = true) : isTerm b = false := by
  cases ht : isTerm b with
  | false => rfl
  | true =>
    rcases isTerm_cases ht with e | e | e | e | e | e | e <;> (subst e; revert h; decide)

theorem not_ws_of_not_term {b : Byte} (h : isTerm b = false) : isWs b = false := by
  cases hw : isWs b with
  | false => rfl
  | true => simp [isTerm, hw] at h

theorem getValue_str (items : List SItem) (hw : ∀ i ∈ items, i.WF) (rest : Bytes) :
    getValue (dq :: (renderItems items ++ dq :: rest)) = some (.string, renderItems items, rest) := by
  rw [getValue, if_pos rfl, stringEnd_render items hw]; rfl

theorem getValue_num {lit : Bytes} (h1 : ∃ c r, lit = c :: r ∧ (inRange 48 57 c = true ∨ c = 45))
    (h2 : ∀ b ∈ lit, isNumChar b = true) {rest : Bytes} (hr : TermHead rest) :
    getValue (lit ++ rest) = some (.number, lit, rest) := by
  obtain ⟨c, r, rfl, hc⟩ := h1
  have hn := h2 c List.mem_cons_self
  rw [getValue_bare (ne_of_class hn (by decide)) (ne_of_class hn (by decide)) (ne_of_class hn (by decide))
      (fun b hb => numChar_not_term (h2 b hb)) hr,
    if_neg (not_or.mpr ⟨ne_of_class hn (by decide), ne_of_class hn (by decide)⟩),
    if_neg (not_or.mpr ⟨ne_of_class hn (by decide), ne_of_class hn (by decide)⟩), if_pos hc]

theorem getValue_true {rest : Bytes} (hr : TermHead rest) : getValue (litTrue ++ rest) = some (.boolean, litTrue, rest) :=
  (getValue_bare (by decide) (by decide) (by decide) (by decide) hr).trans rfl

theorem getValue_false {rest : Bytes} (hr : TermHead rest) : getValue (litFalse ++ rest) = some (.boolean, litFalse, rest) :=
  (getValue_bare (by decide) (by decide) (by decide) (by decide) hr).trans rfl

theorem getValue_null {rest : Bytes} (hr : TermHead rest) : getValue (litNull ++ rest) = some (.null, litNull, rest) :=
  (getValue_bare (by decide) (by decide) (by decide) (by decide) hr).trans rfl

theorem getValue_arr {a : Bytes} (ha : Bal a) (rest : Bytes) :
    getValue (lbrack :: a ++ rbrack :: rest) = some (.array, lbrack :: a ++ [rbrack], rest) := by
  rw [List.cons_append, getValue, if_neg (by decide), if_pos rfl, ← List.cons_append,
    blockEnd_block ha (Or.inr ⟨rfl, rfl⟩)]
  rfl

theorem getValue_obj {a : Bytes} (ha : Bal a) (rest : Bytes) :
    getValue (lbrace :: a ++ rbrace :: rest) = some (.object, lbrace :: a ++ [rbrace], rest) := by
  rw [List.cons_append, getValue, if_neg (by decide), if_neg (by decide), if_pos rfl, ← List.cons_append,
    blockEnd_block ha (Or.inl ⟨rfl, rfl⟩)]
  rfl

/-- `val`, standing after the colon of a member, is read as `value` of kind `kind` -/
def ReadsAs (val : Bytes) (kind : Kind) (value : Bytes) : Prop :=
  ∀ {w R : Bytes}, WsOK w → TermHead R → getValue (skipWs (w ++ (val ++ R))) = some (kind, value, R)

theorem ReadsAs.of_head {c : Byte} {r : Bytes} {kind : Kind} {value : Bytes} (hc : isWs c = false)
    (h : ∀ {R : Bytes}, TermHead R → getValue (c :: r ++ R) = some (kind, value, R)) : ReadsAs (c :: r) kind value := by
  intro w R hw hR
  rw [skipWs_append hw, List.cons_append, skipWs_cons hc]
  exact h hR

theorem readsAs_obj {a : Bytes} (ha : Bal a) : ReadsAs (lbrace :: a ++ [rbrace]) .object (lbrace :: a ++ [rbrace]) :=
  ReadsAs.of_head (r := a ++ [rbrace]) (by decide) fun {R} _ => by
    rw [List.cons_append, List.append_assoc]; exact getValue_obj ha R

/-- the callback of `jsonToPlainStringMap` for a member to be stored under `nk` (as inlined in `members`) -/
def store (fixed : Bool) (n : Nat) (nk : Bytes) (kind : Kind) (value : Bytes) : Option (Flat Bytes) :=
  match kind with
  | .object =>
    match skipWs value with
    | c' :: inner => if c' = lbrace then members fixed n false nk inner else none
    | [] => none
  | .string => (unesc value).map fun s => [(nk, s)]
  | .number => some [(nk, value)]
  | _ => some []

theorem store_object (fixed : Bool) (n : Nat) (nk inner : Bytes) :
    store fixed n nk .object (lbrace :: inner) = members fixed n false nk inner := by
  rw [store, skipWs_cons (by decide)]
  exact if_pos rfl

/-- what the callback stores for a leaf value -/
def CLeaf.entries (nk : Bytes) : CLeaf → Flat Bytes
  | .str items => [(nk, valItems items)]
  | .num lit => [(nk, lit)]
  | .other _ => []

theorem leaves_leaf (pre w0 : Bytes) (key : List SItem) (w1 w2 : Bytes) (v : CLeaf) (w3 : Bytes) (rest : CObj) :
    (CObj.leaf w0 key w1 w2 v w3 rest).leaves pre = v.entries (pre ++ valItems key) ++ rest.leaves pre := by
  cases v <;> rfl

theorem CLeaf.readsAs (v : CLeaf) (hv : v.WF) :
    ∃ kind value, ReadsAs v.render kind value ∧ ∀ fixed n nk, store fixed n nk kind value = some (v.entries nk) := by
  cases v with
  | str items =>
    refine ⟨.string, renderItems items, ReadsAs.of_head (r := renderItems items ++ [dq]) (by decide) fun {R} _ => ?_,
      fun _ _ _ => by rw [store, unesc_render items hv]; rfl⟩
    rw [List.cons_append, List.append_assoc]; exact getValue_str items hv R
  | num lit =>
    obtain ⟨c, r, rfl, _⟩ := hv.1
    exact ⟨.number, _, ReadsAs.of_head (not_ws_of_not_term (numChar_not_term (hv.2 c List.mem_cons_self)))
      (getValue_num hv.1 hv.2), fun _ _ _ => rfl⟩
  | other raw =>
    rcases hv with h | h | h | ⟨a, h, ha⟩ <;> subst h
    · exact ⟨.boolean, _, ReadsAs.of_head (by decide) getValue_true, fun _ _ _ => rfl⟩
    · exact ⟨.boolean, _, ReadsAs.of_head (by decide) getValue_false, fun _ _ _ => rfl⟩
    · exact ⟨.null, _, ReadsAs.of_head (by decide) getValue_null, fun _ _ _ => rfl⟩
    · refine ⟨.array, lbrack :: a ++ [rbrack], ReadsAs.of_head (r := a ++ [rbrack]) (by decide) fun {R} _ => ?_, fun _ _ _ => rfl⟩
      rw [List.cons_append, List.append_assoc]; exact getValue_arr ha R

/-- the key under which the reader files a member named `key` -/
def memberKey (fixed top : Bool) (pfx key : Bytes) : Bytes :=
  if (if fixed then !top else decide (pfx ≠ [])) then pfx ++ dot :: key else key

/-- what `members` does after a member's value -/
def afterMember (fixed : Bool) (n : Nat) (top : Bool) (pfx : Bytes) (es : Flat Bytes) (d : Bytes) : Option (Flat Bytes) :=
  match skipWs d with
  | [] => none
  | c :: d' =>
    if c = rbrace then some es
    else if c = comma then (members fixed n top pfx d').map (es ++ ·)
    else none

theorem members_step (fixed : Bool) (n : Nat) (top : Bool) (pfx : Bytes) {w0 w1 : Bytes} {key : List SItem}
    (V : Bytes) {kind : Kind} {value after : Bytes}
    (h0 : WsOK w0) (h1 : WsOK w1) (hk : ∀ i ∈ key, i.WF)
    (hV : getValue (skipWs V) = some (kind, value, after)) :
    members fixed (n + 1) top pfx (w0 ++ dq :: (renderItems key ++ dq :: (w1 ++ colon :: V))) =
      match store fixed n (memberKey fixed top pfx (valItems key)) kind value with
      | none => none
      | some es => afterMember fixed n top pfx es after := by
  rw [members, skipWs_ws_cons h0 (by decide)]
  simp only [show ¬ dq = rbrace by decide, if_false, ne_eq, not_true_eq_false, stringEnd_render key hk,
    unesc_render key hk, skipWs_ws_cons h1 (show isWs colon = false by decide), hV]
  rfl

theorem afterMember_rbrace (fixed : Bool) (n : Nat) (top : Bool) (pfx : Bytes) (es : Flat Bytes) {w : Bytes} (hw : WsOK w)
    (d : Bytes) : afterMember fixed n top pfx es (w ++ rbrace :: d) = some es := by
  rw [afterMember, skipWs_ws_cons hw (by decide)]
  exact if_pos rfl

theorem afterMember_comma (fixed : Bool) (n : Nat) (top : Bool) (pfx : Bytes) (es : Flat Bytes) {w : Bytes} (hw : WsOK w)
    (d : Bytes) : afterMember fixed n top pfx es (w ++ comma :: d) = (members fixed n top pfx d).map (es ++ ·) := by
  rw [afterMember, skipWs_ws_cons hw (by decide)]
  exact (if_neg (by decide)).trans (if_pos rfl)

theorem termHead_after {w3 : Bytes} (h3 : WsOK w3) (rest : CObj) (t : Bytes) :
    TermHead (w3 ++ (rest.sep ++ (rest.renderMs ++ rbrace :: t))) := by
  cases w3 with
  | cons c w => exact ⟨c, _, rfl, by simp [isTerm, h3 c List.mem_cons_self]⟩
  | nil => cases rest <;> exact ⟨_, _, rfl, by decide⟩

/-- `pre` (empty at the top, `outer key ++ "."` below) as the reader represents it -/
def KeyRel (fixed top : Bool) (pfx pre : Bytes) : Prop := ∀ key, memberKey fixed top pfx key = pre ++ key

theorem keyRel_child (fixed : Bool) {nk : Bytes} (hne : fixed = false → nk ≠ []) : KeyRel fixed false nk (nk ++ [dot]) := by
  intro key
  cases fixed with
  | true => simp [memberKey]
  | false => simp [memberKey, hne rfl]

theorem members_ws (fixed : Bool) (n : Nat) (top : Bool) (pfx : Bytes) {w : Bytes} (hw : WsOK w) (d : Bytes) :
    members fixed n top pfx (w ++ d) = members fixed n top pfx d := by
  cases n with
  | zero => rfl
  | succ n => rw [members, members, skipWs_append hw]

theorem members_rbrace (fixed : Bool) (n : Nat) (top : Bool) (pfx t : Bytes) :
    members fixed (n + 1) top pfx (rbrace :: t) = some [] := by
  rw [members, skipWs_cons (by decide)]
  exact if_pos rfl

theorem members_memberText {fixed : Bool} {n : Nat} {top : Bool} {pfx pre w0 w1 w2 val w3 value t : Bytes}
    {key : List SItem} {kind : Kind} {es : Flat Bytes} {rest : CObj}
    (h0 : WsOK w0) (hk : ∀ i ∈ key, i.WF) (h1 : WsOK w1) (h2 : WsOK w2) (hval : ReadsAs val kind value) (h3 : WsOK w3)
    (hrel : KeyRel fixed top pfx pre) (hst : store fixed n (pre ++ valItems key) kind value = some es)
    (hrest : members fixed n top pfx (rest.renderMs ++ rbrace :: t) = some (rest.leaves pre)) :
    members fixed (n + 1) top pfx (memberText w0 key w1 w2 val w3 rest (rbrace :: t)) = some (es ++ rest.leaves pre) := by
  rw [memberText, members_step fixed n top pfx _ h0 h1 hk (hval h2 (termHead_after h3 rest t)), hrel, hst]
  show afterMember fixed n top pfx es _ = _
  cases rest with
  | nil => rw [CObj.leaves, List.append_nil]; exact afterMember_rbrace fixed n top pfx es h3 t
  | _ => exact (afterMember_comma fixed n top pfx es h3 _).trans (congrArg (Option.map (es ++ ·)) hrest)

theorem memberText_length (w0 : Bytes) (key : List SItem) (w1 w2 val w3 : Bytes) (rest : CObj) (t : Bytes) :
    val.length + (rest.renderMs ++ t).length < (memberText w0 key w1 w2 val w3 rest t).length := by
  simp only [memberText, List.length_append, List.length_cons]; omega

/-- `pre` is what `leaves` puts in front of every key.  The defect hypothesis concerns the top level only: below it
`pre` ends in a dot.  Fuel: each member consumes at least one byte (`memberText_length`), so the length of the
remaining text is enough; `readWith` supplies one more. -/
theorem members_render (o : CObj) : ∀ {fixed : Bool} {n : Nat} {top : Bool} {pfx pre : Bytes} (t : Bytes), o.WF →
    KeyRel fixed top pfx pre → (fixed = false → pre = [] → ¬ o.emptyTopKey) → (o.renderMs ++ rbrace :: t).length ≤ n →
    members fixed n top pfx (o.renderMs ++ rbrace :: t) = some (o.leaves pre) := by
  induction o with
  | nil =>
    intro fixed n top pfx pre t _ _ _ hn
    cases n with
    | zero => cases hn
    | succ n => exact members_rbrace fixed n top pfx t
  | leaf w0 key w1 w2 v w3 rest ih =>
    intro fixed n top pfx pre t hwf hrel hdef hn
    obtain ⟨h0, h1, h2, h3, hk, hv, hr⟩ := hwf
    rw [renderMs_leaf_append] at hn ⊢
    have hlen := memberText_length w0 key w1 w2 v.render w3 rest (rbrace :: t)
    obtain ⟨n, rfl⟩ : ∃ m, n = m + 1 := ⟨n - 1, by omega⟩
    obtain ⟨kind, value, hval, hst⟩ := v.readsAs hv
    rw [leaves_leaf]
    exact members_memberText h0 hk h1 h2 hval h3 hrel (hst _ _ _) (ih t hr hrel hdef (by omega))
  | sub w0 key w1 w2 wo child w3 rest ihc ih =>
    intro fixed n top pfx pre t hwf hrel hdef hn
    obtain ⟨h0, h1, h2, ho, h3, hk, hc, hr⟩ := hwf
    rw [renderMs_sub_append] at hn ⊢
    have hlen := memberText_length w0 key w1 w2 (lbrace :: (wo ++ child.renderMs) ++ [rbrace]) w3 rest (rbrace :: t)
    obtain ⟨n, rfl⟩ : ∃ m, n = m + 1 := ⟨n - 1, by omega⟩
    have hne : fixed = false → pre ++ valItems key ≠ [] := fun hf hnil =>
      have ⟨hp, hkey⟩ := List.append_eq_nil_iff.mp hnil
      hdef hf hp (Or.inl hkey)
    have hchild := ihc (fixed := fixed) (n := n) [] hc (keyRel_child fixed hne) (fun _ hp => by simp at hp)
      (by simp only [List.length_append, List.length_cons, List.length_nil] at hlen ⊢; omega)
    refine members_memberText h0 hk h1 h2 (readsAs_obj ((Bal.of_ws ho).append (Bal.of_members child hc))) h3 hrel ?_
      (ih t hr hrel (fun hf hp he => hdef hf hp (Or.inr he)) (by omega))
    rw [List.cons_append, store_object, List.append_assoc, members_ws fixed n false _ ho]
    exact hchild

theorem readWith_render (fixed : Bool) {wLead wOpen : Bytes} (o : CObj) (tail : Bytes) (hl : WsOK wLead) (ho : WsOK wOpen)
    (hwf : o.WF) (hk : fixed = false → ¬ o.emptyTopKey) :
    readWith fixed (wLead ++ o.render wOpen ++ tail) = some (o.leaves []) := by
  have e : wLead ++ o.render wOpen ++ tail = wLead ++ lbrace :: (wOpen ++ (o.renderMs ++ rbrace :: tail)) := by
    simp [CObj.render]
  rw [readWith, e, skipWs_ws_cons hl (by decide)]
  show members _ _ _ _ _ = _
  rw [members_ws _ _ _ _ ho]
  exact members_render o tail hwf (fun _ => by cases fixed <;> rfl) (fun hf _ => hk hf) (by simp; omega)

end Goat.PlainMap
