/-
Commit on the class of `commit_equiv_partial` (mkdirAll and write entries), with an injected failure at any call, in
any iteration order.  The loop invariant is the view invariant itself, `Fits`: every remote call such an entry can make
keeps it (`class_call`), so it holds after a failed Commit too (`Replayed.pres`), partly written file included; the
abstract fold goes through and brings every journalled path to the buffer's state (`foldK_class`), so under `JInv` a
successful Commit leaves the direct tree.
-/
import Goat.Proofs.CacheRyw
import Goat.Proofs.CacheReplay

namespace Goat
namespace Cache

open Path (Name norm join slash Reduced Plain cleanPath reduceAbsPath)
open FS (Op Result Entry Mut)
open MemFS MemAbs

/-- the replay has brought `q` to the buffer's entry -/
def Same (B S : FS.State) (q : List Name) : Prop := S q = B q ∧ B q ≠ none

section
variable {B S : FS.State} (hB : FS.PrefixClosed B)
include hB

theorem same_mkdirSt {M : List Name} (hM : B M = some .dir) :
    (∀ q, Same B S q → Same B (FS.mkdirSt S M) q) ∧ ∀ q, q <+: M → Same B (FS.mkdirSt S M) q := by
  have hnew : ∀ q, q <+: M → Same B (FS.mkdirSt S M) q := fun q hq => by
    have := hB.prefix_of_dir hM hq
    exact ⟨by simp [FS.mkdirSt, hq, this], by rw [this]; simp⟩
  refine ⟨fun q hq => ?_, hnew⟩
  by_cases hq' : q <+: M
  · exact hnew q hq'
  · exact ⟨by simp only [FS.mkdirSt, if_neg hq']; exact hq.1, hq.2⟩

theorem same_writeSt {W : List Name} {d : Bytes} (hW : B W = some (.file d)) (hne : W ≠ []) :
    (∀ q, Same B S q → Same B (FS.writeSt S W d) q) ∧ ∀ q, q <+: W → Same B (FS.writeSt S W d) q := by
  have hnew : ∀ q, q <+: W → Same B (FS.writeSt S W d) q := fun q hq => by
    by_cases hqW : q = W
    · rw [hqW]; exact ⟨by rw [FS.writeSt_at, hW], by rw [hW]; simp⟩
    · have := parents_dir hB hW hne q (prefix_dropLast_of_ne hq hqW)
      exact ⟨by rw [FS.writeSt_parent S W q d hq hqW, this], by rw [this]; simp⟩
  refine ⟨fun q hq => ?_, hnew⟩
  by_cases hq' : q <+: W
  · exact hnew q hq'
  · exact ⟨by rw [FS.writeSt_frame _ _ _ _ hq']; exact hq.1, hq.2⟩

end

theorem RootMut.fits {pre : Prop} {post B D : FS.State} {t : Node} {x : Node × Result} (R : RootMut pre post t x)
    (h : Fits B D (abs t)) (hp : pre → Fits B D post) : Fits B D (abs x.1) := by
  by_cases hp' : pre
  · rw [(R.ok hp').2]; exact hp hp'
  · rw [R.err hp']; exact h

section
variable (buffer : Node) (hb : Inv buffer) (D : FS.State)
include hb

theorem class_call (e : JEntry) (he : EntryOK buffer e) (op : Op) (hc : e.Calls op) (t : Node)
    (h : Inv t ∧ Fits (abs buffer) D (abs t)) :
    Inv (MemFS.step .root t op).1 ∧ Fits (abs buffer) D (abs (MemFS.step .root t op).1) := by
  refine ⟨root_step_inv t h.1 op, ?_⟩
  cases e with
  | mk m =>
    obtain ⟨M, hn, hM⟩ := he
    cases hc
    exact (rootMut_mkdirAll t h.1 m M hn).fits h.2 fun _ => (h.2.remote_mkdirSt (abs_closed buffer) hM).2
  | wr w =>
    obtain ⟨W, d, hn, hW, hpd⟩ := he
    have hne := ne_nil_of_file hb hW
    rcases hc with rfl | ⟨cs, rfl⟩
    · exact (rootMut_mkdirAll t h.1 (pathDir w) W.dropLast hpd).fits h.2 fun _ =>
        (h.2.remote_mkdirSt (abs_closed buffer) (parents_dir (abs_closed buffer) hW hne _ (List.prefix_refl _))).2
    · exact (rootMut_writer t h.1 w W hn cs).fits h.2 fun _ => (h.2.remote_writeSt (abs_closed buffer) hW hne _).2
  | rm _ => exact he.elim
  | rma _ => exact he.elim

theorem stepK_class (S : FS.State) (hF : Fits (abs buffer) D S) (e : JEntry) (he : EntryOK buffer e) :
    ∃ S', e.stepK buffer S = some S' ∧ Fits (abs buffer) D S' ∧ (∀ q, Same (abs buffer) S q → Same (abs buffer) S' q)
      ∧ ∀ P, norm e.src = some P → ∀ q, q <+: P → Same (abs buffer) S' q := by
  have hB := abs_closed buffer
  cases e with
  | mk m =>
    obtain ⟨M, hn, hM⟩ := he
    have hdir : isTrue (Root.isDir buffer m) = true := by rw [root_isDir_eq buffer hb m M hn, hM]; rfl
    obtain ⟨hok, hF'⟩ := hF.remote_mkdirSt hB hM
    refine ⟨_, by simp only [JEntry.stepK, mkS, hdir, if_true, hn, pMk, if_pos hok], hF', (same_mkdirSt hB hM).1,
      fun P hP => ?_⟩
    rw [show JEntry.src (.mk m) = m from rfl, hn] at hP; cases hP
    exact (same_mkdirSt hB hM).2
  | wr w =>
    obtain ⟨W, d, hn, hW, hpd⟩ := he
    have hne := ne_nil_of_file hb hW
    have hpar := parents_dir hB hW hne _ (List.prefix_refl _)
    have hfile : isTrue (Root.isFile buffer w) = true := by rw [root_isFile_eq buffer hb w W hn, hW]; rfl
    have hread : Root.readFile buffer w = .data d := by rw [root_readFile_eq buffer hb w W hn, hW]; rfl
    obtain ⟨hok1, hF1⟩ := hF.remote_mkdirSt hB hpar
    obtain ⟨hok2, hF2⟩ := hF1.remote_writeSt hB hW hne d
    refine ⟨_, by simp only [JEntry.stepK, wrS, seqK, wrA, hpd, pMk, if_pos hok1, Option.bind_some, wrB, hfile, if_true,
      hn, hread, pWr, if_pos hok2], hF2, fun q hq => (same_writeSt hB hW hne).1 q ((same_mkdirSt hB hpar).1 q hq),
      fun P hP => ?_⟩
    rw [show JEntry.src (.wr w) = w from rfl, hn] at hP; cases hP
    exact (same_writeSt hB hW hne).2
  | rm _ => exact he.elim
  | rma _ => exact he.elim

theorem foldK_class (l : List JEntry) (hl : ∀ e ∈ l, EntryOK buffer e) (S : FS.State) (hF : Fits (abs buffer) D S) :
    ∃ S', foldK (l.map (JEntry.stepK buffer)) S = some S' ∧ (∀ q, Same (abs buffer) S q → Same (abs buffer) S' q)
      ∧ ∀ e ∈ l, ∀ P, norm e.src = some P → ∀ q, q <+: P → Same (abs buffer) S' q := by
  induction l generalizing S with
  | nil => exact ⟨S, rfl, fun _ h => h, by simp⟩
  | cons e rest ih =>
    obtain ⟨S1, h1, F1, st1, new1⟩ := stepK_class buffer hb D S hF e (hl e (by simp))
    obtain ⟨S', h2, st2, new2⟩ := ih (fun x hx => hl x (List.mem_cons_of_mem _ hx)) S1 F1
    refine ⟨S', by simp only [List.map_cons, foldK, h1, Option.bind_some, h2], fun q hq => st2 q (st1 q hq),
      fun x hx P hP q hq => ?_⟩
    rcases List.mem_cons.mp hx with rfl | hx
    · exact st2 q (new1 P hP q hq)
    · exact new2 x hx P hP q hq

end

/-- The state after Commit is again in the class, so a retry is just another Commit.  An order is given by its members
only (weaker than `Perm`): replaying an entry of the class twice changes nothing. -/
theorem commit_class {s : State} {D : Node} (V : VInv s D) (J : JInv s) (rm rma mk wr : List Bytes)
    (hrm : ∀ x, x ∈ rm ↔ x ∈ s.remove) (hrma : ∀ x, x ∈ rma ↔ x ∈ s.removeAll)
    (hmk : ∀ x, x ∈ mk ↔ x ∈ s.mkdirAll) (hwr : ∀ x, x ∈ wr ↔ x ∈ s.write) (fa : Option Nat) :
    VInv (commitWith rm rma mk wr fa s).1 D ∧ JInv (commitWith rm rma mk wr fa s).1
    ∧ ((commitWith rm rma mk wr fa s).2.2 = true → abs (commitWith rm rma mk wr fa s).1.remote = abs D)
    ∧ (fa = none → (commitWith rm rma mk wr fa s).2.2 = true) := by
  have erm : rm = [] := List.eq_nil_iff_forall_not_mem.mpr fun x hx => by
    have := (hrm x).mp hx; rw [J.rmJ] at this; cases this
  have erma : rma = [] := List.eq_nil_iff_forall_not_mem.mpr fun x hx => by
    have := (hrma x).mp hx; rw [J.rmaJ] at this; cases this
  subst erm erma
  have hl : ∀ e ∈ entries [] [] mk wr, EntryOK s.buffer e := by
    intro e he
    simp only [entries, List.map_nil, List.nil_append, List.mem_append, List.mem_map] at he
    rcases he with ⟨m, hm, rfl⟩ | ⟨w, hw, rfl⟩
    · exact J.mkJ m ((hmk m).mp hm)
    · exact J.wrJ w ((hwr w).mp hw)
  have h := commit_replayed [] [] mk wr fa s
  have hP := h.pres (fun t => Inv t ∧ Fits (abs s.buffer) (abs D) (abs t))
    (fun t op ⟨e, he, hc⟩ ht => class_call s.buffer V.hb _ e (hl e he) op hc t ht) ⟨V.hr, V.fits⟩
  obtain ⟨S', hS', _, hnew⟩ := foldK_class s.buffer V.hb (abs D) _ hl (abs s.remote) V.fits
  have hstate : (commitWith [] [] mk wr fa s).1 = { s with remote := (commitWith [] [] mk wr fa s).1.remote } := by
    rw [commitWith_eq]
  refine ⟨hstate ▸ V.remote hP.1 hP.2, by rw [commitWith_eq]; exact J.remote _, fun hok => ?_,
    fun hn => ?_⟩
  · have e : S' = abs (commitWith [] [] mk wr fa s).1.remote := Option.some.inj (hS'.symm.trans (h.ok V.hr hok))
    rw [hP.2.2, ← e]
    funext q
    simp only [overlay]
    cases hbq : abs s.buffer q with
    | none => rfl
    | some e0 =>
      have hdone : Same (abs s.buffer) S' q := by
        rcases J.covJ q (by rw [hbq]; simp) with rfl | ⟨w, hw', W, h1, h2⟩ | ⟨m, hm', M, h1, h2⟩
        · exact ⟨by rw [e, hP.1.abs_nil, V.hb.abs_nil], by rw [V.hb.abs_nil]; simp⟩
        · exact hnew (.wr w) (by simp [entries, (hwr w).mpr hw']) W h1 q h2
        · exact hnew (.mk m) (by simp [entries, (hmk m).mpr hm']) M h1 q h2
      exact hdone.1.trans hbq
  · cases hok : (commitWith [] [] mk wr fa s).2.2
    · have := h.refused V.hr hn hok
      rw [show commitK s.buffer [] [] mk wr (abs s.remote) = some S' from hS'] at this; cases this
    · rfl

theorem commit_class_canon {s : State} {D : Node} (V : VInv s D) (J : JInv s) (fa : Option Nat) :
    VInv (commit fa s).1 D ∧ JInv (commit fa s).1
    ∧ ((commit fa s).2.2 = true → abs (commit fa s).1.remote = abs D) ∧ (fa = none → (commit fa s).2.2 = true) :=
  commit_class V J _ _ _ _ (fun _ => Iff.rfl) (fun _ => Iff.rfl) (fun _ => Iff.rfl) (fun _ => Iff.rfl) fa

end Cache
end Goat
