/-
About `Goat/Base/Path.lean`: reduction is walking from the root and fails exactly when the walk leaves the root; every
output segment is a real name of the input; on a path that does not climb `path.Clean` keeps the normal form.
-/
import Goat.Base.Path
import Goat.Proofs.Lists

namespace Goat
namespace Path

def NoSlash (s : Bytes) : Prop := slash ∉ s

instance (s : Bytes) : Decidable (NoSlash s) := by unfold NoSlash; exact inferInstance

def Reduced (q : List Name) : Prop := ∀ s ∈ q, Plain s ∧ NoSlash s

/-! `split` is a function that splits at every `/` (`Proofs/Lists`, section `split`): its three equations. -/

theorem split_nil : split [] = [[]] := rfl

theorem split_cons_slash (s : Bytes) : split (slash :: s) = [] :: split s := by simp [split, splitHT]

theorem split_cons_ne {b : Byte} {s l : Bytes} {ls : List Bytes} (hb : b ≠ slash) (h : split s = l :: ls) :
    split (b :: s) = (b :: l) :: ls := by
  simp only [split, List.cons.injEq] at h
  simp [split, splitHT, hb, h.1, h.2]

theorem split_append_slash (a b : Bytes) : split (a ++ slash :: b) = split a ++ split b :=
  split_append_sep split_nil split_cons_slash split_cons_ne a b

theorem split_noSlash (s : Bytes) (h : NoSlash s) : split s = [s] :=
  split_of_free split_nil split_cons_slash split_cons_ne h

theorem split_ne_nil (s : Bytes) : split s ≠ [] := by simp [split]

theorem split_noSlash_mem (p : Bytes) : ∀ s ∈ split p, NoSlash s :=
  split_free split_nil split_cons_slash split_cons_ne p

theorem split_join (segs : List Name) (h : ∀ s ∈ segs, NoSlash s) (hne : segs ≠ []) :
    split (join segs) = segs := by
  induction segs with
  | nil => exact absurd rfl hne
  | cons s rest ih =>
    cases rest with
    | nil => simpa [join] using split_noSlash s (h s (by simp))
    | cons s' rest' =>
      have := ih (fun x hx => h x (List.mem_cons_of_mem _ hx)) (by simp)
      simp only [join] at this ⊢
      rw [split_append_slash, this, split_noSlash s (h s (by simp))]
      rfl

theorem split_join' (segs : List Name) (h : ∀ s ∈ segs, NoSlash s) :
    split (join segs) = if segs = [] then [[]] else segs := by
  split
  · next e => subst e; rfl
  · next e => exact split_join segs h e

theorem reduceGo_mem (segs acc : List Name) (out : List Name) (h : reduceGo segs acc = some out) :
    ∀ s ∈ out, s ∈ acc ∨ (s ∈ segs ∧ Plain s) := by
  fun_induction reduceGo segs acc with
  | case1 acc => simp at h; subst h; intro s hs; exact Or.inl (by simpa using hs)
  | case2 s rest acc hs ih => exact fun x hx => (ih h x hx).imp_right fun m => ⟨List.mem_cons_of_mem _ m.1, m.2⟩
  | case3 rest hs => cases h
  | case4 rest a acc' hs ih =>
    exact fun x hx => (ih h x hx).imp (List.mem_cons_of_mem _) fun m => ⟨List.mem_cons_of_mem _ m.1, m.2⟩
  | case5 s rest acc hs hd ih =>
    intro x hx
    rcases ih h x hx with m | m
    · rcases List.mem_cons.mp m with rfl | m
      · exact Or.inr ⟨by simp, fun e => hs (Or.inl e), fun e => hs (Or.inr e), hd⟩
      · exact Or.inl m
    · exact Or.inr ⟨List.mem_cons_of_mem _ m.1, m.2⟩

/-- walk the segments from a directory stack (top = head); `none` = the walk climbs above the root.  It is `reduceGo`
without the final `reverse`; `reduce_eq_walk` of Props/C01 and C03 states `ReduceAbsPath` by it -/
def walk : List Name → List Name → Option (List Name)
  | [], cur => some cur
  | s :: rest, cur =>
    if s = [] ∨ s = dotSeg then walk rest cur
    else if s = dotdotSeg then
      match cur with
      | [] => none
      | _ :: up => walk rest up
    else walk rest (s :: cur)

theorem reduceGo_eq_walk (segs acc : List Name) :
    reduceGo segs acc = (walk segs acc).map List.reverse := by
  fun_induction reduceGo segs acc <;> simp_all [walk]

theorem reduceGo_append (xs ys acc : List Name) :
    reduceGo (xs ++ ys) acc = (reduceGo xs acc).bind fun r => reduceGo ys r.reverse := by
  fun_induction reduceGo xs acc <;> simp_all [reduceGo]

theorem reduceGo_of_plain (segs acc : List Name) (h : ∀ s ∈ segs, Plain s) :
    reduceGo segs acc = some (acc.reverse ++ segs) := by
  fun_induction reduceGo segs acc with
  | case1 acc => simp
  | case2 s rest acc hs ih => exact absurd hs (by have := h s (by simp); rintro (e | e); exact this.1 e; exact this.2.1 e)
  | case3 rest hs => exact absurd rfl (h _ (by simp)).2.2
  | case4 rest a acc' hs ih => exact absurd rfl (h _ (by simp)).2.2
  | case5 s rest acc hs hd ih => rw [ih (fun x hx => h x (List.mem_cons_of_mem _ hx))]; simp

theorem reduceGo_empty_seg (acc : List Name) : reduceGo [[]] acc = some acc.reverse := by
  simp [reduceGo]

theorem norm_mem (p : Bytes) (q : List Name) (h : norm p = some q) : ∀ s ∈ q, s ∈ split p ∧ Plain s :=
  fun s hs => (reduceGo_mem (split p) [] q h s hs).resolve_left (by simp)

theorem norm_plain (p : Bytes) (q : List Name) (h : norm p = some q) : ∀ s ∈ q, Plain s :=
  fun s hs => (norm_mem p q h s hs).2

theorem norm_reduced (p : Bytes) (q : List Name) (h : norm p = some q) : Reduced q :=
  fun s hs => ⟨norm_plain p q h s hs, split_noSlash_mem p s (norm_mem p q h s hs).1⟩

theorem reduceGo_join (p : List Name) (hp : Reduced p) (a : List Name) :
    reduceGo (split (join p)) a.reverse = some (a ++ p) := by
  rw [split_join' p (fun s hs => (hp s hs).2)]
  split
  · next e => subst e; simp [reduceGo_empty_seg]
  · simpa using reduceGo_of_plain p a.reverse (fun s hs => (hp s hs).1)

theorem norm_join (q : List Name) (h : Reduced q) : norm (join q) = some q := by
  simpa [norm, reduceSegs] using reduceGo_join q h []

theorem reduce_idem (p : Bytes) (r : Bytes) (h : reduceAbsPath p = some r) : reduceAbsPath r = some r := by
  unfold reduceAbsPath at h ⊢
  cases hn : norm p with
  | none => simp [hn] at h
  | some q =>
    simp [hn] at h
    subst h
    simp [norm_join q (norm_reduced p q hn)]

theorem norm_cons_slash (x y : Bytes) :
    norm (x ++ slash :: y) = (norm x).bind fun a => reduceGo (split y) a.reverse := by
  unfold norm reduceSegs
  rw [split_append_slash, reduceGo_append]

theorem norm_slash_cons (x : Bytes) : norm (slash :: x) = norm x := norm_cons_slash [] x

/-- the path string a view hands down: its stored base, `/`, the reduced argument — for ANY base string.  An empty
argument splits into one empty segment, which the reduction skips. -/
theorem norm_dir_join (dir : Bytes) (q : List Name) (hq : Reduced q) :
    norm (dir ++ slash :: join q) = (norm dir).map (· ++ q) := by
  rw [norm_cons_slash]
  cases norm dir with
  | none => rfl
  | some a => simpa using reduceGo_join q hq a

/-- the path string a child view hands to its parent: `base/` followed by the reduced argument -/
theorem norm_base_join (b q : List Name) (hb : Reduced b) (hq : Reduced q) :
    norm (join b ++ slash :: join q) = some (b ++ q) := by
  rw [norm_dir_join (join b) q hq, norm_join b hb]
  rfl

theorem Reduced.append {a b : List Name} (ha : Reduced a) (hb : Reduced b) : Reduced (a ++ b) := by
  intro s hs
  rcases List.mem_append.mp hs with h | h
  · exact ha s h
  · exact hb s h

theorem Reduced.nil : Reduced [] := by intro s hs; simp at hs

theorem cleanGo_of_reduceGo (rooted : Bool) (segs acc out : List Name)
    (hacc : ∀ s ∈ acc, s ≠ dotdotSeg) (h : reduceGo segs acc = some out) :
    cleanGo rooted segs acc = out := by
  induction segs generalizing acc with
  | nil => simpa [reduceGo, cleanGo] using h
  | cons s rest ih =>
    unfold reduceGo at h
    unfold cleanGo
    split at h
    · next hs => rw [if_pos hs]; exact ih acc hacc h
    · next hs =>
      rw [if_neg hs]
      split at h
      · next hd =>
        rw [if_pos hd]
        cases acc with
        | nil => simp at h
        | cons top acc' =>
          simp only at h ⊢
          rw [if_neg (hacc top (by simp))]
          exact ih acc' (fun x hx => hacc x (List.mem_cons_of_mem _ hx)) h
      · next hd =>
        rw [if_neg hd]
        exact ih (s :: acc) (by
          intro x hx
          rcases List.mem_cons.mp hx with rfl | hx
          · exact hd
          · exact hacc x hx) h

theorem join_cons_head (s : Name) (rest : List Name) (hs : s ≠ []) (hn : NoSlash s) :
    ∃ c tl, join (s :: rest) = c :: tl ∧ c ≠ slash := by
  cases s with
  | nil => exact absurd rfl hs
  | cons c tl =>
    have hc : c ≠ slash := fun e => hn (by simp [e])
    cases rest with
    | nil => exact ⟨c, tl, rfl, hc⟩
    | cons s' r => exact ⟨c, tl ++ slash :: join (s' :: r), by simp [join], hc⟩

theorem join_eq_nil_iff (q : List Name) (h : Reduced q) : join q = [] ↔ q = [] := by
  constructor
  · intro e
    cases q with
    | nil => rfl
    | cons s rest =>
      obtain ⟨c, tl, e', _⟩ := join_cons_head s rest (h s (by simp)).1.1 (h s (by simp)).2
      rw [e'] at e; cases e
  · rintro rfl; rfl

theorem clean_of_norm (c : Byte) (tl : Bytes) (q : List Name) (h : norm (c :: tl) = some q) :
    clean (c :: tl) = if c = slash then slash :: join q else if join q = [] then dotSeg else join q := by
  unfold clean
  simp only [cleanGo_of_reduceGo _ (split (c :: tl)) [] q (by simp) h]

theorem norm_clean (p : Bytes) (q : List Name) (h : norm p = some q) : norm (clean p) = some q := by
  have hr := norm_reduced p q h
  cases p with
  | nil =>
    have : q = [] := by simp [norm, reduceSegs, split, splitHT, reduceGo] at h; exact h
    subst this; rfl
  | cons c tl =>
    rw [clean_of_norm c tl q h]
    by_cases hc : c = slash
    · rw [if_pos hc, norm_slash_cons]; exact norm_join q hr
    · rw [if_neg hc]
      split
      · next e => rw [(join_eq_nil_iff q hr).mp e]; rfl
      · exact norm_join q hr

theorem norm_append_slash (x : Bytes) : norm (x ++ [slash]) = norm x := by
  rw [show x ++ [slash] = x ++ slash :: [] from rfl, norm_cons_slash]
  cases norm x <;> simp [split_nil, reduceGo_empty_seg]

theorem join_ne_dotSeg (P : List Name) (hP : Reduced P) : join P ≠ dotSeg := by
  intro e
  cases P with
  | nil => cases e
  | cons s rest =>
    cases rest with
    | nil => exact (hP s (by simp)).1.2.1 e
    | cons s' r =>
      have : slash ∈ join (s :: s' :: r) := by simp [join]
      rw [e] at this
      simp [dotSeg, dot, slash] at this

theorem cleanPath_of_norm (p : Bytes) (q : List Name) (h : norm p = some q) (hq : q ≠ []) :
    cleanPath p = join q := by
  have hr := norm_reduced p q h
  cases p with
  | nil => simp [norm, reduceSegs, split, splitHT, reduceGo] at h; exact absurd h.symm hq.symm
  | cons c tl =>
    obtain ⟨s, rest, rfl⟩ := List.exists_cons_of_ne_nil hq
    obtain ⟨c', tl', e, hc'⟩ := join_cons_head s rest (hr s (by simp)).1.1 (hr s (by simp)).2
    unfold cleanPath
    rw [clean_of_norm c tl _ h]
    by_cases hc : c = slash
    · simp [hc]
    · simp only [if_neg hc, e]
      simp [hc']

theorem cleanPath_of_norm_nil (p : Bytes) (h : norm p = some []) : cleanPath p = [] ∨ cleanPath p = dotSeg := by
  cases p with
  | nil => right; rfl
  | cons c tl =>
    unfold cleanPath
    rw [clean_of_norm c tl _ h]
    by_cases hc : c = slash
    · left; simp [hc, join]
    · right; rw [if_neg hc]; simp [join, dotSeg, dot, slash]

theorem norm_cleanPath (p : Bytes) (q : List Name) (h : norm p = some q) : norm (cleanPath p) = some q := by
  by_cases hq : q = []
  · subst hq
    rcases cleanPath_of_norm_nil p h with e | e <;> rw [e] <;> rfl
  · rw [cleanPath_of_norm p q h hq]
    exact norm_join q (norm_reduced p q h)

theorem cleanPath_join (q : List Name) (hq : Reduced q) (hne : q ≠ []) : cleanPath (join q) = join q :=
  cleanPath_of_norm _ q (norm_join q hq) hne

end Path
end Goat
