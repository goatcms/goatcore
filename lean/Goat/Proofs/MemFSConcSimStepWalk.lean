/-
One lemma per program counter of the walking operations (reads, `Remove`, `RemoveAll`, and the walk of
`Copy` to its source): the critical section it enters keeps the simulation invariant.  A walk ends in `sim_walk_fail`
(it cannot arrive: the operation fails without effect) or in `sim_afterWalk` (what each kind of walk does with the node).
-/
import Goat.Proofs.MemFSConcSimCore

namespace Goat.MemFSConc
open Goat.FS (Entry)

variable {T0 : Tree} {progs : List (List Op)} {s : State} {τ : Nat} {P : List Op} {th : Thread} {i : Op}

theorem copySrc_fail {path dd : Path} {dn : Name} (hT : T0 path = none) :
    ResOK T0 (.copy path (dd ++ [dn])) .err ∧ effOf T0 (.copy path (dd ++ [dn])) = [] := by
  have hns : ¬ succ T0 (.copy path (dd ++ [dn])) := by
    intro h
    have := h.2.1
    rw [hT] at this
    cases this
  exact ⟨Or.inr ⟨hns, rfl⟩, effOf_fail hns⟩

theorem walkOK_rm {path : Path} {m : Name} {eo : Bool} (hm : WalkOK i path (.rmParent m eo)) :
    i = .remove (path ++ [m]) ∨ i = .removeAll (path ++ [m]) := by
  cases eo
  · exact Or.inr hm
  · exact Or.inl hm

theorem rm_fail {p : Path} (hi : i = .remove p ∨ i = .removeAll p) (hb : T0 p = none) :
    ResOK T0 i .err ∧ effOf T0 i = [] ∧ i.C = none := by
  rcases hi with rfl | rfl
  · have hns : ¬ succ T0 (.remove p) := by
      rintro ⟨_, ⟨d, hd⟩ | ⟨hd, _⟩⟩ <;> rw [hb] at hd <;> cases hd
    exact ⟨Or.inr ⟨hns, rfl⟩, effOf_fail hns, rfl⟩
  · have hns : ¬ succ T0 (.removeAll p) := fun h => h.2 hb
    exact ⟨Or.inr ⟨hns, rfl⟩, effOf_fail hns, rfl⟩

/-- a walk that cannot arrive: the operation fails (or answers `false`) and has no effect -/
theorem walkOK_fail (hw : TreeWF T0) {path : Path} {k : WK} (hm : WalkOK i path k) (hT : T0 path = none) :
    ResOK T0 i (failRes k) ∧ effOf T0 i = [] := by
  have hbelow : ∀ m, T0 (path ++ [m]) = none := fun m => hw.closed.none_below hT (List.prefix_append _ _)
  cases k
  case probe _ | readFile | readDir =>
    simp only [WalkOK] at hm; subst hm
    exact ⟨by simp [ResOK, failRes, hT, probeVal], effOf_read rfl⟩
  case openR _ => exact absurd hm (by simp [WalkOK])
  case rmParent m eo => exact ⟨(rm_fail (walkOK_rm hm) (hbelow m)).1, (rm_fail (walkOK_rm hm) (hbelow m)).2.1⟩
  case copySrc dd dn =>
    simp only [WalkOK] at hm; subst hm
    exact copySrc_fail hT

theorem sim_walk_fail (hc : Cur T0 progs s τ P th i)
    (hpcw : th.pc.creating = false)
    {path : Path} {k : WK} (hm : WalkOK i path k) (hT : T0 path = none) {hs' : List Handle} :
    Sim T0 progs (s.after τ th s.heap (.fin (failRes k)) hs') := by
  obtain ⟨h1, h2⟩ := walkOK_fail hc.hyp.wf hm hT
  exact sim_same_noeff hc rfl h1 h2 (fun h => by rw [hpcw] at h; cases h)

theorem entry_isDir_kindOf {h : Heap} {c : Oid} (hc : c < h.length) :
    (entryOf h c).map Entry.isDir = some (kindOf h c) := by
  rw [entryOf_isDir, okind_eq_kindOf hc]

theorem sim_afterWalk (hc : Cur T0 progs s τ P th i)
    {path : Path} {k : WK} (hm : WalkOK i path k) {o : Oid} (hr : resolve s.heap 0 path = some o) {hs' : List Handle} :
    Sim T0 progs (s.after τ th s.heap (afterWalk k o (kindOf s.heap o)) hs') := by
  have hlt : o < s.heap.length := resolve_lt hc.shape hc.shape.length_pos hr
  have hent : (absT s.heap path).map Entry.isDir = some (kindOf s.heap o) := by
    rw [absT_of_resolve hr]; exact entry_isDir_kindOf hlt
  cases k with
  | probe want =>
    simp only [WalkOK] at hm; subst hm
    have hown : absT s.heap path = T0 path := hc.own_R rfl
    simp only [afterWalk]
    refine sim_fin hc ?_ (effOf_read rfl) rfl
    simp only [ResOK, Res.bool.injEq]
    rw [← hown]
    cases hA : absT s.heap path with
    | none => rw [hA] at hent; simp at hent
    | some e =>
      rw [hA] at hent; simp at hent
      simp only [probeVal, hent]
      cases want <;> rfl
  | readFile =>
    simp only [WalkOK] at hm; subst hm
    have hown : absT s.heap path = T0 path := hc.own_R rfl
    simp only [afterWalk]
    cases hk : kindOf s.heap o with
    | true =>
      simp only [if_true]
      refine sim_fin hc ?_ (effOf_read rfl) rfl
      have : absT s.heap path = some .dir := by
        rw [absT_of_resolve hr]; exact entryOf_dir_iff.2 (kindOf_true hk)
      simp [ResOK, ← hown, this]
    | false =>
      simp only [Bool.false_eq_true, if_false]
      exact sim_stay hc hc.same rfl ⟨path, rfl, hr, kindOf_false_lt hlt hk⟩
  | readDir =>
    simp only [WalkOK] at hm; subst hm
    have hown : absT s.heap path = T0 path := hc.own_R rfl
    simp only [afterWalk]
    cases hk : kindOf s.heap o with
    | true =>
      simp only [if_true]
      exact sim_stay hc hc.same rfl ⟨path, rfl, hr, kindOf_true hk⟩
    | false =>
      simp only [Bool.false_eq_true, if_false]
      refine sim_fin hc ?_ (effOf_read rfl) rfl
      obtain ⟨d, hd⟩ := entryOf_of_okind_false (kindOf_false_lt hlt hk)
      have : absT s.heap path = some (.file d) := by rw [absT_of_resolve hr]; exact hd
      simp [ResOK, ← hown, this]
  | openR _ => exact absurd hm (by simp [WalkOK])
  | rmParent m eo =>
    simp only [afterWalk]
    cases hk : kindOf s.heap o with
    | true =>
      simp only [if_true]
      cases eo with
      | true =>
        simp only [WalkOK] at hm; subst hm
        exact sim_stay hc hc.same rfl ⟨path, ⟨hr, kindOf_true hk⟩, rfl⟩
      | false =>
        simp only [WalkOK] at hm; subst hm
        exact sim_stay hc hc.same rfl ⟨path, ⟨hr, kindOf_true hk⟩, Or.inl rfl⟩
    | false =>
      simp only [Bool.false_eq_true, if_false]
      -- the parent path is a file: the initial tree has that file too
      obtain ⟨d, hd⟩ := entryOf_of_okind_false (kindOf_false_lt hlt hk)
      have hA : absT s.heap path = some (.file d) := by rw [absT_of_resolve hr]; exact hd
      have hW : i.W = some (path ++ [m]) := by rcases walkOK_rm hm with rfl | rfl <;> rfl
      have hT : T0 path = some (.file d) := hc.pfx_file (mem_paths_W hW) (List.prefix_append path [m]) hA
      have hbelow : T0 (path ++ [m]) = none := hc.hyp.wf.closed.below_none _ _ (by simp) (by rw [hT]; simp)
      have := rm_fail (walkOK_rm hm) hbelow
      exact sim_fin hc this.1 this.2.1 this.2.2
  | copySrc dd dn =>
    simp only [WalkOK] at hm; subst hm
    have hok := okind_eq_kindOf hlt
    simp only [afterWalk]
    cases dd with
    | nil =>
      simp only [mkStart, afterMk]
      cases hk : kindOf s.heap o with
      | true =>
        simp only [if_true]
        exact sim_stay hc hc.same rfl ⟨[], path, DirAt.root hc.shape, rfl, hr, by rw [hok, hk]⟩
      | false =>
        simp only [Bool.false_eq_true, if_false]
        exact sim_stay hc hc.same rfl ⟨[], path, DirAt.root hc.shape, rfl, hr, by rw [hok, hk]⟩
    | cons m dd' =>
      simp only [mkStart]
      exact sim_stay hc hc.same rfl ⟨[], DirAt.root hc.shape, by simp, path, rfl, hr, hok⟩

theorem step_walk {cur n rest k} : StepOK (.walk cur (n :: rest) k) := by
  intro T0 progs s τ P th i hc hpc hinv h' r hs' hap
  have hpcw : th.pc.creating = false := by rw [hpc]; rfl
  obtain ⟨π, hd, _, hm⟩ := hinv
  obtain ⟨rfl, rfl⟩ := act_lookup hap
  obtain ⟨x, hx, hpx⟩ := walkOK_path hm
  have hxc : (π ++ [n]) <+: (π ++ n :: rest) := snoc_pfx π n rest
  cases he : edge s.heap cur n with
  | none =>
    simp only [Option.map_none, resume]
    have hT : T0 (π ++ [n]) = none := hc.pfx_none hx (hxc.trans hpx) (hd.abs_child_none he)
    exact sim_walk_fail hc hpcw hm (hc.hyp.wf.closed.none_below hT hxc)
  | some o =>
    simp only [Option.map_some, resume]
    obtain ⟨hr, hlt⟩ := hd.child hc.shape he
    cases rest with
    | nil =>
      simp only [walkOn]
      exact sim_afterWalk hc hm hr
    | cons m r' =>
      simp only [walkOn]
      cases hk : kindOf s.heap o with
      | true =>
        simp only [if_true]
        exact sim_stay hc hc.same rfl ⟨π ++ [n], ⟨hr, kindOf_true hk⟩, by simp, by simpa [List.append_assoc] using hm⟩
          (hcr := fun h => by rw [hpcw] at h; cases h)
      | false =>
        simp only [Bool.false_eq_true, if_false]
        obtain ⟨d, hd'⟩ := entryOf_of_okind_false (kindOf_false_lt hlt hk)
        have hA : absT s.heap (π ++ [n]) = some (.file d) := by rw [absT_of_resolve hr]; exact hd'
        have hT : T0 (π ++ [n]) = some (.file d) := hc.pfx_file hx (hxc.trans hpx) hA
        have hT' : T0 (π ++ n :: m :: r') = none := by
          rw [show π ++ n :: m :: r' = (π ++ [n]) ++ (m :: r') by simp]
          exact hc.hyp.wf.closed.below_none _ _ (by simp) (by rw [hT]; simp)
        exact sim_walk_fail hc hpcw hm hT'

theorem step_rData {f} : StepOK (.rData f) := by
  intro T0 progs s τ P th i hc hpc hinv h' r hs' hap
  obtain ⟨p, hop, hf⟩ := hinv
  subst hop
  obtain ⟨rfl, ⟨hn, _⟩ | ⟨ff, hff, _, rfl⟩⟩ := act_getData hap
  · obtain ⟨ff, hff⟩ := getFile_of_okind hf.2
    rw [hff] at hn; cases hn
  simp only [resume]
  have hown : absT s.heap p = T0 p := hc.own_R rfl
  have hA : absT s.heap p = some (.file ff.data) := by rw [absT_of_resolve hf.1]; exact entryOf_of_getFile hff
  refine sim_fin hc ?_ (effOf_read rfl) rfl
  simp [ResOK, ← hown, hA]

theorem step_rList {d} : StepOK (.rList d) := by
  intro T0 progs s τ P th i hc hpc hinv h' r hs' hap
  obtain ⟨p, hop, hd⟩ := hinv
  subst hop
  obtain ⟨dd, hdd⟩ := hd.getDir
  obtain ⟨rfl, rfl⟩ := act_snapshot hdd hap
  simp only [resume]
  have hinvd := hc.shape.inv d dd hdd
  have hown : ∀ q, p <+: q → absT s.heap q = T0 q := fun q hq => hc.own (x := p) (by simp [Op.owned, Op.R]) hq
  refine sim_fin hc ?_ (effOf_read rfl) rfl
  have hTp : T0 p = some .dir := by rw [← hown p (List.prefix_refl _)]; exact hd.abs
  simp only [ResOK, hTp]
  refine ⟨_, rfl, ?_, ?_⟩
  · simp only [List.map_map]
    exact hinvd.1
  · intro n b
    rw [← hown (p ++ [n]) (List.prefix_append _ _)]
    simp only [List.map_map, List.mem_map, Function.comp, Prod.mk.injEq]
    constructor
    · rintro ⟨⟨m, c⟩, hmem, rfl, rfl⟩
      have hidx := (hinvd.2 m c).2 hmem
      have he : edge s.heap d m = some c := by rw [edge_eq_index hdd]; exact hidx
      obtain ⟨hr, hlt⟩ := hd.child hc.shape he
      rw [absT_of_resolve hr]
      exact entry_isDir_kindOf hlt
    · intro hx
      cases he : edge s.heap d n with
      | none => rw [hd.abs_child_none he] at hx; simp at hx
      | some c =>
        obtain ⟨hr, hlt⟩ := hd.child hc.shape he
        rw [absT_of_resolve hr, entry_isDir_kindOf hlt] at hx
        simp at hx
        refine ⟨(n, c), (hinvd.2 n c).1 (by rw [← edge_eq_index hdd]; exact he), rfl, hx⟩

theorem step_rmLook {o n} : StepOK (.rmLook o n) := by
  intro T0 progs s τ P th i hc hpc hinv h' r hs' hap
  obtain ⟨π, hd, hop⟩ := hinv
  subst hop
  obtain ⟨rfl, rfl⟩ := act_lookup hap
  have hown : absT s.heap (π ++ [n]) = T0 (π ++ [n]) :=
    hc.own_W rfl
  cases he : edge s.heap o n with
  | none =>
    simp only [Option.map_none, resume]
    have hT : T0 (π ++ [n]) = none := by rw [← hown]; exact hd.abs_child_none he
    have := rm_fail (Or.inl rfl) hT
    exact sim_fin hc this.1 this.2.1 this.2.2
  | some c =>
    cases hk : kindOf s.heap c with
    | true =>
      simp only [Option.map_some, hk, resume, if_true]
      exact sim_stay hc hc.same rfl ⟨π, hd, rfl, hd.child_dir hc.shape he hk⟩
    | false =>
      simp only [Option.map_some, hk, resume, Bool.false_eq_true, if_false]
      obtain ⟨dat, hdat⟩ := (hd.child_file hc.shape he hk).abs
      refine sim_stay hc hc.same rfl ⟨π, hd, Or.inr ⟨rfl, by simp, Or.inl ⟨dat, ?_⟩⟩⟩
      rw [← hown]; exact hdat

theorem step_rmLen {o c n} : StepOK (.rmLen o n c) := by
  intro T0 progs s τ P th i hc hpc hinv h' r hs' hap
  obtain ⟨π, hd, hop, hcd⟩ := hinv
  subst hop
  obtain ⟨dc, hdc⟩ := hcd.getDir
  obtain ⟨rfl, rfl⟩ := act_readLen hdc hap
  have hinvc := hc.shape.inv c dc hdc
  have hown : ∀ q, (π ++ [n]) <+: q → absT s.heap q = T0 q :=
    fun q hq => hc.own (x := π ++ [n]) (by simp [Op.owned, Op.W]) hq
  have hTp : T0 (π ++ [n]) = some .dir := by rw [← hown _ (List.prefix_refl _)]; exact hcd.abs
  simp only [resume]
  by_cases hlen : dc.nodes.length = 0
  · simp only [hlen, if_true]
    have hnil : dc.nodes = [] := List.eq_nil_of_length_eq_zero hlen
    refine sim_stay hc hc.same rfl ⟨π, hd, Or.inr ⟨rfl, by simp, Or.inr ⟨hTp, ?_⟩⟩⟩
    intro m
    rw [← hown _ (List.prefix_append _ _)]
    apply hcd.abs_child_none
    rw [edge_eq_index hdc]
    cases hx : dc.index m with
    | none => rfl
    | some x => have := (hinvc.2 m x).1 hx; rw [hnil] at this; cases this
  · simp only [hlen, if_false]
    have hns : ¬ succ T0 (.remove (π ++ [n])) := by
      rintro ⟨_, ⟨d', hd'⟩ | ⟨_, hall⟩⟩
      · rw [hTp] at hd'; cases hd'
      · cases hnodes : dc.nodes with
        | nil => rw [hnodes] at hlen; exact hlen rfl
        | cons mx rest =>
          obtain ⟨m, x⟩ := mx
          have hidx := (hinvc.2 m x).2 (by rw [hnodes]; simp)
          have he : edge s.heap c m = some x := by rw [edge_eq_index hdc]; exact hidx
          exact hcd.abs_child_ne_none hc.shape he (by rw [hown _ (List.prefix_append _ _)]; exact hall m)
    exact sim_fin hc (Or.inr ⟨hns, rfl⟩) (effOf_fail hns) rfl

theorem step_rmDo {o n} : StepOK (.rmDo o n) := by
  intro T0 progs s τ P th i hc hpc hinv h' r hs' hap
  obtain ⟨π, hd, hop⟩ := hinv
  obtain ⟨dd, hdd⟩ := hd.getDir
  have hW : i.W = some (π ++ [n]) := by rcases hop with rfl | ⟨rfl, _⟩ <;> rfl
  have hown : absT s.heap (π ++ [n]) = T0 (π ++ [n]) := hc.own_W hW
  rcases act_removeNode (hc.shape.inv o dd hdd) hdd hap with ⟨hi, rfl, rfl⟩ | ⟨hi, dd', hrem, rfl, rfl⟩
  · have hT : T0 (π ++ [n]) = none := by
      rw [← hown]; apply hd.abs_child_none; rw [edge_eq_index hdd]; exact hi
    have := rm_fail (p := π ++ [n]) (hop.elim Or.inr fun h => Or.inl h.1) hT
    exact sim_fin hc this.1 this.2.1 this.2.2
  · simp only [resume]
    have hsucc : succ T0 i := by
      rcases hop with rfl | ⟨rfl, hok⟩
      · refine ⟨by simp, ?_⟩
        rw [← hown]
        cases hx : dd.index n with
        | none => exact absurd hx hi
        | some c => exact hd.abs_child_ne_none hc.shape (by rw [edge_eq_index hdd]; exact hx)
      · exact hok
    exact sim_graft hc (HeapStep.remEdge hc.shape hd.1 hdd hrem) hd hsucc
      (by rcases hop with rfl | ⟨rfl, _⟩ <;> rfl) rfl
      (by rcases hop with rfl | ⟨rfl, _⟩ <;> exact Or.inl ⟨hsucc, rfl⟩)

end Goat.MemFSConc
