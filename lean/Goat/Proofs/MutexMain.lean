/-
Lock layer: the vocabulary of `Props/C15`, progress, and the invariant read on `sys v maps`.  A holder that cannot
move awaits a row that another holder obstructs (`blocked`); with sorted request lists the holder whose awaited name
is greatest is therefore never blocked (deadlock freedom), and neither is one whose map is compatible with all
others.  All of it for any lock table with `LInv v`, either variant.
-/
import Goat.Proofs.MutexInv

namespace Goat.Mutex

open Goat.LTS

def InsideAt (s : State) (i : Nat) : Prop := ∃ h, s[i]? = some h ∧ h.pc = .inside

def ActiveAt (s : State) (i : Nat) : Prop := ∃ h, s[i]? = some h ∧ h.pc ≠ .done

/-- holder number `i` currently holds row `r` (acquired and not yet released) -/
def HoldsAt (s : State) (i : Nat) (r : Row) : Prop := ∃ h, s[i]? = some h ∧ r ∈ h.held

def AllDone (s : State) : Prop := ∀ h ∈ s, h.pc = .done

/-- a common name is read on both sides -/
def MapsCompatible (mi mj : LockMap) : Prop :=
  ∀ m w1 w2, (m, w1) ∈ mi → (m, w2) ∈ mj → w1 = false ∧ w2 = false

theorem conflictRows_isSome_iff {a b : List Row} :
    (conflictRows a b).isSome = true ↔
      ∃ m w1 w2, (m, w1) ∈ a ∧ (m, w2) ∈ b ∧ (w1 = true ∨ w2 = true) := by
  simp only [conflictRows, Option.isSome_map, List.find?_isSome, List.any_eq_true, Bool.and_eq_true,
    beq_iff_eq, Bool.or_eq_true]
  constructor
  · rintro ⟨⟨m, w1⟩, ha, ⟨m2, w2⟩, hb, hm, hw⟩
    subst hm
    exact ⟨m, w1, w2, ha, hb, hw⟩
  · rintro ⟨m, w1, w2, ha, hb, hw⟩
    exact ⟨(m, w1), ha, (m, w2), hb, rfl, hw⟩

theorem conflictRows_none_iff {a b : List Row} :
    conflictRows a b = none ↔ MapsCompatible a b := by
  rw [← Option.not_isSome_iff_eq_none, conflictRows_isSome_iff]
  simp only [MapsCompatible, not_exists, not_and, not_or, Bool.not_eq_true]

theorem blocked {v : Variant} {s : State} (hinv : LInv v s) {i : Nat} {h : Holder} (hi : s[i]? = some h)
    (hst : step v s i = none) : Halted s h := by
  cases v with
  | plain => exact stepPlain_cases (r := none) (by simpa [step, hi] using hst)
  | pref => exact stepPref_cases (r := none) (by simpa [step, hi] using hst) fun m => PInv.parked hinv i h m hi

theorem exists_max {α} (f : α → Nat) : ∀ (l : List α), l ≠ [] → ∃ x ∈ l, ∀ y ∈ l, f y ≤ f x
  | [a], _ => ⟨a, by simp, by simp⟩
  | a :: b :: r, _ => by
    obtain ⟨x, hx, hmax⟩ := exists_max f (b :: r) (by simp)
    by_cases hle : f a ≤ f x
    · exact ⟨x, List.mem_cons_of_mem _ hx, fun y hy =>
        (List.mem_cons.mp hy).elim (fun e => e ▸ hle) (hmax y)⟩
    · exact ⟨a, by simp, fun y hy =>
        (List.mem_cons.mp hy).elim (fun e => e ▸ Nat.le_refl _) fun hy => by have := hmax y hy; omega⟩

/-- the name a holder is waiting for (0 when it is not acquiring) -/
def awaitedName (h : Holder) : Nat :=
  match h.pc with
  | .acq k _ => match h.req[k]? with | some (m, _) => m | none => 0
  | _ => 0

theorem awaitedName_eq {h : Holder} {k : Nat} {ph : Phase} {m : Name} {w : Bool}
    (hpc : h.pc = .acq k ph) (hr : h.req[k]? = some (m, w)) : awaitedName h = m := by
  simp [awaitedName, hpc, hr]

/-- among the unfinished holders the one whose awaited name is greatest can move: whoever obstructed it
would itself await a greater name -/
theorem deadlock_free_state {v : Variant} {s : State} (hinv : LInv v s)
    (hactive : ¬ AllDone s) : ∃ i, (step v s i).isSome = true := by
  apply Classical.byContradiction
  intro hno
  have stuck : ∀ (j : Nat) (g : Holder), s[j]? = some g → g.pc ≠ .done → Obstructed s g := fun j g hg hd =>
    (blocked hinv hg (by simpa using fun h => hno ⟨j, h⟩)).resolve_left hd
  obtain ⟨h0, hm0, hd0⟩ : ∃ h ∈ s, h.pc ≠ .done := by simpa [AllDone] using hactive
  obtain ⟨x, hx, hmax⟩ := exists_max awaitedName (s.filter (·.pc ≠ .done))
    (List.ne_nil_of_mem (List.mem_filter.mpr ⟨hm0, by simpa using hd0⟩))
  obtain ⟨hxm, hxd⟩ := List.mem_filter.mp hx
  obtain ⟨ix, hix⟩ := List.mem_iff_getElem?.mp hxm
  obtain ⟨k, ph, m, w, hpc, hrow, j, g, hg, hob⟩ := stuck ix x hix (by simpa using hxd)
  rw [awaitedName_eq hpc hrow] at hmax
  have nohold : ∀ (j : Nat) (g : Holder) w', s[j]? = some g → (m, w') ∉ g.held := by
    intro j g w' hg hheld
    have hd := not_done_of_held hheld
    obtain ⟨k', ph', m', w2, hpc', hrow', _⟩ := stuck j g hg hd
    have hlt : m < m' := held_lt_awaited (hinv.sorted g (List.mem_of_getElem? hg)) hpc' hheld hrow'
    have hle := hmax g (List.mem_filter.mpr ⟨List.mem_of_getElem? hg, by simpa using hd⟩)
    rw [awaitedName_eq hpc' hrow'] at hle
    exact Nat.lt_irrefl _ (Nat.lt_of_lt_of_le hlt hle)
  rcases hob with ⟨w', hh, _⟩ | ⟨_, ha⟩
  · exact nohold j g w' hg hh
  · -- an announced writer is itself obstructed, and only by a holder of the name
    obtain ⟨k', hpc', hrow'⟩ := announcedOn_iff.mp ha
    obtain ⟨k2, ph2, m2, w2, hpc2, hrow2, j2, g2, hg2, hob2⟩ := stuck j g hg (by simp [hpc'])
    rw [hpc'] at hpc2; cases hpc2
    rw [hrow'] at hrow2; cases hrow2
    rcases hob2 with ⟨w', hh, _⟩ | ⟨hne, _⟩
    · exact nohold j2 g2 w' hg2 hh
    · exact hne rfl

theorem compatible_enabled {v : Variant} {s : State} (hinv : LInv v s) {i : Nat} (hact : ActiveAt s i)
    (hc : ∀ h, s[i]? = some h → ∀ (j : Nat) (g : Holder), j ≠ i → s[j]? = some g → MapsCompatible h.req g.req) :
    (step v s i).isSome = true := by
  obtain ⟨h, hi, hd⟩ := hact
  have hc := hc h hi
  cases hst : step v s i with
  | some _ => rfl
  | none =>
    exfalso
    obtain ⟨k, ph, m, w, hpc, hrow, j, g, hg, hob⟩ := (blocked hinv hi hst).resolve_left hd
    by_cases hji : j = i
    · -- it does not obstruct itself: it holds no row named `m` and has not announced before itself
      subst hji
      rw [hi] at hg; cases hg
      rcases hob with ⟨w', hh, _⟩ | ⟨hne, ha⟩
      · have := held_lt_awaited (hinv.sorted h (List.mem_of_getElem? hi)) hpc hh hrow
        exact Nat.lt_irrefl _ this
      · obtain ⟨k', hpc', _⟩ := announcedOn_iff.mp ha
        rw [hpc] at hpc'; cases hpc'; exact hne rfl
    · have hmem := List.mem_of_getElem? hrow
      rcases hob with ⟨w', hh, hw⟩ | ⟨_, ha⟩
      · have := hc j g hji hg m w w' hmem (held_sub_req g hh)
        simp [this.1, this.2] at hw
      · cases (hc j g hji hg m w true hmem (present_row (present_iff.mpr (.inl ha)))).2

theorem linv_run {v : Variant} {maps : List LockMap} (hmaps : ∀ m ∈ maps, NodupNames m) (sched : List Nat) :
    LInv v ((sys v maps).run sched) :=
  linv_runRaw (fun _ hr => let ⟨m, hm, e⟩ := List.mem_map.mp hr; e ▸ sorted_sortRows (hmaps m hm)) sched

theorem reqsOf_run (v : Variant) (maps : List LockMap) (sched : List Nat) :
    reqsOf ((sys v maps).run sched) = maps.map sortRows :=
  reqsOf_reachable (run_reachable _ sched)

theorem req_of_reqs {maps : List LockMap} {s : State} (hr : reqsOf s = maps.map sortRows)
    {i : Nat} {h : Holder} (hi : s[i]? = some h) : ∃ mi, maps[i]? = some mi ∧ h.req = sortRows mi := by
  have hg := reqsOf_get hi
  rw [hr, List.getElem?_map] at hg
  cases hm : maps[i]? with
  | none => simp [hm] at hg
  | some mi => exact ⟨mi, rfl, by simpa [hm] using hg.symm⟩

theorem inside_compatible {maps : List LockMap} {s : State} (hx : Excl s) (hr : reqsOf s = maps.map sortRows)
    {i j : Nat} (hne : i ≠ j) {mi mj : LockMap} (hmi : maps[i]? = some mi) (hmj : maps[j]? = some mj)
    (in1 : InsideAt s i) (in2 : InsideAt s j) : MapsCompatible mi mj := by
  obtain ⟨hi, h1, p1⟩ := in1
  obtain ⟨hj, h2, p2⟩ := in2
  obtain ⟨mi', e1, q1⟩ := req_of_reqs hr h1
  obtain ⟨mj', e2, q2⟩ := req_of_reqs hr h2
  rw [hmi] at e1; cases e1
  rw [hmj] at e2; cases e2
  intro m w1 w2 r1 r2
  exact excl_inside hx hne h1 h2 p1 p2 (q1 ▸ mem_sortRows.mpr r1) (q2 ▸ mem_sortRows.mpr r2)

theorem Excl.rows {s : State} (hx : Excl s) {i j : Nat} (hne : i ≠ j) {m : Name} {w : Bool}
    (h1 : HoldsAt s i (m, true)) : ¬ HoldsAt s j (m, w) := by
  obtain ⟨hi, g1, r1⟩ := h1
  rintro ⟨hj, g2, r2⟩
  exact hx i j hi hj hne g1 g2 m w r1 r2

theorem compatible_of_maps {maps : List LockMap} {s : State} (hr : reqsOf s = maps.map sortRows) {i : Nat}
    (hc : ∀ mi, maps[i]? = some mi → ∀ j mj, j ≠ i → maps[j]? = some mj → MapsCompatible mi mj)
    {h : Holder} (hi : s[i]? = some h) (j : Nat) (g : Holder) (hji : j ≠ i) (hg : s[j]? = some g) :
    MapsCompatible h.req g.req := by
  obtain ⟨mi, e1, q1⟩ := req_of_reqs hr hi
  obtain ⟨mj, e2, q2⟩ := req_of_reqs hr hg
  intro m w1 w2 r1 r2
  exact hc mi e1 j mj hji e2 m w1 w2 (mem_sortRows.mp (q1 ▸ r1)) (mem_sortRows.mp (q2 ▸ r2))

theorem stuck_iff {v : Variant} {reqs : List (List Row)} {s : State} :
    Stuck (sysRaw v reqs) s ↔ ∀ i < s.length, step v s i = none := by
  refine ⟨fun h i _ => h i, fun h i => ?_⟩
  by_cases hi : i < s.length
  · exact h i hi
  · simp [sysRaw, step, List.getElem?_eq_none (Nat.le_of_not_lt hi)]

theorem can_finish {v : Variant} {reqs : List (List Row)} {s : State} (hinv : LInv v s) :
    ∃ more : List Nat, AllDone ((sysRaw v reqs).runFrom s more) :=
  can_reach_final (sysRaw v reqs) (LInv v) AllDone remaining
    (fun _ _ _ hi hst => ⟨linv_step hi hst, remaining_step hst⟩)
    (fun _ hi hf => deadlock_free_state hi hf) s hinv

theorem remaining_init (maps : List LockMap) :
    remaining (init maps) = (maps.map fun m => 4 * m.length + 4).sum := by
  induction maps with
  | nil => rfl
  | cons m ms ih =>
    simp only [remaining, init, initRaw, List.map_cons, List.sum_cons, List.map_map] at ih ⊢
    simp [Holder.remaining, phaseCost, length_sortRows]
    omega

end Goat.Mutex
