/-
Outside the precondition the disk filespace model refuses (`step_refused`): a call outside `Pre` that is not one
of the `Tolerated` ones answers `err` and leaves every path as it was.
-/
import Goat.Proofs.DiskFSStep

namespace Goat
namespace DiskFS

open Path (Name norm)
open FS (Op Result Entry State TreeLike)

section
variable {r : HPath} {H : Host} (hwf : H.WF) (hroot : H.get r = some .dir)
include hwf hroot

/-- A file is refused when `Create(dst)` fails; a directory onto a file when the copying loop's first `MkdirAll(dst)`
fails, after `MkdirAll(Dir(dst))` found nothing to do. -/
theorem copyBy_refused (k : FS.CopyKind) (s d : List Name)
    (hnp : ¬ ((k ≠ .dirOnly → FileCopyPre r H.get s d) ∧ (k ≠ .fileOnly → DirCopyPre r H.get s d)))
    (hnt : ¬ ((k ≠ .dirOnly ∧ isFileE (H.get (r ++ s)) = true ∧ isFileE (H.get (r ++ d)) = true)
      ∨ (k ≠ .fileOnly ∧ H.get (r ++ s) = some .dir ∧ H.get (r ++ d) = some .dir))) :
    ∃ H1, copyBy k H (full r s) (full r d) = (H1, false) ∧ H1.get = H.get := by
  cases hg : H.get (r ++ s) with
  | none => exact absurd ⟨fun _ => by simp [FileCopyPre, hg, isFileE], fun _ => by simp [DirCopyPre, hg]⟩ hnp
  | some e =>
    cases e with
    | file x =>
      have hD : DirCopyPre r H.get s d := by simp [DirCopyPre, hg]
      have hk : k ≠ .dirOnly := fun hk => hnp ⟨fun h => absurd hk h, fun _ => hD⟩
      have hF : ¬ FileCopyPre r H.get s d := fun h => hnp ⟨fun _ => h, fun _ => hD⟩
      simp only [FileCopyPre, hg, isFileE, forall_const, not_or] at hF
      have ho : osOpenTrunc H (full r d) = none := by
        rw [osOpenTrunc_eq, if_neg]
        rintro ⟨_, _, hpar, hnd⟩
        rw [full_path, List.dropLast_append_of_ne_nil hF.1] at hpar
        cases hgd : H.get (r ++ d) with
        | none => exact hF.2 ⟨hpar, hgd⟩
        | some e =>
          cases e with
          | dir => exact hnd hgd
          | file y => exact hnt (Or.inl ⟨hk, by simp [hg, isFileE], by simp [hgd, isFileE]⟩)
      have hc : copyFile H (full r s) (full r d) = (H, false) := by simp [copyFile, osStat_full hroot, hg, ho]
      refine ⟨H, ?_, rfl⟩
      cases k
      · simp [copyBy, copyAny, isDir, osStat_full hroot, hg, hc]
      · exact absurd rfl hk
      · simp [copyBy, hc]
    | dir =>
      have hF : FileCopyPre r H.get s d := by simp [FileCopyPre, hg, isFileE]
      have hk : k ≠ .fileOnly := fun hk => hnp ⟨fun _ => hF, fun h => absurd hk h⟩
      have hD : ¬ DirCopyPre r H.get s d := fun h => hnp ⟨fun _ => hF, fun _ => h⟩
      simp only [DirCopyPre, hg, forall_const] at hD
      obtain ⟨y, hd⟩ : ∃ y, H.get (r ++ d) = some (.file y) := by
        cases hgd : H.get (r ++ d) with
        | none => exact absurd hgd hD
        | some e =>
          cases e with
          | dir => exact absurd (Or.inr ⟨hk, hg, hgd⟩) hnt
          | file y => exact ⟨y, rfl⟩
      have hdne : d ≠ [] := by
        intro hc; subst hc; rw [List.append_nil, hroot] at hd; cases hd
      have hne : r ++ d ≠ [] := List.append_ne_nil_of_right_ne_nil _ hdne
      have hpar : H.get (r ++ d).dropLast = some .dir :=
        (Host.wf_treeLike hwf).closed.prefix_dir (List.dropLast_prefix _) (dropLast_ne_self hne) (by simp [hd])
      obtain ⟨H1, hm1, hwf1, hget1⟩ := osMkdirAll_dir hwf _ hpar
      have hst : osStat H (full r s) = some .dir := by rw [osStat_full hroot, hg]
      have hno : ¬ FS.mkdirOk H1.get (r ++ d) := fun hok =>
        hok _ (List.prefix_refl _) y (by rw [hget1]; exact hd)
      have hc : copyDir H (full r s) (full r d) = (H1, false) := by
        rw [full_eq r d hdne]
        simp only [copyDir, hst]
        rw [show (HP.dir ⟨r ++ d, false⟩).path = (r ++ d).dropLast from rfl, hm1]
        simp only [copyNodes, HP.join, List.append_nil, osMkdirAll_fail hwf1 _ hno]
      refine ⟨H1, ?_, hget1⟩
      cases k
      · simp [copyBy, copyAny, (isDir_full hroot s).mpr hg, hc]
      · exact hc
      · exact absurd rfl hk

end

theorem refused_eff {H H1 : Host} {e : Eff} (hc : e = (H1, false)) (hget1 : H1.get = H.get) :
    (okErr e).2 = .val .err ∧ (okErr e).1.get = H.get := by
  subst hc; exact ⟨rfl, hget1⟩

theorem step_refused (r : HPath) (H : Host) (hwf : H.WF) (hroot : H.get r = some .dir) (op : Op)
    (hnp : ¬ Pre r H.get op) (hnt : ¬ Tolerated r H.get op) :
    (step r H op).2 = .val .err ∧ (step r H op).1.get = H.get := by
  simp only [Pre, hroot, true_and] at hnp
  unfold Tolerated at hnt
  cases op with
  | writer raw chunks =>
    dsimp only [step]
    cases hn : norm raw with
    | none => simp [hn] at hnp
    | some p =>
      simp only [hn, not_or] at hnp
      obtain ⟨hp, hpar⟩ := hnp
      have : osOpenTrunc H (full r p) = none := by
        rw [osOpenTrunc_eq, if_neg]
        rintro ⟨_, _, hpar', _⟩
        rw [full_path, List.dropLast_append_of_ne_nil hp] at hpar'
        exact hpar hpar'
      simp [this]
  | removeAll raw =>
    exfalso
    cases hn : norm raw with
    | none => simp [hn] at hnp
    | some p =>
      simp only [hn, not_or] at hnp hnt
      exact hnp.2 hnt
  | reader raw sizes =>
    dsimp only [step]
    cases hn : norm raw with
    | none => simp [hn] at hnp
    | some p =>
      simp only [hn] at hnp hnt
      have hdir : H.get (r ++ p) = some .dir := Classical.not_not.mp hnp
      simp only [osStat_full hroot, hdir]
      have : ¬ sizes.all (· == 0) = true := fun hc => hnt ⟨hdir, hc⟩
      simp [this]
  | lstat raw =>
    exfalso
    cases hn : norm raw with
    | none => simp [hn] at hnp
    | some p =>
      simp only [hn] at hnp hnt
      exact hnp hnt
  | filespace raw =>
    dsimp only [step]
    cases hn : norm raw with
    | none => simp [hn] at hnp
    | some p =>
      simp only [hn] at hnp
      have : isDir H (full r p) = false := by
        cases hd : isDir H (full r p) with
        | false => rfl
        | true => exact absurd ((isDir_full hroot p).mp hd) hnp
      simp [this]
  | copyFile rs rd =>
    dsimp only [step]
    cases hs : norm rs with
    | none => simp [hs] at hnp
    | some s =>
      cases hd : norm rd with
      | none => simp [hs, hd] at hnp
      | some d =>
        simp only [hs, hd] at hnp hnt
        obtain ⟨H1, hc, hget1⟩ := copyBy_refused hwf hroot .fileOnly s d (fun h => hnp (h.1 nofun))
          fun h => h.elim (fun h => hnt h.2) fun h => h.1 rfl
        exact refused_eff hc hget1
  | copyDirectory rs rd =>
    dsimp only [step]
    cases hs : norm rs with
    | none => simp [hs] at hnp
    | some s =>
      cases hd : norm rd with
      | none => simp [hs, hd] at hnp
      | some d =>
        simp only [hs, hd] at hnp hnt
        obtain ⟨H1, hc, hget1⟩ := copyBy_refused hwf hroot .dirOnly s d (fun h => hnp (h.2 nofun))
          fun h => h.elim (fun h => h.1 rfl) fun h => hnt h.2
        simp only [copyDirectory_eq hwf]
        exact refused_eff hc hget1
  | copy rs rd =>
    dsimp only [step]
    cases hs : norm rs with
    | none => simp [hs] at hnp
    | some s =>
      cases hd : norm rd with
      | none => simp [hs, hd] at hnp
      | some d =>
        simp only [hs, hd] at hnp hnt
        obtain ⟨H1, hc, hget1⟩ := copyBy_refused hwf hroot .any s d (fun h => hnp ⟨h.1 nofun, h.2 nofun⟩)
          fun h => hnt (h.imp And.right And.right)
        simp only [copy_eq hwf]
        exact refused_eff hc hget1
  -- the other methods have no precondition beyond the filespace's directory
  | _ => exact absurd trivial hnp

end DiskFS
end Goat
