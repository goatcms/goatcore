/-
Absence of deadlock in the repaired lock order: the discipline (`Ordered`, `NoLeak`), why a critical section
waits (`applyAct_blocked`), `no_deadlock_core`; Boolean versions of the notions for concrete states, and the
witness programs and schedules of the deadlocks and counterexamples stated in `Props/C09`.
-/
import Goat.Proofs.MemFSConcLock

namespace Goat.MemFSConc

/-- the file whose `dataMU` an act has to acquire -/
def dataAct : Act → Option Oid
  | .getData f => some f
  | .setData f _ => some f
  | .copyFile f => some f
  | .openH f _ => some f
  | _ => none

/-- The discipline: a thread that requests a file's data lock holds (through open handles) only
files with a smaller object id (in particular not that file; "holds no handle" is the special case). -/
def Ordered (v : Variant) (s : State) : Prop :=
  ∀ t th f, s.threads[t]? = some th → dataAct (actOf v th.pc) = some f →
    ∀ g gg, getFile s.heap g = some gg → gg.lock = some t → g < f

/-- a thread that has run to completion has closed its handles -/
def NoLeak (s : State) : Prop :=
  ∀ g gg t, getFile s.heap g = some gg → gg.lock = some t → unfinished s t = true

/-- why a critical section has to wait (all `mu` free): the directory lock or a file's data lock is
held -/
theorem applyAct_blocked {h : Heap} {t : Tid} {a : Act}
    (hmu : ∀ d dd, getDir h d = some dd → dd.muR = []) (hn : applyAct h t a = none) :
    (∃ d dd t2, a = .outerLock d ∧ getDir h d = some dd ∧ dd.outer = some t2) ∨
    (∃ f ff t2, dataAct a = some f ∧ getFile h f = some ff ∧ ff.lock = some t2) := by
  unfold applyAct at hn
  rw [Option.map_eq_none_iff] at hn
  cases a <;> simp only [actEff] at hn <;> (repeat' split at hn) <;>
    simp only [reduceCtorEq] at hn
  -- `none` comes from a directory whose `mu` is not free (impossible: `hmu`), a held outer lock or a held file
  all_goals first
    | (rename_i dd hdd hfree
       have := hmu _ dd hdd
       simp [muFree, this] at hfree; done)
    | exact Or.inl ⟨_, _, _, rfl, ‹_›, ‹_›⟩
    | exact Or.inr ⟨_, _, _, rfl, ‹_›, ‹_›⟩

/-- inside a directory's outer critical section the repaired code never waits -/
theorem holds_act {v : Variant} {pc : Pc} {d : Oid} (hw : v.writerUnderDir = false)
    (hf : v.writeFileUnderDir = false) (ho : Pc.inVariant v pc) (h : holdsOuter pc = some d) :
    (∀ x, actOf v pc ≠ .outerLock x) ∧ dataAct (actOf v pc) = none := by
  -- inside the section: `wLook`/`oLook` (lookup), `wAdd`/`oAdd` (addNewFile), the three unlocking program counters
  -- (outerUnlock); `wSetLocked`/`oOpenLocked` (setData/openH, the waits) are not in a variant with both flags off
  cases pc <;> simp only [holdsOuter, reduceCtorEq] at h <;> simp only [Pc.inVariant, hw, hf, Bool.false_eq_true] at ho <;>
    simp [actOf, dataAct]

theorem unfinished_thread {s : State} {t : Tid} (h : unfinished s t = true) :
    ∃ th, s.threads[t]? = some th ∧ th.finished = false := by
  cases hth : s.threads[t]? with
  | none => simp [unfinished, hth] at h
  | some th => exact ⟨th, rfl, by simpa [unfinished_eq hth] using h⟩

/-- In the repaired lock order a state in which some thread has work left is never stuck, provided
the discipline holds in it. -/
theorem no_deadlock_core {v : Variant} {s : State} (hi : LInv v s)
    (hw : v.writerUnderDir = false) (hf : v.writeFileUnderDir = false) (hc : v.copyDirHoldsMu = false)
    (hord : Ordered v s) (hleak : NoLeak s) {t0 : Tid} (hun : unfinished s t0 = true) :
    ∃ t, (step v s t).isSome = true := by
  apply Classical.byContradiction
  intro hne
  have hall : ∀ t, step v s t = none := by
    intro t
    cases hst : step v s t with
    | none => rfl
    | some x => exact absurd ⟨t, by simp [hst]⟩ hne
  have hmu := hi.mu hc
  have houter : ∀ d dd t, getDir s.heap d = some dd → dd.outer = some t → False := by
    intro d dd t hg ho
    obtain ⟨th, hth, hh⟩ := hi.outer d dd t hg ho
    have hold := hi.old th (List.mem_of_getElem? hth)
    obtain ⟨h1, h2⟩ := holds_act hw hf hold hh
    rcases step_none hth (hall t) with hfin | hblk
    · rw [(finished_iff.1 hfin).1] at hh; cases hh
    · rcases applyAct_blocked hmu hblk with ⟨x, _, _, ha, _, _⟩ | ⟨f, _, _, ha, _, _⟩
      · exact h1 x ha
      · rw [h2] at ha; cases ha
  have hwait : ∀ (t : Tid) (th : Thread), s.threads[t]? = some th → th.finished = false →
      ∃ f ff t2, dataAct (actOf v th.pc) = some f ∧ getFile s.heap f = some ff ∧ ff.lock = some t2 := by
    intro t th hth hnf
    rcases step_none hth (hall t) with hfin | hblk
    · rw [hnf] at hfin; cases hfin
    · rcases applyAct_blocked hmu hblk with ⟨d, dd, t2, _, hg, ho⟩ | hx
      · exact absurd ho (fun ho => houter d dd t2 hg ho)
      · exact hx
  -- follow the holders: the holder `t2` of the awaited file `f` waits too, for a file `g`; `Ordered` gives `f < g`,
  -- and ids are below `heap.length`: induction on a bound `k` of `heap.length - f`
  have chain : ∀ (k : Nat) (f : Nat) (t : Tid) (th : Thread), s.threads[t]? = some th → th.finished = false →
      dataAct (actOf v th.pc) = some f → s.heap.length - f < k → False := by
    intro k
    induction k with
    | zero => intro _ _ _ _ _ _ hk; exact Nat.not_lt_zero _ hk
    | succ k ih =>
      intro f t th hth hnf hda hk
      obtain ⟨f', ff, t2, hda', hg, hl⟩ := hwait t th hth hnf
      rw [hda] at hda'; cases hda'
      obtain ⟨th2, hth2, hnf2⟩ := unfinished_thread (hleak f ff t2 hg hl)
      obtain ⟨g, gg, t3, hda2, hg2, _⟩ := hwait t2 th2 hth2 hnf2
      have hlt : f < g := hord t2 th2 g hth2 hda2 f ff hg hl
      have hgl : g < s.heap.length := getFile_lt_len hg2
      have hfl : f < s.heap.length := getFile_lt_len hg
      exact ih g t2 th2 hth2 hnf2 hda2 (by omega)
  obtain ⟨th0, hth0, hnf0⟩ := unfinished_thread hun
  obtain ⟨f, _, _, hda, _, _⟩ := hwait t0 th0 hth0 hnf0
  exact chain (s.heap.length + 1) f t0 th0 hth0 hnf0 hda (by omega)

/-- all threads finished: every directory lock is free (and in the repaired `copyDir` nobody holds `mu`
across a wait); with `NoLeak` no file lock is held either -/
theorem quiescent_noLocks {v : Variant} {s : State} (hi : LInv v s) (hv : v.copyDirHoldsMu = false)
    (hq : ∀ t, unfinished s t = false) (hleak : NoLeak s) : NoLocks s.heap := by
  constructor
  · exact fun d dd hg => ⟨outer_free_of_quiescent hi hq hg, hi.mu hv d dd hg⟩
  · intro f ff hg
    cases hl : ff.lock with
    | none => rfl
    | some t =>
      have hu := hleak f ff t hg hl
      rw [hq t] at hu
      cases hu

def stuckB (v : Variant) (s : State) : Bool :=
  (List.range s.threads.length).all fun t => (step v s t).isNone

theorem stuck_of_stuckB {v : Variant} {s : State} (h : stuckB v s = true) : ∀ t, step v s t = none := by
  intro t
  by_cases ht : t < s.threads.length
  · have := List.all_eq_true.1 h t (List.mem_range.2 ht)
    simpa using this
  · unfold step
    rw [List.getElem?_eq_none (Nat.le_of_not_lt ht)]

def lockedBy (h : Heap) (t : Tid) (g : Nat) : Bool :=
  match getFile h g with
  | some gg => gg.lock == some t
  | none => false

def orderedB (v : Variant) (s : State) : Bool :=
  (List.range s.threads.length).all fun t =>
    match s.threads[t]? with
    | none => true
    | some th =>
      match dataAct (actOf v th.pc) with
      | none => true
      | some f => (List.range s.heap.length).all fun g => !(lockedBy s.heap t g) || decide (g < f)

theorem ordered_of_orderedB {v : Variant} {s : State} (h : orderedB v s = true) : Ordered v s := by
  intro t th f hth hda g gg hg hl
  have ht : t < s.threads.length := lt_of_getElem? hth
  have h1 := List.all_eq_true.1 h t (List.mem_range.2 ht)
  simp only [hth, hda] at h1
  have h2 := List.all_eq_true.1 h1 g (List.mem_range.2 (getFile_lt_len hg))
  simp only [lockedBy, hg, hl, beq_self_eq_true, Bool.not_true, Bool.false_or, decide_eq_true_eq] at h2
  exact h2

def noLeakB (s : State) : Bool :=
  (List.range s.heap.length).all fun g =>
    match getFile s.heap g with
    | some gg =>
      match gg.lock with
      | some t => unfinished s t
      | none => true
    | none => true

theorem noLeak_of_noLeakB {s : State} (h : noLeakB s = true) : NoLeak s := by
  intro g gg t hg hl
  have h1 := List.all_eq_true.1 h g (List.mem_range.2 (getFile_lt_len hg))
  simpa only [hg, hl] using h1

/-- a reachable deadlock that respects the discipline -/
def Deadlock (v : Variant) (progs : List (List Op)) (sched : List Tid) : Prop :=
  let s := (sys v progs).run sched
  (∀ t, step v s t = none) ∧ (∃ t, unfinished s t = true) ∧ Ordered v s ∧ NoLeak s

def deadlockB (v : Variant) (progs : List (List Op)) (sched : List Tid) : Bool :=
  let s := (sys v progs).run sched
  stuckB v s && (List.range s.threads.length).any (unfinished s) && orderedB v s && noLeakB s

theorem deadlock_of_deadlockB {v : Variant} {progs : List (List Op)} {sched : List Tid}
    (h : deadlockB v progs sched = true) : Deadlock v progs sched := by
  simp only [deadlockB, Bool.and_eq_true] at h
  obtain ⟨⟨⟨h1, h2⟩, h3⟩, h4⟩ := h
  refine ⟨stuck_of_stuckB h1, ?_, ordered_of_orderedB h3, noLeak_of_noLeakB h4⟩
  obtain ⟨t, _, ht⟩ := List.any_eq_true.1 h2
  exact ⟨t, ht⟩

/-- thread 0 opens a writer on d/f and, still holding it, touches directory d; thread 1 (`other`)
works on d/f or d concurrently -/
def wit_progs (other : Op) : List (List Op) :=
  [ [.openW 1 [[100], [102]], .writeFile [[100], [103]] [1], .close 1], [other] ]

/-- thread 0 until it holds the handle on d/f (9 steps; the example after `no_deadlock` in `Props/C09` checks
it), then thread 1 and thread 0 for more steps than either can take: a blocked step leaves the state as it is -/
def wit_sched : List Tid := List.replicate 9 0 ++ List.replicate 10 1 ++ List.replicate 10 0

/-- two threads stream a -> b and b -> a -/
def cross_progs : List (List Op) :=
  [ [.writeFile [[97]] [1], .writeFile [[98]] [2], .openR 1 [[97]], .openW 2 [[98]], .close 2, .close 1],
    [.openR 1 [[98]], .openW 2 [[97]], .close 2, .close 1] ]

def cross_sched : List Tid :=
  List.replicate 16 0 ++ List.replicate 4 1 ++ List.replicate 12 0 ++ List.replicate 12 1

/-- the literally stated discipline: nobody waits for a file whose handle he holds himself -/
def selfFreeB (v : Variant) (s : State) : Bool :=
  (List.range s.threads.length).all fun t =>
    match s.threads[t]? with
    | none => true
    | some th =>
      match dataAct (actOf v th.pc) with
      | none => true
      | some f => !(lockedBy s.heap t f)

end Goat.MemFSConc
