/-
For property C16: the pipeline model under a steering policy of the harness's gate controller (`Model/Pipeline.lean`,
"Steered schedules").  A steered run is a run of the model; every schedule can be continued until the main thread has
finished; and since deadlock freedom survives every policy (`progressS`) the controller's time-out never fires
(`no_stall`).
-/
import Goat.Proofs.PipelineTerm
import Goat.Proofs.PipelineLive
import Goat.Proofs.PipelineRun

namespace Goat.Pipeline

variable {g : Graph} {pol : Nat → Steer}

theorem enabled_mem_labels {s : St} (hI : Inv g s) {l : Label} (h : (step g s l).isSome = true) : l ∈ labels g := by
  unfold labels
  cases l with
  | main => simp
  | task t =>
    have : t < g.n := by
      apply (hI.ti t).range
      intro h0
      simp [step, stepTask, h0] at h
    simp only [List.mem_cons, List.mem_append, List.mem_map, List.mem_range]
    exact Or.inr (Or.inl (Or.inl ⟨t, this, rfl⟩))
  | stop t =>
    have : t < g.n := by
      apply (hI.ti t).range
      intro h0
      simp [step, stepStop, h0] at h
    simp only [List.mem_cons, List.mem_append, List.mem_map, List.mem_range]
    exact Or.inr (Or.inl (Or.inr ⟨t, this, rfl⟩))
  | tryg y =>
    have : y < g.tries.length := by
      apply hI.tgr y
      intro h0
      simp [step, stepTry, h0] at h
    simp only [List.mem_cons, List.mem_append, List.mem_map, List.mem_range]
    exact Or.inr (Or.inr ⟨y, this, rfl⟩)

theorem stepS_sub {s s' : St} {l : Label} (h : stepS g pol s l = some s') : step g s l = some s' := by
  unfold stepS at h
  split at h
  · cases h
  · exact h

theorem reachableS_reachable {s : St} (h : LTS.Reachable (sysS g pol) s) : LTS.Reachable (sys g) s := by
  induction h with
  | init => exact LTS.Reachable.init
  | step i _ hs ih => exact LTS.Reachable.step i ih (stepS_sub hs)

theorem runInv_reachableS (hw : WF g) {s : St} (h : LTS.Reachable (sysS g pol) s) : RunInv g s :=
  runInv_reachable hw (reachableS_reachable h)

theorem runInv_runS (hw : wf g = true) (pol : Nat → Steer) (sched : List Label) :
    RunInv g ((sysS g pol).run sched) :=
  runInv_reachableS ((wf_iff g).mp hw) (LTS.run_reachable (sysS g pol) sched)

theorem can_finishS (hw : WF g) (s : St) (hr : LTS.Reachable (sysS g pol) s) :
    ∃ ext, ((sysS g pol).runFrom s ext).mp = .finished :=
  LTS.can_reach_final (sysS g pol) (LTS.Reachable (sysS g pol)) (·.mp = .finished) (mu g)
    (fun _ l _ hr hs => ⟨.step l hr hs, mu_step hw (runInv_reachableS hw hr).inv l (stepS_sub hs)⟩)
    (fun s hr hfin =>
      let ⟨l, hnb, hl⟩ := progressS (pol := pol) hw (runInv_reachableS hw hr).inv hfin
      ⟨l, by show (stepS g pol s l).isSome = true; unfold stepS; rw [hnb]; exact hl⟩) s hr

theorem sysS_free : sysS g (fun _ => .free) = sys g := by
  have free : ∀ s l, blocked g (fun _ => .free) s l = false := by
    intro s l
    cases hb : blocked g (fun _ => .free) s l
    · rfl
    · cases l with
      | task h =>
        obtain ⟨_, y, w, d, hh, _⟩ := blocked_task hb
        obtain ⟨_, _, _, _, _, hp⟩ := heldFor_cases hh
        rcases hp with ⟨_, _, hp⟩ | ⟨_, _, hp⟩ <;> cases hp
      | _ => cases hb
  unfold sysS sys
  congr
  funext s l
  unfold stepS
  rw [free]; rfl

theorem can_finish {g : Graph} (hw : WF g) (s : St) (hr : LTS.Reachable (sys g) s) :
    ∃ ext, ((sys g).runFrom s ext).mp = .finished := by
  have := can_finishS (pol := fun _ => .free) hw s (sysS_free ▸ hr)
  rwa [sysS_free] at this

/-- `rel`: no handler was ever let go by a time-out -/
structure CInv (g : Graph) (pol : Nat → Steer) (c : CSt) : Prop where
  rel : c.rel = []
  reach : LTS.Reachable (sysS g pol) c.st
  nostall : ∀ t, Ev.stall t ∉ c.st.tr

theorem blockedC_eq {c : CSt} (h : c.rel = []) (l : Label) : blockedC g pol c l = blocked g pol c.st l := by
  unfold blockedC
  rw [h]
  cases l <;> simp

/-- the held handler sits in its first command, so the main thread has not finished, so some thread that is not held
can move (`progressS`) and the state is not quiescent -/
theorem timeout_disabled (hw : WF g) {c : CSt} (hJ : CInv g pol c) (h' : Nat) :
    stepC g pol c (.timeout h') = none := by
  simp only [stepC]
  split
  · rename_i hcond
    simp only [Bool.and_eq_true] at hcond
    obtain ⟨hb, hq⟩ := hcond
    rw [blockedC_eq hJ.rel] at hb
    have hR := runInv_reachableS hw hJ.reach
    have hI := hR.inv
    obtain ⟨hpc, _⟩ := blocked_task hb
    have hm : c.st.mp ≠ .finished := by
      intro hfin
      have := hR.quiet (Or.inr hfin) h' (by rw [hpc]; rfl)
      rw [hpc] at this; cases this
    obtain ⟨l, hnb, hl⟩ := progressS (pol := pol) hw hI hm
    unfold quiescent at hq
    rw [List.all_eq_true] at hq
    have := hq l (enabled_mem_labels hI hl)
    unfold stepSysC at this
    rw [blockedC_eq hJ.rel, hnb] at this
    simp only [Bool.false_eq_true, if_false] at this
    rw [Option.isNone_iff_eq_none] at this
    rw [this] at hl; cases hl
  · rfl

theorem step_no_stall {s s' : St} {l : Label} (hs : step g s l = some s') (t : Nat)
    (h : Ev.stall t ∉ s.tr) : Ev.stall t ∉ s'.tr := by
  rcases (step_shape hs).1 with he | ⟨e, he, _, _, hne⟩ <;> rw [he]
  · exact h
  · exact fun hm => h (mem_old (fun hm' => hne t (List.mem_singleton.mp hm').symm) hm)

theorem cinv_step (hw : WF g) {c c' : CSt} (hJ : CInv g pol c) (l : CLabel) (h : stepC g pol c l = some c') :
    CInv g pol c' := by
  cases l with
  | sys l =>
    simp only [stepC, Option.map_eq_some_iff] at h
    obtain ⟨s', hs, rfl⟩ := h
    unfold stepSysC at hs
    rw [blockedC_eq hJ.rel] at hs
    exact ⟨hJ.rel, LTS.Reachable.step l hJ.reach hs, fun t => step_no_stall (stepS_sub hs) t (hJ.nostall t)⟩
  | timeout h' => rw [timeout_disabled hw hJ] at h; cases h

theorem cinv_run (hw : WF g) (sched : List CLabel) : CInv g pol (runC g pol sched) := by
  apply LTS.inv_run (sysC g pol) (CInv g pol)
  · exact ⟨rfl, LTS.Reachable.init, fun _ => List.not_mem_nil⟩
  · intro s i t hJ hs; exact cinv_step hw hJ i hs

/-- the only other source of a `stall` is the controller's time-out -/
theorem no_stall (hw : WF g) (sched : List CLabel) (t : Nat) : Ev.stall t ∉ (runC g pol sched).st.tr :=
  (cinv_run hw sched).nostall t

end Goat.Pipeline
