/-
`Fits B D S`: under the remote `S` a cache with buffer `B` shows `D` (`overlay`, `Compat`), with its two families on abstract
trees — a call through the cache moves `B` and `D` together, Commit moves `S` alone.  The view invariant `VInv` (the three
trees are well formed and fit) and its preservation by the mutating calls of the class of `ryw_partial`: writes of a file
(`IsWrite`) and `MkdirAll` that succeed directly, `Remove` / `RemoveAll` of nodes only the buffer has.
-/
import Goat.Proofs.CacheBasic
import Goat.Proofs.CacheRoot

namespace Goat
namespace Cache

open Path (Name norm join slash Reduced Plain cleanPath reduceAbsPath)
open FS (Op Result Entry Mut)
open MemFS MemAbs

def overlay (B R : FS.State) : FS.State := fun q =>
  match B q with
  | some e => some e
  | none => R q

/-- no file/directory conflict between buffer and remote -/
def Compat (B R : FS.State) : Prop := ∀ q e e', B q = some e → R q = some e' → e.isDir = e'.isDir

theorem overlay_some {B R : FS.State} {q : List Name} {e : Entry} (h : B q = some e) : overlay B R q = some e := by
  simp [overlay, h]

theorem overlay_none {B R : FS.State} {q : List Name} (h : B q = none) : overlay B R q = R q := by
  simp [overlay, h]

/-- `S` is a remote under which a cache with buffer `B` shows `D`.  A call through the cache moves `B` and `D` together
(`Fits.buffer_mkdirSt`, `buffer_writeSt`, `buffer_erase`); Commit moves `S` alone (`Fits.remote_mkdirSt`, `remote_writeSt`). -/
def Fits (B D S : FS.State) : Prop := Compat B S ∧ D = overlay B S

section
variable {B D S : FS.State}

theorem Fits.sub (h : Fits B D S) {q : List Name} {e : Entry} (hb : B q = some e) : D q = some e := by
  rw [h.2]; exact overlay_some hb

theorem Fits.kind (h : Fits B D S) {q : List Name} {e' : Entry} (hr : S q = some e') :
    ∃ e, D q = some e ∧ e.isDir = e'.isDir := by
  rw [h.2]
  cases hb : B q with
  | none => exact ⟨e', by rw [overlay_none hb]; exact hr, rfl⟩
  | some e0 => exact ⟨e0, overlay_some hb, h.1 q e0 e' hb hr⟩

/-! The buffer side.  Buffer and view undergo the same change; each lemma also says that what the view allows the
buffer allows. -/

theorem Fits.buffer_mkdirSt (h : Fits B D S) {p : List Name} (hok : FS.mkdirOk D p) :
    FS.mkdirOk B p ∧ Fits (FS.mkdirSt B p) (FS.mkdirSt D p) S := by
  refine ⟨fun q hq d hf => hok q hq d (h.sub hf), fun q e e' h1 h2 => ?_, ?_⟩
  · simp only [FS.mkdirSt] at h1
    by_cases hq : q <+: p
    · rw [if_pos hq] at h1; cases h1
      -- the remote's entry is of the kind the view shows, which is not a file
      obtain ⟨e0, hD, hk⟩ := h.kind h2
      rw [← hk]
      cases e0 with
      | dir => rfl
      | file d => exact absurd hD (hok q hq d)
    · rw [if_neg hq] at h1; exact h.1 q e e' h1 h2
  · rw [h.2]
    funext q
    simp only [FS.mkdirSt, overlay]
    by_cases h2 : q <+: p <;> simp [h2]

theorem Fits.buffer_writeSt (h : Fits B D S) {p : List Name} (d : Bytes) (hok : FS.writeOk D p) :
    FS.writeOk B p ∧ Fits (FS.writeSt B p d) (FS.writeSt D p d) S := by
  obtain ⟨hmk, hF⟩ := h.buffer_mkdirSt hok.2.1
  refine ⟨⟨hok.1, hmk, fun hd => hok.2.2 (h.sub hd)⟩, fun q e e' h1 h2 => ?_, ?_⟩
  · simp only [FS.writeSt] at h1
    by_cases hq : q = p
    · rw [if_pos hq] at h1; cases h1; subst hq
      obtain ⟨e0, hD, hk⟩ := h.kind h2
      rw [← hk]
      cases e0 with
      | dir => exact absurd hD hok.2.2
      | file d => rfl
    · rw [if_neg hq] at h1; exact hF.1 q e e' h1 h2
  · rw [h.2]
    funext q
    simp only [FS.writeSt, FS.mkdirSt, overlay]
    by_cases h1 : q = p
    · simp [h1]
    · by_cases h2 : q <+: p.dropLast <;> simp [h1, h2]

/-- buffer and view lose their entries at the paths in `c`, none of which the remote has -/
theorem Fits.buffer_erase (h : Fits B D S) (c : List Name → Prop) [DecidablePred c] (hc : ∀ q, c q → S q = none) :
    Fits (fun q => if c q then none else B q) (fun q => if c q then none else D q) S := by
  refine ⟨fun q e e' h1 h2 => ?_, ?_⟩
  · simp only [] at h1
    split at h1
    · cases h1
    · exact h.1 q e e' h1 h2
  · rw [h.2]
    funext q
    simp only [overlay]
    split
    · next hq => rw [hc q hq]
    · rfl

/-! The remote side.  Commit changes the remote where the buffer has an entry, to an entry of the buffer's kind: the view
stays; each lemma also says that the remote allows the change. -/

/-- a change where the buffer has an entry, to an entry of the buffer's kind, is not seen -/
theorem Fits.remote_update {S' : FS.State} (h : Fits B D S)
    (hu : ∀ q, S' q = S q ∨ ∃ e e', B q = some e ∧ S' q = some e' ∧ e.isDir = e'.isDir) : Fits B D S' := by
  refine ⟨fun q e e' h1 h2 => ?_, ?_⟩
  · rcases hu q with h3 | ⟨e0, e0', hb, hs, hk⟩
    · exact h.1 q e e' h1 (h3 ▸ h2)
    · rw [h1] at hb; rw [h2] at hs; cases hb; cases hs; exact hk
  · rw [h.2]
    funext q
    simp only [overlay]
    cases hb : B q with
    | some e => rfl
    | none =>
      rcases hu q with h3 | ⟨e0, _, hb', _⟩
      · simp [h3]
      · rw [hb] at hb'; cases hb'

variable (hB : FS.PrefixClosed B)
include hB

theorem Fits.remote_mkdirSt (h : Fits B D S) {M : List Name} (hM : B M = some .dir) :
    FS.mkdirOk S M ∧ Fits B D (FS.mkdirSt S M) := by
  refine ⟨fun q hq d hf => ?_, h.remote_update fun q => ?_⟩
  · have := h.1 q _ _ (hB.prefix_of_dir hM hq) hf; simp [Entry.isDir] at this
  · by_cases hq : q <+: M
    · exact .inr ⟨.dir, .dir, hB.prefix_of_dir hM hq, by simp [FS.mkdirSt, hq], rfl⟩
    · exact .inl (by simp [FS.mkdirSt, hq])

theorem parents_dir {W : List Name} {d : Bytes} (hW : B W = some (.file d)) (hne : W ≠ []) (q : List Name)
    (hq : q <+: W.dropLast) : B q = some .dir :=
  hB.prefix_dir (hq.trans (List.dropLast_prefix W)) (ne_of_prefix_dropLast hne hq) (by rw [hW]; simp)

theorem Fits.remote_writeSt (h : Fits B D S) {W : List Name} {d : Bytes} (hW : B W = some (.file d)) (hne : W ≠ []) (d' : Bytes) :
    FS.writeOk S W ∧ Fits B D (FS.writeSt S W d') := by
  have hpar := parents_dir hB hW hne
  refine ⟨⟨hne, fun q hq dd hf => ?_, fun hd => ?_⟩, h.remote_update fun q => ?_⟩
  · have := h.1 q _ _ (hpar q hq) hf; simp [Entry.isDir] at this
  · have := h.1 W _ _ hW hd; simp [Entry.isDir] at this
  · by_cases hqW : q = W
    · exact .inr ⟨.file d, .file d', hqW ▸ hW, by rw [hqW]; exact FS.writeSt_at _ _ _, rfl⟩
    · by_cases hq : q <+: W.dropLast
      · exact .inr ⟨.dir, .dir, hpar q hq, by simp [FS.writeSt, hqW, FS.mkdirSt, hq], rfl⟩
      · exact .inl (by simp [FS.writeSt, hqW, FS.mkdirSt, hq])

end

/-- the three trees are well formed and the cache's view is the direct tree `D` -/
structure VInv (s : State) (D : Node) : Prop where
  hb : Inv s.buffer
  hr : Inv s.remote
  hd : Inv D
  fits : Fits (abs s.buffer) (abs D) (abs s.remote)

theorem VInv.compat {s : State} {D : Node} (V : VInv s D) : Compat (abs s.buffer) (abs s.remote) := V.fits.1

theorem VInv.eq {s : State} {D : Node} (V : VInv s D) : abs D = overlay (abs s.buffer) (abs s.remote) := V.fits.2

theorem VInv.remote {s : State} {D : Node} (V : VInv s D) {t : Node} (ht : Inv t)
    (h : Fits (abs s.buffer) (abs D) (abs t)) : VInv { s with remote := t } D := ⟨V.hb, ht, V.hd, h⟩

/-- after a call through the cache: a new buffer and a new direct tree that fit the remote, which stayed -/
theorem VInv.buffer {s s' : State} {D D' : Node} (V : VInv s D) (hb : Inv s'.buffer) (hr : s'.remote = s.remote)
    (hD' : Inv D') (h : Fits (abs s'.buffer) (abs D') (abs s.remote)) : VInv s' D' :=
  ⟨hb, hr ▸ V.hr, hD', hr ▸ h⟩

theorem vinv_new (r : Node) (hr : Inv r) : VInv (State.new r) r := by
  refine ⟨inv_empty, hr, hr, ?_, ?_⟩
  · intro q e e' h1 h2
    cases q with
    | nil =>
      simp only [State.new] at h1 h2
      rw [hr.abs_nil] at h2
      cases h1; cases h2; rfl
    | cons a rest => simp [State.new, abs, Node.empty, Node.lookup, Kids.find] at h1
  · funext q
    cases q with
    | nil =>
      show abs r [] = overlay (abs Node.empty) (abs r) []
      rw [overlay_some inv_empty.abs_nil, hr.abs_nil]
    | cons a rest => simp [overlay, State.new, abs, Node.empty, Node.lookup, Kids.find]

/-- What `WriteFile`, `Writer` and `CopyFile` of a file share: `y` writes `d` at `P` (the normal form of `raw`) into the
buffer and journals the cleaned `raw` when it succeeded. -/
structure IsWrite (s : State) (raw : Bytes) (P : List Name) (d : Bytes) (y : State × Result) : Prop where
  root : RootMut (FS.writeOk (abs s.buffer) P) (FS.writeSt (abs s.buffer) P d) s.buffer (y.1.buffer, y.2)
  remote : y.1.remote = s.remote
  write : y.1.write = jaddIf y.2 s.write (cleanPath raw)
  rest : y.1.mkdirAll = s.mkdirAll ∧ y.1.remove = s.remove ∧ y.1.removeAll = s.removeAll

theorem isWrite_writeFile (s : State) (hb : Inv s.buffer) (raw data : Bytes) (P : List Name) (hn : norm raw = some P) :
    IsWrite s raw P data (writeFile s raw data) :=
  ⟨rootMut_writeFile s.buffer hb (cleanPath raw) P (Path.norm_cleanPath raw P hn) data, rfl, rfl, rfl, rfl, rfl⟩

theorem isWrite_writer (s : State) (hb : Inv s.buffer) (raw : Bytes) (cs : List Bytes) (P : List Name)
    (hn : norm raw = some P) : IsWrite s raw P cs.flatten (writer s raw cs) :=
  ⟨rootMut_writer s.buffer hb (cleanPath raw) P (Path.norm_cleanPath raw P hn) cs, rfl, rfl, rfl, rfl, rfl⟩

theorem vinv_write {s : State} {D D' : Node} (V : VInv s D) {raw d : Bytes} {P : List Name} {y : State × Result}
    (W : IsWrite s raw P d y) (hok : FS.writeOk (abs D) P) (hD' : Inv D') (hpost : abs D' = FS.writeSt (abs D) P d) :
    y.2 = .ok ∧ VInv y.1 D' ∧ abs y.1.buffer = FS.writeSt (abs s.buffer) P d
    ∧ y.1.write = jadd s.write (cleanPath raw) := by
  obtain ⟨hpre, hF⟩ := V.fits.buffer_writeSt d hok
  obtain ⟨hres, hst⟩ := W.root.ok hpre
  rw [← hst, ← hpost] at hF
  refine ⟨hres, V.buffer W.root.inv W.remote hD' hF, hst, ?_⟩
  rw [W.write, hres]; rfl

theorem vinv_mkdirAll {s : State} {D D' : Node} (V : VInv s D) (raw : Bytes) (P : List Name)
    (hn : norm raw = some P) (hok : FS.mkdirOk (abs D) P) (hD' : Inv D')
    (hpost : abs D' = FS.mkdirSt (abs D) P) :
    (mkdirAll s raw).2 = .ok ∧ VInv (mkdirAll s raw).1 D'
    ∧ abs (mkdirAll s raw).1.buffer = FS.mkdirSt (abs s.buffer) P := by
  have R := rootMut_mkdirAll s.buffer V.hb (cleanPath raw) P (Path.norm_cleanPath raw P hn)
  obtain ⟨hpre, hF⟩ := V.fits.buffer_mkdirSt hok
  obtain ⟨hres, hst⟩ := R.ok hpre
  rw [← hst, ← hpost] at hF
  exact ⟨hres, V.buffer R.inv rfl hD' hF, hst⟩

theorem VInv.at_buffer {s : State} {D : Node} (V : VInv s D) {P : List Name} (honly : abs s.remote P = none) :
    abs D P = abs s.buffer P := by
  rw [V.eq]; simp only [overlay]; cases abs s.buffer P <;> simp [honly]

/-- where the buffer has the path the guard `IsExist` passes and the call is the buffer's -/
theorem remove_of_exists (s : State) (raw : Bytes) (h : isTrue (Root.isExist s.buffer (cleanPath raw)) = true) :
    (remove s raw).2 = (Root.remove s.buffer (cleanPath raw)).2
    ∧ (remove s raw).1.buffer = (Root.remove s.buffer (cleanPath raw)).1 := by
  simp only [remove, h, if_true, and_self]

theorem removeAll_of_exists (s : State) (raw : Bytes) (h : isTrue (Root.isExist s.buffer (cleanPath raw)) = true) :
    (removeAll s raw).2 = (Root.removeAll s.buffer (cleanPath raw)).2
    ∧ (removeAll s raw).1.buffer = (Root.removeAll s.buffer (cleanPath raw)).1 := by
  simp only [removeAll, h, if_true, and_self]

theorem vinv_remove {s : State} {D D' : Node} (V : VInv s D) (raw : Bytes) (P : List Name)
    (hn : norm raw = some P) (hok : FS.removeOk (abs D) P) (honly : abs s.remote P = none) (hD' : Inv D')
    (hpost : abs D' = FS.removeSt (abs D) P) :
    (remove s raw).2 = .ok ∧ VInv (remove s raw).1 D' := by
  have hn' := Path.norm_cleanPath raw P hn
  have hpre : FS.removeOk (abs s.buffer) P := by
    refine ⟨hok.1, ?_⟩
    rw [← V.at_buffer honly]
    refine hok.2.imp id fun ⟨h, hc⟩ => ⟨h, fun n => ?_⟩
    cases hb : abs s.buffer (P ++ [n]) with
    | none => rfl
    | some e => have := V.fits.sub hb; rw [hc n] at this; cases this
  have hex : isTrue (Root.isExist s.buffer (cleanPath raw)) = true := by
    rw [root_isExist_eq s.buffer V.hb _ P hn']
    rcases hpre.2 with ⟨d, h⟩ | ⟨h, _⟩ <;> rw [h] <;> rfl
  have R := rootMut_remove s.buffer V.hb (cleanPath raw) P hn'
  obtain ⟨hres, hst⟩ := R.ok hpre
  obtain ⟨e1, e2⟩ := remove_of_exists s raw hex
  have hF : Fits (FS.removeSt _ P) (FS.removeSt _ P) _ := V.fits.buffer_erase (· = P) fun q hq => hq ▸ honly
  rw [← hst, ← hpost, ← e2] at hF
  exact ⟨e1.trans hres, V.buffer (e2 ▸ R.inv) (step_remote .cache s (.remove raw)) hD' hF⟩

theorem vinv_removeAll {s : State} {D D' : Node} (V : VInv s D) (raw : Bytes) (P : List Name)
    (hn : norm raw = some P) (hok : FS.removeAllOk (abs D) P) (honly : abs s.remote P = none) (hD' : Inv D')
    (hpost : abs D' = FS.removeAllSt (abs D) P) :
    (removeAll s raw).2 = .ok ∧ VInv (removeAll s raw).1 D' := by
  have hn' := Path.norm_cleanPath raw P hn
  have hne : abs s.buffer P ≠ none := by rw [← V.at_buffer honly]; exact hok.2
  have hex : isTrue (Root.isExist s.buffer (cleanPath raw)) = true := by
    rw [root_isExist_eq s.buffer V.hb _ P hn']
    cases h : abs s.buffer P with
    | none => exact absurd h hne
    | some e => rfl
  have R := rootMut_removeAll s.buffer V.hb (cleanPath raw) P hn'
  obtain ⟨hres, hst⟩ := R.ok ⟨hok.1, hne⟩
  obtain ⟨e1, e2⟩ := removeAll_of_exists s raw hex
  have hF : Fits (FS.removeAllSt _ P) (FS.removeAllSt _ P) _ :=
    V.fits.buffer_erase (P <+: ·) fun q hq => (abs_closed s.remote).none_below honly hq
  rw [← hst, ← hpost, ← e2] at hF
  exact ⟨e1.trans hres, V.buffer (e2 ▸ R.inv) (step_remote .cache s (.removeAll raw)) hD' hF⟩

end Cache
end Goat
