/-
What `Commit` does.  The abstract step of every journal entry (Kleisli maps `FS.State → Option FS.State`, `none` = the
remote call reports an error) and `Replayed`, which ties a piece of the replay (one guarded call, one transfer, one
entry, a list of entries, a whole `commitWith`) to its abstract step, its call counter and the remote calls it can make:
one walk (`entry_replayed`) and one composition (`Replayed.seq`).
-/
import Goat.Proofs.CacheBasic
import Goat.Proofs.CacheRoot

namespace Goat
namespace Cache

open Path (Name norm join slash Reduced Plain cleanPath reduceAbsPath)
open FS (Op Result Entry Mut)
open MemFS MemAbs

/-- `if remote.IsFile(Q) { remote.Remove(Q) }`: the guard is `IsFile`, so a directory is never removed, not even an
empty one that `Remove` would take (KF-C06-1) -/
def pRm (Q : List Name) (S : FS.State) : Option FS.State :=
  some (if isFileE (S Q) then FS.removeSt S Q else S)

/-- `if remote.IsExist(Q) { remote.RemoveAll(Q) }` (removing below a missing node changes nothing).  The root always
exists and `RemoveAll` refuses it. -/
def pRma (Q : List Name) (S : FS.State) : Option FS.State :=
  if Q = [] then none else some (FS.removeAllSt S Q)

open Classical in
/-- `remote.MkdirAll(M)` -/
noncomputable def pMk (M : List Name) (S : FS.State) : Option FS.State :=
  if FS.mkdirOk S M then some (FS.mkdirSt S M) else none

open Classical in
/-- `remote.Writer(W)` + data -/
noncomputable def pWr (W : List Name) (d : Bytes) (S : FS.State) : Option FS.State :=
  if FS.writeOk S W then some (FS.writeSt S W d) else none

def seqK (f g : FS.State → Option FS.State) : FS.State → Option FS.State := fun S => (f S).bind g

/-- the entries of the three guarded journals: a climbing path is skipped (`IsFile` / `IsExist` / `IsDir` answer
false for it) -/
def rmS (src : Bytes) : FS.State → Option FS.State :=
  match norm src with
  | none => some
  | some Q => pRm Q

def rmaS (src : Bytes) : FS.State → Option FS.State :=
  match norm src with
  | none => some
  | some Q => pRma Q

noncomputable def mkS (buffer : Node) (src : Bytes) : FS.State → Option FS.State :=
  if isTrue (Root.isDir buffer src) then
    match norm src with
    | some M => pMk M
    | none => some
  else some

/-- first half of a write entry: `remote.MkdirAll(path.Dir(src))`, which refuses a climbing path -/
noncomputable def wrA (src : Bytes) : FS.State → Option FS.State :=
  match norm (pathDir src) with
  | none => fun _ => none
  | some D => pMk D

/-- second half: `if buffer.IsFile(src) { StreamCopy }` -/
noncomputable def wrB (buffer : Node) (src : Bytes) : FS.State → Option FS.State :=
  if isTrue (Root.isFile buffer src) then
    match norm src, Root.readFile buffer src with
    | some W, .data d => pWr W d
    | _, _ => fun _ => none
  else some

noncomputable def wrS (buffer : Node) (src : Bytes) : FS.State → Option FS.State :=
  seqK (wrA src) (wrB buffer src)

noncomputable def JEntry.stepK (buffer : Node) : JEntry → FS.State → Option FS.State
  | .rm src => rmS src
  | .rma src => rmaS src
  | .mk src => mkS buffer src
  | .wr src => wrS buffer src

def foldK : List (FS.State → Option FS.State) → FS.State → Option FS.State
  | [], S => some S
  | f :: rest, S => (f S).bind (foldK rest)

theorem norm_of_isTrue (t : Node) (src : Bytes)
    (h : isTrue (Root.isDir t src) = true ∨ isTrue (Root.isFile t src) = true) : ∃ M, norm src = some M := by
  cases hn : norm src with
  | none => rw [(root_climb t src hn).isDir, (root_climb t src hn).isFile] at h; rcases h with h | h <;> cases h
  | some M => exact ⟨M, rfl⟩

/-- A piece of Commit's replay, started on remote `r` with call counter `n`, ended in `acc`; `f` is its abstract step,
`calls` the remote calls it can make.
* `le`, `fired`: the calls made are numbered `n … acc.2.1 - 1`, and a replay that went through did not make call `k`
* `pres`: the remote afterwards is reached by calls in `calls` only, whatever was injected
* `ok`, `refused`: success is the abstract step; without injection failure means the abstract step refuses -/
structure Replayed (fa : Option Nat) (f : FS.State → Option FS.State) (calls : Op → Prop) (r : Node) (n : Nat)
    (acc : CommitAcc) : Prop where
  le : n ≤ acc.2.1
  fired : ∀ k, fa = some k → acc.2.2 = true → k < n ∨ acc.2.1 ≤ k
  pres : ∀ P : Node → Prop, (∀ t op, calls op → P t → P (MemFS.step .root t op).1) → P r → P acc.1
  ok : Inv r → acc.2.2 = true → f (abs r) = some (abs acc.1)
  refused : Inv r → fa = none → acc.2.2 = false → f (abs r) = none

section
variable {fa : Option Nat} {f g : FS.State → Option FS.State} {calls calls' : Op → Prop} {r : Node} {n : Nat}
  {acc : CommitAcc}

theorem Replayed.inv (h : Replayed fa f calls r n acc) (hr : Inv r) : Inv acc.1 :=
  h.pres Inv (fun t op _ ht => root_step_inv t ht op) hr

theorem Replayed.mono (h : Replayed fa f calls r n acc) (hc : ∀ op, calls op → calls' op) :
    Replayed fa f calls' r n acc :=
  ⟨h.le, h.fired, fun P hP => h.pres P fun t op ho => hP t op (hc op ho), h.ok, h.refused⟩

theorem Replayed.skip (fa : Option Nat) (calls : Op → Prop) (r : Node) (n : Nat) : Replayed fa some calls r n (r, n, true) :=
  ⟨Nat.le_refl n, fun _ _ _ => Nat.lt_or_ge _ _, fun _ _ h => h, fun _ _ => rfl, fun _ _ h => (by cases h)⟩

theorem Replayed.stop {n' : Nat} (hn : n ≤ n') (href : Inv r → fa = none → f (abs r) = none) :
    Replayed fa f calls r n (r, n', false) :=
  ⟨hn, fun _ _ h => (by cases h), fun _ _ h => h, fun _ h => (by cases h), fun hr e _ => href hr e⟩

theorem Replayed.seq {k : Node → Nat → CommitAcc} (h1 : Replayed fa f calls r n acc)
    (h2 : acc.2.2 = true → Replayed fa g calls acc.1 acc.2.1 (k acc.1 acc.2.1)) :
    Replayed fa (seqK f g) calls r n (acc.andThen k) := by
  unfold CommitAcc.andThen
  by_cases hok : acc.2.2 = true
  · have h2 := h2 hok
    rw [if_pos hok]
    refine ⟨Nat.le_trans h1.le h2.le, fun k hk ho => ?_, fun P hP hr => h2.pres P hP (h1.pres P hP hr), fun hr ho => ?_,
      fun hr hn ho => ?_⟩
    · have a := h1.fired k hk hok
      have b := h2.fired k hk ho
      omega
    · simp only [seqK, h1.ok hr hok, Option.bind_some]; exact h2.ok (h1.inv hr) ho
    · simp only [seqK, h1.ok hr hok, Option.bind_some]; exact h2.refused (h1.inv hr) hn ho
  · rw [if_neg hok]
    refine ⟨h1.le, fun k hk ho => absurd ho hok, h1.pres, fun _ ho => absurd ho hok, fun hr hn ho => ?_⟩
    simp only [seqK, h1.refused hr hn ho, Option.bind_none]

end

theorem guarded_replayed {pre : Prop} [Decidable pre] {post : FS.State} (fa : Option Nat) (c : Bool) (op : Op) (r : Node) (n : Nat)
    (g : FS.State → Option FS.State) (calls : Op → Prop) (hop : c = true → calls op)
    (hc : Inv r → c = false → g (abs r) = some (abs r))
    (hm : Inv r → c = true → RootMut pre post r (MemFS.step .root r op) ∧ g (abs r) = if pre then some post else none) :
    Replayed fa g calls r n (guarded fa c op r n) := by
  unfold guarded
  cases c
  · exact ⟨Nat.le_refl n, fun _ _ _ => Nat.lt_or_ge _ _, fun _ _ h => h, fun hr _ => hc hr rfl, fun _ _ h => (by cases h)⟩
  · simp only [if_true, remoteCall]
    by_cases hfa : fa = some n
    · simp only [if_pos hfa]
      exact .stop (Nat.le_succ n) fun _ hn => by rw [hn] at hfa; cases hfa
    · simp only [if_neg hfa]
      refine ⟨Nat.le_succ n, fun k hk _ => ?_, fun P hP hr => hP r op (hop rfl) hr, fun hr ho => ?_, fun hr _ ho => ?_⟩
      · have : k ≠ n := fun e => hfa (e ▸ hk)
        show k < n ∨ n + 1 ≤ k
        omega
      · obtain ⟨M, hg⟩ := hm hr rfl
        have hp := M.ok_iff.mp (by simpa using ho)
        rw [hg, if_pos hp, (M.ok hp).2]
      · obtain ⟨M, hg⟩ := hm hr rfl
        have hp : ¬ pre := fun hp => by rw [(M.ok hp).1] at ho; cases ho
        rw [hg, if_neg hp]

open Classical in
/-- `StreamCopy` onto the remote: `Writer`, the `Write`s, `Close` -/
theorem remoteStream_replayed (fa : Option Nat) (n : Nat) (src d : Bytes) (r : Node) (W : List Name)
    (hn : norm src = some W) :
    Replayed fa (pWr W d) (fun op => ∃ cs, op = .writer src cs) r n
      ((remoteStream fa n src (ioChunks d) r).1.1, (remoteStream fa n src (ioChunks d) r).2,
        (remoteStream fa n src (ioChunks d) r).1.2 == .ok) := by
  have hP : ∀ (P : Node → Prop), (∀ t op, (∃ cs, op = Op.writer src cs) → P t → P (MemFS.step .root t op).1) → P r →
      ∀ cs, P (Root.writer r src cs).1 := fun P hP hr cs => hP r _ ⟨cs, rfl⟩ hr
  have hM : ∀ cs, Inv r → RootMut (FS.writeOk (abs r) W) (FS.writeSt (abs r) W cs.flatten) r (Root.writer r src cs) :=
    fun cs hr => rootMut_writer r hr src W hn cs
  -- the three ways the stream ends after a successful open: a failing `Write`, a failing `Close`, all written
  have hfull : Root.writer r src [] = ((Root.writer r src []).1, .ok) → ∀ n' : Nat, n < n' → (∀ k, fa = some k → k < n ∨ n' ≤ k) →
      Replayed fa (pWr W d) (fun op => ∃ cs, op = .writer src cs) r n
        ((Root.writer r src (ioChunks d)).1, n', (Root.writer r src (ioChunks d)).2 == .ok) := by
    intro ho n' hlt hk
    refine ⟨Nat.le_of_lt hlt, fun k e _ => hk k e, fun P h hr => hP P h hr _, fun hr hok => ?_, fun hr _ hok => ?_⟩
    · have hp := (hM _ hr).ok_iff.mp (by simpa using hok)
      simp only [pWr, if_pos hp, ((hM _ hr).ok hp).2, ioChunks_flatten]
    · have hp := (hM [] hr).ok_iff.mp (by rw [ho])
      rw [((hM (ioChunks d) hr).ok hp).1] at hok; cases hok
  have hpart : ∀ cs (n' : Nat), n ≤ n' → fa ≠ none →
      Replayed fa (pWr W d) (fun op => ∃ cs, op = .writer src cs) r n ((Root.writer r src cs).1, n', Result.err == .ok) :=
    fun cs n' hle hfa => ⟨hle, fun _ _ h => (by cases h), fun P h hr => hP P h hr _, fun _ h => (by cases h),
      fun _ e _ => absurd e hfa⟩
  unfold remoteStream
  by_cases h0 : fa = some n
  · rw [if_pos h0]
    exact .stop (Nat.le_succ n) fun _ e => by rw [e] at h0; cases h0
  · rw [if_neg h0]
    rcases ho : Root.writer r src [] with ⟨r', res⟩
    cases res
    case ok =>
      have ho' : Root.writer r src [] = ((Root.writer r src []).1, .ok) := by rw [ho]
      cases fa with
      | none => simp only []; exact hfull ho' _ (by omega) (fun _ e => by cases e)
      | some k =>
        have hk : k ≠ n := fun e => h0 (e ▸ rfl)
        simp only []
        split
        · exact hpart _ _ (by omega) (by simp)
        · split
          · exact hpart _ _ (by omega) (by simp)
          · exact hfull ho' _ (by omega) (fun k' e => by cases e; omega)
    all_goals
      refine ⟨Nat.le_succ n, fun _ _ h => (by cases h), fun P h hr => by have := hP P h hr []; rwa [ho] at this,
        fun _ h => (by cases h), fun hr _ _ => ?_⟩
      have hp : ¬ FS.writeOk (abs r) W := fun hp => by have := ((hM [] hr).ok hp).1; rw [ho] at this; cases this
      simp only [pWr, if_neg hp]

/-- the remote calls that replaying `e` can make -/
def JEntry.Calls : JEntry → Op → Prop
  | .rm src, op => op = .remove src
  | .rma src, op => op = .removeAll src
  | .mk src, op => op = .mkdirAll src
  | .wr src, op => op = .mkdirAll (pathDir src) ∨ ∃ cs, op = .writer src cs

open Classical in
theorem entry_replayed (fa : Option Nat) (buffer : Node) (e : JEntry) (r : Node) (n : Nat) :
    Replayed fa (e.stepK buffer) e.Calls r n (e.run fa buffer r n) := by
  cases e with
  | rm src =>
    simp only [JEntry.run, JEntry.stepK, rmS]
    cases hn : norm src with
    | none =>
      refine guarded_replayed (pre := True) (post := abs r) fa _ (.remove src) r n _ _ (fun _ => rfl) (fun _ _ => rfl)
        (fun _ h => ?_)
      rw [(root_climb r src hn).isFile] at h; cases h
    | some Q =>
      refine guarded_replayed (pre := True) (post := FS.removeSt (abs r) Q) fa _ (.remove src) r n _ _ (fun _ => rfl)
        (fun hr h => ?_) (fun hr h => ?_)
      all_goals rw [root_isFile_eq r hr src Q hn] at h; simp only [isTrue] at h; simp only [pRm]; rw [h]
      · rfl
      · obtain ⟨d, hd⟩ := isFileE_eq_true.mp h
        have R := rootMut_remove r hr src Q hn
        have hp : FS.removeOk (abs r) Q := ⟨ne_nil_of_file hr hd, Or.inl ⟨d, hd⟩⟩
        exact ⟨⟨R.inv, fun _ => R.ok hp, fun h => absurd trivial h⟩, by simp⟩
  | rma src =>
    simp only [JEntry.run, JEntry.stepK, rmaS]
    cases hn : norm src with
    | none =>
      refine guarded_replayed (pre := True) (post := abs r) fa _ (.removeAll src) r n _ _ (fun _ => rfl) (fun _ _ => rfl)
        (fun _ h => ?_)
      rw [(root_climb r src hn).isExist] at h; cases h
    | some Q =>
      refine guarded_replayed fa _ (.removeAll src) r n _ _ (fun _ => rfl) (fun hr h => ?_)
        (fun hr h => ⟨rootMut_removeAll r hr src Q hn, ?_⟩)
      all_goals rw [root_isExist_eq r hr src Q hn] at h; simp only [isTrue] at h; simp only [pRma]
      · have hf : abs r Q = none := by simpa using h
        have hne : Q ≠ [] := by rintro rfl; rw [hr.abs_nil] at hf; cases hf
        rw [if_neg hne, (abs_closed r).removeAllSt_absent hf]
      · have hf : abs r Q ≠ none := fun e => by rw [e] at h; cases h
        by_cases hne : Q = []
        · rw [if_pos hne, if_neg (fun hp : FS.removeAllOk (abs r) Q => hp.1 hne)]
        · rw [if_neg hne, if_pos ⟨hne, hf⟩]
  | mk src =>
    simp only [JEntry.run, JEntry.stepK, mkS]
    by_cases h : isTrue (Root.isDir buffer src) = true
    · obtain ⟨M, hn⟩ := norm_of_isTrue buffer src (.inl h)
      rw [if_pos h, hn]
      exact guarded_replayed fa _ (.mkdirAll src) r n _ _ (fun _ => rfl) (fun _ h' => by rw [h] at h'; cases h')
        (fun hr _ => ⟨rootMut_mkdirAll r hr src M hn, rfl⟩)
    · rw [if_neg h]
      exact guarded_replayed (pre := True) (post := abs r) fa _ (.mkdirAll src) r n _ _ (fun _ => rfl) (fun _ _ => rfl)
        (fun _ h' => absurd h' h)
  | wr src =>
    have hA : Replayed fa (wrA src) (JEntry.wr src).Calls r n (guarded fa true (.mkdirAll (pathDir src)) r n) := by
      unfold wrA
      cases hnd : norm (pathDir src) with
      | none =>
        refine guarded_replayed (pre := False) (post := abs r) fa _ _ r n _ _ (fun _ => .inl rfl) (fun _ h => by cases h)
          (fun hr _ => ⟨⟨?_, fun h => h.elim, fun _ => ?_⟩, by simp⟩)
        all_goals
          have hres : MemFS.step .root r (.mkdirAll (pathDir src)) = (r, .err) := by
            show Root.mkdirAll r (pathDir src) = _
            simp [Root.mkdirAll, reduceAbsPath_none hnd]
          rw [hres]
        exact hr
      | some D =>
        exact guarded_replayed fa _ _ r n _ _ (fun _ => .inl rfl) (fun _ h => by cases h)
          (fun hr _ => ⟨rootMut_mkdirAll r hr (pathDir src) D hnd, rfl⟩)
    simp only [JEntry.run, JEntry.stepK, wrS]
    refine Replayed.seq (g := wrB buffer src) hA fun _ => ?_
    generalize (guarded fa true (.mkdirAll (pathDir src)) r n).1 = r1
    show Replayed fa _ _ r1 (n + 1) _
    unfold wrB
    by_cases hf : isTrue (Root.isFile buffer src) = true
    · obtain ⟨W, hn⟩ := norm_of_isTrue buffer src (.inr hf)
      simp only [hf, if_true, hn]
      cases Root.readFile buffer src
      case data d => exact (remoteStream_replayed fa (n + 1) src d r1 W hn).mono fun _ h => .inr h
      all_goals exact .stop (Nat.le_refl _) fun _ _ => rfl
    · simp only [hf, Bool.false_eq_true, if_false]
      exact Replayed.skip ..

theorem runEntries_replayed (fa : Option Nat) (buffer : Node) (l : List JEntry) (r : Node) (n : Nat) :
    Replayed fa (foldK (l.map (JEntry.stepK buffer))) (fun op => ∃ e ∈ l, e.Calls op) r n (runEntries fa buffer l r n) := by
  induction l generalizing r n with
  | nil => exact Replayed.skip ..
  | cons e rest ih =>
    -- by definition `foldK (f :: l) = seqK f (foldK l)`, `runEntries (e :: l) = (e.run …).andThen (runEntries … l)`
    exact Replayed.seq ((entry_replayed fa buffer e r n).mono fun _ h => ⟨e, List.mem_cons_self, h⟩)
      fun _ => (ih _ _).mono fun _ ⟨e', he', h⟩ => ⟨e', List.mem_cons_of_mem _ he', h⟩

/-- an unfailed Commit on abstract trees -/
noncomputable def commitK (buffer : Node) (rm rma mk wr : List Bytes) : FS.State → Option FS.State :=
  foldK ((entries rm rma mk wr).map (JEntry.stepK buffer))

theorem commit_replayed (rm rma mk wr : List Bytes) (fa : Option Nat) (s : State) :
    Replayed fa (commitK s.buffer rm rma mk wr) (fun op => ∃ e ∈ entries rm rma mk wr, e.Calls op) s.remote 0
      ((commitWith rm rma mk wr fa s).1.remote, (commitWith rm rma mk wr fa s).2) := by
  rw [commitWith_eq]
  exact runEntries_replayed fa s.buffer _ s.remote 0

theorem commit_refines (rm rma mk wr : List Bytes) (s : State) (hr : Inv s.remote) :
    Inv (commitWith rm rma mk wr none s).1.remote
    ∧ commitK s.buffer rm rma mk wr (abs s.remote)
        = if (commitWith rm rma mk wr none s).2.2 = true then some (abs (commitWith rm rma mk wr none s).1.remote)
          else none := by
  have h := commit_replayed rm rma mk wr none s
  refine ⟨h.inv hr, ?_⟩
  cases hok : (commitWith rm rma mk wr none s).2.2
  · simpa using h.refused hr rfl hok
  · simpa using h.ok hr hok

/-- "If the remote fails during Commit the failure is reported": when the call that was to fail has been made (its
index is below the number of calls made), Commit did not return nil. -/
theorem commit_fail_reported (rm rma mk wr : List Bytes) (k : Nat) (s : State)
    (hfired : k < (commitWith rm rma mk wr (some k) s).2.1) :
    (commitWith rm rma mk wr (some k) s).2.2 = false := by
  cases h : (commitWith rm rma mk wr (some k) s).2.2
  · rfl
  · have := (commit_replayed rm rma mk wr (some k) s).fired k rfl h
    simp only [] at this
    omega

end Cache
end Goat
