/-
For properties C14/C16: termination.  Every step strictly decreases a measure (remaining work of the main thread + of
every task + of every try goroutine).  With deadlock freedom (`progressS`) this gives `can_finishS` (`PipelineSteer`):
every run can be extended to one in which the main thread has finished — `TasksManager.Wait` has returned and every
accepted task has released its latch.
-/
import Goat.Proofs.PipelineFacts
import Goat.Proofs.PipelineTrans

namespace Goat.Pipeline

/-- the steps a runner still has before it: one per wait-list entry, three per command (`run → inCmd → afterCmd → run`),
one each for the submission, leaving the wait list, the end of the script and the close -/
def taskW (g : Graph) (u : Nat) : PC → Nat
  | .idle => (g.waits u).length + 3 * (g.body u).length + 4
  | .rejected => 0
  | .waiting k => ((g.waits u).length - k) + 3 * (g.body u).length + 3
  | .run i => 3 * ((g.body u).length - i) + 2
  | .inCmd i => 3 * ((g.body u).length - i) + 1
  | .afterCmd i => 3 * ((g.body u).length - i)
  | .closing _ => 1
  | .finished => 0

def tgW : TG → Nat
  | .idle => 5
  | .waitBody => 4
  | .subFin _ => 3
  | .subFail _ => 2
  | .subSucc _ => 1
  | .done => 0

/-- two per top-level task (`sub`, `create`), then `wait`, one `fins` step per task of the table, the report on the
root scope -/
def mainW (g : Graph) : MP → Nat
  | .sub j => 2 * (g.top.length - j) + g.n + 4
  | .create j => 2 * (g.top.length - j) + g.n + 3
  | .wait => g.n + 3
  | .fins t => (g.n - t) + 1
  | .finished => 0

def mu (g : Graph) (s : St) : Nat :=
  mainW g s.mp + ((List.range g.n).map fun u => taskW g u (s.pc u)).sum +
    ((List.range g.tries.length).map fun y => tgW (s.tg y)).sum

theorem mu_lt {g : Graph} {s s' : St}
    (hp : ∀ u, taskW g u (s'.pc u) ≤ taskW g u (s.pc u))
    (ht : ∀ y, tgW (s'.tg y) ≤ tgW (s.tg y))
    (hm : mainW g s'.mp ≤ mainW g s.mp)
    (hs : (∃ u, u < g.n ∧ taskW g u (s'.pc u) < taskW g u (s.pc u)) ∨
          (∃ y, y < g.tries.length ∧ tgW (s'.tg y) < tgW (s.tg y)) ∨
          mainW g s'.mp < mainW g s.mp) : mu g s' < mu g s := by
  unfold mu
  have h1 := LTS.sum_map_le (l := List.range g.n) fun u _ => hp u
  have h2 := LTS.sum_map_le (l := List.range g.tries.length) fun y _ => ht y
  rcases hs with ⟨u, hu, hlt⟩ | ⟨y, hy, hlt⟩ | hlt
  · have := LTS.sum_map_lt (fun u _ => hp u) (List.mem_range.2 hu) hlt; omega
  · have := LTS.sum_map_lt (fun y _ => ht y) (List.mem_range.2 hy) hlt; omega
  · omega

theorem taskW_lt_idle (g : Graph) (u : Nat) (q : PC) (h : q = .waiting 0 ∨ q = .rejected) :
    taskW g u q < taskW g u .idle := by
  rcases h with h | h <;> subst h <;> simp [taskW] <;> omega

theorem taskW_upd_idle (g : Graph) {pc : Nat → PC} {c : Nat} (hci : pc c = .idle) {q : PC}
    (hq : q = .waiting 0 ∨ q = .rejected) (u : Nat) : taskW g u (upd pc c q u) ≤ taskW g u (pc u) :=
  upd_le (taskW g) (by rw [hci]; exact Nat.le_of_lt (taskW_lt_idle g c q hq)) u

theorem mu_move {g : Graph} {s s' : St} {t : Nat} {q : PC} (hpc : s'.pc = upd s.pc t q)
    (htg : s'.tg = s.tg) (hmp : s'.mp = s.mp) (htn : t < g.n)
    (hlt : taskW g t q < taskW g t (s.pc t)) : mu g s' < mu g s :=
  mu_lt (fun u => hpc ▸ upd_le (taskW g) (Nat.le_of_lt hlt) u) (fun y => by rw [htg]; exact Nat.le_refl _)
    (by rw [hmp]; exact Nat.le_refl _) (Or.inl ⟨t, htn, by rw [hpc, upd_same]; exact hlt⟩)

theorem mu_move_create {g : Graph} {s s' : St} {t c : Nat} {q qc : PC}
    (hpc : s'.pc = upd (upd s.pc c qc) t q) (hct : c ≠ t) (hci : s.pc c = .idle)
    (hqc : qc = .waiting 0 ∨ qc = .rejected)
    (htg : ∀ y, tgW (s'.tg y) ≤ tgW (s.tg y)) (hmp : s'.mp = s.mp) (htn : t < g.n)
    (hlt : taskW g t q < taskW g t (s.pc t)) : mu g s' < mu g s := by
  have e : upd s.pc c qc t = s.pc t := upd_other _ _ (Ne.symm hct)
  exact mu_lt (fun u => hpc ▸ Nat.le_trans (upd_le (taskW g) (by rw [e]; exact Nat.le_of_lt hlt) u) (taskW_upd_idle g hci hqc u))
    htg (by rw [hmp]; exact Nat.le_refl _) (Or.inl ⟨t, htn, by rw [hpc, upd_same]; exact hlt⟩)

theorem mu_tg {g : Graph} {s s' : St} {y : Nat} {q : TG} (hy : y < g.tries.length)
    (hpc : ∀ u, taskW g u (s'.pc u) ≤ taskW g u (s.pc u)) (htg : s'.tg = upd s.tg y q)
    (hmp : s'.mp = s.mp) (hlt : tgW q < tgW (s.tg y)) : mu g s' < mu g s :=
  mu_lt hpc (fun z => htg ▸ upd_le (fun _ => tgW) (Nat.le_of_lt hlt) z) (by rw [hmp]; exact Nat.le_refl _)
    (Or.inr (Or.inl ⟨y, hy, by rw [htg, upd_same]; exact hlt⟩))

theorem mu_step {g : Graph} {s s' : St} (hw : WF g) (hI : Inv g s) (l : Label)
    (h : step g s l = some s') : mu g s' < mu g s := by
  have mv : ∀ {s' : St} {t : Nat} {p q : PC}, s'.pc = upd s.pc t q → s'.tg = s.tg → s'.mp = s.mp →
      s.pc t = p → p ≠ .idle → taskW g t q < taskW g t p → mu g s' < mu g s := by
    intro s' t p q h1 h2 h3 hp hne hlt
    exact mu_move h1 h2 h3 ((hI.ti t).range (hp ▸ hne)) (hp ▸ hlt)
  have main_only : ∀ s' : St, s'.pc = s.pc → s'.tg = s.tg → mainW g s'.mp < mainW g s.mp → mu g s' < mu g s := by
    intro s' hpc htg hlt
    exact mu_lt (fun u => by rw [hpc]; exact Nat.le_refl _) (fun y => by rw [htg]; exact Nat.le_refl _)
      (Nat.le_of_lt hlt) (Or.inr (Or.inr hlt))
  cases Trans.of_step h with
  | waitsDone hpc | waitFailed hpc => exact mv rfl rfl rfl hpc nofun (by simp [taskW] <;> omega)
  | waitNext hpc hk =>
    have := (List.getElem?_eq_some_iff.mp hk).1
    exact mv rfl rfl rfl hpc nofun (by simp [taskW] <;> omega)
  | enter hpc | endOfScript hpc | retNil hpc => exact mv rfl rfl rfl hpc nofun (by simp [taskW])
  | retErr hpc hcmd =>
    have := cmdAt_lt hcmd
    exact mv rfl rfl rfl hpc nofun (by simp [taskW] <;> omega)
  | submit hpc hch acc hcan htg' =>
    rename_i t i c tg'
    have hil : i < (g.body t).length := hch.elim cmdAt_lt fun ⟨_, h, _⟩ => cmdAt_lt h
    obtain ⟨hci, hct⟩ := child_idle hw hI hpc hch
    refine mu_move_create rfl hct hci (by cases acc <;> simp) (fun z => ?_) rfl
      ((hI.ti _).range (by rw [hpc]; nofun)) (by rw [hpc]; cases acc <;> simp [taskW] <;> omega)
    show tgW (tg' z) ≤ _
    rw [htg']; split
    · rename_i h; rw [tryg_idle hw hI hpc h.1]; simp [tgW]
    · exact Nat.le_refl _
  | leaveErr hpc hcmd =>
    have := cmdAt_lt hcmd
    exact mv rfl rfl rfl hpc nofun (by simp [taskW] <;> omega)
  | leaveOk hpc hcmd =>
    have := cmdAt_lt hcmd
    exact mv rfl rfl rfl hpc nofun (by simp [taskW] <;> omega)
  | close hpc => exact mv rfl rfl rfl hpc nofun (by simp [taskW])
  | stop hpc => exact mv rfl rfl rfl hpc nofun (by simp [taskW])
  | bodyClosed htg =>
    exact mu_tg (hI.tgr _ (by rw [htg]; nofun)) (fun _ => Nat.le_refl _) rfl rfl (by rw [htg]; simp [tgW])
  | handler k htg hh hrun acc =>
    have hy := hI.tgr _ (htg ▸ k.cur_ne_idle _)
    have hci := handler_idle hw hI hy k hh (by rw [htg, ← k.rank_cur]; exact Nat.lt_succ_self _)
    exact mu_tg hy (taskW_upd_idle g hci (by cases acc <;> simp)) rfl rfl
      (by rw [htg]; cases k <;> cases acc <;> simp [tgW, HKind.cur, HKind.next])
  | noHandler k htg =>
    exact mu_tg (hI.tgr _ (htg ▸ k.cur_ne_idle _)) (fun _ => Nat.le_refl _) rfl rfl
      (by rw [htg]; cases k <;> simp [tgW, HKind.cur, HKind.next])
  | announce hmp htop => exact main_only _ rfl rfl (by rw [hmp]; simp [mainW, emit])
  | noMore hmp htop => exact main_only _ rfl rfl (by rw [hmp]; simp [mainW] <;> omega)
  | create hmp htop acc =>
    have hjl := (List.getElem?_eq_some_iff.mp htop).1
    obtain ⟨hci, htn, _⟩ := top_idle hw hI hmp htop
    refine mu_lt (taskW_upd_idle g hci (by cases acc <;> simp)) (fun y => Nat.le_refl _) ?_ (Or.inr (Or.inr ?_))
    · rw [hmp]; simp [mainW, emit] <;> omega
    · rw [hmp]; simp [mainW, emit] <;> omega
  | waitReturns hmp => exact main_only _ rfl rfl (by rw [hmp]; simp [mainW, emit])
  | report hmp ht => exact main_only _ rfl rfl (by rw [hmp]; simp [mainW, emit] <;> omega)
  | skip hmp ht => exact main_only _ rfl rfl (by rw [hmp]; simp [mainW] <;> omega)
  | root hmp => exact main_only _ rfl rfl (by rw [hmp]; simp [mainW, emit])

end Goat.Pipeline
