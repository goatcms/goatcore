/-
Semantic confinement on the specification `FS.Step`: a call through a view rooted at `base` leaves every path not at
or below `base` as it was (`step_confined`; without `RootDirs`, missing ancestors of the root may become
directories), and, unless the answer names the root, answer and tree below `base` afterwards are a function of the
tree below `base` before (`step_local_unnamed`).  `RootDirs`, `OutsideOK` and the `…_outsideOK` lemmas are in
`Proofs/FSSpec`, where `Step_below` needs them.  Also here, for the view stack and the other filespace models: the
classes of methods by their path arguments (`OnePath`, `NonRoot`, `TwoPath`, `op_cases`).
-/
import Goat.Model.Views
import Goat.Proofs.FSSpec

namespace Goat
namespace Views

open Path (Name norm)
open FS

/-- what a view rooted at `base` can see of the two trees is the same -/
def AgreeUnder (base : List Name) (S₁ S₂ : State) : Prop := ∀ q, base <+: q → S₁ q = S₂ q

theorem AgreeUnder.refl (base : List Name) (S : State) : AgreeUnder base S S := fun _ _ => rfl

/-! The specification reads a raw path only through `norm`, and the view's root only through `root ++ norm raw`
(`step_congr`); a climbing path makes the call fail (`step_none`).  Both are stated for the constructor `k` of a
class of methods with the same path arguments. -/

/-- `Filespace` opens a view and is not handed down by a layer (`openView`): calls through a stack are the 15 others -/
def NotFilespace (op : Op) : Prop := ∀ raw, op ≠ .filespace raw

/-- the call fails cleanly: the failing answer of its method, nothing changed -/
def Fails (S : State) (op : Op) (r : Result) (S' : State) : Prop := r = failResult op ∧ S' = S

/-- the one-path methods that accept the view's own root -/
inductive OnePath : (Bytes → Op) → Prop
  | readDir : OnePath .readDir
  | isExist : OnePath .isExist
  | isFile : OnePath .isFile
  | isDir : OnePath .isDir
  | mkdirAll : OnePath .mkdirAll
  | readFile : OnePath .readFile
  | writeFile (data : Bytes) : OnePath (.writeFile · data)
  | reader (sizes : List Nat) : OnePath (.reader · sizes)
  | writer (chunks : List Bytes) : OnePath (.writer · chunks)
  | lstat : OnePath .lstat

/-- the removals: one path, the view's own root refused -/
inductive NonRoot : (Bytes → Op) → Prop
  | remove : NonRoot .remove
  | removeAll : NonRoot .removeAll

inductive TwoPath : (Bytes → Bytes → Op) → Prop
  | copy : TwoPath .copy
  | copyDirectory : TwoPath .copyDirectory
  | copyFile : TwoPath .copyFile

theorem op_cases (op : Op) :
    (∃ k p, OnePath k ∧ op = k p) ∨ (∃ k p, NonRoot k ∧ op = k p) ∨ (∃ k s d, TwoPath k ∧ op = k s d)
      ∨ ∃ raw, op = .filespace raw := by
  cases op
  case filespace raw => exact .inr (.inr (.inr ⟨raw, rfl⟩))
  case copy s d => exact .inr (.inr (.inl ⟨_, s, d, .copy, rfl⟩))
  case copyDirectory s d => exact .inr (.inr (.inl ⟨_, s, d, .copyDirectory, rfl⟩))
  case copyFile s d => exact .inr (.inr (.inl ⟨_, s, d, .copyFile, rfl⟩))
  case remove p => exact .inr (.inl ⟨_, p, .remove, rfl⟩)
  case removeAll p => exact .inr (.inl ⟨_, p, .removeAll, rfl⟩)
  case writeFile p data => exact .inl ⟨_, p, .writeFile data, rfl⟩
  case reader p sizes => exact .inl ⟨_, p, .reader sizes, rfl⟩
  case writer p chunks => exact .inl ⟨_, p, .writer chunks, rfl⟩
  all_goals exact .inl ⟨_, _, by constructor, rfl⟩

section
variable {k : Bytes → Op} {c c' : List Name} {S S' : State} {r : Result} {raw raw' : Bytes} {p p' : List Name}

namespace OnePath

theorem step_none (hk : OnePath k) (h : norm raw = none) :
    Step c S (k raw) r S' ↔ Fails S (k raw) r S' := by
  cases hk <;> simp [Step, Fails, failResult, h, and_comm]

theorem step_congr (hk : OnePath k) (h : norm raw = some p) (h' : norm raw' = some p')
    (e : c ++ p = c' ++ p') : Step c S (k raw) r S' ↔ Step c' S (k raw') r S' := by
  cases hk <;> simp only [Step, h, h', e]

end OnePath

namespace NonRoot

theorem step_none (hk : NonRoot k) (h : norm raw = none ∨ norm raw = some []) :
    Step c S (k raw) r S' ↔ Fails S (k raw) r S' := by
  cases hk <;> rcases h with h | h <;> simp [Step, Fails, failResult, Mut, h]

theorem step_congr (hk : NonRoot k) (h : norm raw = some p) (h' : norm raw' = some p')
    (hp : p ≠ []) (hp' : p' ≠ []) (e : c ++ p = c' ++ p') : Step c S (k raw) r S' ↔ Step c' S (k raw') r S' := by
  cases hk <;> simp only [Step, h, h', e, ne_eq, hp, hp', not_false_eq_true, true_and]

end NonRoot

end

section
variable {k : Bytes → Bytes → Op} {c c' : List Name} {S S' : State} {r : Result} {s d s' d' : Bytes}
  {a b a' b' : List Name}

namespace TwoPath

theorem step_none (hk : TwoPath k) (h : norm s = none ∨ norm d = none) :
    Step c S (k s d) r S' ↔ Fails S (k s d) r S' := by
  -- `FS.Step` matches on `norm s, norm d` together: it reduces only once `norm s` is known, also when `d` climbs
  cases hk <;> rcases h with h | h <;> cases hs : norm s <;> simp [Step, Fails, failResult, h, hs] at *

theorem step_congr (hk : TwoPath k) (hs : norm s = some a) (hd : norm d = some b)
    (hs' : norm s' = some a') (hd' : norm d' = some b') (ea : c ++ a = c' ++ a') (eb : c ++ b = c' ++ b') :
    Step c S (k s d) r S' ↔ Step c' S (k s' d') r S' := by
  cases hk <;> simp only [Step, hs, hd, hs', hd', ea, eb]

end TwoPath

end

/-- the raw path arguments of a call, a copy's source first -/
def opArgs : Op → List Bytes
  | .copy s d | .copyDirectory s d | .copyFile s d => [s, d]
  | .readDir p | .isExist p | .isFile p | .isDir p | .mkdirAll p | .readFile p | .writeFile p _
  | .filespace p | .reader p _ | .writer p _ | .remove p | .removeAll p | .lstat p => [p]

theorem OnePath.args {k : Bytes → Op} (hk : OnePath k) (x : Bytes) : opArgs (k x) = [x] := by cases hk <;> rfl

theorem NonRoot.args {k : Bytes → Op} (hk : NonRoot k) (x : Bytes) : opArgs (k x) = [x] := by cases hk <;> rfl

theorem TwoPath.args {k : Bytes → Bytes → Op} (hk : TwoPath k) (s d : Bytes) : opArgs (k s d) = [s, d] := by
  cases hk <;> rfl

theorem step_climbing {b : List Name} {S S' : State} {op : Op} {r : Result} (raw : Bytes)
    (hraw : raw ∈ opArgs op) (hn : norm raw = none) (h : Step b S op r S') : Fails S op r S' := by
  rcases op_cases op with ⟨k, p, hk, rfl⟩ | ⟨k, p, hk, rfl⟩ | ⟨k, s, d, hk, rfl⟩ | ⟨x, rfl⟩
  · rw [hk.args, List.mem_singleton] at hraw
    exact (hk.step_none (hraw ▸ hn)).mp h
  · rw [hk.args, List.mem_singleton] at hraw
    exact (hk.step_none (.inl (hraw ▸ hn))).mp h
  · rw [hk.args, List.mem_cons, List.mem_singleton] at hraw
    exact (hk.step_none (hraw.imp (· ▸ hn) (· ▸ hn))).mp h
  · rw [opArgs, List.mem_singleton] at hraw
    subst hraw
    simpa [Step, hn, Fails, failResult, and_comm] using h

theorem mut_outside {pre : Prop} {post S S' : State} {r : Result} {base q : List Name}
    (h : Mut pre post S r S') (hpost : OutsideOK base S post q) : OutsideOK base S S' q := by
  rcases h with ⟨_, _, e⟩ | ⟨_, _, e⟩
  · rw [e]; exact hpost
  · rw [e]; exact Or.inl rfl

/-- The only post-states of `Step` are `mkdirSt`, `writeSt`, `copySt` (their `_outsideOK` lemmas), `removeSt`,
`removeAllSt` (nothing outside); every other outcome is `S' = S`. -/
theorem step_confined_rootless (base : List Name) (S : State) (op : Op) (r : Result) (S' : State)
    (h : Step base S op r S') (q : List Name) (hq : ¬ base <+: q) : OutsideOK base S S' q := by
  have same : ∀ {T : State}, T = S → OutsideOK base S T q := fun e => Or.inl (by rw [e])
  rcases op_cases op with ⟨k, raw, hk, rfl⟩ | ⟨k, raw, hk, rfl⟩ | ⟨k, rs, rd, hk, rfl⟩ | ⟨raw, rfl⟩
  · cases hn : norm raw with
    | none => exact same ((hk.step_none hn).mp h).2
    | some p =>
      cases hk <;> simp only [Step, hn] at h
      case mkdirAll => exact mut_outside h (mkdirSt_outsideOK S hq (List.prefix_refl _))
      case writeFile | writer => exact mut_outside h (writeSt_outsideOK S hq _ _)
      all_goals exact same h.1
  · cases hn : norm raw with
    | none => exact same ((hk.step_none (.inl hn)).mp h).2
    | some p =>
      cases hk <;> simp only [Step, hn] at h
      · exact mut_outside h (Or.inl (removeSt_outside S _ hq))
      · exact mut_outside h (Or.inl (removeAllSt_outside S _ hq))
  · cases hs : norm rs with
    | none => exact same ((hk.step_none (.inl hs)).mp h).2
    | some s =>
      cases hd : norm rd with
      | none => exact same ((hk.step_none (.inr hd)).mp h).2
      | some d => cases hk <;> simp only [Step, hs, hd] at h <;> exact mut_outside h (copySt_outsideOK S hq _ _)
  · exact same h.1

theorem step_confined (base : List Name) (S : State) (op : Op) (r : Result) (S' : State)
    (h : Step base S op r S') (hroot : RootDirs base S) (q : List Name) (hq : ¬ base <+: q) : S' q = S q :=
  (step_confined_rootless base S op r S' h q hq).eq hroot

theorem agreeUnder_iff {base : List Name} {S₁ S₂ : State} : AgreeUnder base S₁ S₂ ↔ S₁.below base = S₂.below base :=
  ⟨fun h => funext fun q => h _ (List.prefix_append base q),
   fun h q hq => by obtain ⟨t, rfl⟩ := hq; exact congrFun h t⟩

/-- not `Lstat`, whose answer may name the root.  Both trees look the same from `base`, so the call is the same call
there (`Step_below`); afterwards take `S₁'` below `base` and `S₂` elsewhere. -/
theorem step_local_unnamed {base : List Name} {S₁ S₂ S₁' : State} {op : Op} {r : Result}
    (hl : ∀ raw, op ≠ .lstat raw) (ha : AgreeUnder base S₁ S₂)
    (h1 : RootDirs base S₁) (h2 : RootDirs base S₂) (h : Step base S₁ op r S₁') :
    ∃ S₂', Step base S₂ op r S₂' ∧ AgreeUnder base S₁' S₂' := by
  have hl : ∀ raw p, op = .lstat raw → norm raw = some p → [] ++ p ≠ [] := fun raw _ e => absurd e (hl raw)
  rw [← List.append_nil base] at h
  have hb := ((Step_below base [] S₁ S₁' op r h1 hl).mp h).2
  rw [agreeUnder_iff.mp ha] at hb
  refine ⟨fun q => if base <+: q then S₁' q else S₂ q, ?_, fun q hq => (if_pos hq).symm⟩
  have e : State.below (fun q => if base <+: q then S₁' q else S₂ q) base = S₁'.below base :=
    funext fun t => if_pos (List.prefix_append base t)
  have := (Step_below base [] S₂ _ op r h2 hl).mpr ⟨fun q hq => if_neg hq, e ▸ hb⟩
  rwa [List.append_nil] at this

end Views
end Goat
