/-
Handed-in buffers (a `WriteFile` followed by caller-side steps, read back through `MemFS.world_read_after_write`), nodes
at different positions share no object, and the two variants of the code on the histories of the alias corpus.
-/
import Goat.Proofs.MemFSHeapSim
import Goat.Proofs.MemFSCor

namespace Goat
namespace MemFSHeap

open Path (Name split join reduceAbsPath norm dotSeg slash)
open FS (Op Result)
open MemFS (FSRef World)

theorem held_run (cfg : Cfg) (w : HWorld) (ops : List HOp) (hd : Handle) (hh : hd ∈ w.held) :
    hd ∈ (w.run cfg ops).1.held := by
  induction ops generalizing w with
  | nil => exact hh
  | cons op rest ih => rw [run_cons]; exact ih _ (held_mono cfg w op hd hh)

/-- HANDED-IN BUFFERS, heap model against value model: `WriteFile(raw, id)`, any caller-side steps (in particular
writes into `id`), `ReadFile(raw)` answer as the value model's `WriteFile` of the bytes `id` held *at the time of the
call* and its `ReadFile`. -/
theorem handed_in_stable_model (cfg : Cfg) (hc : cfg.old = false) (w : HWorld) (s : Sep w) (n : Nat)
    (raw : Bytes) (id : BufId) (hh : Handle.buf id ∈ w.held) (muts : List HOp)
    (hm : ∀ op ∈ muts, op.isCaller = true) :
    ((((w.step cfg (.call n (.writeFile raw id))).1.run cfg muts).1.step cfg (.call n (.readFile raw))).2.res
      = (((deref w).step n (.writeFile raw (w.heap.bytes id))).1.step n (.readFile raw)).2)
    ∧ (w.step cfg (.call n (.writeFile raw id))).2.res = ((deref w).step n (.writeFile raw (w.heap.bytes id))).2 := by
  have s1 := sep_step cfg hc w s (.call n (.writeFile raw id))
  have s2 := sep_run cfg hc _ s1 muts
  have a := sim_call cfg hc w s n (.writeFile raw id) (by simp [HCall.args, hh])
  have b := caller_run_deref cfg hc _ s1 muts hm
  have c := sim_call cfg hc _ s2 n (.readFile raw) rfl
  rw [c.2, b, a.1]
  exact ⟨rfl, a.2⟩

theorem nodes_share_nothing (w : HWorld) (s : Sep w) (p q : List Name) (a b : HNode)
    (ha : w.root.lookup p = some a) (hb : w.root.lookup q = some b) (h1 : ¬ p <+: q) (h2 : ¬ q <+: p) :
    ∀ id ∈ a.ids, id ∉ b.ids := by
  intro id hia hib
  have := incomparable_cnt p q w.root a b ha hb h1 h2 id
  have := s.bound.le_one id
  have x : 0 < a.cnt id := List.count_pos_iff.mpr hia
  have y : 0 < b.cnt id := List.count_pos_iff.mpr hib
  omegab

theorem incomparable_append {α : Type} (s d r1 r2 : List α) (h1 : ¬ s <+: d) (h2 : ¬ d <+: s) :
    ¬ (s ++ r1) <+: (d ++ r2) := by
  intro h
  have a : s <+: d ++ r2 := List.IsPrefix.trans (List.prefix_append s r1) h
  have b : d <+: d ++ r2 := List.prefix_append d r2
  rcases List.prefix_or_prefix_of_prefix a b with x | x
  · exact h1 x
  · exact h2 x

theorem deref_init : deref HWorld.init = World.init := by
  simp [deref, HWorld.init, World.init, Node.empty]

theorem worldOK_deref_run (cfg : Cfg) (hc : cfg.old = false) (ops : List HOp) :
    MemFS.WorldOK (deref (HWorld.init.run cfg ops).1) := by
  rw [(sim_run cfg hc _ sep_init ops).1, deref_init]
  exact (MemFS.run_refines_from World.init MemFS.worldOK_init _).2

theorem handed_in_stable_from (cfg : Cfg) (hc : cfg.old = false) (w : HWorld) (s : Sep w)
    (hw : MemFS.WorldOK (deref w)) (n : Nat) (raw : Bytes) (id : BufId) (hh : Handle.buf id ∈ w.held)
    (muts : List HOp) (hm : ∀ op ∈ muts, op.isCaller = true)
    (hok : (w.step cfg (.call n (.writeFile raw id))).2.res = .ok) :
    (((w.step cfg (.call n (.writeFile raw id))).1.run cfg muts).1.step cfg (.call n (.readFile raw))).2.res
      = .data (w.heap.bytes id) := by
  obtain ⟨a, b⟩ := handed_in_stable_model cfg hc w s n raw id hh muts hm
  rw [a]
  exact MemFS.world_read_after_write _ hw n raw _ (b ▸ hok)

/-- `WriteFile("f", buf)` with `buf = "hello"`, `buf[0] = 'X'`, `ReadFile("f")` (the slice handed out is
the node's own: handle `buf 1` again), `out[1] = 'Y'`, `ReadFile("f")` -/
def aliasDataOps : List HOp :=
  [.alloc [104, 101, 108, 108, 111], .call 0 (.writeFile [102] 1), .mutate (.buf 1) 0 88,
   .call 0 (.readFile [102]), .mutate (.buf 1) 1 89, .call 0 (.readFile [102])]

/-- files `a`, `b`, `c`; `ReadDir("")` hands out the directory's own array (object 6, length 3);
`Remove("a")`; what does the listing held by the caller show now -/
def aliasListOps : List HOp :=
  [.alloc [], .call 0 (.writeFile [97] 1), .alloc [], .call 0 (.writeFile [98] 3), .alloc [],
   .call 0 (.writeFile [99] 5), .call 0 (.readDir []), .call 0 (.remove [97]), .recheck (.listing 6 3)]

/-- pre-fix code: the tree follows the caller's writes into a buffer it handed in (`Xello`) and into
a slice it was handed out (`XYllo`); the buffer is reachable from the tree -/
theorem prefix_variant_data :
    (HWorld.init.run Cfg.preFix aliasDataOps).2.map (·.res)
      = [.ok, .ok, .ok, .data [88, 101, 108, 108, 111], .ok, .data [88, 89, 108, 108, 111]]
    ∧ ¬ Sep (HWorld.init.run Cfg.preFix aliasDataOps).1 :=
  ⟨by decide, fun s => s.disjoint (.buf 1) (by decide) (by decide)⟩

/-- pre-fix code: a listing `a b c` the caller holds reads `b c c` after `Remove("a")`; the array is
reachable from the tree -/
theorem prefix_variant_listing :
    (HWorld.init.run Cfg.preFix aliasListOps).2.map (·.res)
      = [.ok, .ok, .ok, .ok, .ok, .ok, .list [([97], false), ([98], false), ([99], false)], .ok,
         .list [([98], false), ([99], false), ([99], false)]]
    ∧ ¬ Sep (HWorld.init.run Cfg.preFix aliasListOps).1 :=
  ⟨by decide, fun s => s.disjoint (.listing 6 3) (by decide) (by decide)⟩

/-- the data history for the repaired code (its copies take ids 2, 4, 5; the array of the root grows
into id 3): the caller writes into the buffer it handed in (1) and into the slice it was handed out (4) -/
def fixedDataOps : List HOp :=
  [.alloc [104, 101, 108, 108, 111], .call 0 (.writeFile [102] 1), .mutate (.buf 1) 0 88,
   .call 0 (.readFile [102]), .mutate (.buf 4) 1 89, .call 0 (.readFile [102]),
   .recheck (.buf 1), .recheck (.buf 4)]

/-- the listing history for the repaired code: `ReadDir("")` hands out the fresh array 10 -/
def fixedListOps : List HOp :=
  [.alloc [], .call 0 (.writeFile [97] 1), .alloc [], .call 0 (.writeFile [98] 4), .alloc [],
   .call 0 (.writeFile [99] 7), .call 0 (.readDir []), .call 0 (.remove [97]), .recheck (.listing 10 3),
   .call 0 (.readDir [])]

/-- the repaired code: the file keeps `hello`, the caller's two buffers show its own writes only; the
held listing keeps `a b c` while the directory now lists `b c` -/
theorem fixed_variant_histories :
    (HWorld.init.run Cfg.fixed fixedDataOps).2.map (·.res)
      = [.ok, .ok, .ok, .data [104, 101, 108, 108, 111], .ok, .data [104, 101, 108, 108, 111],
         .data [88, 101, 108, 108, 111], .data [104, 89, 108, 108, 111]]
    ∧ (HWorld.init.run Cfg.fixed fixedListOps).2.map (·.res)
      = [.ok, .ok, .ok, .ok, .ok, .ok, .list [([97], false), ([98], false), ([99], false)], .ok,
         .list [([97], false), ([98], false), ([99], false)], .list [([98], false), ([99], false)]] := by
  constructor <;> decide

end MemFSHeap
end Goat
