/-
Flat maps, dotted keys (`splitDot` and `joinDot` are mutually inverse on dot-free segments) and nested maps: an
entry of either kind is `mk k e rest`; `put` preserves the well-formedness predicates; `insert` puts one leaf and
hides what stood at or below its path (`insert_spec`).
-/
import Goat.Proofs.PlainMapSpec
import Goat.Proofs.Lists

namespace Goat.PlainMap

section flat
variable {α : Type}

theorem Flat.get_cons (k' : Bytes) (v : α) (rest : Flat α) (k : Bytes) :
    Flat.get ((k', v) :: rest) k =
      match Flat.get rest k with
      | some x => some x
      | none => if k' = k then some v else none := rfl

theorem Flat.get_nil (k : Bytes) : Flat.get ([] : Flat α) k = none := rfl

theorem Flat.mem_of_get {f : Flat α} {k : Bytes} {v : α} (h : f.get k = some v) : (k, v) ∈ f := by
  induction f with
  | nil => simp [Flat.get] at h
  | cons e rest ih =>
    obtain ⟨k', v'⟩ := e
    rw [Flat.get_cons] at h
    cases hr : Flat.get rest k with
    | some x => rw [hr] at h; simp at h; subst h; exact List.mem_cons_of_mem _ (ih hr)
    | none =>
      rw [hr] at h
      by_cases hk : k' = k
      · simp [hk] at h; subst h; subst hk; exact List.mem_cons_self
      · simp [hk] at h

theorem Flat.get_isSome_of_mem {f : Flat α} {k : Bytes} {v : α} (h : (k, v) ∈ f) : ∃ v', f.get k = some v' := by
  induction f with
  | nil => cases h
  | cons e rest ih =>
    obtain ⟨k', v'⟩ := e
    rw [Flat.get_cons]
    cases hr : Flat.get rest k with
    | some x => exact ⟨x, rfl⟩
    | none =>
      rcases List.mem_cons.mp h with h | h
      · cases h; exact ⟨v, by simp⟩
      · obtain ⟨w, hw⟩ := ih h; rw [hr] at hw; cases hw

theorem Flat.get_none_of_not_mem {f : Flat α} {k : Bytes} (h : k ∉ f.keys) : f.get k = none := by
  cases hg : f.get k with
  | none => rfl
  | some v => exact absurd (List.mem_map.mpr ⟨(k, v), Flat.mem_of_get hg, rfl⟩) h

theorem Flat.get_append (f g : Flat α) (k : Bytes) :
    (f ++ g).get k = match g.get k with
      | some x => some x
      | none => f.get k := by
  induction f with
  | nil => simp [Flat.get]; cases g.get k <;> rfl
  | cons e rest ih =>
    obtain ⟨k', v'⟩ := e
    rw [List.cons_append, Flat.get_cons, ih, Flat.get_cons]
    cases g.get k <;> rfl

theorem Flat.get_flatten_none {ms : List (Flat α)} {k : Bytes} (h : ∀ m ∈ ms, Flat.get m k = none) :
    Flat.get ms.flatten k = none := by
  induction ms with
  | nil => rfl
  | cons m ms ih =>
    rw [List.flatten_cons, Flat.get_append, ih fun m' hm' => h m' (List.mem_cons_of_mem _ hm')]
    exact h m List.mem_cons_self

theorem Flat.get_of_mem_nodup {f : Flat α} (hn : f.keys.Nodup) {k : Bytes} {v : α} (h : (k, v) ∈ f) :
    f.get k = some v := by
  induction f with
  | nil => cases h
  | cons e rest ih =>
    obtain ⟨k', v'⟩ := e
    simp only [Flat.keys, List.map_cons, List.nodup_cons] at hn
    rw [Flat.get_cons]
    rcases List.mem_cons.mp h with h | h
    · cases h
      rw [Flat.get_none_of_not_mem (by simpa [Flat.keys] using hn.1)]; simp
    · rw [ih (by simpa [Flat.keys] using hn.2) h]

theorem Flat.get_eq_some_iff {f : Flat α} (hn : f.keys.Nodup) {k : Bytes} {v : α} : f.get k = some v ↔ (k, v) ∈ f :=
  ⟨Flat.mem_of_get, Flat.get_of_mem_nodup hn⟩

theorem Flat.get_perm {f g : Flat α} (hn : f.keys.Nodup) (hp : f.Perm g) (k : Bytes) : f.get k = g.get k :=
  Option.ext fun _ => by
    rw [Flat.get_eq_some_iff hn, Flat.get_eq_some_iff ((hp.map Prod.fst).nodup_iff.mp hn), hp.mem_iff]

end flat

theorem splitDot_cons_dot (s : Bytes) : splitDot (dot :: s) = [] :: splitDot s := by simp [splitDot]

theorem splitDot_cons_ne {b : Byte} {s l : Bytes} {ls : List Bytes} (hb : b ≠ dot) (hs : splitDot s = l :: ls) :
    splitDot (b :: s) = (b :: l) :: ls := by simp [splitDot, hb, hs]

theorem splitDot_ne_nil (s : Bytes) : splitDot s ≠ [] := split_ne_nil rfl splitDot_cons_dot splitDot_cons_ne s

theorem joinDot_cons_of_ne {p : List Bytes} (a : Bytes) (h : p ≠ []) : joinDot (a :: p) = a ++ dot :: joinDot p := by
  cases p with
  | nil => exact absurd rfl h
  | cons b rest => rfl

theorem joinDot_splitDot (s : Bytes) : joinDot (splitDot s) = s :=
  split_induction rfl splitDot_cons_dot splitDot_cons_ne (P := fun s r => joinDot r = s) rfl
    (fun _ _ _ ih => congrArg (dot :: ·) ih) (fun b _ _ ls _ ih => by cases ls <;> exact congrArg (b :: ·) ih) s

theorem splitDot_dotFree (s : Bytes) : ∀ k ∈ splitDot s, DotFree k :=
  split_free rfl splitDot_cons_dot splitDot_cons_ne s

theorem splitDot_of_dotFree {k : Bytes} (h : DotFree k) : splitDot k = [k] :=
  split_of_free rfl splitDot_cons_dot splitDot_cons_ne h

theorem splitDot_append_dot (a r : Bytes) : splitDot (a ++ dot :: r) = splitDot a ++ splitDot r :=
  split_append_sep rfl splitDot_cons_dot splitDot_cons_ne a r

theorem splitDot_append_dot_of_dotFree (a r : Bytes) (h : DotFree a) : splitDot (a ++ dot :: r) = a :: splitDot r := by
  rw [splitDot_append_dot, splitDot_of_dotFree h]; rfl

theorem splitDot_joinDot (p : List Bytes) (hne : p ≠ []) (h : ∀ k ∈ p, DotFree k) : splitDot (joinDot p) = p := by
  induction p with
  | nil => exact absurd rfl hne
  | cons a p ih =>
    cases p with
    | nil => simp [joinDot]; exact splitDot_of_dotFree (h a List.mem_cons_self)
    | cons b rest =>
      rw [joinDot_cons_of_ne a (List.cons_ne_nil b rest), splitDot_append_dot_of_dotFree _ _ (h a List.mem_cons_self),
        ih (by simp) (fun k hk => h k (List.mem_cons_of_mem _ hk))]

theorem joinDot_append {p r : List Bytes} (hp : p ≠ []) (hr : r ≠ []) :
    joinDot (p ++ r) = joinDot p ++ dot :: joinDot r := by
  induction p with
  | nil => exact absurd rfl hp
  | cons a p ih =>
    cases p with
    | nil => simp [joinDot_cons_of_ne a hr, joinDot]
    | cons b rest =>
      rw [List.cons_append, joinDot_cons_of_ne a (by simp), ih (by simp), joinDot_cons_of_ne _ (List.cons_ne_nil _ _)]
      simp

theorem splitDot_prefix {a b : Bytes} {r : List Bytes} (hr : r ≠ []) (h : splitDot a ++ r = splitDot b) :
    b = a ++ dot :: joinDot r := by
  rw [← joinDot_splitDot b, ← h, joinDot_append (splitDot_ne_nil a) hr, joinDot_splitDot]

theorem splitDot_inj {a b : Bytes} (h : splitDot a = splitDot b) : a = b := by
  rw [← joinDot_splitDot a, h, joinDot_splitDot]

namespace Tree
variable {α : Type}

@[elab_as_elim]
theorem induction_mk {P : Tree α → Prop} (nil : P nil)
    (mk : ∀ k e rest, (∀ c, e = .inr c → P c) → P rest → P (mk k e rest)) (t : Tree α) : P t := by
  induction t with
  | nil => exact nil
  | leaf k v rest ih => exact mk k (.inl v) rest nofun ih
  | node k c rest ihc ih => exact mk k (.inr c) rest (fun _ h => by cases h; exact ihc) ih

theorem find?_mk (k' k : Bytes) (e : α ⊕ Tree α) (rest : Tree α) :
    find? k' (mk k e rest) = if k = k' then some e else find? k' rest := by cases e <;> rfl

theorem put_mk (k' : Bytes) (e' : α ⊕ Tree α) (k : Bytes) (e : α ⊕ Tree α) (rest : Tree α) :
    put k' e' (mk k e rest) = if k = k' then mk k' e' rest else mk k e (put k' e' rest) := by cases e <;> rfl

theorem mk_ne_nil (k : Bytes) (e : α ⊕ Tree α) (rest : Tree α) : mk k e rest ≠ nil := by cases e <;> nofun

theorem uniq_mk {k : Bytes} {e : α ⊕ Tree α} {rest : Tree α} :
    Uniq (mk k e rest) ↔ find? k rest = none ∧ (∀ c, e = .inr c → Uniq c) ∧ Uniq rest := by
  cases e <;> simp [mk, Uniq]

theorem noEmpty_mk {k : Bytes} {e : α ⊕ Tree α} {rest : Tree α} :
    NoEmpty (mk k e rest) ↔ (∀ c, e = .inr c → c ≠ nil ∧ NoEmpty c) ∧ NoEmpty rest := by
  cases e <;> simp [mk, NoEmpty, and_assoc]

theorem dotFreeKeys_mk {k : Bytes} {e : α ⊕ Tree α} {rest : Tree α} :
    DotFreeKeys (mk k e rest) ↔ DotFree k ∧ (∀ c, e = .inr c → DotFreeKeys c) ∧ DotFreeKeys rest := by
  cases e <;> simp [mk, DotFreeKeys]

theorem find?_put (k k' : Bytes) (e : α ⊕ Tree α) (t : Tree α) :
    find? k' (put k e t) = if k = k' then some e else find? k' t := by
  induction t using induction_mk with
  | nil => exact find?_mk k' k e nil
  | mk k0 e0 rest _ ih =>
    rw [put_mk]
    split
    · next h0 => rw [find?_mk, find?_mk, h0]; split <;> rfl
    · next h0 =>
      rw [find?_mk, ih, find?_mk]
      split
      · next h => rw [if_neg (fun e => h0 (h.trans e.symm))]
      · rfl

theorem put_ne_nil (k : Bytes) (e : α ⊕ Tree α) (t : Tree α) : put k e t ≠ nil := by
  induction t using induction_mk with
  | nil => exact mk_ne_nil k e nil
  | mk k0 e0 rest _ _ => rw [put_mk]; split <;> exact mk_ne_nil _ _ _

/-- what may be stored as an entry of a good tree -/
def EntryOK (P : Tree α → Prop) (nonempty : Bool) : α ⊕ Tree α → Prop
  | .inl _ => True
  | .inr c => P c ∧ (nonempty = true → c ≠ nil)

theorem wfNested_mk {k : Bytes} {e : α ⊕ Tree α} {rest : Tree α} :
    WFNested (mk k e rest) ↔
      (find? k rest = none ∧ DotFree k) ∧ (∀ c, e = .inr c → c ≠ nil ∧ WFNested c) ∧ WFNested rest := by
  simp only [WFNested, uniq_mk, dotFreeKeys_mk, noEmpty_mk]
  exact ⟨fun ⟨⟨a, uc, u⟩, ⟨d, fc, f⟩, nc, n⟩ => ⟨⟨a, d⟩, fun c h => ⟨(nc c h).1, uc c h, fc c h, (nc c h).2⟩, u, f, n⟩,
    fun ⟨⟨a, d⟩, h, u, f, n⟩ => ⟨⟨a, fun c hc => (h c hc).2.1, u⟩, ⟨d, fun c hc => (h c hc).2.2.1, f⟩,
      fun c hc => ⟨(h c hc).1, (h c hc).2.2.2⟩, n⟩⟩

theorem wfNested_put {k : Bytes} {e : α ⊕ Tree α} {t : Tree α} (ht : WFNested t) (hk : DotFree k)
    (he : ∀ c, e = .inr c → c ≠ nil ∧ WFNested c) : WFNested (put k e t) := by
  induction t using induction_mk with
  | nil => exact wfNested_mk.mpr ⟨⟨rfl, hk⟩, he, ht⟩
  | mk k0 e0 rest _ ih =>
    have ⟨⟨h1, h2⟩, h3, h4⟩ := wfNested_mk.mp ht
    rw [put_mk]
    split
    · next h0 => exact wfNested_mk.mpr ⟨⟨h0 ▸ h1, hk⟩, he, h4⟩
    · next h0 => exact wfNested_mk.mpr ⟨⟨by rw [find?_put, if_neg (Ne.symm h0)]; exact h1, h2⟩, h3, ih h4⟩

theorem wfNested_of_find? {k : Bytes} {t c : Tree α} (h : find? k t = some (.inr c)) (ht : WFNested t) :
    c ≠ nil ∧ WFNested c := by
  induction t using induction_mk with
  | nil => cases h
  | mk k0 e rest _ ih =>
    have ⟨_, h3, h4⟩ := wfNested_mk.mp ht
    rw [find?_mk] at h
    split at h
    · cases h; exact h3 c rfl
    · exact ih h h4

theorem leafAt_nil_path (t : Tree α) : leafAt t [] = none := by
  cases t <;> rfl

theorem leafAt_nil_tree (p : List Bytes) : leafAt (nil : Tree α) p = none := by
  cases p with
  | nil => rfl
  | cons k p => cases p <;> simp [leafAt, find?]

theorem leafAt_cons (t : Tree α) (k : Bytes) (p : List Bytes) :
    leafAt t (k :: p) = match find? k t with
      | some (.inl v) => if p = [] then some v else none
      | some (.inr c) => leafAt c p
      | none => none := by
  cases p with
  | nil =>
    rw [leafAt]
    cases find? k t with
    | none => rfl
    | some e =>
      cases e with
      | inl v => rfl
      | inr c => exact (leafAt_nil_path c).symm
  | cons k2 p =>
    rw [leafAt]
    · cases find? k t with
      | none => rfl
      | some e => cases e <;> rfl
    · intro h; cases h

theorem leafAt_cons_of_inr {t c : Tree α} {k : Bytes} (h : find? k t = some (.inr c)) (p : List Bytes) :
    leafAt t (k :: p) = leafAt c p := by
  rw [leafAt_cons, h]

theorem leafAt_cons_of_none {t : Tree α} {k : Bytes} (h : find? k t = none) (p : List Bytes) :
    leafAt t (k :: p) = none := by
  rw [leafAt_cons, h]

theorem insert_cons2 (k k2 : Bytes) (p : List Bytes) (v : α) (t : Tree α) :
    insert (k :: k2 :: p) v t =
      match t.find? k with
      | none => (insert (k2 :: p) v nil).map fun c => t.put k (.inr c)
      | some (.inr c) => (insert (k2 :: p) v c).map fun c' => t.put k (.inr c')
      | some (.inl _) => none := by
  rw [insert]
  · cases find? k t with
    | none => rfl
    | some e => cases e <;> rfl
  · intro h; cases h

theorem insert_spec (p : List Bytes) (v : α) : ∀ (t : Tree α), p ≠ [] → (∀ k ∈ p, DotFree k) → WFNested t →
    (∀ q r, p = q ++ r → q ≠ [] → r ≠ [] → leafAt t q = none) →
    ∃ t', insert p v t = some t' ∧ WFNested t' ∧ t' ≠ nil ∧
      ∀ q, leafAt t' q = if q = p then some v else if p <+: q then none else leafAt t q := by
  induction p with
  | nil => intro t h; exact absurd rfl h
  | cons k p ih =>
    intro t _ hk hw h1
    -- the lookups in `put k e t`, given what is stored under `k`
    have hput : ∀ (e : α ⊕ Tree α),
        (∀ q', leafAt (put k e t) (k :: q') =
          if q' = p then some v else if p <+: q' then none else leafAt t (k :: q')) →
        ∀ q, leafAt (put k e t) q = if q = k :: p then some v else if k :: p <+: q then none else leafAt t q := by
      intro e he q
      cases q with
      | nil => rw [leafAt_nil_path, leafAt_nil_path, if_neg nofun, if_neg (by simp)]
      | cons k' q' =>
        by_cases hkk : k = k'
        · subst hkk; rw [he q']; simp only [List.cons.injEq, true_and, List.cons_prefix_cons]
        · rw [leafAt_cons, find?_put, if_neg hkk, ← leafAt_cons,
            if_neg (by intro e; injection e with e1; exact hkk e1.symm),
            if_neg (fun h => hkk (List.cons_prefix_cons.mp h).1)]
    cases p with
    | nil =>
      -- last segment: whatever was stored under `k` is overwritten
      refine ⟨put k (.inl v) t, rfl, wfNested_put hw (hk k List.mem_cons_self) nofun, put_ne_nil _ _ _,
        hput _ fun q' => ?_⟩
      rw [leafAt_cons, find?_put, if_pos rfl, if_pos List.nil_prefix]
    | cons k2 p2 =>
      -- an inner segment: descend into (or create) the sub-map `c`
      have key : ∀ (c : Tree α), WFNested c → (∀ q, leafAt c q = leafAt t (k :: q)) →
          ((insert (k2 :: p2) v c).map fun c' => put k (.inr c') t) = insert (k :: k2 :: p2) v t →
          ∃ t', insert (k :: k2 :: p2) v t = some t' ∧ WFNested t' ∧ t' ≠ nil ∧
            ∀ q, leafAt t' q = if q = k :: k2 :: p2 then some v else if k :: k2 :: p2 <+: q then none
              else leafAt t q := by
        intro c hwc hlc hins
        obtain ⟨c', hc', hwc', hne', hl'⟩ := ih c nofun (fun x hx => hk x (List.mem_cons_of_mem _ hx)) hwc
          (fun q r hqr hq hr => by rw [hlc q]; exact h1 (k :: q) r (by rw [hqr]; rfl) nofun hr)
        refine ⟨put k (.inr c') t, by rw [← hins, hc']; rfl,
          wfNested_put hw (hk k List.mem_cons_self) (fun x hx => by cases hx; exact ⟨hne', hwc'⟩), put_ne_nil _ _ _,
          hput _ fun q' => ?_⟩
        rw [leafAt_cons_of_inr (by rw [find?_put, if_pos rfl]), hl', hlc]
      cases hf : find? k t with
      | none =>
        exact key nil ⟨trivial, trivial, trivial⟩ (fun q => by rw [leafAt_nil_tree, leafAt_cons_of_none hf])
          (by rw [insert_cons2, hf])
      | some e =>
        cases e with
        | inl v' =>
          have := h1 [k] (k2 :: p2) rfl nofun nofun
          simp [leafAt_cons, hf] at this
        | inr c =>
          exact key c (wfNested_of_find? hf hw).2 (fun q => (leafAt_cons_of_inr hf q).symm) (by rw [insert_cons2, hf])

end Tree

end Goat.PlainMap
