/-
Order irrelevance of Commit, for EVERY state with well-formed trees: an unfailed Commit is the fold of the Kleisli maps
of CacheReplay (`commit_refines`), and within each journal these commute pairwise on abstract trees.  A file write is
`MkdirAll` of the parent followed by a point update, so three primitive facts give every pair.
-/
import Goat.Proofs.CacheWF

namespace Goat
namespace Cache

open Path (Name norm join slash Reduced Plain cleanPath reduceAbsPath)
open FS (Op Result Entry Mut)
open MemFS MemAbs

def Comm (f g : FS.State → Option FS.State) : Prop := ∀ S, (f S).bind g = (g S).bind f

section
variable {f g h f1 g1 f2 g2 : FS.State → Option FS.State}

theorem Comm.symm (c : Comm f g) : Comm g f := fun S => (c S).symm

theorem comm_some_left (g : FS.State → Option FS.State) : Comm some g := fun S => by simp

theorem comm_none_left (g : FS.State → Option FS.State) : Comm (fun _ => none) g := fun S => by cases g S <;> rfl

theorem Comm.seq_left (c1 : Comm f h) (c2 : Comm g h) : Comm (seqK f g) h := by
  intro S
  unfold seqK
  rw [Option.bind_assoc, funext c2, ← Option.bind_assoc, c1 S, Option.bind_assoc]

theorem Comm.seq (cff : Comm f1 f2) (cfg : Comm f1 g2) (cgf : Comm g1 f2) (cgg : Comm g1 g2) :
    Comm (seqK f1 g1) (seqK f2 g2) :=
  .seq_left (Comm.seq_left cff.symm cfg.symm).symm (Comm.seq_left cgf.symm cgg.symm).symm

end

open Classical in
/-- the last step of a file write: the data is put at `W` unless a directory stands there -/
noncomputable def pPut (W : List Name) (d : Bytes) (S : FS.State) : Option FS.State :=
  if W ≠ [] ∧ S W ≠ some .dir then some (fun q => if q = W then some (.file d) else S q) else none

theorem pWr_eq (W : List Name) (d : Bytes) : pWr W d = seqK (pMk W.dropLast) (pPut W d) := by
  funext S
  unfold pWr seqK pMk pPut FS.writeOk
  by_cases hm : FS.mkdirOk S W.dropLast
  · rw [if_pos hm, Option.bind_some]
    by_cases hW : W = []
    · rw [if_neg (fun h => h.1 hW), if_neg (fun h => h.1 hW)]
    · have e : FS.mkdirSt S W.dropLast W = S W := if_neg (fun h => ne_of_prefix_dropLast hW h rfl)
      rw [e]
      by_cases hd : S W = some .dir
      · rw [if_neg (fun h => h.2.2 hd), if_neg (fun h => h.2 hd)]
      · rw [if_pos ⟨hW, hm, hd⟩, if_pos ⟨hW, hd⟩]; rfl
  · rw [if_neg hm, if_neg (fun h => hm h.2.1)]; rfl

theorem removeSt_other (S : FS.State) (Q1 Q2 : List Name) (h : Q2 ≠ Q1) : FS.removeSt S Q1 Q2 = S Q2 := by
  simp [FS.removeSt, h]

theorem removeSt_comm (S : FS.State) (Q1 Q2 : List Name) :
    FS.removeSt (FS.removeSt S Q1) Q2 = FS.removeSt (FS.removeSt S Q2) Q1 := by
  funext q
  by_cases a : q = Q1 <;> by_cases b : q = Q2 <;> simp [FS.removeSt, a, b]

theorem commute_pRm (Q1 Q2 : List Name) : Comm (pRm Q1) (pRm Q2) := by
  intro S
  simp only [pRm, Option.bind_some]
  congr 1
  by_cases e : Q1 = Q2
  · subst e; rfl
  · have e' : Q2 ≠ Q1 := fun h => e h.symm
    cases h1 : isFileE (S Q1) <;> cases h2 : isFileE (S Q2) <;>
      simp only [Bool.false_eq_true, if_false, if_true, removeSt_other S Q1 Q2 e', removeSt_other S Q2 Q1 e, h1, h2]
    exact removeSt_comm S Q1 Q2

theorem removeAllSt_comm (S : FS.State) (Q1 Q2 : List Name) :
    FS.removeAllSt (FS.removeAllSt S Q1) Q2 = FS.removeAllSt (FS.removeAllSt S Q2) Q1 := by
  funext q
  by_cases a : Q1 <+: q <;> by_cases b : Q2 <+: q <;> simp [FS.removeAllSt, a, b]

theorem commute_pRma (Q1 Q2 : List Name) : Comm (pRma Q1) (pRma Q2) := by
  intro S
  unfold pRma
  by_cases h1 : Q1 = [] <;> by_cases h2 : Q2 = [] <;> simp [h1, h2, removeAllSt_comm]

/-- creating directories does not change where the files are -/
theorem mkdirOk_mkdirSt (S : FS.State) (M1 M2 : List Name) (h1 : FS.mkdirOk S M1) :
    FS.mkdirOk (FS.mkdirSt S M1) M2 ↔ FS.mkdirOk S M2 := by
  constructor
  · intro h q hq d hf
    by_cases a : q <+: M1
    · exact h1 q a d hf
    · exact h q hq d (by simp [FS.mkdirSt, a, hf])
  · intro h q hq d hf
    by_cases a : q <+: M1
    · simp [FS.mkdirSt, a] at hf
    · simp only [FS.mkdirSt, if_neg a] at hf; exact h q hq d hf

theorem mkdirSt_comm (S : FS.State) (M1 M2 : List Name) :
    FS.mkdirSt (FS.mkdirSt S M1) M2 = FS.mkdirSt (FS.mkdirSt S M2) M1 := by
  funext q
  by_cases a : q <+: M1 <;> by_cases b : q <+: M2 <;> simp [FS.mkdirSt, a, b]

/-- The shape of the commuting pairs: two guarded updates, neither of which changes the other's guard, and whose
updates commute. -/
theorem guarded_comm {ok1 ok2 : FS.State → Prop} [∀ T, Decidable (ok1 T)] [∀ T, Decidable (ok2 T)]
    {u1 u2 : FS.State → FS.State} (S : FS.State)
    (h12 : ok1 S → (ok2 (u1 S) ↔ ok2 S)) (h21 : ok2 S → (ok1 (u2 S) ↔ ok1 S))
    (hu : ok1 S → ok2 S → u2 (u1 S) = u1 (u2 S)) :
    ((if ok1 S then some (u1 S) else none).bind fun T => if ok2 T then some (u2 T) else none)
      = ((if ok2 S then some (u2 S) else none).bind fun T => if ok1 T then some (u1 T) else none) := by
  by_cases h1 : ok1 S <;> by_cases h2 : ok2 S
  · rw [if_pos h1, if_pos h2, Option.bind_some, Option.bind_some, if_pos ((h12 h1).mpr h2), if_pos ((h21 h2).mpr h1),
      hu h1 h2]
  · rw [if_pos h1, if_neg h2, Option.bind_some, Option.bind_none, if_neg (fun h => h2 ((h12 h1).mp h))]
  · rw [if_neg h1, if_pos h2, Option.bind_some, Option.bind_none, if_neg (fun h => h1 ((h21 h2).mp h))]
  · rw [if_neg h1, if_neg h2]; rfl

open Classical in
theorem commute_pMk (M1 M2 : List Name) : Comm (pMk M1) (pMk M2) := by
  intro S
  unfold pMk
  exact guarded_comm (ok1 := (FS.mkdirOk · M1)) (ok2 := (FS.mkdirOk · M2)) (u1 := (FS.mkdirSt · M1))
    (u2 := (FS.mkdirSt · M2)) S (mkdirOk_mkdirSt S M1 M2) (mkdirOk_mkdirSt S M2 M1) (fun _ _ => mkdirSt_comm S M1 M2)

open Classical in
/-- in either order both fail when `W` is on the way to `D`; else neither sees what the other does -/
theorem pMk_pPut (D W : List Name) (d : Bytes) : Comm (pMk D) (pPut W d) := by
  intro S
  by_cases hp : W <+: D
  · have h1 : ∀ T, pMk D S = some T → pPut W d T = none := by
      intro T hT
      unfold pMk at hT
      split at hT <;> cases hT
      exact if_neg (fun h => h.2 (if_pos hp))
    have h2 : ∀ T, pPut W d S = some T → pMk D T = none := by
      intro T hT
      unfold pPut at hT
      split at hT <;> cases hT
      exact if_neg (fun h => h W hp d (if_pos rfl))
    rw [Option.bind_eq_none_iff.2 h1, Option.bind_eq_none_iff.2 h2]
  · unfold pMk pPut
    refine guarded_comm (ok1 := (FS.mkdirOk · D)) (u1 := (FS.mkdirSt · D)) (ok2 := fun T => W ≠ [] ∧ T W ≠ some .dir)
      (u2 := fun T q => if q = W then some (.file d) else T q) S (fun _ => ?_) (fun _ => ?_) (fun _ _ => ?_)
    · show _ ∧ FS.mkdirSt S D W ≠ _ ↔ _
      rw [show FS.mkdirSt S D W = S W from if_neg hp]
    · have hput : ∀ q, q <+: D → (if q = W then some (Entry.file d) else S q) = S q :=
        fun q hq => if_neg (fun e : q = W => hp (e ▸ hq))
      constructor <;> intro h q hq dd hf
      · exact h q hq dd ((hput q hq).trans hf)
      · exact h q hq dd ((hput q hq).symm.trans hf)
    · funext q
      simp only [FS.mkdirSt]
      by_cases a : q = W
      · rw [if_pos a, if_neg (fun h : q <+: D => hp (a ▸ h)), if_pos a]
      · rw [if_neg a]; split <;> rfl

theorem pPut_pPut (W1 W2 : List Name) (d1 d2 : Bytes) (hne : W1 ≠ W2) : Comm (pPut W1 d1) (pPut W2 d2) := by
  intro S
  unfold pPut
  refine guarded_comm (ok1 := fun T => W1 ≠ [] ∧ T W1 ≠ some .dir) (ok2 := fun T => W2 ≠ [] ∧ T W2 ≠ some .dir)
    (u1 := fun T q => if q = W1 then some (.file d1) else T q) (u2 := fun T q => if q = W2 then some (.file d2) else T q)
    S (fun _ => ?_) (fun _ => ?_) (fun _ _ => ?_)
  · show _ ∧ (if W2 = W1 then _ else S W2) ≠ _ ↔ _
    rw [if_neg (Ne.symm hne)]
  · show _ ∧ (if W1 = W2 then _ else S W1) ≠ _ ↔ _
    rw [if_neg hne]
  · funext q
    by_cases a : q = W1
    · simp only [if_pos a, if_neg (fun h : q = W2 => hne (a.symm.trans h))]
    · simp only [if_neg a]

theorem commute_pMk_pWr (D W : List Name) (d : Bytes) : Comm (pMk D) (pWr W d) := by
  rw [pWr_eq]
  exact (Comm.seq_left (commute_pMk _ D) (pMk_pPut D W d).symm).symm

theorem commute_pWr (W1 W2 : List Name) (d1 d2 : Bytes) (hd : W1 = W2 → d1 = d2) :
    Comm (pWr W1 d1) (pWr W2 d2) := by
  rw [pWr_eq, pWr_eq]
  refine Comm.seq (commute_pMk _ _) (pMk_pPut _ _ _) (pMk_pPut _ _ _).symm ?_
  by_cases e : W1 = W2
  · subst e; rw [hd rfl]; exact fun S => rfl
  · exact pPut_pPut W1 W2 d1 d2 e

theorem foldK_map_perm {α} (F : α → FS.State → Option FS.State) (hc : ∀ a b, Comm (F a) (F b))
    {l l' : List α} (hp : l.Perm l') : foldK (l.map F) = foldK (l'.map F) := by
  induction hp with
  | nil => rfl
  | cons x _ ih => funext S; simp only [List.map_cons, foldK, ih]
  | swap x y l =>
    funext S
    simp only [List.map_cons, foldK]
    rw [← Option.bind_assoc, ← Option.bind_assoc, hc y x S]
  | trans _ _ ih1 ih2 => rw [ih1, ih2]

theorem foldK_append (a b : List (FS.State → Option FS.State)) : foldK (a ++ b) = seqK (foldK a) (foldK b) := by
  funext S
  induction a generalizing S with
  | nil => rfl
  | cons f rest ih =>
    simp only [List.cons_append, foldK, seqK]
    cases f S with
    | none => rfl
    | some S1 => exact ih S1

/-- a step that does nothing, fails, or is the member `p a` of a family, for an index with `R a` -/
inductive IsStep {α} (R : α → Prop) (p : α → FS.State → Option FS.State) : (FS.State → Option FS.State) → Prop
  | skip : IsStep R p some
  | fail : IsStep R p fun _ => none
  | prim (a : α) : R a → IsStep R p (p a)

theorem IsStep.comm {α β} {R : α → Prop} {R' : β → Prop} {p : α → FS.State → Option FS.State}
    {q : β → FS.State → Option FS.State} {f g : FS.State → Option FS.State}
    (hpq : ∀ a b, R a → R' b → Comm (p a) (q b)) (hf : IsStep R p f) (hg : IsStep R' q g) : Comm f g := by
  cases hf with
  | skip => exact comm_some_left _
  | fail => exact comm_none_left _
  | prim a ha =>
    cases hg with
    | skip => exact (comm_some_left _).symm
    | fail => exact (comm_none_left _).symm
    | prim b hb => exact hpq a b ha hb

theorem isStep_rmS (src : Bytes) : IsStep (fun _ => True) pRm (rmS src) := by
  unfold rmS
  cases norm src with
  | none => exact .skip
  | some Q => exact .prim Q trivial

theorem isStep_rmaS (src : Bytes) : IsStep (fun _ => True) pRma (rmaS src) := by
  unfold rmaS
  cases norm src with
  | none => exact .skip
  | some Q => exact .prim Q trivial

theorem isStep_mkS (buffer : Node) (src : Bytes) : IsStep (fun _ => True) pMk (mkS buffer src) := by
  unfold mkS
  split
  · cases norm src with
    | none => exact .skip
    | some M => exact .prim M trivial
  · exact .skip

theorem isStep_wrA (src : Bytes) : IsStep (fun _ => True) pMk (wrA src) := by
  unfold wrA
  cases norm (pathDir src) with
  | none => exact .fail
  | some D => exact .prim D trivial

theorem isStep_wrB (buffer : Node) (hb : Inv buffer) (src : Bytes) :
    IsStep (fun x : List Name × Bytes => abs buffer x.1 = some (.file x.2)) (fun x => pWr x.1 x.2) (wrB buffer src) := by
  unfold wrB
  split
  · cases hn : norm src with
    | none => exact .fail
    | some W =>
      cases hr : Root.readFile buffer src with
      | data d =>
        refine .prim (W, d) ?_
        rw [root_readFile_eq buffer hb src W hn] at hr
        rcases h : abs buffer W with _ | (d' | _) <;> rw [h] at hr <;> cases hr
        rfl
      | _ => exact .fail
  · exact .skip

/-- Two write entries commute: half by half (A/A, A/B, B/A, B/B).  For B/B, two entries that normalise to the same
path transfer the same data, both being the buffer's file there: the `hd` of `commute_pWr`. -/
theorem commute_wrS (buffer : Node) (hb : Inv buffer) (a b : Bytes) : Comm (wrS buffer a) (wrS buffer b) :=
  have hAB : ∀ a b, Comm (wrA a) (wrB buffer b) := fun a b =>
    (isStep_wrA a).comm (fun D x _ _ => commute_pMk_pWr D x.1 x.2) (isStep_wrB buffer hb b)
  .seq ((isStep_wrA a).comm (fun _ _ _ _ => commute_pMk _ _) (isStep_wrA b)) (hAB a b) (hAB b a).symm
    ((isStep_wrB buffer hb a).comm (fun x y hx hy => commute_pWr _ _ _ _ fun e => by
      rw [e, hy] at hx; exact (Entry.file.inj (Option.some.inj hx)).symm) (isStep_wrB buffer hb b))

theorem commitK_perm (buffer : Node) (hb : Inv buffer) (rm rma mk wr rm' rma' mk' wr' : List Bytes)
    (hrm : rm.Perm rm') (hrma : rma.Perm rma') (hmk : mk.Perm mk') (hwr : wr.Perm wr') :
    commitK buffer rm rma mk wr = commitK buffer rm' rma' mk' wr' := by
  unfold commitK entries
  simp only [List.map_append, List.map_map, foldK_append]
  rw [foldK_map_perm (JEntry.stepK buffer ∘ .rm) (fun a b => (isStep_rmS a).comm (fun _ _ _ _ => commute_pRm _ _) (isStep_rmS b)) hrm,
    foldK_map_perm (JEntry.stepK buffer ∘ .rma) (fun a b => (isStep_rmaS a).comm (fun _ _ _ _ => commute_pRma _ _) (isStep_rmaS b)) hrma,
    foldK_map_perm (JEntry.stepK buffer ∘ .mk) (fun a b => (isStep_mkS buffer a).comm (fun _ _ _ _ => commute_pMk _ _) (isStep_mkS buffer b)) hmk,
    foldK_map_perm (JEntry.stepK buffer ∘ .wr) (commute_wrS buffer hb) hwr]

theorem commit_order_irrelevant_winv (s : State) (W : WInv s) (rm rma mk wr rm' rma' mk' wr' : List Bytes)
    (hrm : rm.Perm rm') (hrma : rma.Perm rma') (hmk : mk.Perm mk') (hwr : wr.Perm wr') :
    (commitWith rm rma mk wr none s).2.2 = (commitWith rm' rma' mk' wr' none s).2.2
    ∧ ((commitWith rm rma mk wr none s).2.2 = true →
        abs (commitWith rm rma mk wr none s).1.remote = abs (commitWith rm' rma' mk' wr' none s).1.remote) := by
  have a := (commit_refines rm rma mk wr s W.2).2
  have b := (commit_refines rm' rma' mk' wr' s W.2).2
  rw [commitK_perm s.buffer W.1 rm rma mk wr rm' rma' mk' wr' hrm hrma hmk hwr, b] at a
  cases h1 : (commitWith rm rma mk wr none s).2.2 <;> cases h2 : (commitWith rm' rma' mk' wr' none s).2.2 <;>
    simp only [h1, h2, if_true] at a
  · exact ⟨rfl, fun h => by cases h⟩
  · simp at a
  · simp at a
  · simp only [Option.some.injEq] at a
    exact ⟨rfl, fun _ => a.symm⟩

def Real (S : FS.State) : Prop := ∃ t, Inv t ∧ abs t = S

theorem Real.root {S : FS.State} (h : Real S) : S [] = some .dir := by
  obtain ⟨t, ht, rfl⟩ := h
  exact ht.abs_nil

theorem Real.below {S : FS.State} (h : Real S) (q r : List Name) (hr : r ≠ []) (hq : S q ≠ some .dir) :
    S (q ++ r) = none := by
  obtain ⟨t, _, rfl⟩ := h
  exact (abs_closed t).below_none q r hr hq

theorem Real.below_none {S : FS.State} (h : Real S) (P q : List Name) (hP : S P = none) (hq : P <+: q) :
    S q = none := by
  obtain ⟨t, _, rfl⟩ := h
  exact (abs_closed t).none_below hP hq

def Commute (f g : FS.State → Option FS.State) : Prop :=
  ∀ S, Real S → (f S).bind g = (g S).bind f

theorem Comm.real (c : Comm f g) : Commute f g := fun S _ => c S

theorem commute_pWr_pMk (D W : List Name) (d : Bytes) : Commute (pWr W d) (pMk D) :=
  (commute_pMk_pWr D W d).symm.real

end Cache
end Goat
