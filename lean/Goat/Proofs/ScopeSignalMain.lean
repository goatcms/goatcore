/-
C12: the invariants hold initially, hence in every reachable state of `sys Variant.fixed cfg` for every configuration
(any number of goroutines, any forest of contexts).  `Props/C12` reads its theorems off the fields of `AllInv`; at the
end three helpers for it: `quiet_iff_quietB`, `conforms_iff`, `done_of_closesOf`.
-/
import Goat.Proofs.ScopeSignalCtx
import Goat.Proofs.ScopeSignalWg

namespace Goat.ScopeSignal
open Goat.LTS

/-- `knows` is what every other invariant's step leans on; `done` also needs `once` (a goroutine leaves
`Stop` without closing only when the `Once` is finished); `wg` stands alone. -/
structure AllInv (s : State) : Prop where
  knows : InvKnows s
  once : InvOnce s
  err : InvErr s
  done : InvDone s
  prop : InvProp s
  wg : InvWg s
  pk : InvPK s

theorem allInv_tr (s : State) (t : Nat) (s' : State) (h : AllInv s) (hs : Tr s t s') : AllInv s' :=
  ⟨knows_tr h.knows hs, invOnce_tr h.knows h.once hs, invErr_tr h.knows h.err hs,
   invDone_tr h.knows h.once h.done hs, invProp_tr h.knows h.prop hs, invWg_tr h.wg hs, invPK_tr h.knows h.pk hs⟩

theorem mem_propThreads {ks : List Kind} {i : Nat} {pc : PC} (h : pc ∈ propThreads ks i) :
    ∃ j p, ks[j]? = some (.isolated p) ∧ pc = .propWait (i + j) p := by
  induction ks generalizing i with
  | nil => simp [propThreads] at h
  | cons k ks ih =>
    have tail : pc ∈ propThreads ks (i + 1) → ∃ j p, (k :: ks)[j]? = some (.isolated p) ∧ pc = .propWait (i + j) p :=
      fun h => let ⟨j, p, hj, e⟩ := ih h; ⟨j + 1, p, hj, by rw [e, Nat.add_assoc, Nat.add_comm 1]⟩
    cases k with
    | plain => exact tail h
    | isolated q =>
      rcases List.mem_cons.1 h with rfl | h
      · exact ⟨0, q, rfl, rfl⟩
      · exact tail h

theorem init_thread {cfg : Config} {t : Nat} {pc : PC} (h : (initState cfg).threads[t]? = some pc) :
    pc = .idle ∨ ∃ c p, pc = .propWait c p ∧ cfg.kinds[c]? = some (.isolated p) := by
  rcases List.mem_append.1 (List.mem_of_getElem? h) with hm | hm
  · exact .inl (List.eq_of_mem_replicate hm)
  · obtain ⟨j, p, hj, e⟩ := mem_propThreads hm
    exact .inr ⟨j, p, by simpa using e, hj⟩

theorem mem_rootScopes {n i : Nat} {sc : Scope} (h : sc ∈ rootScopes n i) :
    sc.wg = 0 ∧ sc.parent = none ∧ sc.closed = false := by
  induction n generalizing i with
  | zero => simp [rootScopes] at h
  | succ n ih =>
    simp only [rootScopes, List.mem_cons] at h
    rcases h with h | h
    · subst h; exact ⟨rfl, rfl, rfl⟩
    · exact ih h

/-- `propThreads ks i`: the propagation goroutines of the contexts from index `i` on; the second conjunct is what the
induction needs -/
theorem propAlive_propThreads (ks : List Kind) (i c : Nat) :
    wsum (propAlive c) (propThreads ks i) ≤ 1 ∧ (c < i → wsum (propAlive c) (propThreads ks i) = 0) := by
  induction ks generalizing i with
  | nil => exact ⟨Nat.zero_le _, fun _ => rfl⟩
  | cons k ks ih =>
    obtain ⟨h1, h2⟩ := ih (i + 1)
    cases k with
    | plain => exact ⟨h1, fun h => h2 (by omega)⟩
    | isolated q =>
      simp only [propThreads, wsum, propAlive]
      by_cases hic : i = c
      · rw [if_pos hic, h2 (by omega)]; exact ⟨Nat.le_refl _, fun h => by omega⟩
      · rw [if_neg hic, Nat.zero_add]; exact ⟨h1, fun h => h2 (by omega)⟩

theorem wsum_init {cfg : Config} (f : PC → Nat) (h0 : f .idle = 0) (h1 : ∀ c p, f (.propWait c p) = 0) :
    wsum f (initState cfg).threads = 0 := by
  apply wsum_eq_zero
  intro pc hpc
  obtain ⟨t, ht⟩ := List.mem_iff_getElem?.1 hpc
  rcases init_thread ht with rfl | ⟨c, p, rfl, _⟩
  · exact h0
  · exact h1 c p

theorem init_ctxs {cfg : Config} {P : Ctx → Prop} (h : ∀ k, P { kind := k }) (c : Nat) (x : Ctx)
    (hx : (initState cfg).ctxs[c]? = some x) : P x := by
  simp only [initState, List.getElem?_map, Option.map_eq_some_iff] at hx
  obtain ⟨k, _, rfl⟩ := hx
  exact h k

theorem allInv_init (cfg : Config) : AllInv (initState cfg) where
  knows t pc c h hc := by
    rcases init_thread h with rfl | ⟨c', p, rfl, hk⟩ <;> cases hc
    exact ⟨{ kind := .isolated p }, by simp [initState, hk], rfl⟩
  once := init_ctxs fun _ => rfl
  err q c := init_ctxs (fun _ => by rw [wsum_init (inflQ q c) rfl (fun _ _ => rfl)]; rfl) c
  done := {
    sound := init_ctxs fun _ h => by simp at h
    inStopE := fun t c h => by rcases init_thread h with h | ⟨_, _, h, _⟩ <;> cases h
    inStopC := fun t c h => by rcases init_thread h with h | ⟨_, _, h, _⟩ <;> cases h
    complete := fun c => init_ctxs (fun _ h => by simp [Ctx.shouldBeDone] at h) c }
  prop := {
    killJust := init_ctxs fun _ h => by simp at h
    stopJust := init_ctxs fun _ h => by simp at h
    once := fun c => init_ctxs (fun _ => by
      have := (propAlive_propThreads cfg.kinds 0 c).1
      simpa [initState, wsum_append, wsum_replicate (propAlive c) cfg.n .idle rfl] using this) c }
  wg p := by
    have h1 : wsum (openChild p) (initState cfg).scopes = 0 := by
      apply wsum_eq_zero
      intro sc hsc
      simp [openChild, (mem_rootScopes hsc).2.1]
    rw [pending, h1, wsum_init (mkReg p) rfl (fun _ _ => rfl)]
    unfold wgOf
    split
    · simpa using (mem_rootScopes (List.mem_of_getElem? ‹_›)).1
    · rfl
  pk := init_ctxs fun _ => Nat.zero_le _

theorem run_allInv (cfg : Config) (sched : List Label) : AllInv ((sys Variant.fixed cfg).run sched) :=
  inv_run (sys Variant.fixed cfg) AllInv (allInv_init cfg)
    (fun _ _ _ hI hs => step_fixed_preserves allInv_tr hI hs) sched

theorem quiet_iff_quietB (s : State) (c : Nat) : s.quiet c ↔ s.quietB c = true := by
  simp only [State.quiet, State.quietB, List.all_eq_true, bne_iff_ne]
  constructor
  · intro h pc hpc
    obtain ⟨t, ht⟩ := List.mem_iff_getElem?.1 hpc
    exact h t pc ht
  · intro h t pc ht
    exact h pc (List.mem_of_getElem? ht)

instance (s : State) (c : Nat) : Decidable (s.quiet c) := decidable_of_iff _ (quiet_iff_quietB s c).symm

theorem conforms_iff (h : Hist) : conforms h = true ↔
    (h.panics = 0 ∧ h.lenTagged = h.appended ∧
     (h.lenCancel = h.kills ∨ (h.isolated = true ∧ h.parentDone = true ∧ h.parentErr = true ∧ h.lenCancel = h.kills + 1)) ∧
     (h.errNonNil = true ↔ 0 < h.lenTagged + h.lenCancel) ∧
     (0 < h.stops + h.appended + h.kills → h.done = true) ∧
     (h.done = true → 0 < h.stops + h.lenTagged + h.lenCancel ∨ (h.isolated = true ∧ h.parentDone = true))) := by
  simp only [conforms, Bool.and_eq_true, Bool.or_eq_true, beq_iff_eq, decide_eq_true_eq, Bool.not_eq_true',
    decide_eq_false_iff_not]
  grind

theorem done_of_closesOf {s : State} {p : Nat} (h : 1 ≤ s.closesOf p) : ∃ px, s.ctxs[p]? = some px ∧ px.done = true := by
  unfold State.closesOf at h
  split at h
  · exact ⟨_, ‹_›, by simpa [Ctx.done] using h⟩
  · omega

end Goat.ScopeSignal
