/-
An open reader next to a rewriting writer of the same memory file (`Goat/Model/Stream.lean`, "Open handles on ONE memory
file").  `WF` is the bookkeeping invariant of the two-thread system; `Iso` is ISOLATION: every step of the rewriter and
every read keeps it, and a safe discipline is what lets `openReader_spec` establish it.  No deadlock: `wsteps_finish`.
Then `Tracks` makes the reads of a whole reader's life those of a private handle (`readerRun_spec`), `ioLoopG_sim`
carries that through the copy loop, and `streamCopyRW_spec`: `StreamCopy` from a file that is being rewritten is the
sequential `StreamCopy` of what the file held when the reader was opened.
-/
import Goat.Model.Stream

namespace Goat
namespace Stream

open FS (Entry State)

/-- the open reader is a `lock` reader: it reads the live slice and holds the file's lock -/
def liveR : Option MReader → Bool
  | some ⟨.live, _⟩ => true
  | _ => false

/-- a `lock` reader is open -/
def Sys.hasLive (s : Sys) : Bool := liveR s.rd

/-- the bookkeeping of a rewrite, with `chunks`, of a file that held `old` -/
structure WF (old : Bytes) (chunks : List Bytes) (s : Sys) : Prop where
  /-- the slice stays inside its array -/
  cap : s.cell.len ≤ s.cell.back.length
  idle : s.phase = .idle → s.todo = chunks ∧ s.cell.content = old
  writing : s.phase = .writing → s.cell.content ++ s.todo.flatten = chunks.flatten
  closed : s.phase = .closed → s.cell.content = chunks.flatten
  lock : s.cell.locked = (s.phase == .writing || s.hasLive)
  excl : ¬ (s.phase = .writing ∧ s.hasLive = true)

theorem init_wf (old slack : Bytes) (chunks : List Bytes) : WF old chunks (Sys.init old slack chunks) := by
  refine ⟨?_, ?_, ?_, ?_, ?_, ?_⟩ <;> simp [Sys.init, Cell.content, Sys.hasLive, liveR]

/-- the reader's own actions leave the slice and the rewriter's progress alone: only the lock bookkeeping is left -/
theorem WF.of_reader {old : Bytes} {chunks : List Bytes} {s t : Sys} (h : WF old chunks s)
    (hb : t.cell.back = s.cell.back) (hn : t.cell.len = s.cell.len) (hp : t.phase = s.phase) (ht : t.todo = s.todo)
    (hlock : t.cell.locked = (t.phase == .writing || t.hasLive))
    (hex : ¬ (t.phase = .writing ∧ t.hasLive = true)) : WF old chunks t := by
  obtain ⟨⟨back, len, lk⟩, rd, ph, td⟩ := s
  obtain ⟨⟨back', len', lk'⟩, rd', ph', td'⟩ := t
  subst hb hn hp ht
  exact ⟨h.cap, h.idle, h.writing, h.closed, hlock, hex⟩

theorem WF.frame {old : Bytes} {chunks : List Bytes} {s t : Sys} (h : WF old chunks s) (hc : t.cell = s.cell)
    (hp : t.phase = s.phase) (ht : t.todo = s.todo) (hl : t.hasLive = s.hasLive) : WF old chunks t :=
  h.of_reader (by rw [hc]) (by rw [hc]) hp ht (by rw [hc, hp, hl]; exact h.lock) (by rw [hp, hl]; exact h.excl)

@[simp] theorem liveR_detach (c : Cell) (r : Option MReader) : liveR (detach c r) = liveR r := by
  cases r with
  | none => rfl
  | some m =>
    obtain ⟨v, p⟩ := m
    cases v <;> rfl

theorem wstep_hasLive (cfg : Disc) (s : Sys) : (wstep cfg s).hasLive = s.hasLive := by
  obtain ⟨cell, rd, ph, td⟩ := s
  unfold wstep Sys.hasLive
  cases ph with
  | idle =>
    simp only
    split
    · rfl
    · cases cfg.tr
      · exact liveR_detach _ _
      · rfl
  | writing =>
    cases td with
    | nil => rfl
    | cons c rest =>
      simp only
      split
      · rfl
      · exact liveR_detach _ _
  | closed => rfl

theorem wstep_wf (cfg : Disc) (old : Bytes) (chunks : List Bytes) (s : Sys) (h : WF old chunks s) :
    WF old chunks (wstep cfg s) := by
  obtain ⟨⟨back, len, locked⟩, rd, ph, td⟩ := s
  have hcap : len ≤ back.length := h.cap
  have hlock : locked = (ph == .writing || liveR rd) := h.lock
  unfold wstep
  cases ph with
  | closed => exact h
  | idle =>
    cases locked with
    | true => exact h
    | false =>
      have hnl : liveR rd = false := by simpa using hlock.symm
      have htd : td = chunks := (h.idle rfl).1
      -- either truncation: an empty slice, the lock taken, every chunk still to be written
      cases cfg.tr <;>
        exact { cap := by simp, idle := by simp, writing := fun _ => by simp [Cell.content, htd], closed := by simp,
                lock := by simp [Sys.hasLive, hnl], excl := by simp [Sys.hasLive, hnl] }
  | writing =>
    have hnl : liveR rd = false := by
      cases hh : liveR rd with
      | false => rfl
      | true => exact absurd ⟨rfl, hh⟩ h.excl
    have hw : back.take len ++ td.flatten = chunks.flatten := h.writing rfl
    have hlk : locked = true := by simpa using hlock
    cases td with
    | nil =>
      exact { cap := hcap, idle := by simp, writing := by simp, closed := fun _ => by simpa [Cell.content] using hw,
              lock := by simp [Sys.hasLive, hnl], excl := by simp }
    | cons c rest =>
      -- in place or into a new array: the slice is what it was, followed by `c`
      simp only
      split
      · refine { cap := ?_, idle := by simp, writing := fun _ => ?_, closed := by simp,
                 lock := by simp [Sys.hasLive, hnl, hlk], excl := by simp [Sys.hasLive, hnl] }
        · simp only [List.length_append, List.length_take, List.length_drop]; omega
        · simp only [Cell.content]
          rw [List.take_left' (by simp [List.length_take, Nat.min_eq_left hcap])]
          simpa [List.append_assoc] using hw
      · refine { cap := ?_, idle := by simp, writing := fun _ => ?_, closed := by simp,
                 lock := by simp [Sys.hasLive, hnl, hlk], excl := by simp [Sys.hasLive, hnl] }
        · simp only [List.length_append, List.length_take]; omega
        · simp only [Cell.content]
          rw [List.take_of_length_le (by simp [List.length_take, Nat.min_eq_left hcap])]
          simpa [List.append_assoc] using hw

theorem wsteps_keeps (cfg : Disc) (P : Sys → Prop) (hP : ∀ s, P s → P (wstep cfg s)) (k : Nat) (s : Sys) (h : P s) :
    P (wsteps cfg k s) := by
  induction k generalizing s with
  | zero => exact h
  | succ k ih => exact ih _ (hP s h)

theorem wsteps_wf (cfg : Disc) (old : Bytes) (chunks : List Bytes) (k : Nat) (s : Sys) (h : WF old chunks s) :
    WF old chunks (wsteps cfg k s) := wsteps_keeps cfg _ (wstep_wf cfg old chunks) k s h

theorem wsteps_hasLive (cfg : Disc) (k : Nat) (s : Sys) : (wsteps cfg k s).hasLive = s.hasLive :=
  wsteps_keeps cfg (·.hasLive = s.hasLive) (fun t ht => (wstep_hasLive cfg t).trans ht) k s rfl

theorem wstep_rd_none (cfg : Disc) (s : Sys) (h : s.rd = none) : (wstep cfg s).rd = none := by
  obtain ⟨cell, rd, ph, td⟩ := s
  subst h
  unfold wstep
  cases ph with
  | idle =>
    simp only
    split
    · rfl
    · cases cfg.tr <;> rfl
  | writing =>
    cases td with
    | nil => rfl
    | cons c rest => simp only; split <;> rfl
  | closed => rfl

/-- steps the rewriter still needs -/
def stepsLeft (s : Sys) : Nat :=
  match s.phase with
  | .idle => s.todo.length + 2
  | .writing => s.todo.length + 1
  | .closed => 0

theorem stepsLeft_le (s : Sys) : stepsLeft s ≤ s.todo.length + 2 := by
  unfold stepsLeft; split <;> omega

/-- while the lock is held by nobody but the rewriter itself, every step is progress -/
theorem stepsLeft_wstep (cfg : Disc) (s : Sys) (hlk : s.cell.locked = (s.phase == .writing)) :
    stepsLeft (wstep cfg s) = stepsLeft s - 1 := by
  obtain ⟨⟨back, len, locked⟩, rd, ph, td⟩ := s
  simp only at hlk
  subst hlk
  unfold wstep
  cases ph with
  | idle => cases cfg.tr <;> rfl
  | writing =>
    cases td with
    | nil => rfl
    | cons c rest => simp only; split <;> rfl
  | closed => rfl

/-- both threads are through: the file holds the chunks, nobody holds it -/
def Done (chunks : List Bytes) (s : Sys) : Prop :=
  s.cell.content = chunks.flatten ∧ s.phase = .closed ∧ s.cell.locked = false ∧ s.rd = none

/-- no deadlock: with no reader open, the rewriter reaches its `Close` -/
theorem wsteps_finish (cfg : Disc) (old : Bytes) (chunks : List Bytes) (k : Nat) (s : Sys) (h : WF old chunks s)
    (hrd : s.rd = none) (hk : stepsLeft s ≤ k) : Done chunks (wsteps cfg k s) := by
  have hnl : s.hasLive = false := by unfold Sys.hasLive; rw [hrd]; rfl
  induction k generalizing s with
  | zero =>
    have hp : s.phase = .closed := by
      unfold stepsLeft at hk
      cases hp : s.phase <;> rw [hp] at hk <;> simp at hk ⊢
    refine ⟨h.closed hp, hp, ?_, hrd⟩
    show s.cell.locked = false
    rw [h.lock, hnl, hp]; rfl
  | succ k ih =>
    apply ih _ (wstep_wf cfg old chunks s h) (wstep_rd_none cfg s hrd) ?_ (by rw [wstep_hasLive, hnl])
    rw [stepsLeft_wstep cfg s (by rw [h.lock, hnl, Bool.or_false])]
    omega

/-- a reader is open at `pos`, the bytes it reads from are `d`, and no step of the rewriter can change that: a `lock`
reader holds the lock while the rewriter is not writing; a private copy is private; a reader that shares the file's
array does so while the rewriter is not writing, and the rewriter's open will give the file a fresh array -/
def Iso (cfg : Disc) (d : Bytes) (pos : Nat) (s : Sys) : Prop :=
  ∃ m, s.rd = some m ∧ m.pos = pos ∧ m.data s.cell = d ∧
    match m.view with
    | .live => s.cell.locked = true ∧ s.phase ≠ .writing
    | .own _ => True
    | .shared _ => s.phase ≠ .writing ∧ cfg.tr = .fresh

theorem wstep_iso (cfg : Disc) (d : Bytes) (pos : Nat) (s : Sys) (h : Iso cfg d pos s) : Iso cfg d pos (wstep cfg s) := by
  obtain ⟨⟨back, len, locked⟩, rd, ph, td⟩ := s
  obtain ⟨⟨v, p⟩, hrd, hpos, hdata, hv⟩ := h
  subst hrd
  subst hpos
  unfold wstep
  cases ph with
  | idle =>
    cases locked with
    | true => exact ⟨⟨v, p⟩, rfl, rfl, hdata, hv⟩
    | false =>
      cases v with
      | live => simp at hv
      | own d' =>
        cases cfg.tr <;> exact ⟨⟨.own d', p⟩, rfl, rfl, hdata, trivial⟩
      | shared n =>
        obtain ⟨_, htr⟩ := hv
        rw [htr]
        exact ⟨⟨.own (back.take n), p⟩, rfl, rfl, hdata, trivial⟩
  | writing =>
    cases v with
    | live => simp at hv
    | shared n => simp at hv
    | own d' =>
      cases td with
      | nil => exact ⟨⟨.own d', p⟩, rfl, rfl, hdata, trivial⟩
      | cons c rest =>
        simp only
        split <;> exact ⟨⟨.own d', p⟩, rfl, rfl, hdata, trivial⟩
  | closed => exact ⟨⟨v, p⟩, rfl, rfl, hdata, hv⟩

theorem readR_iso (cfg : Disc) (d : Bytes) (pos : Nat) (s : Sys) (n : Nat) (h : Iso cfg d pos s) :
    (readR s n).1 = ((RHandle.mk d pos .eager).read n).1
    ∧ (readR s n).2.1 = ((RHandle.mk d pos .eager).read n).2.1
    ∧ Iso cfg d ((RHandle.mk d pos .eager).read n).2.2.pos (readR s n).2.2 := by
  obtain ⟨m, hrd, hpos, hdata, hv⟩ := h
  unfold readR
  rw [hrd]
  simp only
  rw [hdata, hpos]
  refine ⟨rfl, rfl, ⟨{ m with pos := _ }, rfl, rfl, ?_, ?_⟩⟩
  · simpa [MReader.data] using hdata
  · simpa using hv

theorem readR_wf (old : Bytes) (chunks : List Bytes) (s : Sys) (n : Nat) (h : WF old chunks s) :
    WF old chunks (readR s n).2.2 := by
  unfold readR
  cases hrd : s.rd with
  | none => exact h
  | some m =>
    refine h.frame rfl rfl rfl ?_
    obtain ⟨v, p⟩ := m
    simp only [Sys.hasLive, hrd]
    cases v <;> rfl

theorem closeReader_rd (s : Sys) : (closeReader s).rd = none := by
  unfold closeReader
  split <;> first | assumption | rfl

theorem closeReader_wf (old : Bytes) (chunks : List Bytes) (s : Sys) (h : WF old chunks s) :
    WF old chunks (closeReader s) := by
  unfold closeReader
  split
  · exact h
  · next p hrd =>
    -- a `lock` reader gives the lock back; the rewriter was not between its open and Close
    have hl : s.hasLive = true := by simp [Sys.hasLive, hrd, liveR]
    have hph : s.phase ≠ .writing := fun e => h.excl ⟨e, hl⟩
    refine h.of_reader rfl rfl rfl rfl ?_ (fun e => hph e.1)
    -- after the Close both sides of `lock` are `false`
    cases hp : s.phase <;> simp_all [Sys.hasLive, liveR]
  · next m hnl hrd =>
    refine h.frame rfl rfl rfl ?_
    obtain ⟨v, p⟩ := m
    simp only [Sys.hasLive, hrd]
    cases v
    · exact absurd rfl (hnl p)
    · rfl
    · rfl

/-- the reader's `Close` after any steps of the rewriter, then the rewriter's run to its end -/
theorem close_finish (cfg : Disc) (old : Bytes) (chunks : List Bytes) (k : Nat) (x : Sys) (h : WF old chunks x) :
    Done chunks (wsteps cfg ((closeReader (wsteps cfg k x)).todo.length + 2) (closeReader (wsteps cfg k x))) :=
  wsteps_finish cfg old chunks _ _ (closeReader_wf old chunks _ (wsteps_wf cfg old chunks k x h)) (closeReader_rd _)
    (stepsLeft_le _)

theorem awaitFree_spec (cfg : Disc) (old : Bytes) (chunks : List Bytes) (s : Sys) (h : WF old chunks s)
    (hrd : s.rd = none) :
    WF old chunks (awaitFree cfg s) ∧ (awaitFree cfg s).rd = none ∧ (awaitFree cfg s).phase ≠ .writing
      ∧ ((awaitFree cfg s).cell.content = old ∨ (awaitFree cfg s).cell.content = chunks.flatten) := by
  -- no reader is open, so the lock is held exactly while the rewriter writes
  have hlock := h.lock
  rw [show s.hasLive = false by unfold Sys.hasLive; rw [hrd]; rfl, Bool.or_false] at hlock
  unfold awaitFree
  cases hp : s.phase with
  | writing =>
    rw [if_pos (by rw [hlock, hp]; rfl)]
    have hfin := wsteps_finish cfg old chunks (s.todo.length + 1) s h hrd (by unfold stepsLeft; rw [hp]; exact Nat.le_refl _)
    exact ⟨wsteps_wf cfg old chunks _ s h, hfin.2.2.2, by rw [hfin.2.1]; simp, Or.inr hfin.1⟩
  | idle =>
    rw [if_neg (by rw [hlock, hp]; simp)]
    exact ⟨h, hrd, by simp [hp], Or.inl (h.idle hp).2⟩
  | closed =>
    rw [if_neg (by rw [hlock, hp]; simp)]
    exact ⟨h, hrd, by simp [hp], Or.inr (h.closed hp)⟩

/-- the open reader of `s` delivers what the private handle `h` delivers, now and after any steps of the rewriter -/
def Tracks (cfg : Disc) (old : Bytes) (chunks : List Bytes) (s : Sys) (h : RHandle) : Prop :=
  WF old chunks s ∧ Iso cfg h.data h.pos s ∧ h.style = .eager

theorem openReader_spec (cfg : Disc) (hsafe : cfg.safe = true) (old : Bytes) (chunks : List Bytes) (s : Sys)
    (h : WF old chunks s) (hrd : s.rd = none) (hp : s.phase ≠ .writing) :
    Tracks cfg old chunks (openReader cfg s) (RHandle.open .eager s.cell.content) := by
  have hnl : s.hasLive = false := by simp [Sys.hasLive, hrd, liveR]
  unfold openReader
  cases hr : cfg.rd with
  | lock =>
    refine ⟨h.of_reader rfl rfl rfl rfl ?_ (fun e => hp e.1), ⟨⟨.live, 0⟩, rfl, rfl, rfl, rfl, hp⟩, rfl⟩
    simp [Sys.hasLive, liveR]
  | copy => exact ⟨h.frame rfl rfl rfl hnl.symm, ⟨⟨.own s.cell.content, 0⟩, rfl, rfl, rfl, trivial⟩, rfl⟩
  | alias =>
    have htr : cfg.tr = .fresh := by
      unfold Disc.safe at hsafe
      rw [hr] at hsafe
      cases ht : cfg.tr <;> rw [ht] at hsafe <;> simp at hsafe ⊢
    exact ⟨h.frame rfl rfl rfl hnl.symm, ⟨⟨.shared s.cell.len, 0⟩, rfl, rfl, rfl, hp, htr⟩, rfl⟩

theorem read_tracks (cfg : Disc) (old : Bytes) (chunks : List Bytes) (s : Sys) (h : RHandle) (k n : Nat)
    (hr : Tracks cfg old chunks s h) :
    (readR (wsteps cfg k s) n).1 = (h.read n).1 ∧ (readR (wsteps cfg k s) n).2.1 = (h.read n).2.1
      ∧ Tracks cfg old chunks (readR (wsteps cfg k s) n).2.2 (h.read n).2.2 := by
  obtain ⟨hwf, hiso, hs⟩ := hr
  obtain ⟨d, pos, st⟩ := h
  subst hs
  obtain ⟨e1, e2, hiso2⟩ := readR_iso cfg d pos _ n (wsteps_keeps cfg _ (wstep_iso cfg d pos) k s hiso)
  exact ⟨e1, e2, readR_wf old chunks _ n (wsteps_wf cfg old chunks k s hwf), hiso2, rfl⟩

theorem readsI_tracks (cfg : Disc) (old : Bytes) (chunks : List Bytes) (sizes : List Nat) :
    ∀ (ws : List Nat) (s : Sys) (h : RHandle), Tracks cfg old chunks s h →
      (readsI cfg ws sizes s).1 = h.reads sizes ∧ WF old chunks (readsI cfg ws sizes s).2.2 := by
  induction sizes with
  | nil => exact fun _ _ _ hr => ⟨rfl, hr.1⟩
  | cons n ns ih =>
    intro ws s h hr
    obtain ⟨e1, e2, hr'⟩ := read_tracks cfg old chunks s h (ws.headD 0) n hr
    obtain ⟨e3, hwf⟩ := ih ws.tail _ _ hr'
    exact ⟨by simp only [readsI, RHandle.reads, e1, e2, e3], hwf⟩

/-- `Props/C04.reader_isolated_from_rewrite` is the case `Sys.init` -/
theorem readerRun_spec (cfg : Disc) (hsafe : cfg.safe = true) (old : Bytes) (chunks : List Bytes)
    (sizes ws : List Nat) (s : Sys) (h : WF old chunks s) (hrd : s.rd = none) :
    let r := readerRun cfg ws sizes s
    (r.atOpen = old ∨ r.atOpen = chunks.flatten)
    ∧ r.out = (RHandle.open .eager r.atOpen).reads sizes
    ∧ WF old chunks r.beforeClose ∧ Done chunks r.fin := by
  intro r
  obtain ⟨h2, h2r, h2p, h2c⟩ := awaitFree_spec cfg old chunks _ (wsteps_wf cfg old chunks (ws.headD 0) s h)
    (wsteps_keeps cfg _ (wstep_rd_none cfg) _ s hrd)
  obtain ⟨e4, h4⟩ := readsI_tracks cfg old chunks sizes ws.tail _ _ (openReader_spec cfg hsafe old chunks _ h2 h2r h2p)
  exact ⟨h2c, e4, wsteps_wf cfg old chunks _ _ h4, close_finish cfg old chunks _ _ h4⟩

/-- the reader's thread moves first: it finds the old content -/
theorem await_first (cfg : Disc) (old slack : Bytes) (chunks : List Bytes) (ws : List Nat) (h : ws.headD 0 = 0) :
    (awaitFree cfg (wsteps cfg (ws.headD 0) (Sys.init old slack chunks))).cell.content = old := by
  rw [h]
  simp [wsteps, awaitFree, Sys.init, Cell.content]

theorem wsteps_idle_locked (cfg : Disc) (k : Nat) (s : Sys) (hp : s.phase = .idle) (hl : s.cell.locked = true) :
    wsteps cfg k s = s := by
  have : wstep cfg s = s := by
    obtain ⟨cell, rd, ph, td⟩ := s
    subst hp
    unfold wstep
    simp [show cell.locked = true from hl]
  exact wsteps_keeps cfg (· = s) (fun t ht => ht ▸ this) k s rfl

theorem readsI_idle_locked (cfg : Disc) (sizes : List Nat) : ∀ (ws : List Nat) (s : Sys), s.phase = .idle →
    s.cell.locked = true → (readsI cfg ws sizes s).2.2.phase = .idle ∧ (readsI cfg ws sizes s).2.2.cell.locked = true := by
  induction sizes with
  | nil => exact fun ws s hp hl => ⟨hp, hl⟩
  | cons n ns ih =>
    intro ws s hp hl
    simp only [readsI]
    rw [wsteps_idle_locked cfg _ s hp hl]
    apply ih ws.tail <;> unfold readR <;> split <;> assumption

/-- a reader that delivers what a sequential handle delivers (`Rel`, kept by the reads) makes the copy loop `ioLoop` -/
theorem ioLoopG_sim {ρ : Type} (rd : ρ → Nat → Bytes × Bool × ρ) (Rel : ρ → RHandle → Prop)
    (hstep : ∀ a b n, Rel a b → (rd a n).1 = (b.read n).1 ∧ (rd a n).2.1 = (b.read n).2.1
      ∧ Rel (rd a n).2.2 (b.read n).2.2)
    (pl : Plan) (fuel : Nat) (sizes : List Nat) (c : Calls) (a : ρ) (b : RHandle) (w : WHandle) (h : Rel a b) :
    (ioLoopG rd pl fuel sizes c a w).ok = (ioLoop pl fuel sizes c b w).ok
    ∧ (ioLoopG rd pl fuel sizes c a w).calls = (ioLoop pl fuel sizes c b w).calls
    ∧ (ioLoopG rd pl fuel sizes c a w).w = (ioLoop pl fuel sizes c b w).w
    ∧ Rel (ioLoopG rd pl fuel sizes c a w).r (ioLoop pl fuel sizes c b w).r := by
  induction fuel generalizing sizes c a b w with
  | zero => exact ⟨rfl, rfl, rfl, h⟩
  | succ fuel ih =>
    have hread : (faultyReadG rd pl c a (chunkSize sizes)).1 = (faultyRead pl c b (chunkSize sizes)).1
        ∧ (faultyReadG rd pl c a (chunkSize sizes)).2.1 = (faultyRead pl c b (chunkSize sizes)).2.1
        ∧ (faultyReadG rd pl c a (chunkSize sizes)).2.2.1 = (faultyRead pl c b (chunkSize sizes)).2.2.1
        ∧ Rel (faultyReadG rd pl c a (chunkSize sizes)).2.2.2 (faultyRead pl c b (chunkSize sizes)).2.2.2 := by
      unfold faultyReadG faultyRead
      cases pl .read (c .read) with
      | none =>
        obtain ⟨e1, e2, e3⟩ := hstep a b (chunkSize sizes) h
        simp only [e1, e2]
        exact ⟨trivial, trivial, trivial, e3⟩
      | some m =>
        cases m with
        | hard => exact ⟨rfl, rfl, rfl, h⟩
        | short =>
          obtain ⟨e1, _, e3⟩ := hstep a b (chunkSize sizes / 2) h
          simp only [e1]
          exact ⟨trivial, trivial, trivial, e3⟩
    simp only [ioLoopG, ioLoop]
    generalize faultyReadG rd pl c a (chunkSize sizes) = x at hread ⊢
    generalize faultyRead pl c b (chunkSize sizes) = y at hread ⊢
    obtain ⟨x1, x2, x3, x4⟩ := x
    obtain ⟨y1, y2, y3, y4⟩ := y
    obtain ⟨rfl, rfl, rfl, e4⟩ := hread
    simp only
    -- the splits follow the loop: chunk empty? / read status; else write ok? / read status
    split
    · split
      · exact ih _ _ _ _ _ e4
      · exact ⟨rfl, rfl, rfl, e4⟩
      · exact ⟨rfl, rfl, rfl, e4⟩
    · split
      · split
        · exact ih _ _ _ _ _ e4
        · exact ⟨rfl, rfl, rfl, e4⟩
        · exact ⟨rfl, rfl, rfl, e4⟩
      · exact ⟨rfl, rfl, rfl, e4⟩

theorem ioLoopG_eq (pl : Plan) (fuel : Nat) (sizes : List Nat) (c : Calls) (r : RHandle) (w : WHandle) :
    (ioLoopG RHandle.read pl fuel sizes c r w).ok = (ioLoop pl fuel sizes c r w).ok
    ∧ (ioLoopG RHandle.read pl fuel sizes c r w).calls = (ioLoop pl fuel sizes c r w).calls
    ∧ (ioLoopG RHandle.read pl fuel sizes c r w).w = (ioLoop pl fuel sizes c r w).w
    ∧ (ioLoopG RHandle.read pl fuel sizes c r w).r = (ioLoop pl fuel sizes c r w).r :=
  ioLoopG_sim RHandle.read Eq (fun _ _ _ e => e ▸ ⟨rfl, rfl, rfl⟩) pl fuel sizes c r r w rfl

/-- the outcome is that of the sequential `StreamCopy` of a source holding what the file held when the copy's reader
was opened — the old content or the new one, whole — and the rewrite itself is intact -/
theorem streamCopyRW_spec (cfg : Disc) (hsafe : cfg.safe = true) (pl : Plan) (sizes : List Nat) (c : Calls)
    (ws : List Nat) (old : Bytes) (chunks : List Bytes) (s : Sys) (h : WF old chunks s) (hrd : s.rd = none)
    (S : State) (sp : Path) (dst : Dest) (dp : Path) :
    ((awaitFree cfg (wsteps cfg (ws.headD 0) s)).cell.content = old
      ∨ (awaitFree cfg (wsteps cfg (ws.headD 0) s)).cell.content = chunks.flatten)
    ∧ (streamCopyRW cfg pl sizes c ws s dst dp).1
        = streamCopy2 pl sizes c ⟨.eager, put S sp (awaitFree cfg (wsteps cfg (ws.headD 0) s)).cell.content, false⟩
            sp dst dp
    ∧ Done chunks (streamCopyRW cfg pl sizes c ws s dst dp).2 := by
  have h1 := wsteps_wf cfg old chunks (ws.headD 0) s h
  have h1r := wsteps_keeps cfg _ (wstep_rd_none cfg) (ws.headD 0) s hrd
  obtain ⟨h2, h2r, h2p, h2c⟩ := awaitFree_spec cfg old chunks _ h1 h1r
  have h3 := openReader_spec cfg hsafe old chunks _ h2 h2r h2p
  refine ⟨h2c, ?_⟩
  generalize (awaitFree cfg (wsteps cfg (ws.headD 0) s)).cell.content = d at h3 ⊢
  generalize hs2 : openReader cfg (awaitFree cfg (wsteps cfg (ws.headD 0) s)) = s2 at h3
  have hdata : s2.readerData = d := by
    obtain ⟨m, hm, _, hmd, _⟩ := h3.2.1
    unfold Sys.readerData; rw [hm]; exact hmd
  -- both sides are the text of `streamCopy2` (whose source opens on `d`): the early exits agree by `rfl`, the loop by
  -- `ioLoopG_sim`, and everything after the loop is a function of its `(ok, calls, w)`
  unfold streamCopyRW streamCopy2
  simp only [Src.openReader, put, if_true, hs2]
  cases pl .openReader (c .openReader) with
  | some m => exact ⟨rfl, wsteps_finish cfg old chunks _ _ h1 h1r (stepsLeft_le _)⟩
  | none =>
    cases pl .openWriter ((c.bump .openReader) .openWriter) with
    | some m => exact ⟨rfl, close_finish cfg old chunks _ _ h3.1⟩
    | none =>
      cases dst.openWriter dp with
      | none => exact ⟨rfl, close_finish cfg old chunks _ _ h3.1⟩
      | some dw =>
        obtain ⟨d1, w⟩ := dw
        simp only
        obtain ⟨k1, k2, k3, k4⟩ := ioLoopG_sim (rdC cfg) (fun x h => Tracks cfg old chunks x.1 h)
          (fun a b n hab => read_tracks cfg old chunks a.1 b (a.2.headD 0) n hab) pl
          (sizes.length + s2.readerData.length + 2) sizes ((c.bump .openReader).bump .openWriter) (s2, ws.tail)
          (RHandle.open .eager d) w h3
        -- the sequential copy makes the same loop with the same fuel
        have e : ioLoop pl (sizes.length + s2.readerData.length + 2) sizes ((c.bump .openReader).bump .openWriter)
            (RHandle.open .eager d) w
            = ioCopy pl sizes ((c.bump .openReader).bump .openWriter) (RHandle.open .eager d) w := by
          rw [hdata]; rfl
        rw [e] at k1 k2 k3
        generalize ioCopy pl sizes ((c.bump .openReader).bump .openWriter) (RHandle.open .eager d) w = o' at k1 k2 k3 ⊢
        generalize ioLoopG (rdC cfg) pl (sizes.length + s2.readerData.length + 2) sizes
          ((c.bump .openReader).bump .openWriter) (s2, ws.tail) w = o at k1 k2 k3 k4 ⊢
        obtain ⟨ok, calls, x, w1⟩ := o
        obtain ⟨ok', calls', x', w1'⟩ := o'
        subst k1 k2 k3
        dsimp only
        -- four exits after the loop (loop failed / writer's Close failed / reader's Close fails by plan / nil): on both
        -- sides the same `Out`, and the source system is `closeR o.r`
        repeat' split
        all_goals exact ⟨rfl, close_finish cfg old chunks _ _ k4.1⟩

end Stream
end Goat
