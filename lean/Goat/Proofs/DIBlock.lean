/-
The loop of `Block` ranges over a Go map, whose iteration order is unspecified.  Whatever order it takes, the
result is the point-wise `block` the other proofs use.
-/
import Goat.Proofs.DIBasic

namespace Goat.DI

/-- the fields the loop body never touches -/
structure SameFrame (a b : St) : Prop where
  dinst : b.defaultInstances = a.defaultInstances
  callstack : b.callstack = a.callstack
  keys : b.keys = a.keys
  blocked : b.blocked = a.blocked
  autoclean : b.autoclean = a.autoclean
  nextId : b.nextId = a.nextId
  log : b.log = a.log
  exhausted : b.exhausted = a.exhausted
  injectors : b.injectors = a.injectors

def entry (s : St) (x : Name) : Option Inst × Option Factory × Option Factory :=
  (s.instances x, s.factories x, s.defaultFactories x)

/-- what `Block` does to the entries of a name with default instance `dv`, as a function of those entries only
(the condition is `promotes`) -/
def promoteEntry (dv : Option Inst) (ac : Bool) (e : Option Inst × Option Factory × Option Factory) :
    Option Inst × Option Factory × Option Factory :=
  if dv.isSome && e.2.1.isNone && e.1.isNone then (dv, if ac then none else e.2.1, if ac then none else e.2.2)
  else e

theorem promoteEntry_entry (s : St) (k : Name) :
    promoteEntry (s.defaultInstances k) s.autoclean (entry s k) =
      if promotes s k then (s.defaultInstances k, if s.autoclean then none else s.factories k,
        if s.autoclean then none else s.defaultFactories k) else entry s k := rfl

theorem blockBody_cases (s : St) (k : Name) :
    (promotes s k = false ∧ blockBody s k = s) ∨
    ∃ v, s.defaultInstances k = some v ∧ promotes s k = true ∧
      blockBody s k = { s with defaultFactories := s.defaultFactories.delIf s.autoclean k,
                               factories := s.factories.delIf s.autoclean k,
                               instances := s.instances.set k v } := by
  unfold blockBody promotes
  cases hd : s.defaultInstances k with
  | none => exact .inl ⟨rfl, rfl⟩
  | some v =>
    cases hf : s.factories k with
    | some f => exact .inl ⟨by simp, by simp⟩
    | none =>
      cases hi : s.instances k with
      | some i => exact .inl ⟨by simp, by simp⟩
      | none =>
        refine .inr ⟨v, rfl, by simp, ?_⟩
        simp only [Option.isSome_none, Option.isNone_none, Bool.false_eq_true, if_false, if_true]
        -- as in `clean_eq`
        obtain ⟨_, _, _, _, _, _, _, _, ac, _, _, _⟩ := s
        cases ac <;> rfl

theorem SameFrame.refl (s : St) : SameFrame s s := ⟨rfl, rfl, rfl, rfl, rfl, rfl, rfl, rfl, rfl⟩

theorem SameFrame.trans {a b c : St} (h1 : SameFrame a b) (h2 : SameFrame b c) : SameFrame a c :=
  ⟨h2.dinst.trans h1.dinst, h2.callstack.trans h1.callstack, h2.keys.trans h1.keys,
    h2.blocked.trans h1.blocked, h2.autoclean.trans h1.autoclean, h2.nextId.trans h1.nextId,
    h2.log.trans h1.log, h2.exhausted.trans h1.exhausted, h2.injectors.trans h1.injectors⟩

theorem SameFrame.eq {a b : St} (h : SameFrame a b) :
    b = { a with instances := b.instances, factories := b.factories, defaultFactories := b.defaultFactories } := by
  obtain ⟨h1, h2, h3, h4, h5, h6, h7, h8, h9⟩ := h
  cases a; cases b; simp_all

theorem SameFrame.eq_of_entry {a b c : St} (h : SameFrame a b) (he : ∀ x, entry b x = entry c x) :
    b = { a with instances := c.instances, factories := c.factories, defaultFactories := c.defaultFactories } := by
  rw [h.eq, show b.instances = c.instances from funext fun x => congrArg (·.1) (he x),
    show b.factories = c.factories from funext fun x => congrArg (·.2.1) (he x),
    show b.defaultFactories = c.defaultFactories from funext fun x => congrArg (·.2.2) (he x)]

theorem blockBody_frame (s : St) (k : Name) : SameFrame s (blockBody s k) := by
  rcases blockBody_cases s k with ⟨_, h⟩ | ⟨v, _, _, h⟩ <;> rw [h] <;> exact ⟨rfl, rfl, rfl, rfl, rfl, rfl, rfl, rfl, rfl⟩

theorem blockBody_other (s : St) {k x : Name} (h : x ≠ k) : entry (blockBody s k) x = entry s x := by
  rcases blockBody_cases s k with ⟨_, e⟩ | ⟨v, _, _, e⟩ <;> rw [e]
  show (s.instances.set k v x, s.factories.delIf _ k x, s.defaultFactories.delIf _ k x) = _
  rw [Tab.set_ne _ _ h, Tab.delIf_ne _ _ h, Tab.delIf_ne _ _ h]
  rfl

theorem blockBody_self (s : St) (k : Name) :
    entry (blockBody s k) k = promoteEntry (s.defaultInstances k) s.autoclean (entry s k) := by
  rw [promoteEntry_entry]
  rcases blockBody_cases s k with ⟨hp, e⟩ | ⟨v, hv, hp, e⟩ <;> rw [e, hp]
  · rfl
  · show (s.instances.set k v k, s.factories.delIf _ k k, s.defaultFactories.delIf _ k k) = _
    rw [Tab.set_eq, hv]
    cases s.autoclean <;> simp [Tab.delIf]

/-- this is what lets the visiting order contain repetitions -/
theorem promoteEntry_idem (dv : Option Inst) (ac : Bool) (e : Option Inst × Option Factory × Option Factory) :
    promoteEntry dv ac (promoteEntry dv ac e) = promoteEntry dv ac e := by
  unfold promoteEntry
  by_cases h : (dv.isSome && e.2.1.isNone && e.1.isNone) = true
  · -- a promoted entry has an instance
    rw [if_pos h, if_neg]
    cases dv with
    | none => cases h
    | some v => simp
  · rw [if_neg h, if_neg h]

theorem foldl_frame (l : List Name) (s : St) : SameFrame s (l.foldl blockBody s) := by
  induction l generalizing s with
  | nil => exact .refl s
  | cons k rest ih => exact (blockBody_frame s k).trans (ih (blockBody s k))

theorem foldl_entry (l : List Name) (s : St) (x : Name) :
    entry (l.foldl blockBody s) x =
      if x ∈ l then promoteEntry (s.defaultInstances x) s.autoclean (entry s x) else entry s x := by
  induction l generalizing s with
  | nil => simp
  | cons k rest ih =>
    simp only [List.foldl_cons]
    rw [ih (blockBody s k)]
    have hfr := blockBody_frame s k
    by_cases hxk : x = k
    · subst hxk
      rw [hfr.dinst, hfr.autoclean, blockBody_self, promoteEntry_idem]
      simp
    · rw [hfr.dinst, hfr.autoclean, blockBody_other s hxk]
      simp [hxk]

theorem block_entry (s : St) (hb : s.blocked = false) (x : Name) :
    entry (block s) x = promoteEntry (s.defaultInstances x) s.autoclean (entry s x) := by
  rw [promoteEntry_entry, entry, block_instances, block_factories, block_defaultFactories, hb]
  cases promotes s x <;> cases s.autoclean <;> rfl

end Goat.DI
