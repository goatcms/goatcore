/-
Operations seen from the root: their footprints (`Op.W`, `Op.C`, `Op.R`), the independence relation `IndepOp`, success
and result of an operation as a function of the INITIAL abstract tree (`succ`, `ResOK`), its micro effects (`effOf`, in
the vocabulary of `MemFSConcCommute`), and the frame lemmas: what a list of independent operations can have changed at a
path that lies on the way to, or below, a path of another operation.
-/
import Goat.Proofs.MemFSConcCommute
import Goat.Proofs.FS
import Goat.Proofs.Lists

namespace Goat.MemFSConc
open Goat.FS (Entry)

def TreeWF (T : Tree) : Prop := T [] = some .dir ∧ ∀ p n, T (p ++ [n]) ≠ none → T p = some .dir

theorem TreeWF.closed {T : Tree} (hw : TreeWF T) : FS.PrefixClosed T := hw.2

/-- the path whose subtree the operation replaces -/
def Op.W : Op → Option Path
  | .writeFile p _ => some p
  | .remove p => some p
  | .removeAll p => some p
  | .copy _ d => some d
  | _ => none

/-- the path along which the operation creates missing directories -/
def Op.C : Op → Option Path
  | .mkdirAll p => some p
  | .writeFile p _ => some p.dropLast
  | .copy _ d => some d.dropLast
  | _ => none

/-- the path whose subtree the operation reads -/
def Op.R : Op → Option Path
  | .readFile p => some p
  | .readDir p => some p
  | .probe p _ => some p
  | .copy s _ => some s
  | _ => none

def Op.paths (op : Op) : List Path := op.W.toList ++ op.C.toList ++ op.R.toList

def Op.owned (op : Op) : List Path := op.W.toList ++ op.R.toList

theorem Op.mem_paths {op : Op} {x : Path} : x ∈ op.paths ↔ op.W = some x ∨ op.C = some x ∨ op.R = some x := by
  simp [Op.paths]

theorem Op.mem_owned {op : Op} {x : Path} : x ∈ op.owned ↔ op.W = some x ∨ op.R = some x := by
  simp [Op.owned]

theorem mem_paths_W {op : Op} {w : Path} (h : op.W = some w) : w ∈ op.paths := Op.mem_paths.2 (.inl h)

theorem mem_paths_C {op : Op} {w : Path} (h : op.C = some w) : w ∈ op.paths := Op.mem_paths.2 (.inr (.inl h))

theorem mem_paths_R {op : Op} {w : Path} (h : op.R = some w) : w ∈ op.paths := Op.mem_paths.2 (.inr (.inr h))

theorem Op.owned_sub_paths {op : Op} {x : Path} (h : x ∈ op.owned) : x ∈ op.paths :=
  Op.mem_paths.2 ((Op.mem_owned.1 h).imp_right .inr)

theorem Op.C_of_W {op : Op} {w c : Path} (hW : op.W = some w) (hC : op.C = some c) : c = w.dropLast := by
  cases op <;> simp only [Op.W, Op.C, Option.some.injEq, reduceCtorEq] at hW hC <;> rw [← hC, ← hW]

/-- operations covered by `distinct_paths_commute`: no stream handles, no operation on the root path
itself, a copy's source and destination unrelated -/
def Op.ok : Op → Prop
  | .mkdirAll p => p ≠ []
  | .writeFile p _ => p ≠ []
  | .readFile p => p ≠ []
  | .readDir p => p ≠ []
  | .probe p _ => p ≠ []
  | .remove p => p ≠ []
  | .removeAll p => p ≠ []
  | .copy s d => s ≠ [] ∧ d ≠ [] ∧ ¬ s <+: d ∧ ¬ d <+: s
  | _ => False

/-- two operations that may run concurrently: nothing of `b` lies at or below the path `a` replaces (`wAbove`), `a` reads
nothing on the way `b` creates directories along (`rOnWay`), `a` replaces nothing at or above a path `b` owns (`wBelow`),
and the same with `a` and `b` exchanged.  Creating operations may share ancestors, and two `MkdirAll` are always
independent. -/
def IndepOp (a b : Op) : Prop :=
  (∀ w ∈ a.W, ∀ x ∈ b.paths, ¬ w <+: x) ∧ (∀ w ∈ b.W, ∀ x ∈ a.paths, ¬ w <+: x) ∧
  (∀ r ∈ a.R, ∀ c ∈ b.C, ¬ r <+: c) ∧ (∀ r ∈ b.R, ∀ c ∈ a.C, ¬ r <+: c) ∧
  (∀ w ∈ a.W, ∀ x ∈ b.owned, ¬ x <+: w) ∧ (∀ w ∈ b.W, ∀ x ∈ a.owned, ¬ x <+: w)

instance (a b : Op) : Decidable (IndepOp a b) := by unfold IndepOp; infer_instance

theorem IndepOp.wAbove {a b : Op} (h : IndepOp a b) {w x : Path} (hw : a.W = some w) (hx : x ∈ b.paths) :
    ¬ w <+: x := h.1 w hw x hx

theorem IndepOp.rOnWay {a b : Op} (h : IndepOp a b) {r c : Path} (hr : a.R = some r) (hc : b.C = some c) :
    ¬ r <+: c := h.2.2.1 r hr c hc

theorem IndepOp.wBelow {a b : Op} (h : IndepOp a b) {w x : Path} (hw : a.W = some w) (hx : x ∈ b.owned) :
    ¬ x <+: w := h.2.2.2.2.1 w hw x hx

theorem IndepOp.symm {a b : Op} (h : IndepOp a b) : IndepOp b a :=
  ⟨h.2.1, h.1, h.2.2.2.1, h.2.2.1, h.2.2.2.2.2, h.2.2.2.2.1⟩

/-- the paths an operation names -/
def Op.mains : Op → List Path
  | .mkdirAll p => [p]
  | .writeFile p _ => [p]
  | .readFile p => [p]
  | .readDir p => [p]
  | .probe p _ => [p]
  | .remove p => [p]
  | .removeAll p => [p]
  | .copy s d => [s, d]
  | _ => []

theorem Op.W_mem_mains {op : Op} {w : Path} (h : w ∈ op.W) : w ∈ op.mains := by
  cases op <;> simp [Op.W] at h <;> simp [Op.mains, h]

theorem Op.R_mem_mains {op : Op} {w : Path} (h : w ∈ op.R) : w ∈ op.mains := by
  cases op <;> simp [Op.R] at h <;> simp [Op.mains, h]

theorem Op.C_pfx_mains {op : Op} {c : Path} (h : c ∈ op.C) : ∃ m ∈ op.mains, c <+: m := by
  cases op <;> simp [Op.C] at h <;> subst h <;> simp [Op.mains, List.dropLast_prefix]

theorem Op.paths_pfx_mains {op : Op} {x : Path} (h : x ∈ op.paths) : ∃ m ∈ op.mains, x <+: m := by
  rcases Op.mem_paths.1 h with h | h | h
  · exact ⟨x, Op.W_mem_mains h, List.prefix_refl _⟩
  · exact Op.C_pfx_mains h
  · exact ⟨x, Op.R_mem_mains h, List.prefix_refl _⟩

theorem Op.owned_mem_mains {op : Op} {x : Path} (h : x ∈ op.owned) : x ∈ op.mains :=
  (Op.mem_owned.1 h).elim Op.W_mem_mains Op.R_mem_mains

theorem indepOp_of_unrelated {a b : Op}
    (h : ∀ x ∈ a.mains, ∀ y ∈ b.mains, ¬ x <+: y ∧ ¬ y <+: x) : IndepOp a b := by
  refine ⟨?_, ?_, ?_, ?_, ?_, ?_⟩
  · intro w hw x hx hwx
    obtain ⟨m, hm, hxm⟩ := Op.paths_pfx_mains hx
    exact (h w (Op.W_mem_mains hw) m hm).1 (hwx.trans hxm)
  · intro w hw x hx hwx
    obtain ⟨m, hm, hxm⟩ := Op.paths_pfx_mains hx
    exact (h m hm w (Op.W_mem_mains hw)).2 (hwx.trans hxm)
  · intro r hr c hc hrc
    obtain ⟨m, hm, hcm⟩ := Op.C_pfx_mains hc
    exact (h r (Op.R_mem_mains hr) m hm).1 (hrc.trans hcm)
  · intro r hr c hc hrc
    obtain ⟨m, hm, hcm⟩ := Op.C_pfx_mains hc
    exact (h m hm r (Op.R_mem_mains hr)).2 (hrc.trans hcm)
  · intro w hw x hx hxw
    exact (h w (Op.W_mem_mains hw) x (Op.owned_mem_mains hx)).2 hxw
  · intro w hw x hx hxw
    exact (h x (Op.owned_mem_mains hx) w (Op.W_mem_mains hw)).1 hxw

/-- the operation's precondition (the one of the sequential specification) in the tree `T` -/
def succ (T : Tree) : Op → Prop
  | .mkdirAll p => FS.mkdirOk T p
  | .writeFile p _ => FS.writeOk T p
  | .remove p => FS.removeOk T p
  | .removeAll p => FS.removeAllOk T p
  | .copy s d => FS.copyOk .any T s d
  | _ => True

def Op.aop (T : Tree) : Op → Option AOp
  | .mkdirAll p => some ⟨p, none⟩
  | .writeFile p v => some ⟨p, some (fun q => if q = [] then some (.file v) else none)⟩
  | .remove p => some ⟨p, some (fun _ => none)⟩
  | .removeAll p => some ⟨p, some (fun _ => none)⟩
  | .copy s d => some ⟨d, some (fun q => T (s ++ q))⟩
  | _ => none

open Classical in
/-- the micro effects of an operation: none when it fails (or only reads) -/
noncomputable def effOf (T : Tree) (op : Op) : List Eff1 :=
  if succ T op then (match op.aop T with | some a => a.effects | none => []) else []

theorem effOf_succ_aop {T : Tree} {op : Op} {a : AOp} (hs : succ T op) (ha : op.aop T = some a) :
    effOf T op = a.effects := by
  unfold effOf; rw [if_pos hs, ha]

theorem effOf_fail {T : Tree} {op : Op} (hs : ¬ succ T op) : effOf T op = [] := by
  unfold effOf; rw [if_neg hs]

theorem effOf_read {T : Tree} {op : Op} (ha : op.aop T = none) : effOf T op = [] := by
  unfold effOf; rw [ha]; split <;> rfl

/-- what `probe` answers -/
def probeVal (e : Option Entry) (want : Option Bool) : Bool :=
  match e with
  | none => false
  | some e => match want with | none => true | some w => w == e.isDir

/-- the result of an operation, as a function of the initial tree -/
def ResOK (T : Tree) : Op → Res → Prop
  | .readFile p, r => match T p with | some (.file d) => r = .data d | _ => r = .err
  | .readDir p, r => match T p with | some .dir => ∃ l, r = .list l ∧ FS.IsListing T p l | _ => r = .err
  | .probe p want, r => r = .bool (probeVal (T p) want)
  | op, r => (succ T op ∧ r = .ok) ∨ (¬ succ T op ∧ r = .err)

/-- an operation that changes the tree answers `ok` or `err` according to its precondition -/
theorem ResOK_mut {T : Tree} {op : Op} (hop : (op.aop T).isSome = true) (r : Res) :
    ResOK T op r ↔ (succ T op ∧ r = .ok) ∨ (¬ succ T op ∧ r = .err) := by
  cases op <;> first | exact Iff.rfl | cases hop

theorem succ_mkdirOk {T : Tree} {op : Op} {c : Path} (hC : op.C = some c) :
    (succ T op → FS.mkdirOk T c) ∧ (¬ succ T op → ResOK T op .err) := by
  cases op <;> simp only [Op.C, Option.some.injEq, reduceCtorEq] at hC <;> subst hC
  · exact ⟨id, fun h => Or.inr ⟨h, rfl⟩⟩
  · exact ⟨fun h => h.2.1, fun h => Or.inr ⟨h, rfl⟩⟩
  · exact ⟨fun h => h.2.2.1, fun h => Or.inr ⟨h, rfl⟩⟩

theorem Op.W_ne_nil {op : Op} (hok : op.ok) {w : Path} (hw : op.W = some w) : w ≠ [] := by
  cases op <;> simp only [Op.W, Option.some.injEq, reduceCtorEq] at hw <;> subst hw <;> simp only [Op.ok] at hok
  · exact hok
  · exact hok
  · exact hok
  · exact hok.2.1

/-- the target of an operation's micro effects (ensures happen on the way to it) is its `W` path, or its `C` path
when it replaces nothing -/
theorem aop_target {T : Tree} {op : Op} {a : AOp} (h : op.aop T = some a) :
    op.W = some a.target ∨ (op.W = none ∧ op.C = some a.target) := by
  cases op <;> simp [Op.aop] at h <;> subst h <;> simp [Op.W, Op.C]

theorem aop_graft {T : Tree} {op : Op} {a : AOp} {sub : Tree} (h : op.aop T = some a) (hs : a.sub = some sub) :
    op.W = some a.target := by
  cases op <;> simp [Op.aop] at h <;> subst h <;> first | rfl | (simp at hs)

theorem effOf_located {T : Tree} {op : Op} (hok : op.ok) {e : Eff1} (he : e ∈ effOf T op) :
    ∃ t, (op.W = some t ∨ (op.W = none ∧ op.C = some t)) ∧ e.path <+: t ∧ e.path ≠ [] ∧
      ∀ w sub, e = .graft w sub → op.W = some w := by
  unfold effOf at he
  split at he
  · cases ha : op.aop T with
    | none => simp [ha] at he
    | some a =>
      rw [ha] at he
      have hne : a.target ≠ [] := by
        cases op <;> simp [Op.aop] at ha <;> subst ha <;> simp only [Op.ok] at hok <;>
          first | exact hok | exact hok.2.1
      obtain ⟨hp, hn, hg⟩ := effects_located he
      refine ⟨a.target, aop_target ha, hp, hn hne, fun w sub e => ?_⟩
      rw [(hg w sub e).1]
      exact aop_graft ha (hg w sub e).2
  · simp at he

theorem effOf_within (T : Tree) (op : Op) : (effOf T op).Pairwise Indep := by
  unfold effOf
  split
  · cases op.aop T with
    | none => simp
    | some a => exact indep_within a
  · simp

theorem effOf_harmless {T : Tree} {i j : Op} (hok : j.ok) (hi : IndepOp i j) {x q : Path} (hx : x ∈ i.paths)
    (hq : q <+: x) : ∀ e ∈ effOf T j, e.harmless q := by
  intro e he
  obtain ⟨_, _, _, _, hg⟩ := effOf_located hok he
  cases e with
  | ensureDir y => trivial
  | graft w sub => exact fun hwq => hi.symm.wAbove (hg w sub rfl) hx (hwq.trans hq)

theorem effOf_untouched {T : Tree} {i j : Op} (hok : j.ok) (hi : IndepOp i j) {x q : Path} (hx : x ∈ i.owned)
    (hq : x <+: q) : ∀ e ∈ effOf T j, e.untouched q := by
  have hxp := Op.owned_sub_paths hx
  intro e he
  obtain ⟨t, ht, hyt, _, hg⟩ := effOf_located hok he
  cases e with
  | ensureDir y =>
    rintro rfl
    -- x <+: y <+: t, t is the target of j
    have hxt : x <+: t := hq.trans hyt
    rcases ht with hjw | ⟨_, ht⟩
    · exact hi.symm.wBelow hjw hx hxt
    · rcases Op.mem_owned.1 hx with h | h
      · exact hi.wAbove h (mem_paths_C ht) hxt
      · exact hi.rOnWay h ht hxt
  | graft w sub =>
    intro hwq
    rcases List.prefix_or_prefix_of_prefix hwq hq with h | h
    · exact hi.symm.wAbove (hg w sub rfl) hxp h
    · exact hi.symm.wBelow (hg w sub rfl) hx h

theorem effOf_indep {T : Tree} {i j : Op} (hoi : i.ok) (hoj : j.ok) (hi : IndepOp i j) :
    ∀ e ∈ effOf T i, ∀ e' ∈ effOf T j, Indep e e' := by
  intro e he e' he'
  have mem : ∀ {op : Op} {t : Path}, op.W = some t ∨ (op.W = none ∧ op.C = some t) → t ∈ op.paths :=
    fun h => h.elim mem_paths_W fun h => mem_paths_C h.2
  obtain ⟨t, ht, hp, _⟩ := effOf_located hoi he
  obtain ⟨t', ht', hp', _⟩ := effOf_located hoj he'
  exact ⟨effOf_harmless hoi hi.symm (mem ht') hp' e he, effOf_harmless hoj hi (mem ht) hp e' he'⟩

theorem effs_pairwise {T : Tree} {ops : List Op} (hok : ∀ op ∈ ops, op.ok) (hp : ops.Pairwise IndepOp) :
    (ops.flatMap (effOf T)).Pairwise Indep :=
  List.pairwise_flatMap.2 ⟨fun op _ => effOf_within T op,
    hp.imp_of_mem fun ha hb h => effOf_indep (hok _ ha) (hok _ hb) h⟩

/-- the initial tree `T` with the effects of the operations `D` (those decided so far), each effect computed in
`T` itself and not in the tree it meets -/
noncomputable def SD (T : Tree) (D : List Op) : Tree := runEffs T (D.flatMap (effOf T))

theorem SD_snoc (T : Tree) (D : List Op) (op : Op) : SD T (D ++ [op]) = runEffs (SD T D) (effOf T op) := by
  simp [SD, List.flatMap_append, runEffs_append]

theorem SD_perm {T : Tree} {D D' : List Op} (hp : D.Perm D') (hok : ∀ op ∈ D, op.ok) (hi : D.Pairwise IndepOp) :
    SD T D = SD T D' :=
  runEffs_perm (hp.flatMap_right _) (effs_pairwise hok hi) T

theorem SD_prefix {T : Tree} {D : List Op} {i : Op} (hok : ∀ j ∈ D, j.ok) (hi : ∀ j ∈ D, IndepOp i j)
    {x q : Path} (hx : x ∈ i.paths) (hq : q <+: x) :
    SD T D q = T q ∨ (T q = none ∧ SD T D q = some .dir) := by
  apply runEffs_harmless
  intro e he
  simp only [List.mem_flatMap] at he
  obtain ⟨j, hj, he⟩ := he
  exact effOf_harmless (hok j hj) (hi j hj) hx hq e he

theorem SD_below {T : Tree} {D : List Op} {i : Op} (hok : ∀ j ∈ D, j.ok) (hi : ∀ j ∈ D, IndepOp i j)
    {x q : Path} (hx : x ∈ i.owned) (hq : x <+: q) : SD T D q = T q := by
  apply runEffs_untouched
  intro e he
  simp only [List.mem_flatMap] at he
  obtain ⟨j, hj, he⟩ := he
  exact effOf_untouched (hok j hj) (hi j hj) hx hq e he

/-- results allowed by `ResOK` are unique, except for the order of a directory listing -/
theorem resOK_det {T : Tree} {op : Op} {r r' : Res} (h : ResOK T op r) (h' : ResOK T op r')
    (hnl : ∀ p, op ≠ .readDir p) : r = r' := by
  have gen : ∀ {P : Prop}, (P ∧ r = .ok) ∨ (¬ P ∧ r = .err) → (P ∧ r' = .ok) ∨ (¬ P ∧ r' = .err) → r = r' := by
    rintro P (⟨a, rfl⟩ | ⟨a, rfl⟩) (⟨b, rfl⟩ | ⟨b, rfl⟩) <;> first | rfl | exact absurd a b | exact absurd b a
  cases op with
  | readDir p => exact absurd rfl (hnl p)
  | readFile p =>
    simp only [ResOK] at h h'
    cases hT : T p with
    | none => rw [hT] at h h'; rw [h, h']
    | some e => cases e <;> rw [hT] at h h' <;> simp at h h' <;> rw [h, h']
  | probe p want => simp only [ResOK] at h h'; rw [h, h']
  | _ => exact gen h h'

theorem resOK_listing {T : Tree} {p : Path} {r r' : Res} (h : ResOK T (.readDir p) r) (h' : ResOK T (.readDir p) r') :
    (r = .err ∧ r' = .err) ∨ ∃ l l', r = .list l ∧ r' = .list l' ∧ FS.IsListing T p l ∧ FS.IsListing T p l' ∧
      ∀ x, x ∈ l ↔ x ∈ l' := by
  simp only [ResOK] at h h'
  cases hT : T p with
  | none => rw [hT] at h h'; exact Or.inl ⟨h, h'⟩
  | some e =>
    cases e with
    | file d => rw [hT] at h h'; exact Or.inl ⟨h, h'⟩
    | dir =>
      rw [hT] at h h'
      obtain ⟨l, rfl, hl⟩ := h
      obtain ⟨l', rfl, hl'⟩ := h'
      refine Or.inr ⟨l, l', rfl, rfl, hl, hl', ?_⟩
      rintro ⟨n, b⟩
      rw [hl.2 n b, hl'.2 n b]

theorem SD_root {T : Tree} (hw : TreeWF T) {D : List Op} (hok : ∀ j ∈ D, j.ok) : SD T D [] = some .dir := by
  have : SD T D [] = T [] := by
    apply runEffs_untouched
    intro e he
    simp only [List.mem_flatMap] at he
    obtain ⟨j, hj, he⟩ := he
    obtain ⟨_, _, _, hne, hg⟩ := effOf_located (hok j hj) he
    cases e with
    | ensureDir x => exact hne
    -- a graft at a prefix of `[]` would replace the root
    | graft w sub => exact fun h => Op.W_ne_nil (hok j hj) (hg w sub rfl) (List.prefix_nil.1 h)
  rw [this]; exact hw.1

theorem SD_created {T : Tree} (hw : TreeWF T) {D : List Op} (hok : ∀ j ∈ D, j.ok) (hind : D.Pairwise IndepOp)
    {op : Op} (hop : op ∈ D) (hs : succ T op) :
    (∀ p, op = .mkdirAll p → ∀ q, q <+: p → SD T D q = some .dir) ∧
    (∀ p v, op = .writeFile p v → SD T D p = some (.file v) ∧
      ∀ q, q <+: p → q ≠ p → SD T D q = some .dir) := by
  have hroot := SD_root hw hok
  obtain ⟨D1, D2, rfl⟩ := List.append_of_mem hop
  have hperm : (D1 ++ op :: D2).Perm ((D1 ++ D2) ++ [op]) := by
    have := List.perm_middle (a := op) (l₁ := D1) (l₂ := D2)
    exact this.trans (List.perm_append_comm (l₁ := [op]) (l₂ := D1 ++ D2))
  have hSD : SD T (D1 ++ op :: D2) = runEffs (SD T (D1 ++ D2)) (effOf T op) := by
    rw [SD_perm hperm hok hind, SD_snoc]
  have hpw' : ((D1 ++ D2) ++ [op]).Pairwise IndepOp := (hperm.pairwise_iff (fun h => IndepOp.symm h)).1 hind
  have hindep : ∀ j ∈ D1 ++ D2, IndepOp op j := fun j hj => ((List.pairwise_append.1 hpw').2.2 j hj op (by simp)).symm
  have hok' : ∀ j ∈ D1 ++ D2, j.ok := fun j hj => hok j (by simp at hj ⊢; rcases hj with h | h <;> simp [h])
  have hokop := hok op (by simp)
  constructor
  · rintro p rfl q hqp
    by_cases hq : q = []
    · rw [hq]; exact hroot
    rw [hSD, effOf_succ_aop hs rfl, runEffs_aop_mk _ p hokop q]
    exact ensureAlong_dir (SD_prefix (T := T) hok' hindep (x := p) (by simp [Op.paths, Op.C]) hqp) (hs q hqp) hq hqp
  · rintro p v rfl
    constructor
    · rw [hSD, effOf_succ_aop hs rfl, runEffs_aop_graft]
      simp
    · intro q hqp hne
      by_cases hq : q = []
      · rw [hq]; exact hroot
      have hnb : ¬ p <+: q := fun h => hne (hqp.eq_of_length (Nat.le_antisymm hqp.length_le h.length_le))
      rw [hSD, effOf_succ_aop hs rfl, runEffs_aop_graft]
      simp only [hnb, if_false]
      have hq' := prefix_dropLast_of_ne hqp hne
      exact ensureAlong_dir (SD_prefix (T := T) hok' hindep (x := p.dropLast) (by simp [Op.paths, Op.C]) hq')
        (hs.2.1 q hq') hq hqp

theorem mkdirOk_below_missing {T : Tree} (hw : TreeWF T) {a : Path} (hmiss : T a = none) (hnf : FS.mkdirOk T a)
    (r : Path) : FS.mkdirOk T (a ++ r) := by
  intro q hq d hT
  rcases List.prefix_or_prefix_of_prefix hq (List.prefix_append a r) with h | ⟨x, rfl⟩
  · exact hnf q h d hT
  · cases x with
    | nil => simp [hmiss] at hT
    | cons m x' => rw [hw.closed.below_none _ _ (by simp) (by rw [hmiss]; simp)] at hT; cases hT

end Goat.MemFSConc
