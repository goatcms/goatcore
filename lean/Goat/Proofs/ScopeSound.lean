/-
C11: every act keeps the invariant, undoes nothing and changes at most one context (`Inv.exec`), hence so does every
schedule (`inv_run`).  Then what single calls do: shared links, the footprint of one scope's calls, a failing call,
the watcher of an isolated child.
-/
import Goat.Proofs.ScopeInv

namespace Goat.Scope

theorem Inv.newRoot {st : State} (h : Inv st) : Sound st st.nCtxs st.newRoot :=
  have s1 := h.pushCtx {} ⟨nofun, nofun, fun h => absurd rfl h⟩
  s1.trans (s1.inv.pushScp _ (Nat.lt_succ_self _) rfl nofun)

/-- `parent.AddTasks(1)` in `NewChild`, refused by a done parent; with `pushCtx`, `pushScp` a piece of the model's flat
`newChild` (`newChild_eq`) -/
def State.signOn (st : State) (p : Nat) : State :=
  if !(st.isDone p) then st.modScp p fun x => { x with wg := x.wg + 1, kids := st.nScopes :: x.kids } else st

theorem newChild_eq (st : State) (p : Nat) (iso : Bool) :
    st.newChild p iso =
      (if iso then (st.signOn p).pushCtx { parent := some (st.scp p).ctx, watch := true }
        else st.signOn p).pushScp
        { parent := some p, registered := !(st.isDone p), iso := iso,
          ctx := if iso then st.nCtxs else (st.scp p).ctx,
          path := (st.scp p).path ++ [st.nScopes], late := (st.scp p).phase.waited } := by
  unfold State.newChild State.signOn
  cases iso <;> cases st.isDone p <;> rfl

theorem signOn_facts (st : State) (p : Nat) :
    (st.signOn p).nScopes = st.nScopes ∧ (st.signOn p).nCtxs = st.nCtxs ∧ (st.signOn p).ctx = st.ctx ∧
      KeyEq ((st.signOn p).scp p) (st.scp p) ∧
      ((!(st.isDone p)) = true → st.nScopes ∈ ((st.signOn p).scp p).kids) := by
  unfold State.signOn; split
  · refine ⟨rfl, rfl, rfl, ?_, fun _ => ?_⟩ <;> rw [modScp_scp_same]
    · exact (.of_update rfl)
    · exact List.mem_cons_self
  · rename_i hr; exact ⟨rfl, rfl, rfl, .refl _, fun h => absurd h hr⟩

theorem Inv.signOn {st : State} {c : Nat} (h : Inv st) {p : Nat} (hp : p < st.nScopes) :
    Sound st c (st.signOn p) := by
  unfold State.signOn; split
  · refine h.modScpKey hp _ (.of_update rfl) rfl
      (fun c hc _ _ => List.mem_cons_of_mem _ hc) ?_ (h.scp p).donesLe
    have := (h.scp p).wgEq
    simp only [List.length_cons]; omega
  · exact .refl h c

theorem Inv.newChild {st : State} (h : Inv st) {p : Nat} (hp : p < st.nScopes) (iso : Bool) :
    Sound st st.nCtxs (st.newChild p iso) := by
  rw [newChild_eq]
  have s1 := h.signOn hp (c := st.nCtxs)
  obtain ⟨hn, hm, hc, hk, hkid⟩ := signOn_facts st p
  have hpc := h.ctxLt p hp
  -- the new scope is not live-late: `late` records whether the parent's wait had ended
  have hlate : ∀ x : Scp, x.late = ((st.signOn p).scp p).phase.waited → x.late = false →
      ((st.signOn p).scp p).phase.waited = true → x.phase.live = false :=
    fun _ h1 h2 h3 => by rw [h1, h3] at h2; cases h2
  cases iso
  · refine s1.trans (s1.inv.pushScp _ (by rw [hm]; exact hpc) rfl ?_)
    intro q hq; cases hq
    exact ⟨by rw [hn]; exact hp, fun hr _ => by rw [hn]; exact hkid hr, fun _ => hk.ctx.symm, nofun,
      fun _ => hlate _ (by rw [hk.phase])⟩
  · have s2 := s1.inv.pushCtx { parent := some (st.scp p).ctx, watch := true }
      ⟨fun pc e => by cases e; rw [hm]; exact hpc, nofun, fun h => absurd rfl h⟩
    rw [hm] at s2
    refine (s1.trans s2).trans (s2.inv.pushScp _ ?_ rfl ?_)
    · show st.nCtxs < (st.signOn p).nCtxs + 1
      rw [hm]; exact Nat.lt_succ_self _
    · intro q hq; cases hq
      refine ⟨by rw [← hn] at hp; exact hp, fun hr _ => hn ▸ hkid hr, nofun, fun _ => ?_,
        fun _ => hlate _ (by rw [hk.phase])⟩
      show (upd (st.signOn p).ctx (st.signOn p).nCtxs _ st.nCtxs).parent = some ((st.signOn p).scp p).ctx ∧
        ((st.signOn p).scp p).ctx < st.nCtxs
      rw [hm, upd_same, hk.ctx]
      exact ⟨rfl, hpc⟩

theorem newChild_scp_new (st : State) (p : Nat) (iso : Bool) :
    (st.newChild p iso).scp st.nScopes =
      { parent := some p, registered := !(st.isDone p), iso := iso,
        ctx := if iso then st.nCtxs else (st.scp p).ctx,
        path := (st.scp p).path ++ [st.nScopes], late := (st.scp p).phase.waited } := by
  rw [newChild_eq]
  have hn := (signOn_facts st p).1
  cases iso
  · exact hn ▸ pushScp_scp_same _ _
  · exact hn ▸ pushScp_scp_same ((st.signOn p).pushCtx _) _

theorem Inv.trigStep {st st' : State} {s : Nat} {ev : Ev} (h : Inv st) (hs : s < st.nScopes)
    (hev : evOf (st.scp s).phase (st.scp s).rolled = some ev) (ts : TrigStep st s st')
    (htr : ∀ u, st'.closeTrace u =
      st.closeTrace u ++ if s = u then (if (st.scp s).park.isSome then [] else [ev]) else []) :
    Sound st (st.scp s).ctx st' := by
  have hp := evOf_facts hev
  cases ts with
  | parked st1 p e =>
    exact h.ctxAdvance hs e _
      { place := .of_update rfl, live := id, wait := .inl, park := fun _ => by rw [hev]; rfl
        lfail := .inl, rolled := .inl, waited := fun hw => ⟨hw, rfl⟩
        frozen := fun hd => by rw [hp.live] at hd; cases hd } _ htr (hp.seq _)
  | ended st1 failed e herr =>
    refine h.ctxAdvance hs e _
      { place := .of_update rfl, live := fun _ => hp.live, wait := fun hn => .inl (hp.waited ▸ hn)
        park := nofun, lfail := ?_, rolled := .inl, waited := fun hw => ⟨hp.waited ▸ hw, rfl⟩
        frozen := fun hd => by rw [hp.live] at hd; cases hd } _ htr (hp.seqNext.trans (hp.seq _))
    intro hf
    cases failed
    · exact .inl hf
    · exact .inr (herr rfl)

/-- `pick`, `signOff`, `ret`: the record updates of the last three branches of the model's `micro` (`micro_cases`).
After `pick`, `Wait()` has returned `Err()` -/
def State.pick (st : State) (s : Nat) : State :=
  st.modScp s fun x => { x with phase := .t0, rolled := st.hasErr s }

/-- the state after `parent.DoneTask()` -/
def State.signOff (st : State) (s : Nat) : State :=
  (st.signOffParent s).modScp s fun x => { x with phase := .signed }

/-- the state after `return scp.Err()` -/
def State.ret (st : State) (s : Nat) : State :=
  st.modScp s fun x => { x with phase := .finished, result := some (st.hasErr s) }

inductive MicroCase (st : State) (s : Nat) : State → Outcome → Prop where
  | resume (p : Park) (ev : Ev) : (st.scp s).park = some p → st.gates p.gate = true →
      evOf (st.scp s).phase (st.scp s).rolled = some ev → MicroCase st s (st.resumeTrigger s ev p) .ok
  | start (ev : Ev) : (st.scp s).park = none → evOf (st.scp s).phase (st.scp s).rolled = some ev →
      MicroCase st s (st.startTrigger s ev) .ok
  | pick : (st.scp s).park = none → (st.scp s).phase = .closing → (st.scp s).wg = 0 →
      MicroCase st s (st.pick s) .ok
  | signOff : (st.scp s).park = none → (st.scp s).phase = .signing → MicroCase st s (st.signOff s) .ok
  | ret : (st.scp s).park = none → (st.scp s).phase = .signed →
      MicroCase st s (st.ret s) (.closed (st.hasErr s))

theorem micro_cases {st st' : State} {s : Nat} {o : Outcome} (hm : micro st s = some (st', o)) :
    MicroCase st s st' o := by
  unfold micro at hm
  split at hm
  · rename_i p hp
    split at hm
    · rename_i hg
      split at hm
      · rename_i ev hev
        cases hm; exact .resume p ev hp hg hev
      · cases hm
    · cases hm
  · rename_i hp
    split at hm
    · rename_i ev hev
      cases hm; exact .start ev hp hev
    · split at hm
      · rename_i hph
        split at hm
        · rename_i hwg
          cases hm; exact .pick hp hph hwg
        · cases hm
      · rename_i hph
        cases hm; exact .signOff hp hph
      · rename_i hph
        cases hm; exact .ret hp hph
      · cases hm

theorem Inv.start {st : State} {s : Nat} {ev : Ev} (h : Inv st) (hs : s < st.nScopes)
    (hp : (st.scp s).park = none) (hev : evOf (st.scp s).phase (st.scp s).rolled = some ev) :
    Sound st (st.scp s).ctx (st.startTrigger s ev) :=
  h.trigStep hs hev (trigStep_startTrigger st s ev) fun u => by
    rw [closeTrace_startTrigger, hp, (evOf_facts hev).isClose]; simp

theorem Inv.pick {st : State} {s : Nat} (h : Inv st) (hs : s < st.nScopes) (hpk : (st.scp s).park = none)
    (hph : (st.scp s).phase = .closing) (hwg : (st.scp s).wg = 0) : Sound st (st.scp s).ctx (st.pick s) := by
  have hkids : (st.scp s).kids = [] := by
    have h1 := (h.scp s).wgEq
    have h2 := (h.scp s).donesLe
    exact List.eq_nil_of_length_eq_zero (by omega)
  refine h.advance hs _
    { place := .of_update rfl, live := fun _ => by rw [hph]; rfl, wait := fun _ => .inr hkids
      park := fun hp => by rw [hpk] at hp; cases hp
      lfail := .inl, rolled := fun hr => .inr ((hasErr_iff st s).mp hr)
      waited := fun hw => by rw [hph] at hw; cases hw
      frozen := fun hl => by rw [hph] at hl; cases hl } ?_
  rw [hph, hpk]
  cases (st.scp s).rolled <;> cases st.hasErr s <;> rfl

theorem signOffParent_ctx (st : State) (s : Nat) : (st.signOffParent s).ctx = st.ctx := by
  unfold State.signOffParent; split <;> rfl

theorem modScp_comm (st : State) {a b : Nat} (hab : a ≠ b) (f g : Scp → Scp) :
    (st.modScp a f).modScp b g = (st.modScp b g).modScp a f := by
  simp only [State.modScp]
  congr 1
  funext j
  simp only [upd_apply]
  by_cases h1 : j = a <;> by_cases h2 : j = b <;> simp_all

/-- the sign-off seen as: first the scope marks itself signed, then the parent's counter drops -/
theorem signOff_eq {st : State} (h : InvS st) (s : Nat) :
    st.signOff s = (st.modScp s fun x => { x with phase := .signed }).signOffParent s := by
  unfold State.signOff State.signOffParent
  simp only [modScp_scp_same]
  split
  · rename_i p hpar _
    exact modScp_comm st (h.parent_ne hpar) _ _
  · rfl

theorem Inv.signOffParent {st : State} {s c : Nat} (h : Inv st) (hl : (st.scp s).phase.live = false)
    (hmem : ∀ p, (st.scp s).parent = some p → (st.scp s).registered = true → s ∈ (st.scp p).kids) :
    Sound st c (st.signOffParent s) := by
  unfold State.signOffParent
  split
  · rename_i p hpar hreg
    have hm := hmem p hpar hreg
    have hp : p < st.nScopes := Nat.lt_trans (h.kid s p hpar).lt (h.parent_lt_n hpar)
    refine h.modScpKey hp _ (.of_update rfl) rfl ?_ ?_ (h.scp p).donesLe
    · intro c hc hcl _
      exact (List.mem_erase_of_ne (fun e => by rw [e, hl] at hcl; cases hcl)).mpr hc
    · have h1 := (h.scp p).wgEq
      have h0 := (h.scp p).donesLe
      have h2 := List.length_erase_of_mem hm
      have h3 := List.length_pos_of_mem hm
      simp only []
      omega
  · exact .refl h c

theorem Inv.signOff {st : State} {s : Nat} (h : Inv st) (hs : s < st.nScopes) (hpk : (st.scp s).park = none)
    (hph : (st.scp s).phase = .signing) : Sound st (st.scp s).ctx (st.signOff s) := by
  rw [signOff_eq h.toInvS]
  have s1 : Sound st (st.scp s).ctx (st.modScp s fun x => { x with phase := .signed }) :=
    h.advance hs _ (.ofPhase (.of_update rfl) hpk rfl rfl rfl nofun (by rw [hph]; rfl)) (by rw [hph, hpk]; rfl)
  refine s1.trans (s1.inv.signOffParent (by rw [modScp_scp_same]; rfl) ?_)
  intro p hpar hreg
  rw [modScp_scp_same] at hpar hreg
  rw [modScp_scp_ne st _ (h.parent_ne hpar)]
  exact (h.kid s p hpar).mem hreg (by rw [hph]; rfl)

theorem Inv.ret {st : State} {s : Nat} (h : Inv st) (hs : s < st.nScopes) (hpk : (st.scp s).park = none)
    (hph : (st.scp s).phase = .signed) : Sound st (st.scp s).ctx (st.ret s) :=
  h.advance hs _ (.ofPhase (.of_update rfl) hpk rfl rfl rfl nofun (by rw [hph]; rfl)) (by rw [hph, hpk]; rfl)

theorem Inv.microCase {st st' : State} {s : Nat} {o : Outcome} (h : Inv st) (hs : s < st.nScopes)
    (m : MicroCase st s st' o) : Sound st (st.scp s).ctx st' := by
  cases m with
  | resume p ev hp _ hev =>
    exact h.trigStep hs hev (trigStep_resumeTrigger st s ev p) fun u => by rw [closeTrace_resumeTrigger, hp]; simp
  | start ev hp hev => exact h.start hs hp hev
  | pick hp hph hwg => exact h.pick hs hp hph hwg
  | signOff hp hph => exact h.signOff hs hp hph
  | ret hp hph => exact h.ret hs hp hph

theorem runSteps_out {P : State → Prop} {s : Nat}
    (hP : ∀ st st' o, P st → micro st s = some (st', o) → P st') :
    ∀ n st, P st →
      P (runSteps micro s n st).1 ∧
        ((runSteps micro s n st).2 = .ok ∨
          ∃ stp e, P stp ∧ micro stp s = some ((runSteps micro s n st).1, .closed e) ∧
            (runSteps micro s n st).2 = .closed e) := by
  intro n
  induction n with
  | zero => intro st h; exact ⟨h, Or.inl rfl⟩
  | succ n ih =>
    intro st h
    unfold runSteps
    cases hm : micro st s with
    | none => exact ⟨h, Or.inl rfl⟩
    | some r =>
      obtain ⟨st', o⟩ := r
      cases o
      case closed e => exact ⟨hP st st' _ h hm, Or.inr ⟨st, e, h, hm, rfl⟩⟩
      all_goals exact ih st' (hP st st' _ h hm)

theorem Inv.runSteps {st : State} {s : Nat} (h : Inv st) (hs : s < st.nScopes) (n : Nat) :
    Sound st (st.scp s).ctx (runSteps micro s n st).1 :=
  (runSteps_out (P := Sound st (st.scp s).ctx)
    (fun _ _ _ ha hm =>
      ha.trans_scp hs (ha.inv.microCase (Nat.lt_of_lt_of_le hs ha.mono.nScopes) (micro_cases hm)))
    n st (.refl h _)).1

theorem guard_inv {α : Type} {g : Prop} [Decidable g] {x : Option α} {r : α}
    (h : (if g then x else none) = some r) : g ∧ x = some r :=
  Option.ite_none_right_eq_some.mp h

theorem refuse_inv {α : Type} {b : Prop} [Decidable b] {x : α} {y : Option α} {r : α}
    (h : (if b then some x else y) = some r) : b ∧ x = r ∨ ¬b ∧ y = some r := by
  split at h
  · exact .inl ⟨‹b›, Option.some.inj h⟩
  · exact .inr ⟨‹¬b›, h⟩

/-- the `if`-tree that `addTasks`, `appErr`, `kill`, `stop` and `close` share in `execWith`: a call on an allocated
scope is refused (nothing changes) or goes through -/
theorem call_inv {st st' st2 : State} {o po : Outcome} {s : Nat} {bad : Prop} [Decidable bad]
    (he : (if s < st.nScopes then if bad then some (st, po) else some (st2, .ok) else none) = some (st', o)) :
    s < st.nScopes ∧ (st' = st ∧ o = po ∨ ¬bad ∧ st' = st2 ∧ o = .ok) := by
  obtain ⟨hs, he⟩ := guard_inv he
  rcases refuse_inv he with ⟨_, he⟩ | ⟨hb, he⟩ <;> cases he
  · exact ⟨hs, .inl ⟨rfl, rfl⟩⟩
  · exact ⟨hs, .inr ⟨hb, rfl, rfl⟩⟩

/-- the coarse act: `pick`, then the goroutine runs on.  The model's fuel 8 is `pick` and 7 more; a `Close` that does
not park has 6 steps left after `pick` (four triggers, sign-off, return) -/
theorem exec_finish {st st' : State} {s : Nat} {o : Outcome} (he : exec st (.finish s) = some (st', o)) :
    s < st.nScopes ∧ (st.scp s).phase = .closing ∧ (st.scp s).park = none ∧ (st.scp s).wg = 0 ∧
      st' = (runSteps micro s 7 (st.pick s)).1 ∧ o = (runSteps micro s 7 (st.pick s)).2 := by
  obtain ⟨⟨hs, hph, hpk, hwg⟩, he⟩ := guard_inv he
  have hpk' : (st.scp s).park = none := Option.isNone_iff_eq_none.mp hpk
  have hm : micro st s = some (st.pick s, .ok) := by
    unfold micro
    simp only [hpk', hph, evOf, hwg, if_true]
    rfl
  have hr : runSteps micro s (7 + 1) st = runSteps micro s 7 (st.pick s) := by rw [runSteps, hm]
  rw [← hr, Option.some.inj he]
  exact ⟨hs, hph, hpk', hwg, rfl, rfl⟩

theorem exec_step {st st' : State} {s : Nat} {o : Outcome} (he : exec st (.step s) = some (st', o)) :
    s < st.nScopes ∧ micro st s = some (st', o) := guard_inv he

theorem Inv.addListener {st : State} {c : Nat} (h : Inv st) {s : Nat} (hs : s < st.nScopes) (ev : Ev) (fails : Bool)
    (gate : Option Nat) : Sound st c (st.addListener s ev fails gate) :=
  have s1 := h.modScpKey hs (fun x => { x with listeners := x.listeners ++ [⟨st.nListeners, ev, fails, gate⟩] })
    (.of_update rfl) rfl (fun _ hc _ _ => hc) (h.scp s).wgEq (h.scp s).donesLe
  s1.trans (s1.inv.of_eq rfl rfl rfl rfl rfl)

theorem Inv.beginClose {st : State} (h : Inv st) {s : Nat} (hs : s < st.nScopes)
    (hph : (st.scp s).phase = .opened) : Sound st (st.scp s).ctx (st.beginClose s) := by
  have hpk : (st.scp s).park = none := h.park_none (by rw [hph]; rfl)
  have s1 : Sound st (st.scp s).ctx (st.modScp s fun x => { x with phase := .begun }) :=
    h.advance hs _ (.ofPhase (.of_update rfl) hpk rfl rfl rfl (fun _ => by rw [hph]; rfl) (by rw [hph]; rfl))
      (by rw [hph, hpk]; rfl)
  exact s1.trans_scp hs (s1.inv.start hs (by rw [modScp_scp_same]; exact hpk) (by rw [modScp_scp_same]; rfl))

/-- the one context an act can change: that of the scope it is called on, the watcher's own, the one it allocates -/
def Act.ctx (st : State) : Act → Nat
  | .appErr s | .kill s | .stop s | .close s | .finish s | .step s => (st.scp s).ctx
  | .propagate c _ | .watcherExit c => c
  | _ => st.nCtxs

theorem Sound.call {st st' st2 : State} {o po : Outcome} {s c : Nat} {bad : Prop} [Decidable bad] (h : Inv st)
    (he : (if s < st.nScopes then if bad then some (st, po) else some (st2, .ok) else none) = some (st', o))
    (hk : s < st.nScopes → ¬bad → Sound st c st2) : Sound st c st' := by
  obtain ⟨hs, ⟨rfl, _⟩ | ⟨hb, rfl, _⟩⟩ := call_inv he
  · exact .refl h c
  · exact hk hs hb

/-- per act: the guard of `exec` is inverted where it stands (a refused call changes nothing: `Sound.refl`), then come
the primitive changes in their order -/
theorem Inv.exec {st st' : State} {a : Act} {o : Outcome} (h : Inv st) (he : exec st a = some (st', o)) :
    Sound st (a.ctx st) st' := by
  cases a
  case new => cases he; exact h.newRoot
  case child =>
    obtain ⟨hg, he⟩ := guard_inv he
    cases he; exact h.newChild hg.1 _
  case on =>
    obtain ⟨hs, he⟩ := guard_inv he
    rcases refuse_inv he with ⟨_, he⟩ | ⟨_, he⟩
    · cases he; exact .refl h _
    · split at he <;> cases he
      exact h.addListener hs _ _ _
  case onGated =>
    obtain ⟨hs, he⟩ := guard_inv he
    rcases refuse_inv he with ⟨_, he⟩ | ⟨_, he⟩
    · cases he; exact .refl h _
    · split at he <;> cases he
      exact h.addListener hs.1 _ _ _
  case addTasks s n =>
    refine .call h he fun hs _ => h.modScpKey hs _ (.of_update rfl) rfl (fun _ hc _ _ => hc) ?_ ?_
    · have := (h.scp s).wgEq; simp only []; omega
    · have := (h.scp s).donesLe; simp only []; omega
  case doneTask s =>
    obtain ⟨⟨hs, hd⟩, he⟩ := guard_inv he
    cases he
    refine h.modScpKey hs _ (.of_update rfl) rfl (fun _ hc _ _ => hc) ?_ ?_
    · have := (h.scp s).wgEq; simp only []; omega
    · simp only []; omega
  case appErr s =>
    refine .call h he fun hs _ => ?_
    have e := ctxStep_appendError st s
    exact h.ctxStep e (e.fresh (h.ctxLt s hs)) (closeTrace_appendError st s)
  case kill s =>
    refine .call h he fun hs _ => ?_
    have e := (ctxStep_addError st s).trans (ctxStep_fire _ s .kill none)
    exact h.ctxStep e (e.fresh (h.ctxLt s hs)) fun t => by
      rw [closeTrace_fire_nonclose _ _ _ _ rfl, closeTrace_addError]
  case stop s =>
    refine .call h he fun hs _ => ?_
    have e := (ctxStep_setDone st s).trans (ctxStep_fire _ s .stop none)
    exact h.ctxStep e (e.fresh (h.ctxLt s hs)) fun t => by
      rw [closeTrace_fire_nonclose _ _ _ _ rfl, closeTrace_setDone]
  case close => exact .call h he fun hs hp => h.beginClose hs (Decidable.not_not.mp hp)
  case finish s =>
    obtain ⟨hs, hph, hpk, hwg, rfl, _⟩ := exec_finish he
    have s1 := h.pick hs hpk hph hwg
    exact s1.trans_scp hs (s1.inv.runSteps hs 7)
  case step =>
    obtain ⟨hs, hm⟩ := exec_step he
    exact h.microCase hs (micro_cases hm)
  case release => cases he; exact h.of_eq rfl rfl rfl rfl rfl
  case propagate c asKill =>
    simp only [Scope.exec, execWith] at he
    split at he
    · obtain ⟨hg, he⟩ := guard_inv he
      cases he
      have e := ctxStep_modCtx st c (fun x =>
        { x with errors := if asKill then x.errors + 1 else x.errors, done := true, watch := false })
        rfl (by cases asKill <;> simp) rfl
      exact h.ctxStep e (e.fresh hg.1) fun _ => rfl
    · cases he
  case watcherExit c =>
    obtain ⟨hg, he⟩ := guard_inv he
    cases he
    have e := ctxStep_modCtx st c (fun x => { x with watch := false }) rfl (Nat.le_refl _) hg.2.2.2
    exact h.ctxStep e (e.fresh hg.1) fun _ => rfl

theorem inv_exec {st st' : State} {a : Act} {o : Outcome} (h : Inv st) (he : exec st a = some (st', o)) :
    Inv st' := (h.exec he).inv

theorem mono_exec {st st' : State} {a : Act} {o : Outcome} (h : Inv st) (he : exec st a = some (st', o)) :
    Mono st st' := (h.exec he).mono

theorem Inv.runFrom {st : State} (h : Inv st) (sched : List Act) :
    Inv (runFrom st sched) ∧ Mono st (runFrom st sched) :=
  LTS.runFrom_induction sys (fun x => Inv x ∧ Mono st x)
    (fun _ _ _ hs he =>
      let ⟨_, hr, e⟩ := Option.map_eq_some_iff.mp he
      have s1 := hs.1.exec hr
      e ▸ ⟨s1.inv, hs.2.trans s1.mono⟩)
    ⟨h, .refl _⟩ sched

theorem inv_runFrom {st : State} (h : Inv st) (sched : List Act) : Inv (runFrom st sched) := (h.runFrom sched).1

theorem mono_runFrom {st : State} (h : Inv st) (sched : List Act) : Mono st (runFrom st sched) :=
  (h.runFrom sched).2

theorem inv_run (sched : List Act) : Inv (run sched) := inv_runFrom inv_init sched

/-- `c` is `p` itself or descends from `p` through children each of which shares its parent's
context (no isolated context on the way) -/
inductive SharedLink (st : State) : Nat → Nat → Prop where
  | refl (s : Nat) : SharedLink st s s
  | child {c m p : Nat} : (st.scp c).parent = some m → (st.scp c).iso = false → SharedLink st m p →
      SharedLink st c p

theorem SharedLink.ctx_eq {st : State} (h : InvS st) {c p : Nat} (l : SharedLink st c p) :
    (st.scp c).ctx = (st.scp p).ctx := by
  induction l with
  | refl s => rfl
  | child hp hi _ ih => exact ((h.kid _ _ hp).shared hi).trans ih

/-- the calls through which a scope can fail or close, and the steps of its closing goroutine -/
def Act.onScope (a : Act) (c : Nat) : Prop :=
  a = .appErr c ∨ a = .kill c ∨ a = .stop c ∨ a = .close c ∨ a = .finish c ∨ a = .step c

theorem exec_footprint {st st' : State} {a : Act} {o : Outcome} {c : Nat} (h : Inv st) (ha : a.onScope c)
    (he : exec st a = some (st', o)) : ∀ x, x ≠ (st.scp c).ctx → st'.ctx x = st.ctx x := by
  rcases ha with rfl | rfl | rfl | rfl | rfl | rfl <;> exact (h.exec he).ctx_other

theorem fail_sets_error {st st' : State} {a : Act} {c : Nat} (ha : a = .appErr c ∨ a = .kill c)
    (he : exec st a = some (st', .ok)) :
    (st'.ctx (st.scp c).ctx).errors ≠ 0 ∧ (st'.ctx (st.scp c).ctx).done = true := by
  have hadd := addError_hasErr st c
  have key : ∀ st'', CtxStep (st.addError c) st'' (st.scp c).ctx →
      (st''.ctx (st.scp c).ctx).errors ≠ 0 ∧ (st''.ctx (st.scp c).ctx).done = true := by
    intro st'' e
    have h1 := (e.le (st.scp c).ctx).errors
    exact ⟨by omega, (e.le _).done hadd.2⟩
  -- per call: refused (a panic, not the outcome `.ok`), or gone through
  rcases ha with rfl | rfl <;> obtain ⟨_, ⟨_, ho⟩ | ⟨_, rfl, _⟩⟩ := call_inv he
  · cases ho
  · exact key _ (ctxStep_appendError_from_add st c)
  · cases ho
  · exact key _ (ctxStep_fire _ c .kill none)

theorem exec_propagate {st : State} (h : InvS st) {c p : Nat} (hp : (st.scp c).parent = some p)
    (hi : (st.scp c).iso = true) (hd : st.isDone p = true) (hdc : st.isDone c = false) (k : Bool)
    (hk : k = true → st.hasErr p = true) :
    exec st (.propagate (st.scp c).ctx k) = some (st.modCtx (st.scp c).ctx fun x =>
      { x with errors := if k then x.errors + 1 else x.errors, done := true, watch := false }, .ok) := by
  obtain ⟨hpar, _⟩ := (h.kid c p hp).isoCtx hi
  have hw : (st.ctx (st.scp c).ctx).watch = true := by
    cases hw : (st.ctx (st.scp c).ctx).watch
    · have := (h.ctx _).watchDone (by rw [hpar]; rfl) hw
      simp [State.isDone, State.ctxOf, this] at hdc
    · rfl
  simp only [exec, execWith, hpar]
  rw [if_pos ⟨h.ctxParent_lt_n hpar, hw, hd, fun hk' => (hasErr_iff st p).mp (hk hk')⟩]

end Goat.Scope
