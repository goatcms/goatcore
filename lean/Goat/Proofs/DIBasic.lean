/-
Tables, the log, `Block`; the relation `Step` that every `Get` satisfies, whatever its fuel and outcome; the loops
around `Get`: the field loop of `InjectTo` and the body of a factory do nothing to the provider but call `Get`
(`Calls`), so whatever `Get` preserves they preserve.
-/
import Goat.Proofs.DIInject

namespace Goat.DI

@[simp] theorem Tab.set_eq {α : Type} (t : Tab α) (k : Name) (v : α) : t.set k v k = some v := by
  simp [Tab.set]

theorem Tab.set_ne {α : Type} (t : Tab α) {k x : Name} (v : α) (h : x ≠ k) : t.set k v x = t x := by
  simp [Tab.set, h]

theorem Tab.set_none {α : Type} {t : Tab α} {k x : Name} {v : α} (h : t.set k v x = none) : x ≠ k ∧ t x = none := by
  by_cases e : x = k
  · rw [e, Tab.set_eq] at h; cases h
  · exact ⟨e, (Tab.set_ne t v e).symm.trans h⟩

theorem Tab.set_some {α : Type} {t : Tab α} {k x : Name} {v w : α} (h : t.set k v x = some w) :
    x = k ∧ v = w ∨ x ≠ k ∧ t x = some w := by
  by_cases e : x = k
  · rw [e, Tab.set_eq] at h; exact .inl ⟨e, Option.some.inj h⟩
  · exact .inr ⟨e, (Tab.set_ne t v e).symm.trans h⟩

@[simp] theorem Tab.del_eq {α : Type} (t : Tab α) (k : Name) : t.del k k = none := by
  simp [Tab.del]

theorem Tab.del_ne {α : Type} (t : Tab α) {k x : Name} (h : x ≠ k) : t.del k x = t x := by
  simp [Tab.del, h]

theorem Tab.del_some {α : Type} {t : Tab α} {k x : Name} {v : α} (h : t.del k x = some v) : t x = some v := by
  unfold Tab.del at h
  split at h
  · cases h
  · exact h

/-- the clean-up `if d.autoclean { delete(t, k) }` -/
def Tab.delIf {α : Type} (t : Tab α) (b : Bool) (k : Name) : Tab α := if b then t.del k else t

theorem Tab.delIf_ne {α : Type} (t : Tab α) (b : Bool) {k x : Name} (h : x ≠ k) : t.delIf b k x = t x := by
  cases b
  · rfl
  · exact Tab.del_ne t h

theorem Tab.delIf_some {α : Type} {t : Tab α} {b : Bool} {k x : Name} {v : α} (h : t.delIf b k x = some v) :
    t x = some v := by
  cases b
  · exact h
  · exact Tab.del_some h

theorem clean_eq (s : St) (n : Name) :
    clean s n = { s with factories := s.factories.delIf s.autoclean n,
                         defaultFactories := s.defaultFactories.delIf s.autoclean n } := by
  -- the 9th field is `autoclean`; with the state a literal each branch is `rfl`
  obtain ⟨_, _, _, _, _, _, _, _, ac, _, _, _⟩ := s
  cases ac <;> rfl

theorem orElse_assoc {α : Type} (a b c : Option α) : orElse (orElse a b) c = orElse a (orElse b c) := by
  cases a <;> rfl

@[simp] theorem orElse_none_right {α : Type} (a : Option α) : orElse a none = a := by
  cases a <;> rfl

@[simp] theorem orElse_none_left {α : Type} (a : Option α) : orElse none a = a := rfl

@[simp] theorem orElse_some {α : Type} (x : α) (a : Option α) : orElse (some x) a = some x := rfl

theorem orElse_eq_none {α : Type} {a b : Option α} : orElse a b = none ↔ a = none ∧ b = none := by
  cases a <;> simp [orElse]

/-- after `done n`, the factory of `n` is not started again -/
def NoRerun : List Ev → Prop
  | [] => True
  | .done n _ :: l => Ev.start n ∉ l ∧ NoRerun l
  | .start _ :: l => NoRerun l

theorem noRerun_append {a b : List Ev} :
    NoRerun (a ++ b) ↔ NoRerun a ∧ NoRerun b ∧ ∀ n i, Ev.done n i ∈ a → Ev.start n ∉ b := by
  induction a with
  | nil => simp [NoRerun]
  | cons e a ih =>
    cases e with
    | start m =>
      simp only [List.cons_append, NoRerun, ih, List.mem_cons, reduceCtorEq, false_or]
    | done m j =>
      simp only [List.cons_append, NoRerun, ih, List.mem_cons, List.mem_append, not_or, Ev.done.injEq, or_imp,
        forall_and, and_imp, forall_eq_apply_imp_iff, forall_eq]
      constructor
      · rintro ⟨⟨h1, h2⟩, h3, h4, h5⟩; exact ⟨⟨h1, h3⟩, h4, h2, h5⟩
      · rintro ⟨⟨h1, h3⟩, h4, h2, h5⟩; exact ⟨⟨h1, h2⟩, h3, h4, h5⟩

theorem noRerun_split {l pre post : List Ev} {n : Name} {i : Inst}
    (h : NoRerun l) (hl : l = pre ++ Ev.done n i :: post) : Ev.start n ∉ post := by
  subst hl
  exact (noRerun_append.1 h).2.1.1

theorem successes_append (a b : List Ev) : successes (a ++ b) = successes a ++ successes b := by
  induction a with
  | nil => rfl
  | cons e a ih => cases e <;> simp [successes, ih]

theorem mem_successes {l : List Ev} {n : Name} : n ∈ successes l ↔ ∃ i, Ev.done n i ∈ l := by
  induction l with
  | nil => simp [successes]
  | cons e l ih => cases e <;> simp [successes, ih, exists_or, eq_comm]

theorem invocations_append (n : Name) (a b : List Ev) :
    invocations n (a ++ b) = invocations n a + invocations n b := by
  induction a with
  | nil => simp [invocations]
  | cons e a ih => cases e <;> simp [invocations, ih, Nat.add_assoc]

theorem invocations_eq_zero {n : Name} {l : List Ev} (h : Ev.start n ∉ l) : invocations n l = 0 := by
  induction l with
  | nil => rfl
  | cons e l ih =>
    simp only [List.mem_cons, not_or] at h
    cases e <;> simp_all [invocations, eq_comm]

theorem block_of_blocked {s : St} (h : s.blocked = true) : block s = s := if_pos h

@[simp] theorem block_blocked (s : St) : (block s).blocked = true := by
  by_cases h : s.blocked = true
  · rw [block_of_blocked h]; exact h
  · rw [block, if_neg h]

@[simp] theorem block_callstack (s : St) : (block s).callstack = s.callstack := by
  rw [block, apply_ite St.callstack, ite_self]

@[simp] theorem block_keys (s : St) : (block s).keys = s.keys := by
  rw [block, apply_ite St.keys, ite_self]

@[simp] theorem block_log (s : St) : (block s).log = s.log := by
  rw [block, apply_ite St.log, ite_self]

@[simp] theorem block_exhausted (s : St) : (block s).exhausted = s.exhausted := by
  rw [block, apply_ite St.exhausted, ite_self]

@[simp] theorem block_autoclean (s : St) : (block s).autoclean = s.autoclean := by
  rw [block, apply_ite St.autoclean, ite_self]

@[simp] theorem block_injectors (s : St) : (block s).injectors = s.injectors := by
  rw [block, apply_ite St.injectors, ite_self]

@[simp] theorem block_nextId (s : St) : (block s).nextId = s.nextId := by
  rw [block, apply_ite St.nextId, ite_self]

@[simp] theorem block_block (s : St) : block (block s) = block s :=
  block_of_blocked (block_blocked s)

theorem block_instances (s : St) (k : Name) :
    (block s).instances k = if s.blocked then s.instances k
      else if promotes s k then s.defaultInstances k else s.instances k :=
  apply_ite (fun t : St => t.instances k) ..

theorem block_factories (s : St) (k : Name) :
    (block s).factories k = if s.blocked then s.factories k
      else if promotes s k && s.autoclean then none else s.factories k :=
  apply_ite (fun t : St => t.factories k) ..

theorem block_defaultFactories (s : St) (k : Name) :
    (block s).defaultFactories k = if s.blocked then s.defaultFactories k
      else if promotes s k && s.autoclean then none else s.defaultFactories k :=
  apply_ite (fun t : St => t.defaultFactories k) ..

/-- what the events `d` appended between `s` and `s'` must look like -/
structure LogOK (s s' : St) (d : List Ev) : Prop where
  no_start : ∀ n, s.instances n ≠ none → Ev.start n ∉ d
  done_inst : ∀ n i, Ev.done n i ∈ d → s.instances n = none ∧ s'.instances n = some i
  norerun : NoRerun d
  nodup : (successes d).Nodup

theorem LogOK.nil (s s' : St) : LogOK s s' [] where
  no_start := fun _ _ h => nomatch h
  done_inst := fun _ _ h => nomatch h
  norerun := trivial
  nodup := List.nodup_nil

theorem inst_none_of_mono {a b : St} (hab : ∀ n i, a.instances n = some i → b.instances n = some i)
    {n : Name} (h : b.instances n = none) : a.instances n = none := by
  cases ha : a.instances n with
  | none => rfl
  | some i => rw [hab n i ha] at h; cases h

theorem LogOK.append {a b c : St} {d1 d2 : List Ev} (l1 : LogOK a b d1) (l2 : LogOK b c d2)
    (hab : ∀ n i, a.instances n = some i → b.instances n = some i)
    (hbc : ∀ n i, b.instances n = some i → c.instances n = some i) : LogOK a c (d1 ++ d2) where
  no_start := by
    intro n hn hmem
    rcases List.mem_append.1 hmem with hm | hm
    · exact l1.no_start n hn hm
    · exact l2.no_start n (fun h => hn (inst_none_of_mono hab h)) hm
  done_inst := by
    intro n i hmem
    rcases List.mem_append.1 hmem with hm | hm
    · exact ⟨(l1.done_inst n i hm).1, hbc n i (l1.done_inst n i hm).2⟩
    · exact ⟨inst_none_of_mono hab (l2.done_inst n i hm).1, (l2.done_inst n i hm).2⟩
  norerun := by
    refine noRerun_append.2 ⟨l1.norerun, l2.norerun, fun n i hm => l2.no_start n ?_⟩
    rw [(l1.done_inst n i hm).2]; simp
  nodup := by
    rw [successes_append]
    refine List.nodup_append.2 ⟨l1.nodup, l2.nodup, ?_⟩
    intro x hx y hy hxy
    subst hxy
    obtain ⟨i, hi⟩ := mem_successes.1 hx
    obtain ⟨j, hj⟩ := mem_successes.1 hy
    have h3 := (l1.done_inst x i hi).2
    rw [(l2.done_inst x j hj).1] at h3; cases h3

/-- everything a `Get` (successful or not, at any depth) may do to the provider -/
structure Step (s s' : St) : Prop where
  callstack : s'.callstack = s.callstack
  keys : s'.keys = s.keys
  blocked : s'.blocked = true
  autoclean : s'.autoclean = s.autoclean
  injectors : s'.injectors = s.injectors
  inst_mono : ∀ n i, s.instances n = some i → s'.instances n = some i
  tabs : ∀ n, s'.instances n = none →
    s'.factories n = s.factories n ∧ s'.defaultFactories n = s.defaultFactories n
  fac_sub : ∀ n f, s'.factories n = some f → s.factories n = some f
  dfac_sub : ∀ n f, s'.defaultFactories n = some f → s.defaultFactories n = some f
  stack_inst : ∀ n, n ∈ s.callstack → s'.instances n = s.instances n
  log : ∃ d, s'.log = s.log ++ d ∧ LogOK s s' d

theorem Step.refl {s : St} (hb : s.blocked = true) : Step s s where
  callstack := rfl
  keys := rfl
  blocked := hb
  autoclean := rfl
  injectors := rfl
  inst_mono := fun _ _ h => h
  tabs := fun _ _ => ⟨rfl, rfl⟩
  fac_sub := fun _ _ h => h
  dfac_sub := fun _ _ h => h
  stack_inst := fun _ _ => rfl
  log := ⟨[], by simp, LogOK.nil _ _⟩

theorem Step.trans {a b c : St} (h1 : Step a b) (h2 : Step b c) : Step a c where
  callstack := by rw [h2.callstack, h1.callstack]
  keys := by rw [h2.keys, h1.keys]
  blocked := h2.blocked
  autoclean := by rw [h2.autoclean, h1.autoclean]
  injectors := by rw [h2.injectors, h1.injectors]
  inst_mono := fun n i h => h2.inst_mono n i (h1.inst_mono n i h)
  tabs := fun n h =>
    have h' := inst_none_of_mono h2.inst_mono h
    ⟨(h2.tabs n h).1.trans (h1.tabs n h').1, (h2.tabs n h).2.trans (h1.tabs n h').2⟩
  fac_sub := fun n f h => h1.fac_sub n f (h2.fac_sub n f h)
  dfac_sub := fun n f h => h1.dfac_sub n f (h2.dfac_sub n f h)
  stack_inst := fun n h => by
    rw [h2.stack_inst n (h1.callstack ▸ h), h1.stack_inst n h]
  log := by
    obtain ⟨d1, e1, l1⟩ := h1.log
    obtain ⟨d2, e2, l2⟩ := h2.log
    exact ⟨d1 ++ d2, by rw [e2, e1, List.append_assoc], l1.append l2 h1.inst_mono h2.inst_mono⟩

/-- the state `Get` works on is blocked or idle -/
def Pre (s : St) : Prop := s.blocked = true ∨ s.callstack = []

theorem block_step {s : St} (hp : Pre s) : Step s (block s) := by
  by_cases hb : s.blocked = true
  · rw [block_of_blocked hb]; exact Step.refl hb
  · have hb' : s.blocked = false := by simpa using hb
    have hcs : s.callstack = [] := hp.resolve_left hb
    refine
      { callstack := by simp, keys := by simp, blocked := by simp, autoclean := by simp,
        injectors := by simp, inst_mono := ?_, tabs := ?_, fac_sub := ?_, dfac_sub := ?_, stack_inst := ?_,
        log := ⟨[], by simp, LogOK.nil _ _⟩ }
    · intro n i h
      rw [block_instances]; simp [hb', promotes, h]
    · intro n h
      rw [block_instances] at h
      rw [block_factories, block_defaultFactories]
      simp only [hb', Bool.false_eq_true, if_false] at h ⊢
      by_cases hpr : promotes s n = true
      · simp only [hpr, if_true] at h
        simp [promotes, h] at hpr
      · simp [hpr]
    · intro n f h
      rw [block_factories] at h
      simp only [hb', Bool.false_eq_true, if_false] at h
      split at h
      · cases h
      · exact h
    · intro n f h
      rw [block_defaultFactories] at h
      simp only [hb', Bool.false_eq_true, if_false] at h
      split at h
      · cases h
      · exact h
    · intro n h; rw [hcs] at h; cases h

/-- `s'` is reached from `s` by calls of `g` and nothing else -/
inductive Calls (g : St → Name → St × Res) : St → St → Prop
  | refl (s : St) : Calls g s s
  | call (s : St) (n : Name) {s' : St} : Calls g (g s n).1 s' → Calls g s s'

theorem Calls.lift {g : St → Name → St × Res} {P : St → Prop} {R : St → St → Prop}
    (hrefl : ∀ s, P s → R s s) (htrans : ∀ a b c, R a b → R b c → R a c)
    (hg : ∀ s n, P s → P (g s n).1 ∧ R s (g s n).1) {s s' : St} (h : Calls g s s') (hs : P s) :
    P s' ∧ R s s' := by
  induction h with
  | refl s => exact ⟨hs, hrefl s hs⟩
  | call s n _ ih =>
    obtain ⟨h1, h2⟩ := hg s n hs
    exact ⟨(ih h1).1, htrans _ _ _ h2 (ih h1).2⟩

theorem Calls.inv {g : St → Name → St × Res} {P : St → Prop} (hg : ∀ s n, P s → P (g s n).1)
    {s s' : St} (h : Calls g s s') (hs : P s) : P s' :=
  (h.lift (R := fun _ _ => True) (fun _ _ => trivial) (fun _ _ _ _ _ => trivial) (fun s n hs => ⟨hg s n hs, trivial⟩) hs).1

theorem Calls.trans {g : St → Name → St × Res} {a b c : St} (h1 : Calls g a b) (h2 : Calls g b c) :
    Calls g a c := by
  induction h1 with
  | refl => exact h2
  | call s n _ ih => exact .call s n (ih h2)

/-- what a field receives from the answer of `Get`, and the error that stops the loop -/
def fieldOut (opt : Bool) : Res → Option Inst × Option Err
  | .inst i => if i = .nil then (none, some .nilDependency) else (some i, none)
  | .err e => (none, if opt then none else some e)

/-- one round of the field loop of `InjectTo`: provider afterwards, value stored into the field, error that stops the loop -/
def visit (g : St → Name → St × Res) (s : St) (fld : Field) : St × Option Inst × Option Err :=
  match fld.dep with
  | none => (s, none, none)
  | some (n, opt) => ((g s n).1, fieldOut opt (g s n).2)

theorem visit_none {g : St → Name → St × Res} {s : St} {fld : Field} (h : fld.dep = none) :
    visit g s fld = (s, none, none) := by
  simp [visit, h]

theorem visit_some {g : St → Name → St × Res} {s : St} {fld : Field} {p : Name × Bool} (h : fld.dep = some p) :
    visit g s fld = ((g s p.1).1, fieldOut p.2 (g s p.1).2) := by
  simp [visit, h]

theorem visit_err {g : St → Name → St × Res} {s : St} {fld : Field} {e : Err}
    (h : (visit g s fld).2.2 = some e) : (visit g s fld).2.1 = none := by
  unfold visit at h ⊢
  cases hd : fld.dep with
  | none => rfl
  | some p =>
    rw [hd] at h
    simp only at h ⊢
    cases hr : (g s p.1).2 with
    | inst i => rw [hr] at h; by_cases hi : i = .nil <;> simp_all [fieldOut]
    | err e' => rfl

theorem injectFields_cons (g : St → Name → St × Res) (s : St) (fld : Field) (rest : List Field) :
    injectFields g s (fld :: rest) =
      match (visit g s fld).2.2 with
      | some e => ((visit g s fld).1, [none], some e)
      | none =>
        let r := injectFields g (visit g s fld).1 rest
        (r.1, (visit g s fld).2.1 :: r.2.1, r.2.2) := by
  rw [injectFields]
  cases hd : fld.dep with
  | none => simp [visit, hd]
  | some p =>
    obtain ⟨n, opt⟩ := p
    simp only [visit, hd]
    cases g s n with
    | mk s1 r =>
      cases r with
      | inst i => by_cases hi : i = .nil <;> simp [fieldOut, hi]
      | err e => cases opt <;> simp [fieldOut]

theorem visit_calls (g : St → Name → St × Res) (s : St) (fld : Field) : Calls g s (visit g s fld).1 := by
  unfold visit
  split
  · exact .refl s
  · exact .call s _ (.refl _)

theorem injectFields_calls (g : St → Name → St × Res) (fs : List Field) (s : St) :
    Calls g s (injectFields g s fs).1 := by
  induction fs generalizing s with
  | nil => exact .refl s
  | cons fld rest ih =>
    rw [injectFields_cons]
    split
    · exact visit_calls g s fld
    · exact (visit_calls g s fld).trans (ih _)

theorem injectFields_length_ok {g : St → Name → St × Res} : ∀ (fs : List Field) (s : St),
    (injectFields g s fs).2.2 = none → (injectFields g s fs).2.1.length = fs.length := by
  intro fs
  induction fs with
  | nil => intro s _; rfl
  | cons fld rest ih =>
    intro s h
    rw [injectFields_cons] at h ⊢
    cases he : (visit g s fld).2.2 with
    | some e => rw [he] at h; cases h
    | none => rw [he] at h; exact congrArg (· + 1) (ih _ h)

theorem injectAll_fst (g : St → Name → St × Res) (s : St) (fs : List Field) :
    (injectAll g s fs).1 = (injectFields g s fs).1 := by
  unfold injectAll
  simp only
  split <;> rfl

theorem injectAll_snd (g : St → Name → St × Res) (s : St) (fs : List Field) :
    (injectAll g s fs).2 =
      match (injectFields g s fs).2.2 with
      | some e => (pad fs.length (injectFields g s fs).2.1, some e)
      | none => runInjectors 0 (injectFields g s fs).1.injectors fs (injectFields g s fs).2.1 := by
  unfold injectAll
  simp only
  cases (injectFields g s fs).2.2 <;> rfl

@[simp] theorem Dep.field_dep (d : Dep) : d.field.dep = parseTag d.tagText := by
  simp [Dep.field, Field.dep, Field.raw]

theorem Dep.eff_of_get {d : Dep} (h : d.viaInject = false) : d.eff = some (d.name, d.optional) := by
  simp [Dep.eff, h]

theorem Dep.eff_of_inject {d : Dep} (h : d.viaInject = true) : d.eff = d.field.dep := by
  simp [Dep.eff, h]

/-- the error a factory body sees in the answer to an edge; `o`: a failure is tolerated -/
def Dep.judge (d : Dep) (o : Bool) : Res → Option Err
  | .inst i => if d.viaInject = true ∧ i = .nil then some .nilDependency else none
  | .err e => if o then none else some e

/-- the error of an `InjectTo` edge that does not depend on the answer: the injectors refuse the one-field struct -/
def Dep.static (d : Dep) (inj : List Injector) : Option Err :=
  if d.viaInject then (runInjectors 0 inj [d.field] [none]).2 else none

theorem Dep.judge_inject {d : Dep} (hv : d.viaInject = true) (o : Bool) (r : Res) :
    d.judge o r = (fieldOut o r).2 := by
  cases r with
  | inst i => by_cases hi : i = .nil <;> simp [Dep.judge, fieldOut, hv, hi]
  | err e => cases o <;> rfl

theorem depStep_eq (g : St → Name → St × Res) (s : St) (d : Dep) :
    depStep g s d =
      match d.eff with
      | none => (s, d.static s.injectors)
      | some (m, o) => ((g s m).1, orElse (d.judge o (g s m).2) (d.static (g s m).1.injectors)) := by
  cases hv : d.viaInject with
  | false =>
    rw [Dep.eff_of_get hv]
    simp only [depStep, hv, Bool.false_eq_true, if_false]
    cases g s d.name with
    | mk s1 r => cases r <;> simp [Dep.judge, Dep.static, hv]
  | true =>
    rw [Dep.eff_of_inject hv]
    simp only [depStep, hv, if_true, injectAll, injectFields_cons, Dep.static, visit]
    cases d.field.dep with
    | none => rfl
    | some p =>
      simp only [Dep.judge_inject hv]
      generalize fieldOut p.2 (g s p.1).2 = fo
      obtain ⟨v, e⟩ := fo
      cases e with
      | some e => rfl
      | none =>
        simp only [injectFields, orElse_none_left, runInjectors_err_indep _ _ _ [v] [none]]

theorem Dep.judge_eq_none {d : Dep} {o : Bool} {r : Res} :
    d.judge o r = none ↔ (d.viaInject = true → r ≠ .inst .nil) ∧ (o = false → ∃ i, r = .inst i) := by
  cases r with
  | inst i => by_cases hi : i = .nil <;> simp [Dep.judge, hi]
  | err e => cases o <;> simp [Dep.judge]

theorem Dep.static_eq_none {d : Dep} {inj : List Injector} :
    d.static inj = none ↔ (d.viaInject = true → (runInjectors 0 inj [d.field] [none]).2 = none) := by
  cases hv : d.viaInject <;> simp [Dep.static, hv]

theorem depStep_none_iff {g : St → Name → St × Res} {s : St} {d : Dep} {inj : List Injector}
    (hinj : ∀ m, (g s m).1.injectors = inj) (hs : s.injectors = inj) :
    (depStep g s d).2 = none ↔
      d.static inj = none ∧ ∀ m o, d.eff = some (m, o) → d.judge o (g s m).2 = none := by
  rw [depStep_eq]
  cases d.eff with
  | none => simp [hs]
  | some p =>
    obtain ⟨m, o⟩ := p
    simp [orElse_eq_none, hinj, and_comm]

theorem Dep.injectOK_iff {s : St} {d : Dep} :
    d.injectOK s ↔ d.static s.injectors = none ∧
      (d.viaInject = true → ∀ m o, d.eff = some (m, o) → s.instances m ≠ some .nil) := by
  rw [Dep.static_eq_none]
  exact ⟨fun h => ⟨fun hv => (h hv).2, fun hv => (h hv).1⟩, fun h hv => ⟨h.2 hv, h.1 hv⟩⟩

theorem depStep_calls (g : St → Name → St × Res) (s : St) (d : Dep) : Calls g s (depStep g s d).1 := by
  rw [depStep_eq]
  cases d.eff with
  | none => exact .refl s
  | some p => exact .call s _ (.refl _)

theorem runDeps_cons (g : St → Name → St × Res) (s : St) (d : Dep) (rest : List Dep) :
    runDeps g s (d :: rest) =
      match (depStep g s d).2 with
      | none => runDeps g (depStep g s d).1 rest
      | some e => ((depStep g s d).1, some e) := by
  rw [runDeps]
  cases depStep g s d with
  | mk s1 e => cases e <;> rfl

theorem runDeps_calls (g : St → Name → St × Res) (ds : List Dep) (s : St) :
    Calls g s (runDeps g s ds).1 := by
  induction ds generalizing s with
  | nil => exact .refl s
  | cons d rest ih =>
    rw [runDeps_cons]
    split
    · exact (depStep_calls g s d).trans (ih _)
    · exact depStep_calls g s d

end Goat.DI
