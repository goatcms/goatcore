/-
Every execution of `Goat/Model/DataScope.lean`'s transition system is finite, whatever the programs: each action
decreases `stMeasure` as long as the threads name existing scopes of a well-formed heap (`TInv`).
-/
import Goat.Proofs.DataScopeLTS

namespace Goat.DataScope

/-- the thread only names scopes that exist -/
def ValidTh (len : Nat) (th : Thread) : Prop :=
  progValid len th.prog = true ∧ ∀ p k, th.walk = some (p, k) → p < len

theorem progValid_tail {len : Nat} {ins : Instr} {rest : List Instr} (h : progValid len (ins :: rest) = true) :
    instrValid len ins = true ∧ progValid len rest = true := by
  simpa [progValid] using h

/-- work a thread has left: instructions (each may start a walk over at most `len` scopes) and the
remaining levels of a walk in progress -/
def thMeasure (len : Nat) (th : Thread) : Nat :=
  th.prog.length * (len + 1) + (match th.walk with | some (p, _) => p + 1 | none => 0)

def stMeasure (len : Nat) (st : St) : Nat := (st.threads.map (thMeasure len)).sum

/-- an instruction weighs more than any walk from an existing scope.  `hv'` is handed through: the pair is what
`control_step` owes in each of its cases -/
theorem ValidTh.lt {len : Nat} {th th' : Thread} {ins : Instr} (hv' : ValidTh len th')
    (hp : th.prog = ins :: th'.prog) : ValidTh len th' ∧ thMeasure len th' < thMeasure len th := by
  refine ⟨hv', ?_⟩
  unfold thMeasure
  rw [hp, List.length_cons, Nat.succ_mul, Nat.add_assoc]
  refine Nat.add_lt_add_left (Nat.lt_of_lt_of_le (Nat.lt_succ_of_le ?_) (Nat.le_add_right _ _)) _
  cases hw : th'.walk with
  | none => exact Nat.zero_le _
  | some pk => exact hv'.2 pk.1 pk.2 hw

theorem afterRead_valid {ss : Scopes} (hwf : WF ss) {th : Thread} (hp : progValid ss.length th.prog = true)
    (k : Key) (s : Nat) :
    ValidTh ss.length (afterRead th k (readLevel ss s k)) ∧
      thMeasure ss.length (afterRead th k (readLevel ss s k)) ≤ th.prog.length * (ss.length + 1) + s := by
  cases hr : readLevel ss s k with
  | up p =>
    exact ⟨⟨hp, fun _ _ e => by cases e; exact readLevel_up_len hwf hr⟩,
      Nat.add_le_add_left (readLevel_up_lt hwf hr) _⟩
  | _ => exact ⟨⟨hp, fun _ _ e => by cases e⟩, Nat.le_add_right _ _⟩

theorem control_step {st t : St} {i : Nat} {th : Thread} (hwf : WF st.scopes)
    (hv : ValidTh st.scopes.length th) (h : StepRel st i th t) :
    ∃ th', t.threads = st.threads.set i th' ∧ ValidTh st.scopes.length th' ∧
      thMeasure st.scopes.length th' < thMeasure st.scopes.length th := by
  cases h with
  | climb hf =>
    exact ⟨_, rfl, (afterRead_valid hwf hv.1 _ _).1,
      Nat.lt_of_le_of_lt (afterRead_valid hwf hv.1 _ _).2 (Nat.lt_succ_self _)⟩
  | get hf | lget =>
    exact ⟨_, rfl, (afterRead_valid hwf (progValid_tail hv.1).2 _ _).1.lt (by rw [afterRead_prog])⟩
  | _ => exact ⟨_, rfl, ValidTh.lt ⟨(progValid_tail hv.1).2, fun _ _ e => by cases e⟩ rfl⟩

/-- `len` is fixed (it is `scopes.length`, which steps preserve) so that `stMeasure len` is comparable across steps -/
structure TInv (len : Nat) (st : St) : Prop where
  wf : WF st.scopes
  hlen : st.scopes.length = len
  valid : ∀ (i : Nat) (th : Thread), st.threads[i]? = some th → ValidTh len th

theorem TInv_step {len : Nat} {st t : St} {i : Nat} (hinv : TInv len st) (hs : step st i = some t) :
    TInv len t ∧ stMeasure len t < stMeasure len st := by
  obtain ⟨th, hth, hrel⟩ := step_rel hs
  obtain ⟨th', ht, hv', hlt⟩ := control_step hinv.wf (hinv.hlen ▸ hinv.valid i th hth) hrel
  rw [hinv.hlen] at hv' hlt
  refine ⟨⟨(step_keeps hs).2 hinv.wf, (step_keeps hs).1.trans hinv.hlen, ?_⟩, ?_⟩
  · intro j x hj
    rcases getElem?_set_cases (ht ▸ hj) with ⟨_, rfl⟩ | ⟨_, hj'⟩
    · exact hv'
    · exact hinv.valid j x hj'
  · have := LTS.sum_map_set (thMeasure len) th' hth
    unfold stMeasure
    rw [ht]
    omega

theorem fired_bounded {len : Nat} {init : St} (sched : List Nat) (st : St) (h : TInv len st) :
    ((sys init).firedFrom st sched).length ≤ stMeasure len st :=
  LTS.fired_le_measure (sys init) (TInv len) (stMeasure len) (fun _ _ _ hinv hs => TInv_step hinv hs) sched st h

end Goat.DataScope
