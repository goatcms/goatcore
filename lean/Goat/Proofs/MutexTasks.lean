/-
Tasks layer: the shape of a task step, the invariant (`TShape`, `TInv`), deadlock freedom, the completion measure.
The lock table changes only by lock-layer steps and by `activate`, which replaces an inert entry by one with the
same observable content, so the lock layer's invariant `LInv` carries over as it is.
-/
import Goat.Proofs.MutexMain
import Goat.Model.MutexTasks

namespace Goat.MutexTasks

open Goat.Mutex Goat.LTS

inductive StepKind (v : Variant) (tasks : List Task) (ts : TState) (i : Nat) (t : Task) : TState → Prop
  | start (k : Nat) : ts.stage[i]? = some (.waiting k) → t.waits[k]? = none →
      StepKind v tasks ts i t { lock := activate ts.lock i, stage := ts.stage.set i .running }
  | await (k j : Nat) : ts.stage[i]? = some (.waiting k) → t.waits[k]? = some j → finishedAt ts j = true →
      StepKind v tasks ts i t
        { ts with stage := ts.stage.set i (if failedAt tasks ts j then .aborted else .waiting (k + 1)) }
  | lockstep (l : State) : ts.stage[i]? = some .running → Mutex.step v ts.lock i = some l →
      StepKind v tasks ts i t { ts with lock := l }

theorem step_cases {v : Variant} {tasks : List Task} {ts ts' : TState} {i : Nat}
    (hst : step v tasks ts i = some ts') : ∃ t, tasks[i]? = some t ∧ StepKind v tasks ts i t ts' := by
  unfold step at hst
  split at hst
  · rename_i t k ht hs
    refine ⟨t, ht, ?_⟩
    split at hst
    · cases hst; exact .start k hs ‹_›
    · split at hst <;> cases hst
      exact .await k _ hs ‹_› ‹_›
  · rename_i t ht hs
    obtain ⟨l, hl, rfl⟩ := Option.map_eq_some_iff.mp hst
    exact ⟨t, ht, .lockstep l hs hl⟩
  · cases hst

theorem step_of_kind {v : Variant} {tasks : List Task} {ts ts' : TState} {i : Nat} {t : Task}
    (ht : tasks[i]? = some t) (h : StepKind v tasks ts i t ts') : (step v tasks ts i).isSome = true := by
  cases h with
  | start k hs hw => simp [step, ht, hs, hw]
  | await k j hs hw hf => simp [step, ht, hs, hw, hf]
  | lockstep l hs hl => simp [step, ht, hs, hl]

theorem activate_eq {s : State} {i : Nat} {h : Holder} (hi : s[i]? = some h) :
    activate s i = s.set i { h with pc := .acq 0 .idle } := by
  simp [activate, hi]

theorem activate_none {s : State} {i : Nat} (hi : s[i]? = none) : activate s i = s := by
  simp [activate, hi]

theorem activate_length (s : State) (i : Nat) : (activate s i).length = s.length := by
  unfold activate
  split <;> simp

theorem activate_get_ne {s : State} {i j : Nat} (hne : j ≠ i) : (activate s i)[j]? = s[j]? := by
  unfold activate
  split
  · exact List.getElem?_set_ne (Ne.symm hne)
  · rfl

theorem activate_reqs (s : State) (i : Nat) : reqsOf (activate s i) = reqsOf s := by
  cases hi : s[i]? with
  | none => rw [activate_none hi]
  | some h => rw [activate_eq hi]; exact reqsOf_set hi rfl

theorem lock_step_frame {v : Variant} {s t : State} {i : Nat} (hst : Mutex.step v s i = some t) :
    (∃ h, s[i]? = some h ∧ h.pc ≠ .done) ∧
      ∀ (j : Nat) (g : Holder), s[j]? = some g → g.pc = .done → t[j]? = some g := by
  obtain ⟨h, h', o, hi, hp, hget⟩ := step_get hst
  refine ⟨⟨h, hi, hstep_not_done hp⟩, fun j g hg hd => ?_⟩
  have hj : j ≠ i := fun e => hstep_not_done hp (by rw [e, hi] at hg; cases hg; exact hd)
  rw [hget j, if_neg hj, hg, Option.map_some, wakeOpt_of_not_rwait (by simp [hd])]

theorem finishedAt_running {ts : TState} {j : Nat} (hs : ts.stage[j]? = some .running) :
    finishedAt ts j = true ↔ ∃ h, ts.lock[j]? = some h ∧ h.pc = .done := by
  unfold finishedAt
  cases hl : ts.lock[j]? <;> simp [hs]

theorem finishedAt_waiting {ts : TState} {j k : Nat} (hs : ts.stage[j]? = some (.waiting k)) :
    finishedAt ts j = false := by
  simp [finishedAt, hs]

theorem finishedAt_aborted {ts : TState} {j : Nat} (hs : ts.stage[j]? = some .aborted) :
    finishedAt ts j = true := by
  simp [finishedAt, hs]

theorem finishedAt_congr {l l' : State} {ss ss' : List Stage} {j : Nat} (h1 : ss'[j]? = ss[j]?)
    (h2 : l'[j]? = l[j]?) : finishedAt ⟨l', ss'⟩ j = finishedAt ⟨l, ss⟩ j := by
  simp [finishedAt, h1, h2]

theorem failedAt_congr {tasks : List Task} {l l' : State} {ss ss' : List Stage} {j : Nat}
    (h1 : ss'[j]? = ss[j]?) : failedAt tasks ⟨l', ss'⟩ j = failedAt tasks ⟨l, ss⟩ j := by
  simp [failedAt, h1]

theorem finishedAt_iff {ts : TState} {j : Nat} :
    finishedAt ts j = true ↔ ts.stage[j]? = some .aborted ∨
      (ts.stage[j]? = some .running ∧ ∃ h, ts.lock[j]? = some h ∧ h.pc = .done) := by
  cases hs : ts.stage[j]? with
  | none => simp [finishedAt, hs]
  | some st =>
    cases st with
    | waiting k => simp [finishedAt_waiting hs]
    | running => simp [finishedAt_running hs]
    | aborted => simp [finishedAt_aborted hs]

theorem finished_step {v : Variant} {tasks : List Task} {ts ts' : TState} {i : Nat}
    (hst : step v tasks ts i = some ts') {j : Nat} (hf : finishedAt ts j = true) :
    finishedAt ts' j = true ∧ failedAt tasks ts' j = failedAt tasks ts j := by
  obtain ⟨t, ht, hk⟩ := step_cases hst
  -- a task that is still waiting has not ended
  have hne : ∀ k, ts.stage[i]? = some (.waiting k) → j ≠ i := fun k hs e => by
    simp [e, finishedAt_waiting hs] at hf
  cases hk with
  | start k hs hw =>
    have h1 := List.getElem?_set_ne (Ne.symm (hne k hs)) (l := ts.stage) (a := Stage.running)
    exact ⟨(finishedAt_congr h1 (activate_get_ne (hne k hs))).trans hf, failedAt_congr h1⟩
  | await k p hs hw hfp =>
    have h1 := List.getElem?_set_ne (Ne.symm (hne k hs)) (l := ts.stage)
      (a := if failedAt tasks ts p then Stage.aborted else Stage.waiting (k + 1))
    exact ⟨(finishedAt_congr h1 rfl).trans hf, failedAt_congr h1⟩
  | lockstep l hs hl =>
    refine ⟨?_, rfl⟩
    rcases finishedAt_iff.mp hf with ha | ⟨hr, g, hg, hd⟩
    · exact finishedAt_aborted ha
    · exact (finishedAt_running (ts := { ts with lock := l }) hr).mpr
        ⟨g, (lock_step_frame hl).2 j g hg hd, hd⟩

/-- what the stage of task `t` says about its wait list: those it has got past have ended without error, and it
returned from `waitForTasks` with the error only because one of them has ended with one -/
def StageOk (tasks : List Task) (ts : TState) (t : Task) : Stage → Prop
  | .waiting k => ∀ j ∈ t.waits.take k, finishedAt ts j = true ∧ failedAt tasks ts j = false
  | .running => ∀ j ∈ t.waits, finishedAt ts j = true ∧ failedAt tasks ts j = false
  | .aborted => ∃ j ∈ t.waits, finishedAt ts j = true ∧ failedAt tasks ts j = true

theorem StageOk.step {v : Variant} {tasks : List Task} {ts ts' : TState} {i : Nat}
    (hst : step v tasks ts i = some ts') {t : Task} {st : Stage} (h : StageOk tasks ts t st) :
    StageOk tasks ts' t st := by
  have keep : ∀ {j b}, finishedAt ts j = true ∧ failedAt tasks ts j = b →
      finishedAt ts' j = true ∧ failedAt tasks ts' j = b := fun ⟨h1, h2⟩ =>
    let ⟨h3, h4⟩ := finished_step hst h1
    ⟨h3, h4 ▸ h2⟩
  cases st with
  | waiting k => exact fun j hj => keep (h j hj)
  | running => exact fun j hj => keep (h j hj)
  | aborted => exact let ⟨j, hj, hf⟩ := h; ⟨j, hj, keep hf⟩

def mapsOf (tasks : List Task) : List LockMap := tasks.map (·.map)

theorem lock_of_task {tasks : List Task} {l : State} (hl : reqsOf l = (mapsOf tasks).map sortRows)
    {i : Nat} {t : Task} (ht : tasks[i]? = some t) : ∃ h, l[i]? = some h ∧ h.req = sortRows t.map :=
  get_of_reqsOf (by simp [hl, mapsOf, ht])

/-- what holds of the stages and of the lock-table entries whatever the lock maps are -/
structure TShape (tasks : List Task) (ts : TState) : Prop where
  lenS : ts.stage.length = tasks.length
  reqs : reqsOf ts.lock = (mapsOf tasks).map sortRows
  /-- a task that is not between `Lock` and the end of `Unlock` has an inert lock-table entry -/
  inert : ∀ (i : Nat) (st : Stage) (h : Holder), ts.stage[i]? = some st → st ≠ .running →
    ts.lock[i]? = some h → h.pc = .done
  prereq : ∀ (i : Nat) (t : Task) (st : Stage), tasks[i]? = some t → ts.stage[i]? = some st →
    StageOk tasks ts t st

/-- with maps that have distinct names, moreover the lock layer's invariant -/
structure TInv (v : Variant) (tasks : List Task) (ts : TState) : Prop extends TShape tasks ts where
  linv : LInv v ts.lock

theorem TShape.lenL {tasks : List Task} {ts : TState} (h : TShape tasks ts) :
    ts.lock.length = tasks.length := by
  simpa [reqsOf, mapsOf] using congrArg List.length h.reqs

theorem TShape.task_of_lock {tasks : List Task} {ts : TState} (hinv : TShape tasks ts)
    {i : Nat} {h : Holder} (hi : ts.lock[i]? = some h) : ∃ t, tasks[i]? = some t :=
  ⟨_, List.getElem?_eq_getElem (hinv.lenL ▸ lt_of_getElem? hi)⟩

theorem running_of_not_done {tasks : List Task} {ts : TState} (hinv : TShape tasks ts)
    {i : Nat} {h : Holder} (hi : ts.lock[i]? = some h) (hnd : h.pc ≠ .done) : ts.stage[i]? = some .running := by
  have hlt : i < ts.stage.length := by rw [hinv.lenS, ← hinv.lenL]; exact lt_of_getElem? hi
  rw [List.getElem?_eq_getElem hlt]
  apply Classical.byContradiction
  intro hne
  exact hnd (hinv.inert i _ h (List.getElem?_eq_getElem hlt) (fun e => hne (by rw [e])) hi)

theorem reqs_init (tasks : List Task) : reqsOf (init tasks).lock = (mapsOf tasks).map sortRows := by
  simp [init, reqsOf, mapsOf, List.map_map, Function.comp_def, inertHolder]

theorem init_done (tasks : List Task) : ∀ g ∈ (init tasks).lock, g.pc = .done := by
  simp [init, inertHolder]

theorem tshape_init (tasks : List Task) : TShape tasks (init tasks) := by
  refine ⟨by simp [init], reqs_init tasks, fun i st h _ _ hl => init_done tasks h (List.mem_of_getElem? hl), ?_⟩
  intro i t st ht hs
  obtain rfl : Stage.waiting 0 = st := by simpa [init, ht] using hs
  exact fun j hj => by simp at hj

theorem tinv_init {v : Variant} {tasks : List Task} (hmaps : ∀ t ∈ tasks, NodupNames t.map) :
    TInv v tasks (init tasks) := by
  refine ⟨tshape_init tasks, linv_quiet (sorted_iff_reqs.mpr ?_) fun g hg => .inl (init_done tasks g hg)⟩
  rw [reqs_init]
  simpa [mapsOf] using fun t ht => sorted_sortRows (hmaps t ht)

theorem tshape_step {v : Variant} {tasks : List Task} {ts ts' : TState} {i : Nat}
    (hinv : TShape tasks ts) (hst : step v tasks ts i = some ts') : TShape tasks ts' := by
  obtain ⟨t, ht, hk⟩ := step_cases hst
  have keep : ∀ (i' : Nat) (t' : Task) (st : Stage), tasks[i']? = some t' → ts.stage[i']? = some st →
      StageOk tasks ts' t' st := fun i' t' st ht' hs' => (hinv.prereq i' t' st ht' hs').step hst
  -- when task `i` moves on in `waitForTasks` only its own stage changes: `prereq` is owed for its new stage `st'`
  -- only, and the other tasks' entries stay inert
  have prereq' : ∀ st', StageOk tasks ts' t st' →
      ∀ (i' : Nat) (t' : Task) (st : Stage), tasks[i']? = some t' → (ts.stage.set i st')[i']? = some st →
        StageOk tasks ts' t' st := by
    intro st' hnew i' t' st ht' hs'
    rcases getElem?_set_cases hs' with ⟨rfl, rfl⟩ | ⟨_, hs'⟩
    · rw [ht] at ht'; cases ht'
      exact hnew
    · exact keep i' t' st ht' hs'
  have inert' : ∀ st', ∀ (j : Nat) (st : Stage) (g : Holder),
      (ts.stage.set i st')[j]? = some st → j ≠ i → st ≠ .running → ts.lock[j]? = some g → g.pc = .done := by
    intro st' j st g hsj e hne hg
    rw [List.getElem?_set_ne (Ne.symm e)] at hsj
    exact hinv.inert j st g hsj hne hg
  cases hk with
  | start k hs hw =>
    refine ⟨by simp [hinv.lenS], by rw [activate_reqs]; exact hinv.reqs, ?_, ?_⟩
    · intro j st g hsj hne hg
      by_cases e : j = i
      · rw [getElem?_set_of hs, if_pos e.symm] at hsj
        cases hsj; exact absurd rfl hne
      · rw [activate_get_ne e] at hg
        exact inert' _ j st g hsj e hne hg
    · refine prereq' .running fun j hj => keep i t (.waiting k) ht hs j ?_
      rwa [List.take_of_length_le (List.getElem?_eq_none_iff.mp hw)]
  | await k p hs hw hfp =>
    refine ⟨by simp [hinv.lenS], hinv.reqs, ?_, ?_⟩
    · intro j st g hsj hne hg
      by_cases e : j = i
      · exact hinv.inert j _ g (e ▸ hs) (by simp) hg
      · exact inert' _ j st g hsj e hne hg
    · obtain ⟨h3, h4⟩ := finished_step hst hfp
      refine prereq' _ ?_
      by_cases hfail : failedAt tasks ts p = true
      · rw [if_pos hfail] at h3 h4 ⊢
        exact ⟨p, List.mem_of_getElem? hw, h3, h4 ▸ hfail⟩
      · rw [if_neg hfail] at h3 h4 keep ⊢
        intro j hj
        simp only [List.take_add_one, hw, Option.toList_some, List.mem_append, List.mem_singleton] at hj
        rcases hj with hj | rfl
        · exact keep i t (.waiting k) ht hs j hj
        · exact ⟨h3, by rw [h4]; simpa using hfail⟩
  | lockstep l hs hl =>
    refine ⟨hinv.lenS, (step_reqs hl).trans hinv.reqs, ?_, keep⟩
    intro j st g hsj hne hg
    obtain ⟨g0, hg0⟩ : ∃ g0, ts.lock[j]? = some g0 :=
      ⟨_, List.getElem?_eq_getElem (by rw [← step_length hl]; exact lt_of_getElem? hg)⟩
    have hd0 := hinv.inert j st g0 hsj hne hg0
    rw [(lock_step_frame hl).2 j g0 hg0 hd0] at hg
    cases hg; exact hd0

theorem tshape_run (v : Variant) (tasks : List Task) (sched : List Nat) : TShape tasks ((tsys v tasks).run sched) :=
  inv_run (tsys v tasks) (TShape tasks) (tshape_init tasks) (fun _ _ _ hi hst => tshape_step hi hst) sched

theorem tinv_step {v : Variant} {tasks : List Task} {ts ts' : TState} {i : Nat}
    (hinv : TInv v tasks ts) (hst : step v tasks ts i = some ts') : TInv v tasks ts' := by
  refine ⟨tshape_step hinv.toTShape hst, ?_⟩
  obtain ⟨t, ht, hk⟩ := step_cases hst
  cases hk with
  | start k hs hw =>
    obtain ⟨h, hi, _⟩ := lock_of_task hinv.reqs ht
    rw [activate_eq hi]
    exact linv_set hinv.linv hi (obsEq_fresh (hinv.inert i _ h hs (by simp) hi))
  | await => exact hinv.linv
  | lockstep l hs hl => exact linv_step hinv.linv hl

theorem tinv_run {v : Variant} {tasks : List Task} (hmaps : ∀ t ∈ tasks, NodupNames t.map) (sched : List Nat) :
    TInv v tasks ((tsys v tasks).run sched) :=
  inv_run (tsys v tasks) (TInv v tasks) (tinv_init hmaps) (fun _ _ _ hi hst => tinv_step hi hst) sched

def AllFinished (tasks : List Task) (ts : TState) : Prop := ∀ j, j < tasks.length → finishedAt ts j = true

theorem deadlock_free_state {v : Variant} {tasks : List Task} (hwf : WellFormed tasks) {ts : TState}
    (hinv : TInv v tasks ts) (hact : ¬ AllFinished tasks ts) : ∃ i, (step v tasks ts i).isSome = true := by
  by_cases hlock : ¬ AllDone ts.lock
  · -- somebody is between Lock and the end of Unlock (tasks that still wait hold nothing): the lock layer's
    -- greatest-awaited-name argument applies to the lock table unchanged
    obtain ⟨i, hen⟩ := Mutex.deadlock_free_state hinv.linv hlock
    obtain ⟨l, hl⟩ := Option.isSome_iff_exists.mp hen
    obtain ⟨g, hg, hnd⟩ := (lock_step_frame hl).1
    obtain ⟨t, ht⟩ := hinv.task_of_lock hg
    exact ⟨i, step_of_kind ht (.lockstep l (running_of_not_done hinv.toTShape hg hnd) hl)⟩
  · -- the lock table is idle: every task that has not ended is in `waitForTasks`.  From any such task descend
    -- along unfinished prerequisites (smaller by `WellFormed`) to one whose current prerequisite has ended or
    -- whose wait list is exhausted
    have key : ∀ j, j < tasks.length → finishedAt ts j = false → ∃ i, (step v tasks ts i).isSome = true := by
      intro j
      induction j using Nat.strongRecOn with
      | _ j ih =>
        intro hj hnf
        obtain ⟨t, ht⟩ : ∃ t, tasks[j]? = some t := ⟨_, List.getElem?_eq_getElem hj⟩
        obtain ⟨st, hs⟩ : ∃ st, ts.stage[j]? = some st := ⟨_, List.getElem?_eq_getElem (hinv.lenS ▸ hj)⟩
        obtain ⟨g, hl, _⟩ := lock_of_task hinv.reqs ht
        cases st with
        | aborted => simp [finishedAt_aborted hs] at hnf
        | running =>
          simp [(finishedAt_running hs).mpr ⟨g, hl, Classical.not_not.mp hlock g (List.mem_of_getElem? hl)⟩] at hnf
        | waiting k =>
          cases hw : t.waits[k]? with
          | none => exact ⟨j, step_of_kind ht (.start k hs hw)⟩
          | some p =>
            have hp : p < j := hwf j t ht p (List.mem_of_getElem? hw)
            cases hfp : finishedAt ts p with
            | true => exact ⟨j, step_of_kind ht (.await k p hs hw hfp)⟩
            | false => exact ih p hp (by omega) hfp
    apply Classical.byContradiction
    intro hno
    exact hact fun j hj => by
      cases hf : finishedAt ts j with
      | true => rfl
      | false => exact absurd (key j hj hf) hno

/-- an upper bound on the steps a task makes before its lock-table entry takes over: one per entry of the wait
list still ahead, the step that calls `Lock`, and the `4·|map| + 4` a fresh holder may take (`remaining_fresh`),
which the lock table is charged with only from then on -/
def stageCost (t : Task) : Stage → Nat
  | .waiting k => (t.waits.length - k) + (4 * t.map.length + 5)
  | _ => 0

def stageSum : List Task → List Stage → Nat
  | t :: ts, st :: ss => stageCost t st + stageSum ts ss
  | _, _ => 0

def remainingT (tasks : List Task) (ts : TState) : Nat := stageSum tasks ts.stage + remaining ts.lock

theorem stageSum_set (st' : Stage) : ∀ {tasks : List Task} {ss : List Stage} {i : Nat} {t : Task} {st : Stage},
    tasks[i]? = some t → ss[i]? = some st →
    stageSum tasks (ss.set i st') + stageCost t st = stageSum tasks ss + stageCost t st'
  | _ :: _, _ :: _, 0, _, _, ht, hs => by
    simp only [List.getElem?_cons_zero, Option.some.injEq] at ht hs
    simp only [ht, hs, List.set_cons_zero, stageSum]; omega
  | _ :: tasks, _ :: ss, i + 1, _, _, ht, hs => by
    have := stageSum_set st' (tasks := tasks) (ss := ss) (i := i) ht hs
    simp only [List.set_cons_succ, stageSum]; omega

theorem remainingT_step {v : Variant} {tasks : List Task} {ts ts' : TState} {i : Nat}
    (hl : reqsOf ts.lock = (mapsOf tasks).map sortRows) (hst : step v tasks ts i = some ts') :
    remainingT tasks ts' < remainingT tasks ts := by
  obtain ⟨t, ht, hk⟩ := step_cases hst
  cases hk with
  | start k hs hw =>
    obtain ⟨h, hi, hreq⟩ := lock_of_task hl ht
    have h1 := stageSum_set .running ht hs
    have h2 := sum_map_set Holder.remaining { h with pc := .acq 0 .idle } hi
    have hlen : h.req.length = t.map.length := hreq ▸ length_sortRows t.map
    have h3 := remaining_fresh h
    simp only [remainingT, remaining, activate_eq hi, stageCost] at h1 h2 ⊢; omega
  | await k p hs hw hfp =>
    have hk := lt_of_getElem? hw
    have h1 := stageSum_set (if failedAt tasks ts p then Stage.aborted else Stage.waiting (k + 1)) ht hs
    cases hfail : failedAt tasks ts p <;> simp [hfail, remainingT, stageCost] at h1 ⊢ <;> omega
  | lockstep l hs hl0 =>
    have := remaining_step hl0
    simp only [remainingT]; omega

theorem remainingT_init (tasks : List Task) :
    remainingT tasks (init tasks) = (tasks.map fun t => t.waits.length + 4 * t.map.length + 5).sum := by
  unfold remainingT init
  induction tasks with
  | nil => rfl
  | cons t tasks ih =>
    simp only [remaining, List.map_cons, stageSum, List.sum_cons, stageCost, inertHolder, Holder.remaining] at ih ⊢
    omega

end Goat.MutexTasks
