/-
The heap under one critical section (`applyAct`).  An object of the new heap is an old object, an old
object changed in one of the ways `DirChange` / `FileChange` list, or the freshly allocated one
(`applyAct_dir`, `applyAct_file`); hence every critical section keeps the directory invariant of every
directory object and the file invariant of every file object.
-/
import Goat.Proofs.MemFSConcDir
import Goat.Proofs.Lists

namespace Goat.MemFSConc

def HeapInv (h : Heap) : Prop := ∀ o d, getDir h o = some d → DirInv d

/-- a file that is not held by a stream handle holds a complete value -/
def FileInv (f : FileObj) : Prop := f.lock = none → f.data ∈ f.committed

def FilesInv (h : Heap) : Prop := ∀ o f, getFile h o = some f → FileInv f

/-- side condition of `NewDir(nodes)`: the node list has unique names -/
def ActOK : Act → Prop
  | .newDir nodes _ => (nodes.map Prod.fst).Nodup
  | _ => True

/-- listings returned by a critical section have unique names -/
def RetOK : Ret → Prop
  | .nodes l => (l.map (·.1)).Nodup
  | _ => True

theorem getDir_eq_some {h : Heap} {a : Oid} {d : DirObj} : getDir h a = some d ↔ h[a]? = some (.dir d) := by
  unfold getDir
  cases h[a]? with
  | none => simp
  | some x => cases x <;> simp

theorem getFile_eq_some {h : Heap} {a : Oid} {f : FileObj} : getFile h a = some f ↔ h[a]? = some (.file f) := by
  unfold getFile
  cases h[a]? with
  | none => simp
  | some x => cases x <;> simp

/-- the child of directory object `o` named `n` -/
def edge (h : Heap) (o : Oid) (n : Name) : Option Oid :=
  match getDir h o with
  | some d => d.index n
  | none => none

theorem edge_eq_index {h : Heap} {o : Oid} {dd : DirObj} (hg : getDir h o = some dd) (n : Name) :
    edge h o n = dd.index n := by
  unfold edge; rw [hg]

theorem edge_some_dir {h : Heap} {a : Oid} {n : Name} {c : Oid} (he : edge h a n = some c) :
    ∃ d, getDir h a = some d ∧ d.index n = some c := by
  unfold edge at he
  cases hd : getDir h a with
  | none => simp [hd] at he
  | some d => simp [hd] at he; exact ⟨d, rfl, he⟩

theorem getDir_lt_len {h : Heap} {a : Nat} {d : DirObj} (hd : getDir h a = some d) : a < h.length :=
  lt_of_getElem? (getDir_eq_some.1 hd)

theorem getFile_lt_len {h : Heap} {a : Nat} {f : FileObj} (hd : getFile h a = some f) : a < h.length :=
  lt_of_getElem? (getFile_eq_some.1 hd)

/-- the heap of a new filespace holds one object, the empty root directory -/
theorem getDir_init {o : Oid} {d : DirObj} (h : getDir [Obj.dir {}] o = some d) : d = {} := by
  cases o with
  | zero => simp [getDir] at h; exact h.symm
  | succ k => simp [getDir] at h

theorem getFile_init (o : Oid) : getFile [Obj.dir {}] o = none := by
  cases o <;> simp [getFile]

theorem heapInv_set {h : Heap} (hi : HeapInv h) (o : Oid) {x : Obj} (hx : ∀ d, x = .dir d → DirInv d) :
    HeapInv (h.set o x) := by
  intro a d hg
  rw [getDir_eq_some, getElem?_set_if] at hg
  split at hg
  · exact hx d (Option.some.inj hg)
  · exact hi a d (getDir_eq_some.2 hg)

theorem heapInv_append {h : Heap} (hi : HeapInv h) {x : Obj} (hx : ∀ d, x = .dir d → DirInv d) :
    HeapInv (h ++ [x]) := by
  intro a d hg
  rw [getDir_eq_some, getElem?_snoc_if] at hg
  split at hg
  · exact hx d (Option.some.inj hg)
  · exact hi a d (getDir_eq_some.2 hg)

theorem filesInv_set {h : Heap} (hi : FilesInv h) (o : Oid) {x : Obj} (hx : ∀ f, x = .file f → FileInv f) :
    FilesInv (h.set o x) := by
  intro a f hg
  rw [getFile_eq_some, getElem?_set_if] at hg
  split at hg
  · exact hx f (Option.some.inj hg)
  · exact hi a f (getFile_eq_some.2 hg)

theorem filesInv_append {h : Heap} (hi : FilesInv h) {x : Obj} (hx : ∀ f, x = .file f → FileInv f) :
    FilesInv (h ++ [x]) := by
  intro a f hg
  rw [getFile_eq_some, getElem?_snoc_if] at hg
  split at hg
  · exact hx f (Option.some.inj hg)
  · exact hi a f (getFile_eq_some.2 hg)

/-- the critical section of `memfs.Dir` that an act of the thread system is, on the object level; `fresh`: the id
a node made by the act gets -/
def Act.dact (fresh : Oid) : Act → Option (Oid × DAct)
  | .mkdirLocked d n => some (d, .mkdir n fresh)
  | .addNode d n c => some (d, .add n c)
  | .addNewFile d n _ => some (d, .add n fresh)
  | .removeNode d n => some (d, .remove n)
  | _ => none

/-- the possible changes of the existing directory object `o` by the act `a` of thread `t`: one of the object's own
critical sections (`DirObj.act` of the `DAct` that `Act.dact` gives the act) under a free `mu` (which the act had to
find; nothing below uses the premise), or a change of a lock field -/
inductive DirChange (t : Tid) (o : Oid) (d : DirObj) : Act → DirObj → Prop
  | crit {a : Act} {d' : DirObj} (fresh : Oid) (da : DAct) :
      a.dact fresh = some (o, da) → muFree d = true → d' = (d.act da).1 → DirChange t o d a d'
  | lock : d.outer = none → DirChange t o d (.outerLock o) { d with outer := some t }
  | unlock : d.outer = some t → DirChange t o d (.outerUnlock o) { d with outer := none }
  | hold : DirChange t o d (.snapshot o true) { d with muR := t :: d.muR }
  | release (nodes : List (Name × Oid)) :
      DirChange t o d (.newDir nodes (some o)) { d with muR := d.muR.erase t }

/-- the possible changes of an existing file object by the act `a` of thread `t` -/
def FileChange (t : Tid) (a : Act) (o : Oid) (f f' : FileObj) : Prop :=
  match a with
  | .setData x v => x = o ∧ f.lock = none ∧ f' = { f with data := v, committed := f.committed ++ [v] }
  | .openH x trunc => x = o ∧ f.lock = none ∧ f' = { f with lock := some t, data := if trunc then [] else f.data }
  | .hwrite x chunk => x = o ∧ f.lock = some t ∧ f' = { f with data := f.data ++ chunk }
  | .closeH x _ => x = o ∧ f.lock = some t ∧ f' = { f with lock := none, committed := f.committed ++ [f.data] }
  | _ => False

/-- a directory object that a critical section allocates: the empty one (`mkdirLocked`) or `NewDir`'s -/
def FreshDir (a : Act) (d' : DirObj) : Prop := d' = {} ∨ ∃ nodes rel, a = .newDir nodes rel ∧ d' = newDirObj nodes

theorem FreshDir.unlocked {a : Act} {d' : DirObj} (h : FreshDir a d') : d'.outer = none ∧ d'.muR = [] := by
  rcases h with rfl | ⟨_, _, _, rfl⟩ <;> exact ⟨rfl, rfl⟩

theorem FreshDir.inv {a : Act} {d' : DirObj} (hok : ActOK a) (h : FreshDir a d') : DirInv d' := by
  rcases h with rfl | ⟨_, _, rfl, rfl⟩
  · exact dirInv_empty
  · exact newDirObj_inv hok

/-- The effect of a critical section, by the one case analysis of `actEff`: the replaced object was
there and is changed as `DirChange` / `FileChange` say, the allocated object is unlocked (a directory:
`FreshDir`), and a returned listing is the node list of a directory. -/
theorem actEff_spec {h : Heap} {t : Tid} {a : Act} {e : Eff} (he : actEff h t a = some e) :
    (match e.upd with
      | .none => True
      | .setDir o d' => ∃ d, getDir h o = some d ∧ DirChange t o d a d'
      | .setFile o f' => ∃ f, getFile h o = some f ∧ FileChange t a o f f') ∧
    (match e.alloc with
      | none => True
      | some (.dir d') => FreshDir a d'
      | some (.file f') => f'.lock = none ∧ f'.committed = [f'.data]) ∧
    (HeapInv h → RetOK e.ret) := by
  cases a <;> simp only [actEff] at he <;> (repeat' split at he) <;>
    simp only [Option.some.injEq, reduceCtorEq] at he <;> subst he <;> refine ⟨?_, ?_, fun hi => ?_⟩
  all_goals first
    | trivial                                          -- no update / no allocation / a return that is no listing
    | exact Or.inl rfl                                 -- the empty directory `mkdirLocked` allocates
    | exact Or.inr ⟨_, _, rfl, rfl⟩                    -- `newDir`
    | exact ⟨rfl, rfl⟩                                 -- an allocated file
    -- a directory update: which constructor of `DirChange` (`hold`: the flag of `snapshot` is `true` here)
    | (subst_vars; exact ⟨_, ‹getDir h _ = some _›, by first
        | exact .lock ‹_› | exact .unlock ‹_› | exact .hold | exact .release _
        | exact .crit h.length _ rfl ‹_› (act_mkdir ‹_› ‹_›) | exact .crit h.length _ rfl ‹_› (act_add ‹_›)
        | exact .crit h.length _ rfl ‹_› (act_remove ‹_›)⟩)
    | exact ⟨_, ‹getFile h _ = some _›, by simp_all [FileChange]⟩
    -- `snapshot` returns the node list of a directory (or nothing)
    | (simp only [RetOK, List.map_map]; first | exact List.nodup_nil | exact (hi _ _ ‹getDir h _ = some _›).1)

theorem applyAct_some {h h' : Heap} {t : Tid} {a : Act} {r : Ret} (hs : applyAct h t a = some (h', r)) :
    ∃ e, actEff h t a = some e ∧ (applyEff h e).1 = h' ∧ e.ret = r := by
  unfold applyAct at hs
  cases he : actEff h t a with
  | none => simp [he] at hs
  | some e =>
    simp only [he, Option.map_some, Option.some.injEq] at hs
    exact ⟨e, rfl, by rw [hs], congrArg Prod.snd hs⟩

/-- the object an effect replaces -/
def Upd.obj : Upd → Option (Oid × Obj)
  | .none => Option.none
  | .setDir o d => some (o, .dir d)
  | .setFile o f => some (o, .file f)

def updHeap (h : Heap) (u : Upd) : Heap :=
  match u.obj with
  | none => h
  | some p => h.set p.1 p.2

theorem applyEff_fst (h : Heap) (e : Eff) : (applyEff h e).1 = updHeap h e.upd ++ e.alloc.toList := by
  obtain ⟨upd, alloc, ret⟩ := e
  cases upd <;> cases alloc <;> simp [applyEff, updHeap, Upd.obj]

theorem updHeap_length (h : Heap) (u : Upd) : (updHeap h u).length = h.length := by
  unfold updHeap
  cases u.obj <;> simp

theorem updHeap_get {h : Heap} {u : Upd} {a : Oid} {y : Obj} (hb : (updHeap h u)[a]? = some y) :
    h[a]? = some y ∨ u.obj = some (a, y) := by
  unfold updHeap at hb
  cases hu : u.obj with
  | none => rw [hu] at hb; exact Or.inl hb
  | some p =>
    rw [hu] at hb
    simp only [getElem?_set_if] at hb
    by_cases hc : a = p.1 ∧ p.1 < h.length
    · rw [if_pos hc] at hb; exact Or.inr (by rw [hc.1, ← Option.some.inj hb])
    · rw [if_neg hc] at hb; exact Or.inl hb

theorem applyEff_get {h : Heap} {e : Eff} {a : Oid} {y : Obj} (hg : (applyEff h e).1[a]? = some y) :
    h[a]? = some y ∨ e.upd.obj = some (a, y) ∨ (h.length ≤ a ∧ e.alloc = some y) := by
  rw [applyEff_fst] at hg
  cases ha : e.alloc with
  | none =>
    rw [ha] at hg
    simp only [Option.toList, List.append_nil] at hg
    exact (updHeap_get hg).imp_right Or.inl
  | some x =>
    rw [ha] at hg
    simp only [Option.toList, getElem?_snoc_if, updHeap_length] at hg
    by_cases hc : a = h.length
    · rw [if_pos hc] at hg
      exact Or.inr (Or.inr ⟨Nat.le_of_eq hc.symm, by rw [Option.some.inj hg]⟩)
    · rw [if_neg hc] at hg
      exact (updHeap_get hg).imp_right Or.inl

theorem applyEff_get_fwd {h : Heap} (e : Eff) {a : Oid} {y : Obj} (hg : h[a]? = some y) :
    ∃ y', (applyEff h e).1[a]? = some y' ∧ (y' = y ∨ e.upd.obj = some (a, y')) := by
  have hlt : a < h.length := lt_of_getElem? hg
  rw [applyEff_fst, List.getElem?_append_left (by rw [updHeap_length]; exact hlt)]
  unfold updHeap
  cases hu : e.upd.obj with
  | none => exact ⟨y, hg, Or.inl rfl⟩
  | some p =>
    simp only [getElem?_set_if]
    by_cases hc : a = p.1 ∧ p.1 < h.length
    · exact ⟨p.2, by rw [if_pos hc], Or.inr (by rw [hc.1])⟩
    · exact ⟨y, by rw [if_neg hc]; exact hg, Or.inl rfl⟩

theorem Upd.obj_dir {u : Upd} {o : Oid} {d : DirObj} (h : u.obj = some (o, .dir d)) : u = .setDir o d := by
  cases u <;> simp [Upd.obj] at h
  rw [h.1, h.2]

theorem Upd.obj_file {u : Upd} {o : Oid} {f : FileObj} (h : u.obj = some (o, .file f)) : u = .setFile o f := by
  cases u <;> simp [Upd.obj] at h
  rw [h.1, h.2]

theorem applyAct_dir {h h' : Heap} {t : Tid} {a : Act} {r : Ret} (hs : applyAct h t a = some (h', r))
    {o : Oid} {d' : DirObj} (hg : getDir h' o = some d') :
    getDir h o = some d' ∨ (∃ d, getDir h o = some d ∧ DirChange t o d a d') ∨
    (h.length ≤ o ∧ FreshDir a d') := by
  obtain ⟨e, he, rfl, _⟩ := applyAct_some hs
  obtain ⟨hu, ha, _⟩ := actEff_spec he
  rcases applyEff_get (getDir_eq_some.1 hg) with x | x | ⟨x1, x2⟩
  · exact Or.inl (getDir_eq_some.2 x)
  · rw [Upd.obj_dir x] at hu; exact Or.inr (Or.inl hu)
  · rw [x2] at ha; exact Or.inr (Or.inr ⟨x1, ha⟩)

theorem applyAct_file {h h' : Heap} {t : Tid} {a : Act} {r : Ret} (hs : applyAct h t a = some (h', r))
    {o : Oid} {f' : FileObj} (hg : getFile h' o = some f') :
    getFile h o = some f' ∨ (∃ f, getFile h o = some f ∧ FileChange t a o f f') ∨
    (h.length ≤ o ∧ f'.lock = none ∧ f'.committed = [f'.data]) := by
  obtain ⟨e, he, rfl, _⟩ := applyAct_some hs
  obtain ⟨hu, ha, _⟩ := actEff_spec he
  rcases applyEff_get (getFile_eq_some.1 hg) with x | x | ⟨x1, x2⟩
  · exact Or.inl (getFile_eq_some.2 x)
  · rw [Upd.obj_file x] at hu; exact Or.inr (Or.inl hu)
  · rw [x2] at ha; exact Or.inr (Or.inr ⟨x1, ha⟩)

theorem applyAct_file_fwd {h h' : Heap} {t : Tid} {a : Act} {r : Ret} (hs : applyAct h t a = some (h', r))
    {o : Oid} {f : FileObj} (hg : getFile h o = some f) :
    ∃ f', getFile h' o = some f' ∧ (f' = f ∨ FileChange t a o f f') := by
  obtain ⟨e, he, rfl, _⟩ := applyAct_some hs
  obtain ⟨y', hy', hc⟩ := applyEff_get_fwd e (getFile_eq_some.1 hg)
  rcases hc with rfl | hc
  · exact ⟨f, getFile_eq_some.2 hy', Or.inl rfl⟩
  · have hu := (actEff_spec he).1
    cases y' with
    | dir d1 =>
      rw [Upd.obj_dir hc] at hu
      obtain ⟨d, hd, _⟩ := hu
      rw [getDir_eq_some, getFile_eq_some.1 hg] at hd
      cases hd
    | file f1 =>
      rw [Upd.obj_file hc] at hu
      obtain ⟨f0, hf0, hc'⟩ := hu
      rw [hg] at hf0; cases hf0
      exact ⟨f1, getFile_eq_some.2 hy', Or.inr hc'⟩

theorem applyAct_length {h h' : Heap} {t : Tid} {a : Act} {r : Ret} (hs : applyAct h t a = some (h', r)) :
    h.length ≤ h'.length := by
  obtain ⟨e, _, rfl, _⟩ := applyAct_some hs
  rw [applyEff_fst, List.length_append, updHeap_length]
  exact Nat.le_add_right _ _

theorem dirChange_inv {t : Tid} {a : Act} {o : Oid} {d d' : DirObj} (hi : DirInv d)
    (hc : DirChange t o d a d') : DirInv d' := by
  cases hc with
  | crit _ da _ _ e => rw [e]; exact act_inv hi da
  | _ => exact hi

theorem applyAct_heapInv {h h' : Heap} {t : Tid} {a : Act} {r : Ret} (hi : HeapInv h) (hok : ActOK a)
    (hs : applyAct h t a = some (h', r)) : HeapInv h' := by
  intro o d' hg
  rcases applyAct_dir hs hg with x | ⟨d, hd, hc⟩ | ⟨_, hnew⟩
  · exact hi o d' x
  · exact dirChange_inv (hi o d hd) hc
  · exact hnew.inv hok

theorem fileChange_inv {t : Tid} {a : Act} {o : Oid} {f f' : FileObj} (hc : FileChange t a o f f') :
    FileInv f' := by
  cases a <;> simp only [FileChange] at hc
  case setData x v => rw [hc.2.2]; intro _; simp
  case openH x trunc => rw [hc.2.2]; intro hl; simp at hl
  case hwrite x chunk => rw [hc.2.2]; intro hl; simp [hc.2.1] at hl
  case closeH x w => rw [hc.2.2]; intro _; simp

theorem applyAct_filesInv {h h' : Heap} {t : Tid} {a : Act} {r : Ret} (hi : FilesInv h)
    (hs : applyAct h t a = some (h', r)) : FilesInv h' := by
  intro o f' hg
  rcases applyAct_file hs hg with x | ⟨f, _, hc⟩ | ⟨_, _, hnew⟩
  · exact hi o f' x
  · exact fileChange_inv hc
  · intro _; rw [hnew]; simp

theorem applyAct_retOK {h h' : Heap} {t : Tid} {a : Act} {r : Ret} (hi : HeapInv h)
    (hs : applyAct h t a = some (h', r)) : RetOK r := by
  obtain ⟨e, he, _, rfl⟩ := applyAct_some hs
  exact (actEff_spec he).2.2 hi

end Goat.MemFSConc
