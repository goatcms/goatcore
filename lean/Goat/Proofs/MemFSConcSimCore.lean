/-
The generic part of one step of the simulation.  `PcInv.frame`: a program counter's invariant rests only on the objects
on the way to its operation's paths and on its private trees.  `sim_act_mk` rebuilds `Sim` after a critical section of
thread `τ` from the kind of heap change (`HeapStep`), the walks of every INDEPENDENT operation being kept, `PcInv` of
`τ`'s new program counter, and `AbsOK` (by kind of step: `absOK_*_step`).  On top, the generic steps `sim_stay`,
`sim_same_noeff`, `sim_graft` and `sim_mkOn` (`mkdirAllNodes` arrives at the next directory, found or just made, or
`MkdirAll` is decided; `sim_mk_blocked`).
-/
import Goat.Proofs.MemFSConcAct
import Goat.Proofs.MemFSConcSimDefs
-- Nothing declared in `MemFSConcSys` is used on the way to `MemFSConcSimMain`.  It is imported for the equations of `resume`
-- and `actOf`, which Lean derived while checking it: a `step_*` lemma computes `actOf .fixed pc` and `resume .fixed pc r` at
-- its literal `pc` with them, and without the import every such proof derives all of them again.
import Goat.Proofs.MemFSConcSys

namespace Goat.MemFSConc

variable {T0 : Tree} {progs : List (List Op)} {s : State} {τ : Nat} {P : List Op} {th : Thread} {i : Op}

theorem mkOK_C {h : Heap} {op : Op} {path : Path} {k : MK} (hm : MkOK h op path k) : op.C = some path := by
  cases k <;> simp only [MkOK] at hm
  · subst hm; rfl
  · subst hm; simp [Op.C]
  · obtain ⟨s, rfl, _, _⟩ := hm; simp [Op.C]

theorem walkOK_path {op : Op} {path : Path} {k : WK} (h : WalkOK op path k) : ∃ x ∈ op.paths, path <+: x := by
  cases k
  case probe _ | readFile | readDir | copySrc _ _ =>
    simp only [WalkOK] at h; subst h; exact ⟨path, mem_paths_R rfl, List.prefix_refl _⟩
  case openR _ => exact absurd h (by simp [WalkOK])
  case rmParent n eo =>
    cases eo <;> simp only [WalkOK] at h <;> subst h <;>
      exact ⟨path ++ [n], mem_paths_W rfl, List.prefix_append _ _⟩

/-- a path the operation relies on: on the way to one of its paths, or at or below a path it owns -/
def Op.rel (j : Op) (π : Path) : Prop := (∃ x ∈ j.paths, π <+: x) ∨ (∃ x ∈ j.owned, x <+: π)

theorem MkOK.frame {h h' : Heap} {op : Op} {path : Path} {k : MK} (hs : Shape h)
    (hk : ∀ o, o < h.length → okind h' o = okind h o)
    (hres : ∀ π o, op.rel π → resolve h 0 π = some o → resolve h' 0 π = some o)
    (hm : MkOK h op path k) : MkOK h' op path k := by
  cases k <;> simp only [MkOK] at hm ⊢ <;> try exact hm
  obtain ⟨s, rfl, h1, h2⟩ := hm
  refine ⟨s, rfl, hres s _ (Or.inl ⟨s, mem_paths_R rfl, List.prefix_refl _⟩) h1, ?_⟩
  rw [hk _ (resolve_lt hs hs.length_pos h1)]; exact h2

theorem FrameInv.frame {h h' : Heap} {L : List Oid} (hs : Shape h) (hf : StepFrame h h' L)
    {path : Path} (hres : ∀ π o, path <+: π → resolve h 0 π = some o → resolve h' 0 π = some o)
    {hole : Option Name} {fr : Frame} (hL : ∀ p ∈ fr.done, p.2 ∉ L) (hi : FrameInv T0 h path hole fr) :
    FrameInv T0 h' path hole fr := by
  refine ⟨⟨hres _ _ (List.prefix_refl _) hi.src.1, ?_⟩, hi.names, hi.cover, ?_, ?_⟩
  · rw [hf.kind _ (resolve_lt hs hs.length_pos hi.src.1)]; exact hi.src.2
  · intro m co k hmem
    obtain ⟨h1, h2⟩ := hi.todo m co k hmem
    refine ⟨hres _ _ (List.prefix_append _ _) h1, ?_⟩
    rw [hf.kind _ (resolve_lt hs hs.length_pos h1)]; exact h2
  · intro m c hmem
    exact (hi.done m c hmem).frame hs hf (hL (m, c) hmem)

theorem FramesInv.frame {h h' : Heap} {L : List Oid} (hs : Shape h) (hf : StepFrame h h' L) {s : Path}
    (hres : ∀ π o, s <+: π → resolve h 0 π = some o → resolve h' 0 π = some o) :
    ∀ (stack : List Frame) (hole : Option Name) (ρ : Path), (∀ fr ∈ stack, ∀ p ∈ fr.done, p.2 ∉ L) →
      FramesInv T0 h s hole ρ stack → FramesInv T0 h' s hole ρ stack
  | [], _, _, _, _ => trivial
  | fr :: rest, _, _, hL, ⟨hF, hb⟩ =>
    ⟨hF.frame hs hf (fun π o hπ hr => hres π o ((List.prefix_append _ _).trans hπ) hr) (hL fr (by simp)),
      match rest, hL, hb with
      | [], _, hb => hb
      | g :: gs, hL, ⟨ρ', h1, hb⟩ =>
        ⟨ρ', h1, FramesInv.frame hs hf hres (g :: gs) _ _ (fun fr' hfr' => hL fr' (List.mem_cons_of_mem _ hfr')) hb⟩⟩

theorem FramesInv.done_lt {h : Heap} {s : Path} :
    ∀ (stack : List Frame) (hole : Option Name) (ρ : Path), FramesInv T0 h s hole ρ stack →
      ∀ fr ∈ stack, ∀ p ∈ fr.done, p.2 < h.length
  | [], _, _, _, fr, hfr, _, _ => by simp at hfr
  | fr :: rest, _, _, ⟨hF, hb⟩, fr', hfr', p, hp => by
    rcases List.mem_cons.1 hfr' with rfl | hmem
    · exact (hF.done p.1 p.2 hp).1.lt
    · match rest, hb, hmem with
      | g :: gs, ⟨_, _, hb⟩, hmem => exact FramesInv.done_lt (g :: gs) _ _ hb fr' hmem p hp

theorem PcInv.pending_lt {h : Heap} {op : Op} {pc : Pc} (hp : PcInv T0 h op pc) :
    ∀ c ∈ pc.pending, c < h.length := by
  intro c hc
  cases pc <;> simp only [Pc.pending, List.not_mem_nil] at hc
  case cAdd d n c' =>
    simp only [List.mem_singleton] at hc; subst hc
    obtain ⟨_, _, _, _, hpr⟩ := hp
    exact hpr.1.lt
  case cDir d n stack =>
    obtain ⟨_, _, ρ, _, _, _, hfi, _⟩ := hp
    simp only [List.mem_flatMap, List.mem_map] at hc
    obtain ⟨fr, hfr, p, hp', rfl⟩ := hc
    exact FramesInv.done_lt stack none ρ hfi fr hfr p hp'

/-- `PcInv` depends only on the objects at paths the operation relies on (`Op.rel`) and on its private trees -/
theorem PcInv.frame {h h' : Heap} {L : List Oid} {op : Op} {pc : Pc} (hs : Shape h)
    (hf : StepFrame h h' L)
    (hrel : ∀ π o, op.rel π → resolve h 0 π = some o → resolve h' 0 π = some o)
    (hL : ∀ c ∈ pc.pending, c ∉ L)
    (hp : PcInv T0 h op pc) : PcInv T0 h' op pc := by
  have hk := hf.kind
  have keep : ∀ {x π : Path} {o : Oid} {k : Bool}, x ∈ op.paths → π <+: x →
      resolve h 0 π = some o ∧ okind h o = some k → resolve h' 0 π = some o ∧ okind h' o = some k :=
    fun hx hπ hd => ⟨hrel _ _ (Or.inl ⟨_, hx, hπ⟩) hd.1, by rw [hk _ (resolve_lt hs hs.length_pos hd.1)]; exact hd.2⟩
  have pre := fun (π : Path) (n : Name) => List.prefix_append π [n]
  -- the program counters not listed: `PcInv` is `False` or does not mention the heap (`fin`, `wUnlockFin`)
  cases pc <;> simp only [PcInv] at hp ⊢ <;> try exact hp
  case mk cur rest k =>
    obtain ⟨π, hd, hne, hm⟩ := hp
    exact ⟨π, keep (mem_paths_C (mkOK_C hm)) (List.prefix_append _ _) hd, hne, hm.frame hs hk hrel⟩
  case mkLocked cur n rest k =>
    obtain ⟨π, hd, hm⟩ := hp
    exact ⟨π, keep (mem_paths_C (mkOK_C hm)) (List.prefix_append _ _) hd, hm.frame hs hk hrel⟩
  case wLock d n _ | wLook d n _ | rmLook d n =>
    obtain ⟨π, hd, rfl⟩ := hp
    exact ⟨π, keep (mem_paths_W rfl) (pre π n) hd, rfl⟩
  case wAdd d n v =>
    obtain ⟨π, hd, rfl, h0⟩ := hp
    exact ⟨π, keep (mem_paths_W rfl) (pre π n) hd, rfl, h0⟩
  case wUnlockSet d f v =>
    obtain ⟨π, n, hd, rfl, hf'⟩ := hp
    exact ⟨π, n, keep (mem_paths_W rfl) (pre π n) hd, rfl, keep (mem_paths_W rfl) (List.prefix_refl _) hf'⟩
  case wSet f v =>
    obtain ⟨p, rfl, hf'⟩ := hp
    exact ⟨p, rfl, keep (mem_paths_W rfl) (List.prefix_refl _) hf'⟩
  case walk cur rest k =>
    obtain ⟨π, hd, hne, hm⟩ := hp
    obtain ⟨x, hx, hpx⟩ := walkOK_path hm
    exact ⟨π, keep hx ((List.prefix_append _ _).trans hpx) hd, hne, hm⟩
  case rData f | rList f =>
    obtain ⟨p, rfl, hf'⟩ := hp
    exact ⟨p, rfl, keep (mem_paths_R rfl) (List.prefix_refl _) hf'⟩
  case rmLen o n c =>
    obtain ⟨π, hd, rfl, hc⟩ := hp
    exact ⟨π, keep (mem_paths_W rfl) (pre π n) hd, rfl, keep (mem_paths_W rfl) (List.prefix_refl _) hc⟩
  case rmDo o n =>
    obtain ⟨π, hd, hop⟩ := hp
    have hw : (π ++ [n]) ∈ op.paths := by
      rcases hop with rfl | ⟨rfl, _⟩ <;> exact mem_paths_W rfl
    exact ⟨π, keep hw (pre π n) hd, hop⟩
  case cFile d n src | cEnter d n src =>
    obtain ⟨π, s, hd, rfl, hsrc⟩ := hp
    exact ⟨π, s, keep (mem_paths_W rfl) (pre π n) hd, rfl, keep (mem_paths_R rfl) (List.prefix_refl _) hsrc⟩
  case cAdd d n c =>
    obtain ⟨π, s, hd, rfl, hpr⟩ := hp
    exact ⟨π, s, keep (mem_paths_W rfl) (pre π n) hd, rfl, hpr.frame hs hf (hL c (by simp [Pc.pending]))⟩
  case cDir d n stack =>
    obtain ⟨π, s, ρ, hd, rfl, hne, hfi, hnd⟩ := hp
    refine ⟨π, s, ρ, keep (mem_paths_W rfl) (pre π n) hd, rfl, hne, ?_, hnd⟩
    apply FramesInv.frame hs hf
      (fun π' o hπ' hr => hrel π' o (Or.inr ⟨s, by simp [Op.owned, Op.R], hπ'⟩) hr) stack none ρ _ hfi
    intro fr hfr p hp'
    apply hL
    simp only [Pc.pending, List.mem_flatMap, List.mem_map]
    exact ⟨fr, hfr, p, hp', rfl⟩

theorem pend_set {ths : List Thread} {τ : Nat} {th th' : Thread} (hth : ths[τ]? = some th)
    (hnew : ∀ b thb, b ≠ τ → ths[b]? = some thb → ∀ c ∈ th'.pc.pending, c ∉ thb.pc.pending)
    (hp : ∀ (a b : Nat) tha thb, a ≠ b → ths[a]? = some tha → ths[b]? = some thb →
      ∀ c ∈ tha.pc.pending, c ∉ thb.pc.pending) :
    ∀ (a b : Nat) tha thb, a ≠ b → (ths.set τ th')[a]? = some tha → (ths.set τ th')[b]? = some thb →
      ∀ c ∈ tha.pc.pending, c ∉ thb.pc.pending := by
  have hlt : τ < ths.length := (List.getElem?_eq_some_iff.1 hth).1
  intro a b tha thb hab ha hb c hc
  by_cases h1 : a = τ
  · subst h1
    rw [List.getElem?_set_self hlt] at ha; cases ha
    rw [List.getElem?_set_ne hab] at hb
    exact hnew b thb (fun e => hab e.symm) hb c hc
  · rw [List.getElem?_set_ne (fun e => h1 e.symm)] at ha
    by_cases h2 : b = τ
    · subst h2
      rw [List.getElem?_set_self hlt] at hb; cases hb
      exact fun hcb => hnew a tha h1 ha c hcb hc
    · rw [List.getElem?_set_ne (fun e => h2 e.symm)] at hb
      exact hp a b tha thb hab ha hb c hc

/-! ### what the undecided operation sees

The operation `i` of a `Cur` is independent of every decided one (`Cur.indep_dec`): at and below the paths it owns the
tree is the initial one (`Cur.own`), on the way to its paths nothing but directories has appeared (`Cur.pfx`). -/

theorem Hyp.ok_flat (hyp : Hyp T0 progs) {l : List Op}
    (hl : l.Sublist progs.flatten) : ∀ op ∈ l, op.ok := by
  intro op hop
  have := hl.subset hop
  rw [List.mem_flatten] at this
  obtain ⟨P, hP, hop'⟩ := this
  exact hyp.ok P hP op hop'

theorem Cur.decAll_split (hc : Cur T0 progs s τ P th i) :
    ∃ A B, decAll progs s.threads = A ++ (begun P th).dropLast ++ B ∧
      (∀ th', decAll progs (s.threads.set τ th') = A ++ decOf P th' ++ B) ∧
      (A ++ ((begun P th).dropLast ++ [i]) ++ B).Sublist progs.flatten := by
  obtain ⟨A, B, h1, h2, h3⟩ := MemFSConc.decAll_split hc.hP hc.hth
  refine ⟨A, B, by rw [h1, decOf_und hc.und], h2, ?_⟩
  rw [← begun_cur hc.cur]; exact h3 _ (List.take_sublist _ _)

theorem Cur.indep_dec (hc : Cur T0 progs s τ P th i) : ∀ j ∈ decAll progs s.threads, IndepOp i j ∧ j.ok := by
  obtain ⟨A, B, h1, _, hsub⟩ := hc.decAll_split
  intro j hj
  rw [h1] at hj
  refine ⟨pairwise_mid (fun a b h => h.symm) (hc.hyp.indep.sublist hsub) j hj, hc.hyp.ok_flat hsub j ?_⟩
  exact (((List.Sublist.refl A).append (List.sublist_append_left _ [i])).append (List.Sublist.refl B)).subset hj

/-- the operation stays undecided: the decided operations are the same -/
theorem Cur.absOK_stay (hc : Cur T0 progs s τ P th i) {h' : Heap} {pc' : Pc} {hs' : List Handle}
    (hu : pc'.undecided = true) :
    AbsOK T0 progs (s.after τ th h' pc' hs') ↔
      AbsRel (absT h') (SD T0 (decAll progs s.threads)) (Ext progs (s.threads.set τ (th.move pc' hs'))) := by
  obtain ⟨A, B, h1, h2, _⟩ := hc.decAll_split
  unfold AbsOK State.after
  rw [h2, h1, decOf_und (show (th.move pc' hs').pc.undecided = true from hu)]
  exact Iff.rfl

/-- the operation is decided: its effects may come last, as they commute with those of the decided operations that
stand behind it in the order of the programs -/
theorem Cur.absOK_decide (hc : Cur T0 progs s τ P th i) {h' : Heap} {pc' : Pc} {hs' : List Handle}
    (hu : pc'.undecided = false) :
    AbsOK T0 progs (s.after τ th h' pc' hs') ↔
      AbsRel (absT h') (runEffs (SD T0 (decAll progs s.threads)) (effOf T0 i))
        (Ext progs (s.threads.set τ (th.move pc' hs'))) := by
  obtain ⟨A, B, h1, h2, hsub⟩ := hc.decAll_split
  have key : SD T0 (A ++ ((begun P th).dropLast ++ [i]) ++ B) =
      runEffs (SD T0 (decAll progs s.threads)) (effOf T0 i) := by
    rw [h1, ← SD_snoc]
    apply SD_perm _ (hc.hyp.ok_flat hsub) (hc.hyp.indep.sublist hsub)
    simp only [List.append_assoc]
    exact (List.perm_append_comm (l₁ := [i]) (l₂ := B)).append_left _ |>.append_left _
  unfold AbsOK State.after
  rw [h2, decOf_dec (show (th.move pc' hs').pc.undecided = false from hu),
    show begun P (th.move pc' hs') = (begun P th).dropLast ++ [i] from begun_cur hc.cur, key]

theorem indep_of_threads {progs : List (List Op)} (h : progs.flatten.Pairwise IndepOp) {τ τ' : Nat} {P P' : List Op}
    {a b : Op} (hP : progs[τ]? = some P) (hP' : progs[τ']? = some P') (ha : a ∈ P) (hb : b ∈ P') (hne : τ ≠ τ') :
    IndepOp a b := by
  have hpw := (List.pairwise_flatten.1 h).2
  rw [List.pairwise_iff_getElem] at hpw
  obtain ⟨h1, rfl⟩ := List.getElem?_eq_some_iff.1 hP
  obtain ⟨h2, rfl⟩ := List.getElem?_eq_some_iff.1 hP'
  rcases Nat.lt_or_gt_of_ne hne with hlt | hlt
  · exact hpw τ τ' h1 h2 hlt a ha b hb
  · exact (hpw τ' τ h2 h1 hlt b hb a ha).symm

/-- `C` is `W.dropLast`, shorter than `W`; and a copy's source is unrelated to its destination (`Op.ok`) -/
theorem own_not_pfx_C (hok : i.ok) {x c : Path} (hx : x ∈ i.owned) (hc : i.C = some c) : ¬ x <+: c := by
  intro hxc
  cases i <;> simp only [Op.owned, Op.W, Op.R, Op.C, Option.toList, List.mem_append, List.mem_singleton,
    List.not_mem_nil, or_false, false_or, Option.some.injEq, reduceCtorEq] at hx hc
  case writeFile p v =>
    subst hx; subst hc
    have h1 := hxc.length_le
    simp only [Op.ok] at hok
    have : 0 < x.length := List.length_pos_iff.2 hok
    simp at h1; omega
  case copy s d =>
    subst hc
    simp only [Op.ok] at hok
    rcases hx with rfl | rfl
    · have h1 := hxc.length_le
      have : 0 < x.length := List.length_pos_iff.2 hok.2.1
      simp at h1; omega
    · exact hok.2.2.1 (hxc.trans (List.dropLast_prefix _))

theorem Cur.own
    (hc : Cur T0 progs s τ P th i)
    {x q : Path} (hx : x ∈ i.owned) (hq : x <+: q) : absT s.heap q = T0 q := by
  have hSD : SD T0 (decAll progs s.threads) q = T0 q :=
    SD_below (fun j hj => (hc.indep_dec j hj).2) (fun j hj => (hc.indep_dec j hj).1) hx hq
  rcases hc.sim.abs q with h1 | ⟨_, _, hext⟩
  · rw [h1, hSD]
  · -- no creating operation makes directories at or below `x`: not `i` itself, not one of another thread
    exfalso
    rcases hext.cases hc.hP hc.hth with ⟨op, c, e⟩ | ⟨τ1, P1, th1, op, c, hτ, g1, _, e⟩
    · have := e.cur; rw [hc.cur] at this; cases this
      exact own_not_pfx_C (hc.hyp.ok P (List.mem_of_getElem? hc.hP) i (curOp_mem hc.cur)) hx e.C (hq.trans e.pfx)
    · have hi : IndepOp i op := indep_of_threads hc.hyp.indep hc.hP g1 (curOp_mem hc.cur) (curOp_mem e.cur)
        (fun e => hτ e.symm)
      rcases Op.mem_owned.1 hx with hx | hx
      · exact hi.wAbove hx (mem_paths_C e.C) (hq.trans e.pfx)
      · exact hi.rOnWay hx e.C (hq.trans e.pfx)

theorem Cur.own_W (hc : Cur T0 progs s τ P th i) {w : Path} (hw : i.W = some w) : absT s.heap w = T0 w :=
  hc.own (Op.mem_owned.2 (.inl hw)) (List.prefix_refl _)

theorem Cur.own_R (hc : Cur T0 progs s τ P th i) {x : Path} (hx : i.R = some x) : absT s.heap x = T0 x :=
  hc.own (Op.mem_owned.2 (.inr hx)) (List.prefix_refl _)

theorem Cur.shape (hc : Cur T0 progs s τ P th i) : Shape s.heap := hc.sim.shape

theorem Cur.same (hc : Cur T0 progs s τ P th i) : HeapStep s.heap s.heap [] none := .refl hc.sim.shape

theorem Cur.busy
    (hc : Cur T0 progs s τ P th i) : th.pc ≠ .idle := by
  intro e; have := hc.und; rw [e] at this; cases this

theorem Cur.pfx
    (hc : Cur T0 progs s τ P th i)
    {x q : Path} (hx : x ∈ i.paths) (hq : q <+: x) :
    absT s.heap q = T0 q ∨ (T0 q = none ∧ absT s.heap q = some .dir) := by
  have hSD := SD_prefix (T := T0) (fun j hj => (hc.indep_dec j hj).2) (fun j hj => (hc.indep_dec j hj).1) hx hq
  rcases hc.sim.abs q with h1 | ⟨h1, h2, _⟩
  · rw [h1]; exact hSD
  · right
    refine ⟨?_, h2⟩
    rcases hSD with h3 | ⟨h3, _⟩
    · rw [← h3]; exact h1
    · exact h3

theorem Cur.pfx_file (hc : Cur T0 progs s τ P th i) {x q : Path} (hx : x ∈ i.paths) (hq : q <+: x) {d : Data}
    (hA : absT s.heap q = some (.file d)) : T0 q = some (.file d) := by
  rcases hc.pfx hx hq with h1 | ⟨_, h1⟩
  · rw [← h1]; exact hA
  · rw [hA] at h1; cases h1

theorem Cur.pfx_none (hc : Cur T0 progs s τ P th i) {x q : Path} (hx : x ∈ i.paths) (hq : q <+: x)
    (hA : absT s.heap q = none) : T0 q = none := by
  rcases hc.pfx hx hq with h1 | ⟨h1, _⟩
  · rw [← h1]; exact hA
  · exact h1

theorem ensure_keeps {A A' : Tree} {x : Path} (h : A' = A ∨ A' = (Eff1.ensureDir x).apply A) {q : Path} {e : Entry}
    (hq : A q = some e) : A' q = some e := by
  rcases h with rfl | rfl
  · exact hq
  · simp only [Eff1.apply]
    by_cases hqx : q = x
    · subst hqx; simp [hq]
    · simp [hqx, hq]

theorem Cur.mkdirOk
    (hc : Cur T0 progs s τ P th i) {c : Path} (hC : c ∈ i.paths)
    {A' : Tree} {x : Path} (hA : A' = absT s.heap ∨ A' = (Eff1.ensureDir x).apply (absT s.heap))
    (hd : ∀ q, q <+: c → A' q = some .dir) : FS.mkdirOk T0 c := by
  intro q hq d hT
  rcases hc.pfx hC hq with h1 | ⟨h1, _⟩
  · rw [hT] at h1
    have := ensure_keeps hA h1
    rw [hd q hq] at this; cases this
  · rw [hT] at h1; cases h1

theorem Cur.mkdirOk_parent (hc : Cur T0 progs s τ P th i) {π : Path} {d : Oid} (hd : DirAt s.heap π d)
    (hC : i.C = some π) : FS.mkdirOk T0 π :=
  hc.mkdirOk (mem_paths_C hC) (x := []) (Or.inl rfl) (fun _ hq => hd.abs_pfx hq)

theorem Cur.own_src {s0 dst : Path} (hc : Cur T0 progs s τ P th (.copy s0 dst)) {q : Path} (hq : s0 <+: q) :
    absT s.heap q = T0 q :=
  hc.own (Op.mem_owned.2 (.inr rfl)) hq

/-- `hjunk` of an operation that fails because something stands at its target `π ++ [n]` -/
theorem junk_of_target (hw : TreeWF T0) {π : Path} {n : Name} (hW : i.W = some (π ++ [n])) (hT : T0 (π ++ [n]) ≠ none)
    {c q : Path} (hC : i.C = some c) (hq : q <+: c) : T0 q ≠ none := by
  rw [Op.C_of_W hW hC, List.dropLast_concat] at hq
  rw [hw.closed.prefix_dir (hq.trans (List.prefix_append _ _)) (ne_snoc_of_prefix hq) hT]; simp

/-- `hLown`: the step links private trees of `τ` only; `hkeep`: the walks the OTHER threads' `PcInv` rest on (`Op.rel` of
an independent operation) survive; `hpend`: the private objects `τ` holds afterwards are old ones of its own or fresh,
hence still apart from the others'. -/
theorem sim_act_mk
    (hyp : Hyp T0 progs) (hs : Sim T0 progs s) (hP : progs[τ]? = some P) (hth : s.threads[τ]? = some th)
    (hcur : curOp P th = some i) (hbusy : th.pc ≠ .idle)
    {h' : Heap} {pc' : Pc} {hs' : List Handle}
    {L : List Oid} {e : Option Eff1} (hst : HeapStep s.heap h' L e) (hLown : ∀ c ∈ L, c ∈ th.pc.pending)
    (hkeep : ∀ j, IndepOp i j → ∀ π o, j.rel π → resolve s.heap 0 π = some o → resolve h' 0 π = some o)
    (hpc : PcInv T0 h' i pc')
    (hpend : ∀ c ∈ pc'.pending, c ∈ th.pc.pending ∨ s.heap.length ≤ c)
    (habs : AbsOK T0 progs (s.after τ th h' pc' hs')) : Sim T0 progs (s.after τ th h' pc' hs') := by
  unfold State.after
  have hlt : τ < s.threads.length := (List.getElem?_eq_some_iff.1 hth).1
  have hother : ∀ (τ1 : Nat) th1, τ1 ≠ τ → s.threads[τ1]? = some th1 →
      ∀ c ∈ th1.pc.pending, c < s.heap.length ∧ c ∉ th.pc.pending := by
    intro τ1 th1 hτ hth1 c hc
    have hlt1 : τ1 < progs.length := by rw [← hs.len]; exact (List.getElem?_eq_some_iff.1 hth1).1
    have old := hs.thr τ1 _ th1 (List.getElem?_eq_getElem hlt1) hth1
    obtain ⟨op, _, hpc1, _⟩ := old.busy (by intro e; rw [e] at hc; simp [Pc.pending] at hc)
    exact ⟨hpc1.pending_lt c hc, hs.pend τ1 τ th1 th hτ hth1 hth c hc⟩
  refine ⟨hst.shape, by simp [hs.len], ?_, habs, ?_⟩
  · intro τ1 P1 th1 hP1 hth1
    simp only at hth1
    by_cases hτ : τ1 = τ
    · subst hτ
      rw [List.getElem?_set_self hlt] at hth1
      cases hth1
      rw [hP] at hP1; cases hP1
      have old := hs.thr τ1 P th hP hth
      obtain ⟨op, hop, _, hres⟩ := old.busy hbusy
      rw [hcur] at hop; cases hop
      exact ⟨old.split, fun e => by rw [show pc' = .idle from e] at hpc; exact hpc.elim, fun _ => ⟨i, hcur, hpc, hres⟩⟩
    · rw [List.getElem?_set_ne (fun e => hτ e.symm)] at hth1
      have old := hs.thr τ1 P1 th1 hP1 hth1
      refine ⟨old.split, old.idle, ?_⟩
      intro hb
      obtain ⟨op, hop, hpc1, hres⟩ := old.busy hb
      refine ⟨op, hop, ?_, hres⟩
      have hind : IndepOp i op :=
        indep_of_threads hyp.indep hP hP1 (curOp_mem hcur) (curOp_mem hop) (fun e => hτ e.symm)
      refine hpc1.frame hs.shape hst.frame (fun π o hπ hr => hkeep op hind π o hπ hr) ?_
      intro c hc hcL
      exact (hother τ1 th1 hτ hth1 c hc).2 (hLown c hcL)
  · refine pend_set hth (fun b thb hb hthb c hc hcb => ?_) hs.pend
    obtain ⟨h1, h2⟩ := hother b thb hb hthb c hcb
    rcases hpend c hc with h3 | h3
    · exact h2 h3
    · exact absurd h1 (Nat.not_lt.2 h3)

/-- `Dir.Unlock()` changes at most the `outer` field of one directory -/
theorem HeapStep.unlock {h h' : Heap} {t : Tid} {d : Oid} {r : Ret} (hs : Shape h)
    (hap : applyAct h t (.outerUnlock d) = some (h', r)) : HeapStep h h' [] none := by
  rcases act_outerUnlock hap with ⟨_, rfl, _⟩ | ⟨dd, hdd, _, rfl, _⟩
  · exact .refl hs
  · exact .locks hs hdd rfl rfl

theorem absOK_decided_step
    (hs : Sim T0 progs s) (hP : progs[τ]? = some P) (hth : s.threads[τ]? = some th)
    {h' : Heap} {pc' : Pc} {hs' : List Handle}
    (hu : th.pc.undecided = false) (hu' : pc'.undecided = false) (habs : absT h' = absT s.heap) :
    AbsOK T0 progs (s.after τ th h' pc' hs') := by
  unfold AbsOK State.after
  obtain ⟨A, B, h1, h2, _⟩ := decAll_split hP hth
  have : decOf P (th.move pc' hs') = decOf P th := by
    rw [decOf_dec hu, decOf_dec (show (th.move pc' hs').pc.undecided = false from hu')]; rfl
  rw [habs, h2 (th.move pc' hs'), this, ← h1]
  exact absRel_mono hs.abs (fun q hq => ext_set_und hP hth
    (fun e => by rw [Pc.creating_undecided e] at hu; cases hu) hq)

theorem absOK_stay_step
    (hc : Cur T0 progs s τ P th i)
    {h' : Heap} {pc' : Pc} {hs' : List Handle} (hu : pc'.undecided = true)
    (hcr : th.pc.creating = true → pc'.creating = true)
    (habs : absT h' = absT s.heap) :
    AbsOK T0 progs (s.after τ th h' pc' hs') := by
  rw [hc.absOK_stay hu, habs]
  exact absRel_mono hc.sim.abs (fun q hq => ext_set_und hc.hP hc.hth (fun e => ⟨hcr e, (rfl : curOp P (th.move pc' hs') = curOp P th)⟩) hq)

theorem absOK_graft_step
    (hc : Cur T0 progs s τ P th i)
    {h' : Heap} {pc' : Pc} {hs' : List Handle} (hu : pc'.undecided = false)
    {π : Path} {n : Name} {sub : Tree} (heff : effOf T0 i = AOp.effects ⟨π ++ [n], some sub⟩)
    (hC : ∀ c, i.C = some c → c = π) (hdirs : ∀ q, q <+: π → absT s.heap q = some .dir)
    (habs : absT h' = (Eff1.graft (π ++ [n]) sub).apply (absT s.heap)) :
    AbsOK T0 progs (s.after τ th h' pc' hs') := by
  rw [hc.absOK_decide hu, heff, habs]
  apply absRel_graft hc.sim.abs sub
  · intro q _ hq hne
    have := prefix_dropLast_of_ne hq hne
    rw [List.dropLast_concat] at this
    exact hdirs q this
  · intro q hq
    rcases ext_set_dec (th' := (th.move pc' hs')) hc.hP hc.hth hc.cur hq with h2 | ⟨_, h2, c, h3, h4⟩
    · exact Or.inl h2
    · rw [hC c h3] at h4
      exact Or.inr ⟨h2, h4.trans (List.prefix_append _ _), ne_snoc_of_prefix h4⟩

/-! ### the generic steps

The defaults of `hL`, `hcr`, `hpend` hold whenever no private tree is linked and the new program counter is a literal
that holds no private object. -/

/-- the critical section a thread at `pc` enters keeps `Sim`, whatever it returns (in `Variant.fixed`: the simulation is
about the repaired lock order only).  `hs'` is arbitrary: `Sim` says nothing about handle tables (handle operations are
not simulated).  One `step_*` lemma per program counter has this form, but `step_wUnlockFin` (decided already, so without
`Cur`) and the three branches of `step_cDir`. -/
def StepOK (pc : Pc) : Prop :=
  ∀ {T0 : Tree} {progs : List (List Op)} {s : State} {τ : Nat} {P : List Op} {th : Thread} {i : Op},
    Cur T0 progs s τ P th i → th.pc = pc → PcInv T0 s.heap i pc →
    ∀ {h' : Heap} {r : Ret} {hs' : List Handle}, applyAct s.heap τ (actOf .fixed pc) = some (h', r) →
      Sim T0 progs (s.after τ th h' (resume .fixed pc r) hs')

/-- `PcInv` carried over a change that keeps all walks -/
theorem PcInv.step {h h' : Heap} {L : List Oid} {e : Option Eff1} {op : Op} {pc : Pc} (hs : Shape h)
    (hst : HeapStep h h' L e) (he : ∀ w sub, e ≠ some (.graft w sub)) (hp : PcInv T0 h op pc)
    (hL : ∀ c ∈ pc.pending, c ∉ L := by simp [Pc.pending]) : PcInv T0 h' op pc :=
  hp.frame hs hst.frame (fun _ _ _ hr => hst.mono he hr) hL

/-- undecided and the tree stays: reads, locks, allocations of private objects -/
theorem sim_stay (hc : Cur T0 progs s τ P th i) {h' : Heap} {L : List Oid} (hst : HeapStep s.heap h' L none)
    {pc' : Pc} {hs' : List Handle} (hu : pc'.undecided = true) (hpc : PcInv T0 h' i pc')
    (hL : ∀ c ∈ L, c ∈ th.pc.pending := by simp)
    (hcr : th.pc.creating = true → pc'.creating = true := by intro _; rfl)
    (hpend : ∀ c ∈ pc'.pending, c ∈ th.pc.pending ∨ s.heap.length ≤ c := by simp [Pc.pending]) :
    Sim T0 progs (s.after τ th h' pc' hs') :=
  sim_act_mk hc.hyp hc.sim hc.hP hc.hth hc.cur hc.busy hst hL
    (fun _ _ _ _ _ hr => hst.mono nofun hr) hpc hpend
    (absOK_stay_step hc hu hcr hst.abs)

/-- decided by replacing the subtree at `π ++ [n]`, its `W` path, by `sub` -/
theorem sim_graft (hc : Cur T0 progs s τ P th i) {h' : Heap} {L : List Oid} {π : Path} {n : Name} {sub : Tree}
    (hst : HeapStep s.heap h' L (some (.graft (π ++ [n]) sub))) {d : Oid} (hd : DirAt s.heap π d)
    (hsucc : succ T0 i) (haop : i.aop T0 = some ⟨π ++ [n], some sub⟩)
    {pc' : Pc} {hs' : List Handle} (hu : pc'.undecided = false) (hpc : PcInv T0 h' i pc')
    (hL : ∀ c ∈ L, c ∈ th.pc.pending := by simp)
    (hpend : ∀ c ∈ pc'.pending, c ∈ th.pc.pending ∨ s.heap.length ≤ c := by simp [Pc.pending]) :
    Sim T0 progs (s.after τ th h' pc' hs') := by
  have hW : i.W = some (π ++ [n]) := aop_graft haop rfl
  refine sim_act_mk hc.hyp hc.sim hc.hP hc.hth hc.cur hc.busy hst hL ?_ hpc hpend
    (absOK_graft_step hc hu (effOf_succ_aop hsucc haop) (fun c hC => by rw [Op.C_of_W hW hC, List.dropLast_concat])
      (fun q hq => hd.abs_pfx hq) hst.abs)
  -- no independent operation relies on a path at or below the one that is replaced
  intro j hj π' a hrel hr
  refine (hst.keep π' a hr).resolve_right ?_
  rintro ⟨w, sub', e, hpre⟩
  cases e
  rcases hrel with ⟨x, hx, hπ'⟩ | ⟨x, hx, hπ'⟩
  · exact hj.wAbove hW hx (hpre.trans hπ')
  · rcases List.prefix_or_prefix_of_prefix hpre hπ' with h | h
    · exact hj.wAbove hW (Op.owned_sub_paths hx) h
    · exact hj.wBelow hW hx h

/-- decided without effect, the heap stays: the operation failed or only read.  `hjunk`: what exists on the way it
creates directories along existed in the initial tree. -/
theorem sim_same_noeff
    (hc : Cur T0 progs s τ P th i) {pc' : Pc} {hs' : List Handle}
    (hu : pc'.undecided = false) (hpc : PcInv T0 s.heap i pc') (heff : effOf T0 i = [])
    (hjunk : th.pc.creating = true → ∀ c q, i.C = some c → q <+: c → absT s.heap q ≠ none → T0 q ≠ none)
    (hpend : ∀ c ∈ pc'.pending, c ∈ th.pc.pending ∨ s.heap.length ≤ c := by simp [Pc.pending]) :
    Sim T0 progs (s.after τ th s.heap pc' hs') := by
  refine sim_act_mk hc.hyp hc.sim hc.hP hc.hth hc.cur hc.busy
    hc.same (by simp) (fun _ _ _ _ _ hr => hr) hpc hpend ?_
  rw [hc.absOK_decide hu, heff]
  intro q
  rcases hc.sim.abs q with h1 | ⟨h1, h2, hq⟩
  · exact Or.inl h1
  · rcases ext_set_dec (th' := (th.move pc' hs')) hc.hP hc.hth hc.cur hq with h3 | ⟨hcr, _, c, h3, h4⟩
    · exact Or.inr ⟨h1, h2, h3⟩
    · -- a directory made on the way of the operation that has now failed: it was there anyway
      have hT := hjunk hcr c q h3 h4 (by rw [h2]; simp)
      have hind := hc.indep_dec
      rcases SD_prefix (T := T0) (fun j hj => (hind j hj).2) (fun j hj => (hind j hj).1) (mem_paths_C h3) h4
        with h | ⟨h, _⟩
      · rw [h] at h1; exact absurd h1 hT
      · exact absurd h hT

theorem sim_fin (hc : Cur T0 progs s τ P th i) {r : Res} {hs' : List Handle} (hres : ResOK T0 i r)
    (heff : effOf T0 i = []) (hC : i.C = none) : Sim T0 progs (s.after τ th s.heap (.fin r) hs') :=
  sim_same_noeff hc rfl hres heff (fun _ c q h => by rw [hC] at h; cases h)

theorem sim_mkOn
    (hc : Cur T0 progs s τ P th i) {h' : Heap} {hs' : List Handle} {e : Option Eff1}
    {π : Path} {n : Name} {rest : Path} {k : MK} {o : Oid}
    (hst : HeapStep s.heap h' [] e) (he : e = none ∨ e = some (.ensureDir (π ++ [n])))
    (hcr0 : th.pc.creating = true)
    (hm : MkOK s.heap i (π ++ n :: rest) k) (hd' : DirAt h' (π ++ [n]) o) :
    Sim T0 progs (s.after τ th h' (mkOn o rest k) hs') := by
  have hkeep : ∀ π o, resolve s.heap 0 π = some o → resolve h' 0 π = some o :=
    fun _ _ hr => hst.mono (by rcases he with rfl | rfl <;> nofun) hr
  have habs : absT h' = absT s.heap ∨ absT h' = (Eff1.ensureDir (π ++ [n])).apply (absT s.heap) := by
    rcases he with rfl | rfl
    · exact .inl hst.abs
    · exact .inr hst.abs
  have hC := mkOK_C hm
  have hm' : MkOK h' i (π ++ n :: rest) k := hm.frame hc.shape hst.frame.kind (fun π o _ hr => hkeep π o hr)
  have hxc : (π ++ [n]) <+: (π ++ n :: rest) := snoc_pfx π n rest
  have hxne : π ++ [n] ≠ [] := by simp
  have hstay : ∀ pc', pc'.undecided = true → pc'.creating = true → AbsOK T0 progs (s.after τ th h' pc' hs') := by
    intro pc' hu hcr
    rcases habs with h | h
    · exact absOK_stay_step hc hu (fun _ => hcr) h
    · rw [hc.absOK_stay hu, h]
      exact absRel_mono (absRel_ensure hc.sim.abs (ext_of_cur hc.hP hc.hth hcr0 hc.cur hC hxc hxne))
        (fun q hq => ext_set_und hc.hP hc.hth (fun _ => ⟨hcr, (rfl : curOp P (th.move pc' hs') = curOp P th)⟩) hq)
  -- at its uses the three `rfl` are `pending = []`, `undecided`, `creating` of the literal program counter
  have hmk : ∀ pc', PcInv T0 h' i pc' → pc'.pending = [] → pc'.undecided = true → pc'.creating = true →
      Sim T0 progs (s.after τ th h' pc' hs') := by
    intro pc' hpc hpe hu hcr
    exact sim_act_mk hc.hyp hc.sim hc.hP hc.hth hc.cur hc.busy hst (by simp) (fun _ _ π o _ hr => hkeep π o hr)
      hpc (by simp [hpe]) (hstay pc' hu hcr)
  cases rest with
  | cons m rest' =>
    exact hmk (.mk o (m :: rest') k)
      ⟨π ++ [n], hd', by simp, by simpa [List.append_assoc] using hm'⟩ rfl rfl rfl
  | nil =>
    cases k with
    | done =>
      simp only [MkOK] at hm
      subst hm
      have hdirs : ∀ q, q <+: π ++ [n] → absT h' q = some .dir := fun q hq => hd'.abs_pfx hq
      have hsucc : succ T0 (.mkdirAll (π ++ [n])) :=
        hc.mkdirOk (mem_paths_C rfl) habs hdirs
      have hpc : PcInv T0 h' (.mkdirAll (π ++ [n])) (.fin .ok) := Or.inl ⟨hsucc, rfl⟩
      refine sim_act_mk (pc' := .fin .ok) hc.hyp hc.sim hc.hP hc.hth hc.cur hc.busy hst (by simp)
        (fun _ _ π o _ hr => hkeep π o hr) hpc (by simp [Pc.pending]) ?_
      -- `MkdirAll` is decided (with or without having made the last directory in this step)
      rw [hc.absOK_decide rfl, effOf_succ_aop hsucc rfl]
      have h1 : AbsRel (absT h') (SD T0 (decAll progs s.threads)) (Ext progs s.threads) := by
        rcases habs with h | h
        · rw [h]; exact hc.sim.abs
        · rw [h]
          exact absRel_ensure hc.sim.abs (ext_of_cur hc.hP hc.hth hcr0 hc.cur rfl (List.prefix_refl _) hxne)
      refine absRel_mk h1 hxne hdirs fun q h4 => ?_
      rcases ext_set_dec (th' := (th.move (.fin .ok) hs')) hc.hP hc.hth hc.cur h4 with h5 | ⟨_, h5, c, h6, h7⟩
      · exact .inl h5
      · cases h6
        exact .inr ⟨h5, h7⟩
    | write m v =>
      exact hmk (.wLock o m v) ⟨π ++ [n], hd', hm'⟩ rfl rfl rfl
    | openW _ _ => exact absurd hm (by simp [MkOK])
    | copyDst m src isDir =>
      obtain ⟨s0, hop, hr, hk⟩ := hm'
      cases isDir with
      | true => exact hmk (.cEnter o m src) ⟨π ++ [n], s0, hd', hop, hr, hk⟩ rfl rfl rfl
      | false => exact hmk (.cFile o m src) ⟨π ++ [n], s0, hd', hop, hr, hk⟩ rfl rfl rfl

theorem sim_mk_blocked
    (hc : Cur T0 progs s τ P th i) {hs' : List Handle}
    {π : Path} {n : Name} {rest : Path} {k : MK} {o c : Oid}
    (hm : MkOK s.heap i (π ++ n :: rest) k) (hd : DirAt s.heap π o) (he : edge s.heap o n = some c)
    (hk : kindOf s.heap c = false) :
    Sim T0 progs (s.after τ th s.heap (.fin .err) hs') := by
  have hC := mkOK_C hm
  have hf := hd.child_file hc.shape he hk
  obtain ⟨dat, hdat⟩ := hf.abs
  have hxc : (π ++ [n]) <+: (π ++ n :: rest) := snoc_pfx π n rest
  have hT : T0 (π ++ [n]) = some (.file dat) := hc.pfx_file (mem_paths_C hC) hxc hdat
  have hnot : ¬ FS.mkdirOk T0 (π ++ n :: rest) := fun hok => hok _ hxc dat hT
  have hns : ¬ succ T0 i := fun h => hnot ((succ_mkdirOk hC).1 h)
  refine sim_same_noeff hc rfl ((succ_mkdirOk hC).2 hns) (effOf_fail hns) ?_
  intro _ c' q hc' hq hA
  rw [hC] at hc'; cases hc'
  rcases List.prefix_or_prefix_of_prefix hq hxc with h1 | h1
  · by_cases e : q = π ++ [n]
    · rw [e, hT]; simp
    · rw [hc.hyp.wf.closed.prefix_dir h1 e (by rw [hT]; simp)]; simp
  · by_cases e : q = π ++ [n]
    · rw [e, hT]; simp
    · exfalso
      obtain ⟨r, rfl⟩ := h1
      have hr : r ≠ [] := by intro e'; apply e; simp [e']
      have := (absT_closed _).anc_dir (π ++ [n]) r hr hA
      rw [hdat] at this; cases this

end Goat.MemFSConc
