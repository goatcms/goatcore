/-
`StreamCopy`, `Copy`, `Copier.Do` of `Goat/Model/Stream.lean`.  Progress is measured by `Toward T S S'`: successful
`MkdirAll`s and stream copies of items of the source move the destination `Toward` the overlay of the source on the
old destination and make the item's own path final, under ANY plan and ANY visiting order covering the source.
-/
import Goat.Proofs.StreamHandle
import Goat.Proofs.Lists

namespace Goat
namespace Stream

open FS (Entry State)

theorem put_same (S : State) (p : Path) (d : Bytes) : put S p d p = some (.file d) := by simp [put]
theorem put_other (S : State) (p q : Path) (d : Bytes) (h : q ≠ p) : put S p d q = S q := by simp [put, h]
theorem put_put (S : State) (p : Path) (d e : Bytes) : put (put S p d) p e = put S p e := by
  funext q; simp only [put]; split <;> rfl

theorem mem_prefixes (p q : Path) : q ∈ prefixes p ↔ q <+: p := by
  simp only [prefixes, List.mem_map, List.mem_range]
  constructor
  · rintro ⟨i, _, rfl⟩; exact List.take_prefix i p
  · intro h
    refine ⟨q.length, ?_, (List.prefix_iff_eq_take.mp h).symm⟩
    have := h.length_le; omega

theorem isFileB_iff (e : Option Entry) : isFileB e = true ↔ ∃ d, e = some (.file d) := by
  cases e with
  | none => simp [isFileB]
  | some x => cases x <;> simp [isFileB]

theorem isDirB_iff (e : Option Entry) : isDirB e = true ↔ e = some .dir := by
  cases e with
  | none => simp [isDirB]
  | some x => cases x <;> simp [isDirB]

theorem mkdirOkB_iff (S : State) (p : Path) : mkdirOkB S p = true ↔ FS.mkdirOk S p := by
  simp only [mkdirOkB, List.all_eq_true, mem_prefixes, FS.mkdirOk, Bool.not_eq_true']
  constructor
  · intro h q hq d hd
    have := h q hq
    rw [hd] at this; simp [isFileB] at this
  · intro h q hq
    cases hS : S q with
    | none => rfl
    | some e =>
      cases e with
      | dir => rfl
      | file d => exact absurd hS (h q hq d)

theorem mkdirSt_strictly_below (S : State) (p q : Path) (hq : q ≠ []) : FS.mkdirSt S p (p ++ q) = S (p ++ q) := by
  refine if_neg fun h => hq ?_
  have := h.length_le
  rw [List.length_append] at this
  exact List.length_eq_zero_iff.mp (by omega)

/-- the state a writer is opened in: memory has created the parents -/
def openBase (D : Dest) (p : Path) : State :=
  match D.kind with
  | .mem => FS.mkdirSt D.st p.dropLast
  | .disk => D.st

theorem openWriter_some (D : Dest) (p : Path) (d1 : Dest) (w : WHandle) (h : D.openWriter p = some (d1, w)) :
    D.canOpen p = true ∧ w = WHandle.open D.kind (fileData (D.st p))
      ∧ d1.kind = D.kind ∧ d1.st = put (openBase D p) p [] := by
  unfold Dest.openWriter at h
  split at h
  · next hc =>
    obtain ⟨rfl, rfl⟩ := h
    refine ⟨hc, rfl, rfl, ?_⟩
    simp only [openBase, (open_appending _ _).2]
    cases D.kind <;> rfl
  · cases h

theorem canOpen_iff (D : Dest) (p : Path) :
    D.canOpen p = true ↔ p ≠ [] ∧ D.st p ≠ some .dir ∧
      (match D.kind with
       | .mem => FS.mkdirOk D.st p.dropLast
       | .disk => D.st p.dropLast = some .dir) := by
  unfold Dest.canOpen
  cases hk : D.kind <;>
    simp only [Bool.and_eq_true, Bool.not_eq_true', ne_eq, mkdirOkB_iff, isDirB_iff,
      Bool.eq_false_iff, and_assoc, List.isEmpty_iff]

theorem put_openBase_off (D : Dest) (p q : Path) (d : Bytes) (hq : ¬ q <+: p) :
    put (openBase D p) p d q = D.st q := by
  have hqp : q ≠ p := fun e => hq (e ▸ List.prefix_refl _)
  rw [put_other _ _ _ _ hqp]
  unfold openBase
  cases D.kind
  · exact if_neg fun h => hq (h.trans (List.dropLast_prefix p))
  · rfl

theorem writer_some (D D' : Dest) (p : Path) (chunks : List Bytes) (h : D.writer p chunks = some D') :
    D'.kind = D.kind ∧ D'.st = put (openBase D p) p chunks.flatten := by
  unfold Dest.writer at h
  split at h
  · cases h
  · next d1 w ho =>
    cases h
    obtain ⟨_, hw, hk, hst⟩ := openWriter_some D p d1 w ho
    refine ⟨hk, ?_⟩
    simp only [Dest.store, hw, open_writes_content, hst, put_put]

theorem openWriter_of_canOpen (D : Dest) (p : Path) (h : D.canOpen p = true) :
    ∃ d1 w, D.openWriter p = some (d1, w) := by
  unfold Dest.openWriter; rw [if_pos h]; exact ⟨_, _, rfl⟩

theorem mkdirAll_some (D d : Dest) (p : Path) (h : D.mkdirAll p = some d) :
    mkdirOkB D.st p = true ∧ d.kind = D.kind ∧ d.st = FS.mkdirSt D.st p := by
  unfold Dest.mkdirAll at h
  split at h
  · next hc => simp only [Option.some.injEq] at h; subst h; exact ⟨hc, rfl, rfl⟩
  · cases h

theorem mkdirStep_ok (pl : Plan) (c : Calls) (dst : Dest) (p : Path) (hok : (mkdirStep pl c dst p).ok = true) :
    (mkdirStep pl c dst p).dst.st = FS.mkdirSt dst.st p := by
  unfold mkdirStep at hok ⊢
  split at hok
  · simp at hok
  · split at hok
    · simp at hok
    · next d hd => exact (mkdirAll_some dst d p hd).2.2

theorem mkdirStep_noFault (c : Calls) (dst : Dest) (p : Path) (h : mkdirOkB dst.st p = true) :
    (mkdirStep noFault c dst p).ok = true := by
  unfold mkdirStep
  simp only [noFault, Dest.mkdirAll, if_pos h]

theorem faultyCloseW_ok (pl : Plan) (c : Calls) (w : WHandle) (h : (faultyCloseW pl c w).1 = true) :
    (faultyCloseW pl c w).2.2 = w := by
  unfold faultyCloseW at h ⊢
  split <;> simp_all

theorem faultyCloseW_noFault (c : Calls) (w : WHandle) : faultyCloseW noFault c w = (true, c.bump .closeWriter, w) := rfl

theorem streamCopy2_ok (pl : Plan) (sizes : List Nat) (c : Calls) (src : Src) (sp : Path) (dst : Dest)
    (dp : Path) (hok : (streamCopy2 pl sizes c src sp dst dp).ok = true) :
    ∃ d, src.st sp = some (.file d) ∧ dst.canOpen dp = true
      ∧ (streamCopy2 pl sizes c src sp dst dp).dst.st = put (openBase dst dp) dp d := by
  -- stage by stage through the helper: every exit but the last reports an error
  generalize ho : streamCopy2 pl sizes c src sp dst dp = o at hok
  unfold streamCopy2 at ho
  split at ho
  · -- `Reader(sp)` fails by the plan
    subst ho; simp at hok
  · split at ho
    · next content hsrc0 =>
      simp only at ho
      split at ho
      · -- `Writer(dp)` fails by the plan
        subst ho; simp at hok
      · split at ho
        · -- the destination's writer cannot be opened
          subst ho; simp at hok
        · next d1 w hopen =>
          obtain ⟨hcan, hw, _, hst⟩ := openWriter_some dst dp d1 w hopen
          cases content with
          | none =>
            -- a directory opened as a reader: the first `Read` fails
            subst ho; simp at hok
          | some d =>
          have hsrc : src.st sp = some (.file d) := by
            unfold Src.openReader at hsrc0
            split at hsrc0
            · next d' h => simp only [Option.some.injEq] at hsrc0; subst hsrc0; exact h
            · split at hsrc0 <;> simp at hsrc0
            · simp at hsrc0
          simp only at ho
          split at ho
          · -- `io.Copy` reports an error
            subst ho; simp at hok
          · next hcopy =>
            -- `io.Copy` succeeded: the writer holds the source's bytes
            have hcont : (ioCopy pl sizes ((c.bump .openReader).bump .openWriter)
                (RHandle.open src.style d) w).ok = true := by simpa using hcopy
            rw [hw] at hcont
            replace hcont := ioCopy_open_ok_content pl sizes _ _ d _ _ hcont
            rw [← hw] at hcont
            split at ho
            · -- the writer's `Close` fails
              subst ho; simp at hok
            · next hcw =>
              -- the writer's `Close` succeeded: nothing was lost
              have hcw' := faultyCloseW_ok pl _ _ (by simpa using hcw)
              split at ho
              · -- the reader's `Close` fails
                subst ho; simp at hok
              · subst ho
                exact ⟨d, hsrc, hcan, by simp only [Dest.store, hcw', hcont, hst, put_put]⟩
    · -- the source cannot be opened
      subst ho; simp at hok

theorem streamCopy2_complete (pl : Plan) (sizes : List Nat) (c : Calls) (src : Src) (sp : Path) (dst : Dest)
    (dp : Path) (hok : (streamCopy2 pl sizes c src sp dst dp).ok = true) :
    ∃ d, src.st sp = some (.file d) ∧ (streamCopy2 pl sizes c src sp dst dp).dst.st dp = some (.file d)
      ∧ ∀ q, ¬ q <+: dp → (streamCopy2 pl sizes c src sp dst dp).dst.st q = dst.st q := by
  obtain ⟨d, hs, _, hst⟩ := streamCopy2_ok pl sizes c src sp dst dp hok
  rw [hst]
  exact ⟨d, hs, put_same _ _ _, fun q hq => put_openBase_off dst dp q d hq⟩

theorem streamCopy2_noFault (sizes : List Nat) (c : Calls) (src : Src) (sp : Path) (dst : Dest) (dp : Path)
    (d : Bytes) (hsrc : src.st sp = some (.file d)) (hcan : dst.canOpen dp = true) :
    (streamCopy2 noFault sizes c src sp dst dp).ok = true := by
  obtain ⟨d1, w, hopen⟩ := openWriter_of_canOpen dst dp hcan
  have hor : src.openReader sp = some (some d) := by unfold Src.openReader; rw [hsrc]
  unfold streamCopy2
  simp only [hor, hopen, faultyCloseW_noFault]
  simp only [noFault]
  rw [ioCopy_noFault_ok sizes _ _ w (open_ok _ _)]
  simp

/-- every path holds what it held before or what the target wants -/
def Toward (T S S' : State) : Prop := ∀ x, S' x = S x ∨ S' x = T x

theorem Toward.refl (T S : State) : Toward T S S := fun _ => Or.inl rfl

theorem Toward.trans {T S S' S'' : State} (h1 : Toward T S S') (h2 : Toward T S' S'') : Toward T S S'' := by
  intro x
  rcases h2 x with h | h
  · rcases h1 x with h' | h'
    · exact Or.inl (h.trans h')
    · exact Or.inr (h.trans h')
  · exact Or.inr h

theorem Toward.stable {T S S' : State} (h : Toward T S S') (x : Path) (hx : S x = T x) : S' x = T x := by
  rcases h x with h' | h'
  · exact h'.trans hx
  · exact h'

theorem toward_mkdirSt (T S : State) (t : Path) (h : ∀ x, x <+: t → T x = some .dir) :
    Toward T S (FS.mkdirSt S t) := by
  intro x
  simp only [FS.mkdirSt]
  split
  · next hx => exact Or.inr (h x hx).symm
  · exact Or.inl rfl

theorem toward_put (T S : State) (p : Path) (d : Bytes) (h : T p = some (.file d)) : Toward T S (put S p d) := by
  intro x
  simp only [put]
  split
  · next hx => subst hx; exact Or.inr h.symm
  · exact Or.inl rfl

theorem toward_openBase (T : State) (D : Dest) (p : Path) (h : ∀ x, x <+: p.dropLast → T x = some .dir) :
    Toward T D.st (openBase D p) := by
  unfold openBase
  cases D.kind
  · exact toward_mkdirSt T D.st _ h
  · exact Toward.refl T D.st

/-- what `onItem_ok` needs to know of the target `T` about one item -/
structure ItemOK (T : State) (src : Src) (sb db : Path) (it : Item) : Prop where
  anc : ∀ x, x <+: db ++ it.2 → x ≠ db ++ it.2 → T x = some .dir
  dir : it.1 = true → T (db ++ it.2) = some .dir
  file : it.1 = false → T (db ++ it.2) = src.st (sb ++ it.2)

theorem ItemOK.dirs {T : State} {src : Src} {sb db p : Path} (hit : ItemOK T src sb db (true, p)) :
    ∀ x, x <+: db ++ p → T x = some .dir := by
  intro x hx
  by_cases e : x = db ++ p
  · rw [e]; exact hit.dir rfl
  · exact hit.anc x hx e

theorem ItemOK.parent {T : State} {src : Src} {sb db p : Path} (hit : ItemOK T src sb db (false, p)) (hp : p ≠ []) :
    (db ++ p).dropLast = db ++ p.dropLast ∧ ∀ x, x <+: db ++ p.dropLast → T x = some .dir := by
  have hdl : (db ++ p).dropLast = db ++ p.dropLast := List.dropLast_append_of_ne_nil hp
  refine ⟨hdl, fun x hx => ?_⟩
  rw [← hdl] at hx
  exact hit.anc x (hx.trans (List.dropLast_prefix _)) (ne_of_prefix_dropLast (by simp [hp]) hx)

theorem onItem_ok (pl : Plan) (sizes : List Nat) (src : Src) (sb db : Path) (c : Calls) (dst : Dest) (it : Item)
    (T : State) (hit : ItemOK T src sb db it) (hok : (onItem pl sizes src sb db c dst it).ok = true) :
    Toward T dst.st (onItem pl sizes src sb db c dst it).dst.st
      ∧ (onItem pl sizes src sb db c dst it).dst.st (db ++ it.2) = T (db ++ it.2) := by
  obtain ⟨b, p⟩ := it
  cases b with
  | true =>
    simp only [onItem] at hok ⊢
    rw [mkdirStep_ok pl c dst (db ++ p) hok]
    refine ⟨toward_mkdirSt T dst.st _ hit.dirs, ?_⟩
    · simp only [FS.mkdirSt, List.prefix_refl, if_true]
      exact (hit.dir rfl).symm
  | false =>
    simp only [onItem] at hok ⊢
    by_cases hm : (mkdirStep pl c dst (db ++ p.dropLast)).ok = true
    · rw [if_pos hm] at hok ⊢
      have hst1 := mkdirStep_ok pl c dst (db ++ p.dropLast) hm
      obtain ⟨d, hsrc, hcan, hst2⟩ := streamCopy2_ok pl sizes _ src (sb ++ p) _ (db ++ p) hok
      -- the item is not the root: the writer could not have been opened on the directory just made
      have hp : p ≠ [] := by
        rintro rfl
        refine ((canOpen_iff _ _).mp hcan).2.1 ?_
        rw [hst1]
        simp [FS.mkdirSt]
      obtain ⟨hdl, hanc⟩ := hit.parent hp
      have hT : T (db ++ p) = some (.file d) := by rw [hit.file rfl]; exact hsrc
      rw [hst2]
      refine ⟨?_, ?_⟩
      · refine Toward.trans (?_ : Toward T dst.st (mkdirStep pl c dst (db ++ p.dropLast)).dst.st) ?_
        · rw [hst1]; exact toward_mkdirSt T dst.st _ hanc
        · refine Toward.trans (toward_openBase T _ (db ++ p) ?_) (toward_put T _ _ d hT)
          rw [hdl]; exact hanc
      · rw [put_same, hT]
    · rw [if_neg hm] at hok; exact absurd hok hm

theorem copyItems_ok (pl : Plan) (sizes : List Nat) (src : Src) (sb db : Path) (extra : Nat) (T : State)
    (items : List Item) (c : Calls) (dst : Dest) (hits : ∀ it ∈ items, ItemOK T src sb db it)
    (hok : (copyItems pl sizes src sb db extra items c dst).ok = true) :
    Toward T dst.st (copyItems pl sizes src sb db extra items c dst).dst.st
      ∧ ∀ it ∈ items, (copyItems pl sizes src sb db extra items c dst).dst.st (db ++ it.2) = T (db ++ it.2) := by
  induction items generalizing c dst with
  | nil => simp only [copyItems]; exact ⟨Toward.refl T _, by simp⟩
  | cons it rest ih =>
    simp only [copyItems] at hok ⊢
    by_cases h1 : (onItem pl sizes src sb db c dst it).ok = true
    · rw [if_pos h1] at hok ⊢
      obtain ⟨ht, hdone⟩ := onItem_ok pl sizes src sb db c dst it T (hits it (List.mem_cons_self ..)) h1
      obtain ⟨ht', hdone'⟩ := ih _ _ (fun x hx => hits x (List.mem_cons_of_mem _ hx)) hok
      refine ⟨ht.trans ht', fun x hx => ?_⟩
      rcases List.mem_cons.mp hx with rfl | hx
      · exact ht'.stable _ hdone
      · exact hdone' x hx
    · rw [if_neg h1] at hok; simp at hok

/-- a `Copy` that returned nil had no failing listing: it is `copyItems` on the same order -/
theorem treeCopy_ok (pl : Plan) (sizes : List Nat) (extra : Nat) (c : Calls) (src : Src) (sb : Path) (dst : Dest)
    (db : Path) (order : List Item) (hok : (treeCopy pl sizes extra c src sb dst db order).ok = true) :
    ∃ c', treeCopy pl sizes extra c src sb dst db order = copyItems pl sizes src sb db extra order c' dst := by
  unfold treeCopy at hok ⊢
  simp only at hok ⊢
  split
  · next h => rw [if_pos h] at hok; simp at hok
  · exact ⟨_, rfl⟩

/-- the source subtree `srcv` laid over `S0` at `db` -/
def overlay (srcv : State) (db : Path) (S0 : State) : State :=
  fun x => if db <+: x then
      match srcv (x.drop db.length) with
      | some e => some e
      | none => S0 x
    else S0 x

theorem overlay_under (srcv : State) (db q : Path) (S0 : State) :
    overlay srcv db S0 (db ++ q) = match srcv q with | some e => some e | none => S0 (db ++ q) := by
  simp [overlay]

theorem overlay_outside (srcv : State) (db x : Path) (S0 : State) (h : ¬ db <+: x) :
    overlay srcv db S0 x = S0 x := by
  simp [overlay, h]

theorem overlay_node (srcv : State) (db q : Path) (S0 : State) (h : srcv q ≠ none) :
    overlay srcv db S0 (db ++ q) = srcv q := by
  rw [overlay_under]
  cases hs : srcv q with
  | none => exact absurd hs h
  | some e => rfl

theorem overlay_hole (srcv : State) (db q : Path) (S0 : State) (h : srcv q = none) :
    overlay srcv db S0 (db ++ q) = S0 (db ++ q) := by
  rw [overlay_under, h]

/-- the visiting order hands out exactly the nodes of the source view `srcv` below its root -/
structure Visits (srcv : State) (order : List Item) : Prop where
  sound : ∀ it ∈ order, it.2 ≠ [] ∧ srcv it.2 ≠ none ∧ (it.1 = true → srcv it.2 = some .dir)
    ∧ ∀ q, q <+: it.2 → q ≠ it.2 → srcv q = some .dir
  cover : ∀ q e, q ≠ [] → srcv q = some e → (e.isDir, q) ∈ order

/-- the hypotheses under which a successful `treeCopy` reaches the overlay -/
structure CopyPre (srcv : State) (db : Path) (S0 : State) (order : List Item) : Prop where
  root : ∀ x, x <+: db → S0 x = some .dir
  srcRoot : srcv [] = some .dir
  visits : Visits srcv order

/-- the overlay is a target for which every visited item is `ItemOK`: above `db` by `CopyPre.root`, at `db` by
`srcRoot`, inside by `Visits.sound` -/
theorem itemOK_overlay (src : Src) (sb db : Path) (S0 : State) (order : List Item)
    (hpre : CopyPre (fun q => src.st (sb ++ q)) db S0 order) (it : Item) (hit : it ∈ order) :
    ItemOK (overlay (fun q => src.st (sb ++ q)) db S0) src sb db it := by
  obtain ⟨_, hsome, hdir, hanc⟩ := hpre.visits.sound it hit
  refine ⟨?_, ?_, ?_⟩
  · intro x hx hxne
    rcases List.prefix_or_prefix_of_prefix hx (List.prefix_append db it.2) with h | h
    · by_cases hd : db <+: x
      · have : x = db := by
          have h1 := h.length_le; have h2 := hd.length_le
          exact (List.IsPrefix.eq_of_length_le hd (by omega)).symm
        subst this
        have := overlay_under (fun q => src.st (sb ++ q)) x [] S0
        rw [List.append_nil] at this
        rw [this]
        simp only [hpre.srcRoot]
      · rw [overlay_outside _ _ _ _ hd]; exact hpre.root x h
    · obtain ⟨q, rfl⟩ := h
      have hq : q <+: it.2 := (List.prefix_append_right_inj db).mp hx
      have hqne : q ≠ it.2 := fun e => hxne (by rw [e])
      rw [overlay_under]
      simp only [hanc q hq hqne]
  · intro hb
    rw [overlay_under]
    simp only [hdir hb]
  · intro _
    rw [overlay_under]
    cases h : src.st (sb ++ it.2) with
    | none => exact absurd h hsome
    | some e => rfl

theorem treeCopy_ok_overlay (pl : Plan) (sizes : List Nat) (extra : Nat) (c : Calls) (src : Src) (sb : Path)
    (dst : Dest) (db : Path) (order : List Item)
    (hpre : CopyPre (fun q => src.st (sb ++ q)) db dst.st order)
    (hok : (treeCopy pl sizes extra c src sb dst db order).ok = true) :
    (treeCopy pl sizes extra c src sb dst db order).dst.st = overlay (fun q => src.st (sb ++ q)) db dst.st := by
  obtain ⟨c', he⟩ := treeCopy_ok pl sizes extra c src sb dst db order hok
  rw [he] at hok ⊢
  obtain ⟨ht, hdone⟩ := copyItems_ok pl sizes src sb db extra _ order c' dst
    (fun it hit => itemOK_overlay src sb db dst.st order hpre it hit) hok
  funext x
  -- a path that still holds its old value is no node of the source (there the overlay is the old value), or a visited
  -- node, which `copyItems_ok` made final; the root is the one node never visited: a directory on both sides
  rcases ht x with h | h
  · by_cases hd : db <+: x
    · obtain ⟨q, rfl⟩ := hd
      rw [overlay_under]
      cases hs : src.st (sb ++ q) with
      | none => exact h
      | some e =>
        by_cases hq : q = []
        · subst hq
          have hr : src.st (sb ++ []) = some .dir := hpre.srcRoot
          rw [hr] at hs
          simp only [Option.some.injEq] at hs
          subst hs
          rw [h]
          simp only [List.append_nil]
          exact hpre.root db (List.prefix_refl db)
        · have hmem := hpre.visits.cover q e hq hs
          have := hdone _ hmem
          rw [overlay_under] at this
          simp only [hs] at this
          exact this
    · rw [overlay_outside _ _ _ _ hd]; exact h
  · exact h

theorem copyPre_of_dir (src : Src) (sb db : Path) (S0 : State) (order : List Item)
    (hroot : ∀ x, x <+: db → S0 x = some .dir) (h : src.st sb = some .dir)
    (hv : Visits (fun q => src.st (sb ++ q)) order) : CopyPre (fun q => src.st (sb ++ q)) db S0 order :=
  ⟨hroot, by rwa [List.append_nil], hv⟩

theorem copierDo_file (pl : Plan) (sizes : List Nat) (extra : Nat) (c : Calls) (src : Src) (sp : Path)
    (dst : Dest) (dp : Path) (order : List Item) (d : Bytes) (h : src.st sp = some (.file d)) :
    copierDo pl sizes extra c src sp dst dp order = streamCopy2 pl sizes c src sp dst dp := by
  unfold copierDo; rw [h]

theorem copierDo_dir_ok (pl : Plan) (sizes : List Nat) (extra : Nat) (c : Calls) (src : Src) (sp : Path)
    (dst : Dest) (dp : Path) (order : List Item) (h : src.st sp = some .dir)
    (hv : Visits (fun q => src.st (sp ++ q)) order)
    (hok : (copierDo pl sizes extra c src sp dst dp order).ok = true) :
    (copierDo pl sizes extra c src sp dst dp order).dst.st
        = overlay (fun q => src.st (sp ++ q)) dp (FS.mkdirSt dst.st dp) := by
  unfold copierDo at hok ⊢
  rw [h] at hok ⊢
  simp only at hok ⊢
  split at hok
  · simp at hok
  · by_cases hm : (mkdirStep pl (c.bump .srcView) dst dp).ok = true
    · rw [if_pos hm] at hok ⊢
      have hst1 := mkdirStep_ok pl _ dst dp hm
      split at hok
      · simp at hok
      · rw [treeCopy_ok_overlay pl sizes extra _ src sp _ dp order
          (hst1 ▸ copyPre_of_dir src sp dp _ order (fun _ hx => if_pos hx) h hv) hok, hst1]
    · rw [if_neg hm] at hok; exact absurd hok hm

end Stream
end Goat
