/-
Consequences of the refinement (`step_refines`, `world_step_ok`) in the words of the property: the sentences of C01
for one call through any handle, and `world_read_after_write` for two calls of a history.
-/
import Goat.Proofs.MemFSRun

namespace Goat
namespace MemFS

open Path (Name split join reduceAbsPath norm Reduced Plain NoSlash dotSeg slash)
open FS (Entry State Result Mut CopyKind Op)
open MemAbs

/-- `hS`: unfold `FS.Step` at the call -/
theorem step_mut (ref : FSRef) (b : List Name) (hv : ViewOK ref b) (t : Node) (ht : Inv t) (op : Op)
    {pre : Prop} {post : State}
    (hS : ∀ {r S'}, FS.Step b (abs t) op r S' → Mut pre post (abs t) r S') :
    ((step ref t op).2 = .ok ↔ pre)
    ∧ ((step ref t op).2 = .ok → abs (step ref t op).1 = post)
    ∧ ((step ref t op).2 ≠ .ok → (step ref t op).1 = t) := by
  have h := step_refines ref b hv t ht op
  have h1 := hS h.spec
  exact ⟨h1.ok_iff, fun hok => (h1.ok hok).2, fun hne => h.err_same (h1.not_ok hne)⟩

theorem write_post (ref : FSRef) (b : List Name) (hv : ViewOK ref b) (t : Node) (ht : Inv t)
    (raw data : Bytes) (p : List Name) (hn : norm raw = some p)
    (hok : (step ref t (.writeFile raw data)).2 = .ok) :
    abs (step ref t (.writeFile raw data)).1 = FS.writeSt (abs t) (b ++ p) data :=
  (step_mut ref b hv t ht _ fun h => by simpa only [FS.Step, hn] using h).2.1 hok

theorem step_writer (ref : FSRef) (t : Node) (raw : Bytes) (chunks : List Bytes) :
    step ref t (.writer raw chunks) = step ref t (.writeFile raw chunks.flatten) := by
  cases ref with
  | root => exact writer_eq t raw chunks
  | wrap base =>
    dsimp only [step, Wrap.writer, Wrap.writeFile, Wrap.on1]
    cases reduceAbsPath raw with
    | none => rfl
    | some p => exact writer_eq t _ chunks

theorem writer_post (ref : FSRef) (b : List Name) (hv : ViewOK ref b) (t : Node) (ht : Inv t)
    (raw : Bytes) (chunks : List Bytes) (p : List Name) (hn : norm raw = some p)
    (hok : (step ref t (.writer raw chunks)).2 = .ok) :
    abs (step ref t (.writer raw chunks)).1 = FS.writeSt (abs t) (b ++ p) chunks.flatten := by
  rw [step_writer] at hok ⊢
  exact write_post ref b hv t ht raw _ p hn hok

/-- below a non-root path of a view the root filespace's own "not the root" test is implied -/
theorem nonroot_and {b p : List Name} {Q : Prop} : (p ≠ [] ∧ b ++ p ≠ [] ∧ Q) ↔ (p ≠ [] ∧ Q) :=
  ⟨fun ⟨a, _, c⟩ => ⟨a, c⟩, fun ⟨a, c⟩ => ⟨a, by simp [a], c⟩⟩

/-- the methods that only ask (`Filespace(p)` opens a view and changes nothing either) -/
def isQuery : Op → Bool
  | .readDir _ | .isExist _ | .isFile _ | .isDir _ | .readFile _ | .reader _ _ | .lstat _
  | .filespace _ => true
  | _ => false

theorem on1_query (base raw : Bytes) (bad : Result) (g : Bytes → Result) (t : Node) :
    (Wrap.on1 base raw bad (fun p => (t, g p)) t).1 = t := by
  unfold Wrap.on1; split <;> rfl

theorem query_unchanged (ref : FSRef) (t : Node) (op : Op) (h : isQuery op = true) :
    (step ref t op).1 = t := by
  -- a query's `step` is `(t, _)` as written; through a wrapper it sits under `Wrap.on1`
  cases op <;> first
    | exact Bool.noConfusion h
    | (cases ref <;> first | rfl | exact on1_query ..)

theorem read_agrees (ref : FSRef) (b : List Name) (hv : ViewOK ref b) (t : Node) (ht : Inv t) (op : Op)
    (raw : Bytes) (h : op.readPath = some raw) :
    FS.ReadAns (abs t) ((norm raw).map (b ++ ·)) op (step ref t op).2 :=
  ((FS.Step_read b _ _ op _ raw h).mp (step_refines ref b hv t ht op).spec).2

theorem readFile_agrees (ref : FSRef) (b : List Name) (hv : ViewOK ref b) (t : Node) (ht : Inv t)
    (raw : Bytes) (p : List Name) (hn : norm raw = some p) (d : Bytes)
    (h : abs t (b ++ p) = some (.file d)) : (step ref t (.readFile raw)).2 = .data d := by
  open FS in
  simpa [hn, ReadAns, ansE, h, readFileE] using read_agrees ref b hv t ht (.readFile raw) raw rfl

theorem climbing_refused (ref : FSRef) (b : List Name) (hv : ViewOK ref b) (t : Node) (ht : Inv t)
    (raw data : Bytes) (hn : norm raw = none) :
    step ref t (.writeFile raw data) = (t, .err) ∧ (step ref t (.readFile raw)).2 = .err
    ∧ (step ref t (.isExist raw)).2 = .bool false := by
  have h1 := step_refines ref b hv t ht (.writeFile raw data)
  have h1s := h1.spec
  have h2 := (step_refines ref b hv t ht (.readFile raw)).spec
  have h3 := (step_refines ref b hv t ht (.isExist raw)).spec
  simp only [FS.Step, hn] at h1s h2 h3
  exact ⟨Prod.ext (h1.err_same h1s.1) h1s.1, h2.2, h3.2⟩

theorem world_read_after_write (w : World) (hw : WorldOK w) (n : Nat) (raw data : Bytes)
    (hok : (w.step n (.writeFile raw data)).2 = .ok) :
    ((w.step n (.writeFile raw data)).1.step n (.readFile raw)).2 = .data data := by
  cases hv : w.views[n]? with
  | none => rw [world_step_none w n _ hv] at hok; simp at hok
  | some ref =>
    have hg := hw.views ref (List.mem_of_getElem? hv)
    obtain ⟨_, hw1, _⟩ := world_step_ok w hw n (.writeFile raw data) ref hv
    rw [world_step_some w n _ ref hv] at hok hw1 ⊢
    simp only [viewsNext] at hw1 ⊢
    rw [world_step_some ⟨(step ref w.root (.writeFile raw data)).1, w.views⟩ n (.readFile raw) ref hv]
    cases hn : norm raw with
    | none =>
      have := (climbing_refused ref _ hg w.root hw.inv raw data hn).1
      rw [this] at hok; simp at hok
    | some p =>
      apply readFile_agrees ref _ hg _ hw1.inv raw p hn
      rw [write_post ref _ hg w.root hw.inv raw data p hn hok]
      exact FS.writeSt_at _ _ _

end MemFS
end Goat
