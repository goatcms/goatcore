/-
From path *strings* to path *segments*: what the byte-level helpers of the memfs model (`reduceAbsPath`,
`splitContainsPath`, `getNodeByPath…`, `mkdirAll`, `removeNodeByPath`) compute on a string whose normal form is known.
-/
import Goat.Model.MemFS
import Goat.Proofs.MemFSAbs
import Goat.Proofs.Path

namespace Goat
namespace MemFS

open Path (Name split join reduceAbsPath norm Reduced Plain NoSlash dotSeg slash)

theorem reduceAbsPath_of_norm {raw : Bytes} {q : List Name} (h : norm raw = some q) :
    reduceAbsPath raw = some (join q) := by simp [reduceAbsPath, h]

theorem reduceAbsPath_none {raw : Bytes} (h : norm raw = none) : reduceAbsPath raw = none := by
  simp [reduceAbsPath, h]

theorem realPath_reduced {q : List Name} (h : Reduced q) : realPath q = q := by
  unfold realPath
  rw [List.filter_eq_self]
  intro s hs
  simpa using (h s hs).1.1

theorem realPath_split_join {q : List Name} (h : Reduced q) : realPath (split (join q)) = q := by
  rw [Path.split_join' q (fun s hs => (h s hs).2)]
  split
  · next e => subst e; rfl
  · exact realPath_reduced h

theorem getNodeByPathNodes_eq (t : Node) (segs : List Name) :
    getNodeByPathNodes t segs = t.lookup (realPath segs) := by
  fun_induction getNodeByPathNodes t segs <;> simp_all [realPath, Node.lookup_dir_cons]

theorem getNodeByPath_join (t : Node) {q : List Name} (h : Reduced q) :
    getNodeByPath t (join q) = t.lookup q := by
  simp only [getNodeByPath, if_neg (Path.join_ne_dotSeg _ h), getNodeByPathNodes_eq, realPath_split_join h]

def asDir : Option Node → Option Kids
  | some (.dir k) => some k
  | _ => none

def asFile : Option Node → Option Bytes
  | some (.file d) => some d
  | _ => none

theorem getDirByPath_join (t : Node) {q : List Name} (h : Reduced q) :
    getDirByPath t (join q) = asDir (t.lookup q) := by
  simp only [getDirByPath, getNodeByPath_join t h]
  cases t.lookup q with
  | none => rfl
  | some n => cases n <;> rfl

theorem getFileByPath_join (t : Node) {q : List Name} (h : Reduced q) :
    getFileByPath t (join q) = asFile (t.lookup q) := by
  simp only [getFileByPath, if_neg (Path.join_ne_dotSeg _ h), getNodeByPathNodes_eq, realPath_split_join h]
  cases t.lookup q with
  | none => rfl
  | some n => cases n <;> rfl

theorem splitContainsPath_nil : splitContainsPath (join []) = none := by
  simp [splitContainsPath, join, Path.split_nil]

theorem splitContainsPath_concat {init : List Name} {name : Name} (h : Reduced (init ++ [name])) :
    splitContainsPath (join (init ++ [name])) = some (init, name) := by
  have hne : name ≠ [] := (h name (by simp)).1.1
  simp only [splitContainsPath]
  rw [Path.split_join _ (fun s hs => (h s hs).2) (by simp)]
  simp [hne]

theorem mkdirAll_join (t : Node) (ht : Inv t) {q : List Name} (h : Reduced q) :
    mkdirAll t (join q) = t.mkdirs q := by
  obtain ⟨k, rfl⟩ := ht.dir
  simp only [mkdirAll, reduceAbsPath_of_norm (Path.norm_join q h)]
  split
  · next e =>
    have := (Path.join_eq_nil_iff q h).mp e
    subst this; rfl
  · next e =>
    rw [Path.split_join q (fun s hs => (h s hs).2) (fun e' => e ((Path.join_eq_nil_iff q h).mpr e'))]

/-- `split "" = [""]`: for the empty path the Go code looks for a child named `""` in the root, and a
well-formed tree has none -/
theorem removeNodeByPath_nil (t : Node) (ht : Inv t) (eo : Bool) :
    removeNodeByPath t (join []) eo = none := by
  obtain ⟨k, rfl⟩ := ht.dir
  have hk : k.find [] = none := by
    cases hf : k.find [] with
    | none => rfl
    | some c =>
      have := (Kids.all_find k [] c ((Node.all_dir ..).mp ht.wf.2) hf).1
      exact absurd rfl this.1
  simp [removeNodeByPath, join, Path.split_nil, realPath, Node.update_dir_nil, removeIn, hk,
    removeNodeByName]

theorem removeNodeByPath_concat (t : Node) {init : List Name} {name : Name}
    (h : Reduced (init ++ [name])) (eo : Bool) :
    removeNodeByPath t (join (init ++ [name])) eo = t.update init (removeIn name eo) := by
  have hi : Reduced init := fun s hs => h s (List.mem_append_left _ hs)
  simp only [removeNodeByPath]
  rw [Path.split_join _ (fun s hs => (h s hs).2) (by simp)]
  simp [realPath_reduced hi]

end MemFS
end Goat
