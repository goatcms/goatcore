/-
Witnesses for Goat/Props/C18.lean: an environment that satisfies the hypotheses of the C18 theorems (non-vacuity),
and the counterexamples for the old SSH builder and for the dash dialect.
-/
import Goat.Proofs.EnvScript

namespace Goat.EnvScript

/-- `EOFABCDEFGHIJ` -/
def exTag : Bytes := goTag [65, 66, 67, 68, 69, 70, 71, 72, 73, 74]

/-- `env -0` -/
def exEntry : Bytes := [101, 110, 118, 32, 45, 48]

/-- `A` = ``$HOME `id` "q" 'r' \`` newline `)` newline `EOF` newline newline ;  `B_c` = `$(rm -rf /)` -/
def exEnvs : Env :=
  [ ([65], [36, 72, 79, 77, 69, 32, 96, 105, 100, 96, 32, 34, 113, 34, 32, 39, 114, 39, 32, 92, 10, 41, 10, 69, 79, 70, 10, 10]),
    ([66, 95, 99], [36, 40, 114, 109, 32, 45, 114, 102, 32, 47, 41]) ]

theorem exTag_ok : TagOk exTag := ⟨by decide +kernel, by decide +kernel⟩

theorem exEnvs_valid : ValidKeys exEnvs := validKeys_of_nameOk (by decide +kernel)
theorem exEnvs_tagFree : TagFree exTag exEnvs := by unfold TagFree; decide +kernel
theorem exEnvs_noNul : NoNul exEnvs := by unfold NoNul; decide +kernel
theorem exEnvs_nodup : (exEnvs.map (·.1)).Nodup := by decide +kernel
theorem exEnvs_dashSafe : DashSafe exTag exEnvs := by unfold DashSafe; decide +kernel

/-- `X=1`, `A=$X`: with the unquoted here-document of the old SSH builder `A` receives `1` -/
def oldEnvs : Env := [([88], [49]), ([65], [36, 88])]

theorem oldEnvs_valid : ValidKeys oldEnvs := validKeys_of_nameOk (by decide +kernel)
theorem oldEnvs_tagFree : TagFree exTag oldEnvs := by unfold TagFree; decide +kernel
theorem oldEnvs_noNul : NoNul oldEnvs := by unfold NoNul; decide +kernel

/-- `A` = `E` followed by U+00E9 in UTF-8: dash 0.5.12 loses the byte 0xC3 (KF-C18-1) -/
def dashEnvs : Env := [([65], [69, 195, 169])]

theorem dashEnvs_valid : ValidKeys dashEnvs := validKeys_of_nameOk (by decide +kernel)
theorem dashEnvs_tagFree : TagFree exTag dashEnvs := by unfold TagFree; decide +kernel
theorem dashEnvs_noNul : NoNul dashEnvs := by unfold NoNul; decide +kernel

end Goat.EnvScript
