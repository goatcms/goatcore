/-
Lock layer: lock maps (`sortRows`), sorted request lists, what a holder holds, the boolean observers of a lock table
as propositions, and the wake-up.  At the end the interval monitor: `monitorFrom` finds nothing exactly when no two of
the recorded critical-section intervals are `bad`, that is, intersect in time with conflicting maps.
-/
import Goat.Model.Mutex

namespace Goat.Mutex

instance (m : LockMap) : Decidable (NodupNames m) := inferInstanceAs (Decidable (List.Nodup _))

theorem mem_insertRow {r x : Row} {l : List Row} : x ∈ insertRow r l ↔ x = r ∨ x ∈ l := by
  induction l with
  | nil => simp [insertRow]
  | cons y ys ih =>
    unfold insertRow
    split
    · simp
    · simp only [List.mem_cons, ih]; exact or_left_comm

theorem mem_sortRows {x : Row} {l : List Row} : x ∈ sortRows l ↔ x ∈ l := by
  induction l with
  | nil => simp [sortRows]
  | cons y ys ih => simp [sortRows, mem_insertRow, ih]

theorem length_insertRow (r : Row) (l : List Row) : (insertRow r l).length = l.length + 1 := by
  induction l with
  | nil => rfl
  | cons x xs ih => unfold insertRow; split <;> simp [ih]

theorem length_sortRows (l : List Row) : (sortRows l).length = l.length := by
  induction l with
  | nil => rfl
  | cons x xs ih => simp [sortRows, length_insertRow, ih]

theorem sorted_insertRow {r : Row} {l : List Row} (hl : Sorted l) (hr : ∀ x ∈ l, x.1 ≠ r.1) :
    Sorted (insertRow r l) := by
  induction l with
  | nil => simp [insertRow, Sorted]
  | cons y ys ih =>
    simp only [Sorted, List.map_cons, List.pairwise_cons] at hl
    have hne : y.1 ≠ r.1 := hr y (by simp)
    unfold insertRow
    split
    · rename_i hle
      have hlt : r.1 < y.1 := Nat.lt_of_le_of_ne hle (Ne.symm hne)
      simp only [Sorted, List.map_cons, List.pairwise_cons]
      refine ⟨fun a ha => ?_, hl⟩
      rcases List.mem_cons.mp ha with rfl | ha
      · exact hlt
      · exact Nat.lt_trans hlt (hl.1 a ha)
    · rename_i hle
      simp only [Sorted, List.map_cons, List.pairwise_cons]
      refine ⟨fun a ha => ?_, ih hl.2 fun x hx => hr x (List.mem_cons_of_mem _ hx)⟩
      obtain ⟨x, hx, rfl⟩ := List.mem_map.mp ha
      rcases mem_insertRow.mp hx with rfl | hx
      · exact Nat.lt_of_not_le hle
      · exact hl.1 x.1 (List.mem_map.mpr ⟨x, hx, rfl⟩)

theorem sorted_sortRows {m : LockMap} (h : NodupNames m) : Sorted (sortRows m) := by
  induction m with
  | nil => simp [sortRows, Sorted]
  | cons r rs ih =>
    simp only [NodupNames, List.map_cons, List.nodup_cons] at h
    exact sorted_insertRow (ih h.2) fun x hx heq =>
      h.1 (heq ▸ List.mem_map.mpr ⟨x, mem_sortRows.mp hx, rfl⟩)

theorem Sorted.lt {req : List Row} (hs : Sorted req) {i j : Nat} {r r' : Row}
    (hi : req[i]? = some r) (hj : req[j]? = some r') (hij : i < j) : r.1 < r'.1 := by
  obtain ⟨hi', rfl⟩ := List.getElem?_eq_some_iff.mp hi
  obtain ⟨hj', rfl⟩ := List.getElem?_eq_some_iff.mp hj
  have := List.pairwise_iff_getElem.mp hs i j (by simpa using hi') (by simpa using hj') hij
  rwa [List.getElem_map, List.getElem_map] at this

theorem sorted_take_lt_get {req : List Row} (hs : Sorted req) {k : Nat} {r r' : Row}
    (hr : r ∈ req.take k) (hr' : req[k]? = some r') : r.1 < r'.1 := by
  obtain ⟨i, hi, rfl⟩ := List.mem_take_iff_getElem.mp hr
  exact hs.lt (List.getElem?_eq_getElem _) hr' (by omega)

theorem sorted_get_lt_drop {req : List Row} (hs : Sorted req) {u : Nat} {r r' : Row}
    (hr : req[u]? = some r) (hr' : r' ∈ req.drop (u + 1)) : r.1 < r'.1 := by
  obtain ⟨i, hi, rfl⟩ := List.mem_drop_iff_getElem.mp hr'
  exact hs.lt hr (List.getElem?_eq_getElem _) (by omega)

theorem sorted_names_inj {req : List Row} (hs : Sorted req) {m : Name} {w w' : Bool}
    (h1 : (m, w) ∈ req) (h2 : (m, w') ∈ req) : w = w' := by
  obtain ⟨i, hi⟩ := List.mem_iff_getElem?.mp h1
  obtain ⟨j, hj⟩ := List.mem_iff_getElem?.mp h2
  rcases Nat.lt_trichotomy i j with h | rfl | h
  · exact absurd (hs.lt hi hj h) (Nat.lt_irrefl _)
  · simpa [hi] using hj
  · exact absurd (hs.lt hj hi h) (Nat.lt_irrefl _)

theorem held_sub_req (h : Holder) {r : Row} (hr : r ∈ h.held) : r ∈ h.req := by
  unfold Holder.held at hr
  split at hr
  · exact List.mem_of_mem_take hr
  · exact hr
  · exact List.mem_of_mem_drop hr
  · simp at hr

theorem held_done {h : Holder} (hd : h.pc = .done) : h.held = [] := by
  simp [Holder.held, hd]

theorem held_inside {h : Holder} (hd : h.pc = .inside) : h.held = h.req := by
  simp [Holder.held, hd]

theorem not_done_of_held {h : Holder} {r : Row} (hr : r ∈ h.held) : h.pc ≠ .done :=
  fun hd => by simp [held_done hd] at hr

theorem held_lt_awaited {h : Holder} (hs : Sorted h.req) {k : Nat} {ph : Phase}
    (hpc : h.pc = .acq k ph) {r r' : Row} (hr : r ∈ h.held) (hr' : h.req[k]? = some r') :
    r.1 < r'.1 := by
  simp only [Holder.held, hpc] at hr
  exact sorted_take_lt_get hs hr hr'

theorem any_iff_get {s : State} {p : Holder → Bool} :
    s.any p = true ↔ ∃ (j : Nat) (g : Holder), s[j]? = some g ∧ p g = true := by
  simp only [List.any_eq_true, List.mem_iff_getElem?]
  exact ⟨fun ⟨g, ⟨j, hj⟩, hp⟩ => ⟨j, g, hj, hp⟩, fun ⟨j, g, hj, hp⟩ => ⟨g, ⟨j, hj⟩, hp⟩⟩

theorem writeHeld_iff {s : State} {m : Name} :
    writeHeld s m = true ↔ ∃ (j : Nat) (g : Holder), s[j]? = some g ∧ (m, true) ∈ g.held :=
  any_iff_get.trans (by simp only [List.contains_iff_mem])

theorem readHeld_iff {s : State} {m : Name} :
    readHeld s m = true ↔ ∃ (j : Nat) (g : Holder), s[j]? = some g ∧ (m, false) ∈ g.held :=
  any_iff_get.trans (by simp only [List.contains_iff_mem])

theorem writerPresent_iff {s : State} {m : Name} :
    writerPresent s m = true ↔ ∃ (j : Nat) (g : Holder), s[j]? = some g ∧ g.present m = true :=
  any_iff_get

theorem present_iff {h : Holder} {m : Name} :
    h.present m = true ↔ h.announcedOn m = true ∨ (m, true) ∈ h.held := by
  simp [Holder.present]

theorem present_of_held {g : Holder} {m : Name} (h : (m, true) ∈ g.held) : g.present m = true :=
  present_iff.mpr (Or.inr h)

theorem announcedOn_iff {h : Holder} {m : Name} :
    h.announcedOn m = true ↔ ∃ k, h.pc = .acq k .announced ∧ h.req[k]? = some (m, true) := by
  unfold Holder.announcedOn
  split
  · rename_i k hpc; simp [hpc]
  · rename_i hne
    exact ⟨fun h => (nomatch h), fun ⟨k, hk, _⟩ => absurd hk (hne k)⟩

theorem rwaitOn_iff {h : Holder} {m : Name} :
    h.rwaitOn m = true ↔ ∃ k, h.pc = .acq k .rwait ∧ h.req[k]? = some (m, false) := by
  unfold Holder.rwaitOn
  split
  · rename_i k hpc; simp [hpc]
  · rename_i hne
    exact ⟨fun h => (nomatch h), fun ⟨k, hk, _⟩ => absurd hk (hne k)⟩

theorem present_row {g : Holder} {m : Name} (hp : g.present m = true) : (m, true) ∈ g.req := by
  rcases present_iff.mp hp with ha | hh
  · obtain ⟨k, _, hrow⟩ := announcedOn_iff.mp ha
    exact List.mem_of_getElem? hrow
  · exact held_sub_req g hh

/-- what a step that hands out `o` does to a holder that does not move.  The model's `wakeAll` matches on `o`
first; the proofs want the effect on one holder uniformly in `o`: `wakeAll o = List.map (wakeOpt o)`. -/
def wakeOpt (o : Option Name) (h : Holder) : Holder :=
  match o with
  | none => h
  | some m => wake m h

theorem wakeAll_eq (o : Option Name) (s : State) : wakeAll o s = s.map (wakeOpt o) := by
  cases o <;> simp [wakeAll, show wakeOpt none = id from rfl, show ∀ m, wakeOpt (some m) = wake m from fun _ => rfl]

theorem wakeAll_length (o : Option Name) (s : State) : (wakeAll o s).length = s.length := by
  simp [wakeAll_eq]

theorem wake_cases (m : Name) (g : Holder) :
    (g.rwaitOn m = false ∧ wake m g = g) ∨
    (∃ k, g.pc = .acq k .rwait ∧ g.req[k]? = some (m, false) ∧ wake m g = { g with pc := .acq (k + 1) .idle }) := by
  cases hr : g.rwaitOn m with
  | false => exact Or.inl ⟨rfl, by simp [wake, hr]⟩
  | true =>
    obtain ⟨k, hpc, hrow⟩ := rwaitOn_iff.mp hr
    exact Or.inr ⟨k, hpc, hrow, by simp [wake, hr, hpc]⟩

theorem wakeOpt_req (o : Option Name) (h : Holder) : (wakeOpt o h).req = h.req := by
  cases o with
  | none => rfl
  | some m => rcases wake_cases m h with ⟨_, e⟩ | ⟨_, _, _, e⟩ <;> simp [wakeOpt, e]

theorem wakeOpt_of_not_rwait {o : Option Name} {g : Holder} (h : ∀ k, g.pc ≠ .acq k .rwait) :
    wakeOpt o g = g := by
  cases o with
  | none => rfl
  | some m =>
    rcases wake_cases m g with ⟨_, e⟩ | ⟨k, hpc, _⟩
    · exact e
    · exact absurd hpc (h k)

theorem wakeOpt_held {o : Option Name} {g : Holder} {r : Row} (hr : r ∈ (wakeOpt o g).held) :
    r ∈ g.held ∨ (∃ m, o = some m ∧ r = (m, false) ∧ g.rwaitOn m = true) := by
  cases o with
  | none => exact .inl hr
  | some m =>
    rcases wake_cases m g with ⟨_, e⟩ | ⟨k, hpc, hrow, e⟩ <;> simp only [wakeOpt, e] at hr
    · exact .inl hr
    · simp only [Holder.held, hpc, List.take_add_one, hrow, Option.toList_some, List.mem_append,
        List.mem_singleton] at hr ⊢
      exact hr.imp id fun hr => ⟨m, rfl, hr, rwaitOn_iff.mpr ⟨k, hpc, hrow⟩⟩

theorem wakeOpt_present (o : Option Name) (g : Holder) (m : Name) :
    (wakeOpt o g).present m = g.present m := by
  cases o with
  | none => rfl
  | some m0 =>
    rcases wake_cases m0 g with ⟨_, e⟩ | ⟨k, hpc, hrow, e⟩ <;> simp only [wakeOpt, e]
    simp [Holder.present, Holder.announcedOn, Holder.held, hpc, List.take_add_one, hrow]

theorem wakeOpt_rwait {o : Option Name} {g : Holder} {m : Name} (h : (wakeOpt o g).rwaitOn m = true) :
    g.rwaitOn m = true ∧ o ≠ some m := by
  cases o with
  | none => exact ⟨h, by simp⟩
  | some m0 =>
    rcases wake_cases m0 g with ⟨hn, e⟩ | ⟨k, hpc, hrow, e⟩ <;> simp only [wakeOpt, e] at h
    · exact ⟨h, fun e' => by cases e'; simp [hn] at h⟩
    · simp [Holder.rwaitOn] at h

theorem overlap_symm (x y : Interval) : overlap x y = overlap y x := by
  simp [overlap, Bool.and_comm]

theorem bad_false_iff (x y : Interval) : bad x y = false ↔
    (x.holder ≠ y.holder → overlap x y = true → conflictRows x.rows y.rows = none) := by
  cases h : conflictRows x.rows y.rows <;> simp [bad, h]

theorem monitorFrom_none_iff (base : Nat) (ivs : List Interval) :
    monitorFrom base ivs = none ↔ ivs.Pairwise (fun x y => bad x y = false) := by
  induction ivs generalizing base with
  | nil => simp [monitorFrom]
  | cons x rest ih =>
    simp only [monitorFrom, List.pairwise_cons, ← List.findIdx?_eq_none_iff (p := bad x)]
    cases hf : rest.findIdx? (bad x) <;> simp [ih]

end Goat.Mutex
