/-
The sequential part of `Goat/Model/DataScope.lean`.

Each heap update changes one field of one record (`dataSet_getElem?`, `setHeld_getElem?`) and every reader looks
at one record, so all frame facts are read off these two.  `value` is the first hit along the chain of maps
(`valueF_eq_firstHit`), hence independent of the fuel; it depends on the heap only through `readLevel` on the
scope's ancestors (`valueF_congr`), hence its frames.  On an `AllFree` heap `run` computes `value` / `dataSet`.
-/
import Goat.Model.DataScope
import Goat.Proofs.Lists

namespace Goat.DataScope

theorem mget_mset (m : Map) (k k' : Key) (v : Val) :
    mget (mset m k v) k' = if k = k' then some v else mget m k' := by
  induction m with
  | nil => simp [mset, mget]
  | cons kv rest ih =>
    obtain ⟨k0, v0⟩ := kv
    by_cases h0 : k0 = k
    · subst h0; by_cases h1 : k0 = k' <;> simp [mset, mget, h1]
    · by_cases h1 : k0 = k'
      · subst h1; simp [mset, mget, h0, Ne.symm h0]
      · simp [mset, mget, h0, h1, ih]

theorem getElem?_update {α : Type} (l : List α) (i j : Nat) (f : α → α) :
    (l[i]?.elim l fun a => l.set i (f a))[j]? = l[j]?.map fun a => if j = i then f a else a := by
  by_cases h : j = i
  · subst h
    cases hs : l[j]? with
    | none => exact hs
    | some a => simp only [if_true, Option.map, Option.elim, List.getElem?_set_self (lt_of_getElem? hs)]
  · simp only [h, if_false, Option.map_id']
    cases l[i]? with
    | none => rfl
    | some a => exact List.getElem?_set_ne (Ne.symm h)

theorem dataSet_getElem? (ss : Scopes) (s j : Nat) (k : Key) (v : Val) :
    (dataSet ss s k v)[j]? =
      ss[j]?.map fun sc => { sc with data := if j = s then mset sc.data k v else sc.data } := by
  have : dataSet ss s k v = ss[s]?.elim ss fun sc => ss.set s { sc with data := mset sc.data k v } := by
    unfold dataSet; cases ss[s]? <;> rfl
  rw [this, getElem?_update]
  by_cases h : j = s <;> simp only [h, if_true, if_false]

theorem setHeld_getElem? (ss : Scopes) (s j : Nat) (b : Bool) :
    (setHeld ss s b)[j]? = ss[j]?.map fun sc => { sc with held := if j = s then b else sc.held } := by
  have : setHeld ss s b = ss[s]?.elim ss fun sc => ss.set s { sc with held := b } := by
    unfold setHeld; cases ss[s]? <;> rfl
  rw [this, getElem?_update]
  by_cases h : j = s <;> simp only [h, if_true, if_false]

theorem dataSet_getElem?_ne {ss : Scopes} {s j : Nat} (k : Key) (v : Val) (h : j ≠ s) :
    (dataSet ss s k v)[j]? = ss[j]? := by
  simp [dataSet_getElem?, h]

theorem dataSet_getElem?_self {ss : Scopes} {s : Nat} {sc : Scope} (k : Key) (v : Val) (hs : ss[s]? = some sc) :
    (dataSet ss s k v)[s]? = some { sc with data := mset sc.data k v } := by
  simp [dataSet_getElem?, hs]

theorem setHeld_getElem?_ne {ss : Scopes} {s j : Nat} (b : Bool) (h : j ≠ s) : (setHeld ss s b)[j]? = ss[j]? := by
  simp [setHeld_getElem?, h]

theorem setHeld_getElem?_self {ss : Scopes} {s : Nat} {sc : Scope} (b : Bool) (hs : ss[s]? = some sc) :
    (setHeld ss s b)[s]? = some { sc with held := b } := by
  simp [setHeld_getElem?, hs]

theorem dataSet_length (ss : Scopes) (s : Nat) (k : Key) (v : Val) : (dataSet ss s k v).length = ss.length := by
  unfold dataSet
  cases ss[s]? <;> simp

theorem setHeld_length (ss : Scopes) (s : Nat) (b : Bool) : (setHeld ss s b).length = ss.length := by
  unfold setHeld
  cases ss[s]? <;> simp

theorem setHeld_dataSet_comm (ss : Scopes) (s x : Nat) (b : Bool) (k : Key) (v : Val) :
    setHeld (dataSet ss x k v) s b = dataSet (setHeld ss s b) x k v := by
  apply List.ext_getElem?
  intro j
  simp only [setHeld_getElem?, dataSet_getElem?, Option.map_map]
  rfl

theorem setHeld_setHeld_self {ss : Scopes} {s : Nat} {sc : Scope} (hsc : ss[s]? = some sc) (hh : sc.held = false) :
    setHeld (setHeld ss s true) s false = ss := by
  apply List.ext_getElem?
  intro j
  simp only [setHeld_getElem?, Option.map_map]
  by_cases hj : j = s
  · subst hj; simp [hsc, ← hh]
  · simp only [hj, if_false]; exact Option.map_id'

theorem parentOf_dataSet (ss : Scopes) (s j : Nat) (k : Key) (v : Val) :
    parentOf (dataSet ss s k v) j = parentOf ss j := by
  simp only [parentOf, dataSet_getElem?]; cases ss[j]? <;> rfl

theorem isHeld_dataSet (ss : Scopes) (s j : Nat) (k : Key) (v : Val) :
    isHeld (dataSet ss s k v) j = isHeld ss j := by
  simp only [isHeld, dataSet_getElem?]; cases ss[j]? <;> rfl

theorem isFree_dataSet (ss : Scopes) (s j : Nat) (k : Key) (v : Val) :
    isFree (dataSet ss s k v) j = isFree ss j := by
  simp only [isFree, dataSet_getElem?]; cases ss[j]? <;> rfl

theorem parentOf_setHeld (ss : Scopes) (s j : Nat) (b : Bool) : parentOf (setHeld ss s b) j = parentOf ss j := by
  simp only [parentOf, setHeld_getElem?]; cases ss[j]? <;> rfl

theorem dataGet_setHeld (ss : Scopes) (s j : Nat) (b : Bool) (k : Key) :
    dataGet (setHeld ss s b) j k = dataGet ss j k := by
  simp only [dataGet, setHeld_getElem?]; cases ss[j]? <;> rfl

theorem dataKeys_setHeld (ss : Scopes) (s j : Nat) (b : Bool) : dataKeys (setHeld ss s b) j = dataKeys ss j := by
  simp only [dataKeys, setHeld_getElem?]; cases ss[j]? <;> rfl

theorem isHeld_setHeld_self {ss : Scopes} {s : Nat} (b : Bool) (h : s < ss.length) : isHeld (setHeld ss s b) s = b := by
  simp [isHeld, setHeld_getElem?, List.getElem?_eq_getElem h]

theorem isHeld_setHeld_ne {ss : Scopes} {s j : Nat} (b : Bool) (h : j ≠ s) : isHeld (setHeld ss s b) j = isHeld ss j := by
  simp [isHeld, setHeld_getElem?_ne b h]

theorem isFree_setHeld_ne {ss : Scopes} {s j : Nat} (b : Bool) (h : j ≠ s) : isFree (setHeld ss s b) j = isFree ss j := by
  simp [isFree, setHeld_getElem?_ne b h]

theorem isFree_lt {ss : Scopes} {s : Nat} (h : isFree ss s = true) : s < ss.length :=
  Decidable.byContradiction fun hn => by simp [isFree, List.getElem?_eq_none (Nat.le_of_not_lt hn)] at h

theorem isHeld_lt {ss : Scopes} {s : Nat} (h : isHeld ss s = true) : s < ss.length :=
  Decidable.byContradiction fun hn => by simp [isHeld, List.getElem?_eq_none (Nat.le_of_not_lt hn)] at h

theorem isFree_eq_not_isHeld {ss : Scopes} {s : Nat} (h : s < ss.length) : isFree ss s = !isHeld ss s := by
  simp [isFree, isHeld, List.getElem?_eq_getElem h]

theorem isFree_isHeld {ss : Scopes} {s : Nat} (hf : isFree ss s = true) (hh : isHeld ss s = true) : False := by
  simp [isFree_eq_not_isHeld (isFree_lt hf), hh] at hf

theorem dataGet_lt {ss : Scopes} {s : Nat} {k : Key} {x : Val} (h : dataGet ss s k = some x) : s < ss.length :=
  Decidable.byContradiction fun hn => by simp [dataGet, List.getElem?_eq_none (Nat.le_of_not_lt hn)] at h

theorem dataGet_dataSet_same {ss : Scopes} {s : Nat} (k : Key) (v : Val) (h : s < ss.length) :
    dataGet (dataSet ss s k v) s k = some v := by
  simp [dataGet, dataSet_getElem?, List.getElem?_eq_getElem h, mget_mset]

theorem dataGet_dataSet_other (ss : Scopes) (s j : Nat) (k k' : Key) (v : Val) (h : j ≠ s ∨ k' ≠ k) :
    dataGet (dataSet ss s k v) j k' = dataGet ss j k' := by
  simp only [dataGet, dataSet_getElem?]
  cases ss[j]? with
  | none => rfl
  | some sc =>
    by_cases hj : j = s
    · have hk : ¬ k = k' := fun e => h.elim (absurd hj) (absurd e.symm)
      simp [hj, mget_mset, hk]
    · simp [hj]

theorem readLevel_of_scope {ss : Scopes} {s : Nat} {sc : Scope} (hs : ss[s]? = some sc) (k : Key) :
    readLevel ss s k =
      match mget sc.data k with
      | some v => .hit v
      | none => match sc.parent with
        | some p => .up p
        | none => .bottom := by
  simp only [readLevel, dataGet, parentOf, hs]
  cases mget sc.data k <;> cases sc.parent <;> rfl

theorem readLevel_hit {ss : Scopes} {s : Nat} {k : Key} {x : Val} (h : dataGet ss s k = some x) :
    readLevel ss s k = .hit x := by
  simp [readLevel, h]

theorem readLevel_up {ss : Scopes} {s p : Nat} {k : Key} (hr : readLevel ss s k = .up p) :
    dataGet ss s k = none ∧ parentOf ss s = some p := by
  unfold readLevel at hr
  cases hd : dataGet ss s k with
  | some v => simp [hd] at hr
  | none =>
    cases hp : parentOf ss s with
    | none => simp [hd, hp] at hr
    | some q => simp [hd, hp] at hr; simp [hr]

theorem readLevel_dataSet_other (ss : Scopes) (s j : Nat) (k k' : Key) (v : Val) (h : j ≠ s ∨ k' ≠ k) :
    readLevel (dataSet ss s k v) j k' = readLevel ss j k' := by
  simp only [readLevel, dataGet_dataSet_other ss s j k k' v h, parentOf_dataSet]

theorem readLevel_setHeld (ss : Scopes) (s j : Nat) (b : Bool) (k : Key) :
    readLevel (setHeld ss s b) j k = readLevel ss j k := by
  simp only [readLevel, dataGet_setHeld, parentOf_setHeld]

theorem WF_iff_parentOf {ss : Scopes} : WF ss ↔ ∀ i p, parentOf ss i = some p → p < i := by
  unfold WF parentOf
  constructor
  · intro h i p hp
    cases hs : ss[i]? with
    | none => simp [hs] at hp
    | some sc => exact h i sc hs p (by simpa [hs] using hp)
  · intro h i sc hs p hp
    exact h i p (by simp [hs, hp])

theorem parentOf_lt {ss : Scopes} (h : WF ss) {s p : Nat} (hp : parentOf ss s = some p) : p < s :=
  WF_iff_parentOf.mp h s p hp

theorem parentOf_self_lt {ss : Scopes} {s p : Nat} (hp : parentOf ss s = some p) : s < ss.length :=
  Decidable.byContradiction fun hn => by simp [parentOf, List.getElem?_eq_none (Nat.le_of_not_lt hn)] at hp

theorem WF_dataSet {ss : Scopes} (h : WF ss) (s : Nat) (k : Key) (v : Val) : WF (dataSet ss s k v) := by
  simpa only [WF_iff_parentOf, parentOf_dataSet] using h

theorem WF_setHeld {ss : Scopes} (h : WF ss) (s : Nat) (b : Bool) : WF (setHeld ss s b) := by
  simpa only [WF_iff_parentOf, parentOf_setHeld] using h

theorem WF_nil : WF [] := by
  intro i sc hi; simp at hi

theorem WF_append {ss : Scopes} (h : WF ss) (sc : Scope) (hsc : ∀ p, sc.parent = some p → p < ss.length) :
    WF (ss ++ [sc]) := by
  intro i x hi p hp
  rw [getElem?_snoc_if] at hi
  split at hi
  · next e => cases hi; exact e ▸ hsc p hp
  · exact h i x hi p hp

theorem WF_newRoot {ss : Scopes} (h : WF ss) (m : Map) : WF (newRoot ss m) :=
  WF_append h _ (fun _ hp => by cases hp)

theorem WF_newChild {ss : Scopes} (h : WF ss) (p0 : Nat) (hp0 : p0 < ss.length) (m : Map) : WF (newChild ss p0 m) :=
  WF_append h _ (fun _ hp => by cases hp; exact hp0)

theorem readLevel_up_lt {ss : Scopes} (h : WF ss) {s p : Nat} {k : Key} (hr : readLevel ss s k = .up p) : p < s :=
  parentOf_lt h (readLevel_up hr).2

theorem readLevel_up_len {ss : Scopes} (h : WF ss) {s p : Nat} {k : Key} (hr : readLevel ss s k = .up p) :
    p < ss.length :=
  Nat.lt_trans (readLevel_up_lt h hr) (parentOf_self_lt (readLevel_up hr).2)

theorem valueF_eq_firstHit {ss : Scopes} :
    ∀ (f s : Nat) (k : Key), valueF ss f s k = firstHit (chainF ss f s) k := by
  intro f
  induction f with
  | zero => intro s k; rfl
  | succ f ih =>
    intro s k
    simp only [valueF, chainF]
    cases hsc : ss[s]? with
    | none => simp [readLevel, dataGet, parentOf, hsc, firstHit]
    | some sc =>
      rw [readLevel_of_scope hsc]
      cases hm : mget sc.data k <;> cases hp : sc.parent <;> simp [firstHit, hm, hp, ih]

theorem chainF_fuel {ss : Scopes} (h : WF ss) :
    ∀ (f f' s : Nat), s < f → s < f' → chainF ss f s = chainF ss f' s := by
  intro f
  induction f with
  | zero => intro f' s hs; omega
  | succ f ih =>
    intro f' s hs hs'
    cases f' with
    | zero => omega
    | succ f' =>
      simp only [chainF]
      cases hsc : ss[s]? with
      | none => rfl
      | some sc =>
        cases hp : sc.parent with
        | none => simp only [hp]
        | some p =>
          have := h s sc hsc p hp
          simp only [hp, ih f' p (by omega) (by omega)]

theorem valueF_eq_value {ss : Scopes} (h : WF ss) (k : Key) (f s : Nat) (hs : s < f) : valueF ss f s k = value ss s k := by
  rw [value, valueF_eq_firstHit, valueF_eq_firstHit, chainF_fuel h f (s + 1) s hs (Nat.lt_succ_self s)]

theorem value_unfold {ss : Scopes} (h : WF ss) (s : Nat) (k : Key) :
    value ss s k =
      match readLevel ss s k with
      | .hit v => v
      | .up p => value ss p k
      | .bottom => none := by
  unfold value
  simp only [valueF]
  cases hr : readLevel ss s k with
  | hit v | bottom => rfl
  | up p => exact valueF_eq_value h k s p (readLevel_up_lt h hr)

theorem value_of_own {ss : Scopes} {n : Nat} {k : Key} {v : Val} (h : dataGet ss n k = some v) :
    value ss n k = v := by
  unfold value
  simp only [valueF, readLevel_hit h]

theorem ancF_succ (ss : Scopes) (f j : Nat) :
    ancF ss (f + 1) j = j :: (match parentOf ss j with | some p => ancF ss f p | none => []) := rfl

theorem ancF_le {ss : Scopes} (h : WF ss) : ∀ f j x, x ∈ ancF ss f j → x ≤ j := by
  intro f
  induction f with
  | zero => intro j x hx; simp [ancF] at hx
  | succ f ih =>
    intro j x hx
    rcases List.mem_cons.mp hx with hx | hx
    · omega
    · cases hp : parentOf ss j with
      | none => simp [hp] at hx
      | some p =>
        have := ih p x (by simpa [hp] using hx)
        have := parentOf_lt h hp
        omega

theorem anc_le {ss : Scopes} (h : WF ss) {j x : Nat} (hx : x ∈ anc ss j) : x ≤ j := ancF_le h _ _ _ hx

theorem valueF_congr {ss ss' : Scopes} {k : Key} :
    ∀ f j, (∀ x ∈ ancF ss f j, readLevel ss' x k = readLevel ss x k) → valueF ss' f j k = valueF ss f j k := by
  intro f
  induction f with
  | zero => intro j _; rfl
  | succ f ih =>
    intro j hj
    simp only [valueF, hj j List.mem_cons_self]
    cases hr : readLevel ss j k with
    | hit v | bottom => rfl
    | up p =>
      refine ih p (fun x hx => hj x (List.mem_cons_of_mem _ ?_))
      simpa [(readLevel_up hr).2] using hx

theorem value_dataSet_frame (ss : Scopes) (s j : Nat) (k k' : Key) (v : Val) (h : s ∉ anc ss j) :
    value (dataSet ss s k v) j k' = value ss j k' :=
  valueF_congr _ _ fun x hx => readLevel_dataSet_other ss s x k k' v (Or.inl fun e => h (e ▸ hx))

theorem value_dataSet_other_key (ss : Scopes) (s j : Nat) (k k' : Key) (v : Val) (hk : k' ≠ k) :
    value (dataSet ss s k v) j k' = value ss j k' :=
  valueF_congr _ _ fun x _ => readLevel_dataSet_other ss s x k k' v (Or.inr hk)

theorem value_setHeld (ss : Scopes) (s j : Nat) (b : Bool) (k : Key) : value (setHeld ss s b) j k = value ss j k :=
  valueF_congr _ _ fun x _ => readLevel_setHeld ss s x b k

theorem value_dataSet_lt {ss : Scopes} (h : WF ss) (s j : Nat) (k k' : Key) (v : Val) (hj : j < s) :
    value (dataSet ss s k v) j k' = value ss j k' :=
  value_dataSet_frame ss s j k k' v fun hs => Nat.lt_irrefl _ (Nat.lt_of_lt_of_le hj (anc_le h hs))

theorem value_dataSet_same {ss : Scopes} (s : Nat) (k : Key) (v : Val) (hs : s < ss.length) :
    value (dataSet ss s k v) s k = v :=
  value_of_own (dataGet_dataSet_same k v hs)

/-- no scope's mutex is write-held -/
def AllFree (ss : Scopes) : Prop := ∀ (i : Nat) (sc : Scope), ss[i]? = some sc → sc.held = false

theorem AllFree.isHeld {ss : Scopes} (h : AllFree ss) (j : Nat) : isHeld ss j = false := by
  unfold Goat.DataScope.isHeld
  cases hsc : ss[j]? with
  | none => rfl
  | some sc => exact h j sc hsc

/-- the hypothesis on `t` covers the walk in progress and a fresh `Value` call on `s` alike -/
theorem runTask_walk {st : Store} (hwf : WF st.scopes) (k : Key) :
    ∀ (f s : Nat) (t : Task), stepTask st t = walkTask st s k → s < f → s < st.scopes.length →
      (∀ (i : Nat) (sc : Scope), i ≤ s → st.scopes[i]? = some sc → sc.held = false) →
      runTask f st t = (st, .inl (.val (valueF st.scopes f s k))) := by
  intro f
  induction f with
  | zero => intro s _ _ hs; omega
  | succ f ih =>
    intro s t ht hs hlen hfree
    have hsc := List.getElem?_eq_getElem hlen
    have hheld := hfree s _ (Nat.le_refl s) hsc
    simp only [runTask, ht, walkTask, hsc, hheld, valueF]
    cases hr : readLevel st.scopes s k with
    | hit v | bottom => rfl
    | up p =>
      have hlt := readLevel_up_lt hwf hr
      exact ih p (.walk p k) rfl (by omega) (by omega) (fun i sc hi => hfree i sc (by omega))

theorem run_get {st : Store} (hwf : WF st.scopes) (hfree : AllFree st.scopes) (s : Nat) (k : Key)
    (hs : s < st.scopes.length) :
    run st (.req (.get s k)) = (st, .inl (.val (value st.scopes s k))) := by
  unfold run fuelFor
  rw [runTask_walk hwf k _ s _ rfl (by omega) hs (fun i sc _ => hfree i sc),
    valueF_eq_value hwf k _ _ (by omega)]

theorem run_set {st : Store} (hfree : AllFree st.scopes) (s : Nat) (k : Key) (v : Val) (hs : s < st.scopes.length) :
    run st (.req (.set s k v)) = ({ st with scopes := dataSet st.scopes s k v }, .inl .ok) := by
  have hsc := List.getElem?_eq_getElem hs
  simp [run, fuelFor, runTask, stepTask, hsc, hfree s _ hsc]

/-- the store inside a section opened on an unlocked heap: scope `s` (record `sc`) is write-locked through the
open locker `l`, no other scope is locked -/
structure Locked (st : Store) (s l : Nat) (sc : Scope) : Prop where
  scope : st.scopes[s]? = some sc
  held : sc.held = true
  locker : st.lockers[l]? = some { target := some s, parent := sc.parent, unlock := .scope s, held := false }
  others : ∀ (i : Nat) (x : Scope), i ≠ s → st.scopes[i]? = some x → x.held = false

theorem run_lock {st : Store} (hfree : AllFree st.scopes) {s : Nat} {sc : Scope} (hsc : st.scopes[s]? = some sc) :
    ∃ st1, run st (.req (.lock s)) = (st1, .inl (.locker st.lockers.length)) ∧
      st1.scopes = setHeld st.scopes s true ∧ Locked st1 s st.lockers.length { sc with held := true } := by
  refine ⟨{ scopes := setHeld st.scopes s true,
            lockers := st.lockers ++ [{ target := some s, parent := sc.parent, unlock := .scope s, held := false }] },
    by simp [run, fuelFor, runTask, stepTask, hsc, hfree s sc hsc], rfl,
    setHeld_getElem?_self true hsc, rfl, by simp, fun i x hi hx => ?_⟩
  exact hfree i x ((setHeld_getElem?_ne true hi).symm.trans hx)

theorem Locked.dataSet {st : Store} {s l : Nat} {sc : Scope} (h : Locked st s l sc) (k : Key) (v : Val) :
    Locked { st with scopes := dataSet st.scopes s k v } s l { sc with data := mset sc.data k v } :=
  ⟨dataSet_getElem?_self k v h.scope, h.held, h.locker,
    fun i x hi hx => h.others i x hi ((dataSet_getElem?_ne k v hi).symm.trans hx)⟩

theorem run_lget {st : Store} (hwf : WF st.scopes) {s l : Nat} {sc : Scope} (h : Locked st s l sc) (k : Key) :
    run st (.req (.lget l k)) = (st, .inl (.val (value st.scopes s k))) := by
  -- the locker's critical section is `readLevel` on `s`; a miss is handed over to a walk from the parent
  have hstep : stepTask st (.req (.lget l k)) =
      match readLevel st.scopes s k with
      | .hit v => .done st (.val v)
      | .up p => .more st (.walk p k)
      | .bottom => .done st (.val none) := by
    simp only [stepTask, h.locker, dataGet, h.scope, readLevel_of_scope h.scope, Bool.false_eq_true, if_false]
    cases mget sc.data k <;> cases sc.parent <;> rfl
  have hslt : s < st.scopes.length := lt_of_getElem? h.scope
  unfold run fuelFor
  rw [runTask, hstep, value_unfold hwf]
  cases hr : readLevel st.scopes s k with
  | hit v | bottom => rfl
  | up p =>
    have hps := readLevel_up_lt hwf hr
    simp only
    rw [runTask_walk hwf k _ p _ rfl (by omega) (by omega) (fun i x hi hx => h.others i x (by omega) hx),
      valueF_eq_value hwf k _ _ (by omega)]

theorem run_lset {st : Store} {s l : Nat} {sc : Scope} (h : Locked st s l sc) (k : Key) (v : Val) :
    run st (.req (.lset l k v)) = ({ st with scopes := dataSet st.scopes s k v }, .inl .ok) := by
  simp only [run, fuelFor, runTask, stepTask, h.locker, Bool.false_eq_true, if_false]

theorem run_commit {st : Store} {s l : Nat} {sc : Scope} (h : Locked st s l sc) :
    ∃ st', run st (.req (.commit l)) = (st', .inl .ok) ∧ st'.scopes = setHeld st.scopes s false := by
  simp only [run, fuelFor, runTask, stepTask, h.locker, isHeld, h.scope, h.held, if_true]
  exact ⟨_, rfl, rfl⟩

end Goat.DataScope
