/-
What `distinct_paths_commute`, `concurrent_mkdir_shared_parent` and `distinct_paths_progress` of `Props/C09`
need beyond the simulation (`sim_final`) and the sequential side (`seqRun_closed`): the operations a batch
may consist of (`Op.fine`, `Op.below`), the empty filespace as a starting point, and that a batch never
opens a stream handle (`unlocked_step`).
-/
import Goat.Proofs.MemFSConcSimMain
import Goat.Proofs.MemFSConcSeq

namespace Goat.MemFSConc

def Op.fine (op : Op) : Prop := op.ok ∧ op.reduced

instance (op : Op) : Decidable op.fine := by
  unfold Op.fine Op.reduced Path.Reduced
  cases op <;> unfold Op.ok <;> infer_instance

theorem edge_init (a : Oid) (n : Name) : edge [Obj.dir {}] a n = none := by
  rw [edge_eq]
  cases a with
  | zero => rfl
  | succ k => rfl

theorem shape_init : Shape [Obj.dir {}] := by
  refine ⟨(inv_init []).heap, rfl, ?_, ?_⟩
  · intro a n c h; rw [edge_init] at h; cases h
  · intro a n a' n' c h; rw [edge_init] at h; cases h

theorem absT_init : absT [Obj.dir {}] = abs Node.empty := by
  funext q
  cases q with
  | nil => rfl
  | cons n r =>
    unfold absT absAt
    rw [resolve_cons, edge_init]
    rfl

theorem startState_init (progs : List (List Op)) : startState [Obj.dir {}] progs = init progs := rfl

/-- a creating operation below the common ancestor `a` -/
def Op.below (a : Path) (op : Op) : Prop :=
  (∃ r, r ≠ [] ∧ op = .mkdirAll (a ++ r)) ∨ (∃ r v, r ≠ [] ∧ op = .writeFile (a ++ r) v)

theorem Op.below_ok {a : Path} {op : Op} (h : op.below a) : op.ok := by
  rcases h with ⟨r, hr, rfl⟩ | ⟨r, v, hr, rfl⟩
  · simp [Op.ok, hr]
  · simp [Op.ok, hr]

theorem Op.below_succ {T : Tree} (hw : TreeWF T) {a : Path} (hmiss : T a = none) (hnf : FS.mkdirOk T a)
    {op : Op} (h : op.below a) : succ T op := by
  rcases h with ⟨r, hr, rfl⟩ | ⟨r, v, hr, rfl⟩
  · exact mkdirOk_below_missing hw hmiss hnf r
  · refine ⟨by simp [hr], ?_, ?_⟩
    · obtain ⟨r', n, rfl⟩ := (eq_nil_or_snoc r).resolve_left hr
      rw [← List.append_assoc, List.dropLast_concat]
      exact mkdirOk_below_missing hw hmiss hnf r'
    · rw [hw.closed.below_none a _ hr (by rw [hmiss]; simp)]; simp

theorem Op.below_res_ok {T : Tree} {a : Path} {op : Op} {r : Res} (hs : succ T op) (h : op.below a)
    (hr : ResOK T op r) : r = .ok := by
  rcases h with ⟨_, _, rfl⟩ | ⟨_, _, _, rfl⟩ <;> exact hr.elim (·.2) (absurd hs ·.1)

/-- A BATCH RUN TO ITS END: threads running supported, pairwise independent operations from a forest `h0`, after a
schedule that lets all of them finish.  The tree is the initial tree with the micro effects of all operations,
every thread has logged the results its operations have in the initial tree, and the heap is a forest again. -/
theorem batch_final {h0 : Heap} (hsh : Shape h0) {progs : List (List Op)} (hok : ∀ P ∈ progs, ∀ op ∈ P, op.ok)
    (hind : progs.flatten.Pairwise IndepOp) (sched : List Tid)
    (hfin : ∀ t, unfinished ((sys .fixed progs).runFrom (startState h0 progs) sched) t = false) :
    absT ((sys .fixed progs).runFrom (startState h0 progs) sched).heap = SD (absT h0) progs.flatten ∧
    (∀ τ P, progs[τ]? = some P →
      ResList (absT h0) P (resultsOf ((sys .fixed progs).runFrom (startState h0 progs) sched) τ)) ∧
    Shape ((sys .fixed progs).runFrom (startState h0 progs) sched).heap :=
  have hsim := sim_runFrom ⟨treeWF_absT hsh, hok, hind⟩ sched (sim_start_state hsh progs)
  ⟨(sim_final hsim hfin).1, (sim_final hsim hfin).2, hsim.shape⟩

theorem actOf_ne_openH (v : Variant) {pc : Pc} (h1 : ∀ h f, pc ≠ .oOpen h f) (h2 : ∀ d h f, pc ≠ .oOpenLocked d h f)
    (h3 : ∀ h f, pc ≠ .rOpen h f) (f : Oid) (tr : Bool) : actOf v pc ≠ .openH f tr := by
  cases pc with
  | walk cur rest k => cases rest <;> simp [actOf]
  | mk cur rest k => cases rest <;> simp [actOf]
  | cDir d n stack =>
    cases stack with
    | nil => simp [actOf]
    | cons fr rest =>
      simp only [actOf]
      split <;> simp
  | oOpen h f' => exact absurd rfl (h1 h f')
  | oOpenLocked d h f' => exact absurd rfl (h2 d h f')
  | rOpen h f' => exact absurd rfl (h3 h f')
  | _ => simp [actOf]

theorem unlocked_step {T0 : Tree} {progs : List (List Op)} {s s' : State} {t : Tid} (hs : Sim T0 progs s)
    (hu : ∀ f ff, getFile s.heap f = some ff → ff.lock = none) (hst : step .fixed s t = some s') :
    ∀ f ff, getFile s'.heap f = some ff → ff.lock = none := by
  obtain ⟨th, hth, hk⟩ := step_cases hst
  cases hk with
  | start op rest hpc hprog => exact hu
  | fin r hpc => exact hu
  | act h' r hni hnf hap =>
    obtain ⟨P, hP⟩ := hs.prog_of hth
    obtain ⟨i, _, hinv, _⟩ := (hs.thr t P th hP hth).busy hni
    have hnot : ∀ f tr, actOf .fixed th.pc ≠ .openH f tr := by
      intro f tr
      apply actOf_ne_openH .fixed
      · intro h f' e; rw [e] at hinv; simp [PcInv] at hinv
      · intro d h f' e; rw [e] at hinv; simp [PcInv] at hinv
      · intro h f' e; rw [e] at hinv; simp [PcInv] at hinv
    intro f ff hg
    simp only at hg
    rcases applyAct_file hap hg with h1 | ⟨f0, hf0, hc⟩ | ⟨_, h1, _⟩
    · exact hu f ff h1
    · have hl := hu f f0 hf0
      -- of the acts that change a file only `openH` sets the lock, and `hnot` excludes it
      cases ha : actOf .fixed th.pc <;> rw [ha] at hc <;> simp only [FileChange] at hc
      case setData => rw [hc.2.2]; exact hl
      case openH => exact absurd ha (hnot _ _)
      case hwrite => rw [hc.2.2]; exact hl
      case closeH => rw [hc.2.2]
    · exact h1

end Goat.MemFSConc
