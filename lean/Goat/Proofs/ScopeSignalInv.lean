/-
C12: how invariants of the repaired system are proved.  A transition moves one goroutine and replaces at most one
context, so an invariant has to be looked at in two places only.  `knows_tr` keeps `Knows` for all goroutines; `ctxInv_tr`
reduces a statement about every context and a count over the goroutines working on it to a fact about one pc and one
context before and after (`CtxTr`), with `Knows` at hand.
-/
import Goat.Proofs.ScopeSignal
import Goat.Proofs.Lists

namespace Goat.ScopeSignal

/-- a Stop was asked for (by a caller or by the propagation goroutine), or an error is held -/
def Ctx.shouldBeDone (x : Ctx) : Prop := 0 < x.stopCalls ∨ 0 < x.propStops ∨ x.errors ≠ []

variable {s s' : State} {t c : Nat} {pc pc' : PC} {x x' : Ctx}

/-! What the propagation goroutine looks at in its parent `p`, as total functions of the index (nothing closed, no error
where there is no context), so that both can be said to only grow. -/

def State.closesOf (s : State) (p : Nat) : Nat := match s.ctxs[p]? with | some x => x.closes | none => 0
def State.hasErr (s : State) (p : Nat) : Prop := match s.ctxs[p]? with | some x => x.errors ≠ [] | none => False

theorem closesOf_some (h : s.ctxs[c]? = some x) : s.closesOf c = x.closes := by
  simp [State.closesOf, h]
theorem hasErr_some (h : s.ctxs[c]? = some x) : s.hasErr c ↔ x.errors ≠ [] := by
  simp [State.hasErr, h]

/-- What goroutine `t` at `pc` relies on about the context `x` it works on: it owns `errorsMU`, the slice it has read is
still the current one, it is the one inside the `Once`, … -/
def Knows (s : State) (t : Nat) : PC → Ctx → Prop
  | .appRead _ _, x | .errRead _, x => x.mu = some t
  | .appWrite _ _ snap, x => x.mu = some t ∧ x.errors = snap
  | .stopEnter _, x => x.shouldBeDone
  | .stopClose _, x => x.shouldBeDone ∧ x.once = .running t
  | .propWait _ p, x => x.kind = .isolated p
  | .propCheck _ p, x => x.kind = .isolated p ∧ 1 ≤ s.closesOf p
  | _, _ => True

def InvKnows (s : State) : Prop :=
  ∀ (t : Nat) (pc : PC) (c : Nat), s.threads[t]? = some pc → pc.ctx? = some c →
    ∃ x, s.ctxs[c]? = some x ∧ Knows s t pc x

theorem knows_of_ctx?_none (x : Ctx) (h : pc.ctx? = none) : Knows s t pc x := by
  cases pc <;> first | trivial | cases h

theorem CtxTr.ctx?_eq (h : CtxTr s t c pc x pc' x') (c1 : Nat) :
    (pc.ctx? = some c1 → c1 = c) ∧ (pc'.ctx? = some c1 → c1 = c) := by
  cases h <;> (try split) <;> simp [PC.ctx?, eq_comm]

theorem Tr.view (hk : InvKnows s) (hs : Tr s t s') :
    ∃ pc pc', s.threads[t]? = some pc ∧ s'.threads = s.threads.set t pc' ∧
      ((pc.ctx? = none ∧ pc'.ctx? = none ∧ s'.ctxs = s.ctxs) ∨
       ∃ c x x', s.ctxs[c]? = some x ∧ s'.ctxs = s.ctxs.set c x' ∧ CtxTr s t c pc x pc' x' ∧ Knows s t pc x) := by
  cases hs with
  | scope hpc h => exact ⟨_, _, hpc, rfl, .inl ⟨by cases h <;> rfl, by cases h <;> rfl, rfl⟩⟩
  | @ctx c pc _ x _ hpc hx h =>
    refine ⟨_, _, hpc, rfl, .inr ⟨c, x, _, hx, rfl, h, ?_⟩⟩
    cases hc : pc.ctx? with
    | none => exact knows_of_ctx?_none x hc
    | some c1 =>
      obtain ⟨y, hy, hky⟩ := hk t pc c1 hpc hc
      cases (h.ctx?_eq c1).1 hc
      cases hx.symm.trans hy
      exact hky

/-- The last clause is the mutual exclusion: another goroutine `t1` keeps `errorsMU` and its place inside the `Once`,
because `appLock`/`errLock`/`stopFresh` need `mu = none`/`once = .fresh`, and `appWrite`/`errRead`/`stopClose`, which
release them, know (`Knows`) that the owner is `t`, not `t1`. -/
theorem CtxTr.keeps (h : CtxTr s t c pc x pc' x') (hk : Knows s t pc x) :
    x'.kind = x.kind ∧ x.closes ≤ x'.closes ∧ (x.errors ≠ [] → x'.errors ≠ []) ∧
    (x.shouldBeDone → x'.shouldBeDone) ∧
    ∀ t1, t ≠ t1 → (x.mu = some t1 → x'.mu = some t1 ∧ x'.errors = x.errors) ∧
      (x.once = .running t1 → x'.once = .running t1) := by
  cases h <;> simp_all [Knows, Ctx.shouldBeDone]
  -- left: the write, which appends to the slice it has read; a non-empty slice stays non-empty
  exact Or.imp_right (Or.imp_right fun h e => absurd e h)

/-- `appLock`/`errLock` take `errorsMU`; `appRead` reads the slice it will be sure of; `appWrite` of a non-empty batch
leaves an error, so the context should be done, and so do `callStop` and `propStop` through their counters; `stopFresh`
makes `t` the one inside the `Once`; `propSeen` has seen the parent done. -/
theorem CtxTr.knows (h : CtxTr s t c pc x pc' x') (hk : Knows s t pc x) : Knows s t pc' x' := by
  cases h <;> (try split) <;> simp_all [Knows, Ctx.shouldBeDone, closesOf_some]

theorem Knows.of_keeps (hk : Knows s t pc x)
    (hcl : ∀ p, s.closesOf p ≤ s'.closesOf p) (hkind : x'.kind = x.kind) (hsd : x.shouldBeDone → x'.shouldBeDone)
    (hmu : x.mu = some t → x'.mu = some t ∧ x'.errors = x.errors)
    (honce : x.once = .running t → x'.once = .running t) : Knows s' t pc x' := by
  cases pc <;> simp_all [Knows]
  -- left: `propCheck`, whose `1 ≤ closesOf p` survives because `closesOf` only grows
  exact Nat.le_trans hk.2 (hcl _)

theorem Knows.mono (hk : Knows s t pc x) (hcl : ∀ p, s.closesOf p ≤ s'.closesOf p) : Knows s' t pc x :=
  hk.of_keeps hcl rfl id (fun h => ⟨h, rfl⟩) id

theorem tr_mono (hk : InvKnows s) (hs : Tr s t s') (p : Nat) :
    s.closesOf p ≤ s'.closesOf p ∧ (s.hasErr p → s'.hasErr p) := by
  obtain ⟨pc, pc', _, _, ⟨_, _, hc⟩ | ⟨c, x, x', hx, hc, h, hkx⟩⟩ := hs.view hk
  · simp [State.closesOf, State.hasErr, hc]
  · obtain ⟨_, h1, h2, _⟩ := h.keeps hkx
    unfold State.closesOf State.hasErr
    rw [hc, getElem?_set_of hx]
    by_cases hcp : c = p
    · subst hcp; simpa [hx] using ⟨h1, h2⟩
    · simp [hcp]

theorem knows_tr (hk : InvKnows s) (hs : Tr s t s') : InvKnows s' := by
  have hcl := fun p => (tr_mono hk hs p).1
  obtain ⟨pc, pc', hpc, ht, hv⟩ := hs.view hk
  intro t1 pc1 c1 h1 hc1
  rw [ht, getElem?_set_of hpc] at h1
  split at h1
  · -- the goroutine that moved
    subst_vars; cases h1
    rcases hv with ⟨_, h0, _⟩ | ⟨c, x, x', hx, hc, h, hkx⟩
    · rw [h0] at hc1; cases hc1
    · cases (h.ctx?_eq c1).2 hc1
      exact ⟨x', by rw [hc, getElem?_set_of hx, if_pos rfl], (h.knows hkx).mono hcl⟩
  · -- another goroutine: its context may have been the one replaced
    rename_i hne
    obtain ⟨y, hy, hky⟩ := hk t1 pc1 c1 h1 hc1
    rcases hv with ⟨_, _, hc⟩ | ⟨c, x, x', hx, hc, h, hkx⟩
    · exact ⟨y, hc ▸ hy, hky.mono hcl⟩
    · rw [hc, getElem?_set_of hx]
      split
      · subst_vars; cases hx.symm.trans hy
        obtain ⟨k1, _, _, k2, k3⟩ := h.keeps hkx
        exact ⟨x', rfl, hky.of_keeps hcl k1 k2 (k3 t1 hne).1 (k3 t1 hne).2⟩
      · exact ⟨y, hy, hky.mono hcl⟩

theorem ctxInv_tr (hk : InvKnows s) (hs : Tr s t s') {f : Nat → PC → Nat}
    (hf : ∀ c pc, pc.ctx? ≠ some c → f c pc = 0) {P : Ctx → Nat → Prop}
    (loc : ∀ {c pc x pc' x'}, s.ctxs[c]? = some x → CtxTr s t c pc x pc' x' → Knows s t pc x →
      ∀ n, P x (n + f c pc) → P x' (n + f c pc'))
    (h : ∀ c x, s.ctxs[c]? = some x → P x (wsum (f c) s.threads)) :
    ∀ c x, s'.ctxs[c]? = some x → P x (wsum (f c) s'.threads) := by
  obtain ⟨pc, pc', hpc, ht, hv⟩ := hs.view hk
  intro c1 x1 h1
  obtain ⟨n, hn, hn'⟩ := wsum_set (f c1) _ _ _ hpc
  rw [ht, hn']
  -- seen from a context that the access does not work on, the goroutine counts for nothing before and after
  have other : pc.ctx? ≠ some c1 → pc'.ctx? ≠ some c1 → s.ctxs[c1]? = some x1 → P x1 (n + f c1 pc') :=
    fun h0 h0' hx1 => by
      have := h c1 x1 hx1
      rw [hn, hf c1 pc h0] at this
      rwa [hf c1 pc' h0']
  rcases hv with ⟨h0, h0', hc⟩ | ⟨c, x, x', hx, hc, hl, hkx⟩
  · exact other (by simp [h0]) (by simp [h0']) (hc ▸ h1)
  · rw [hc, getElem?_set_of hx] at h1
    split at h1
    · subst_vars; cases h1
      exact loc hx hl hkx n (hn ▸ h c x hx)
    · rename_i hne
      exact other (fun e => hne ((hl.ctx?_eq c1).1 e).symm) (fun e => hne ((hl.ctx?_eq c1).2 e).symm) h1

theorem ctxInv_tr₀ (hk : InvKnows s) (hs : Tr s t s') {Q : Ctx → Prop}
    (loc : ∀ {c : Nat} {pc x pc' x'}, CtxTr s t c pc x pc' x' → Knows s t pc x → Q x → Q x')
    (h : ∀ (c : Nat) (x : Ctx), s.ctxs[c]? = some x → Q x) : ∀ (c : Nat) (x : Ctx), s'.ctxs[c]? = some x → Q x :=
  ctxInv_tr hk hs (f := fun _ _ => 0) (fun _ _ _ => rfl) (P := fun x _ => Q x)
    (fun _ hl hkx _ => loc hl hkx) h

end Goat.ScopeSignal
