/-
Tasks layer: consequences of `TShape` / `TInv` in terms of the tasks' lock maps and wait lists; bounded forms of
`WellFormed` and of `Stuck` for the swapped order, by which concrete instances are evaluated.
-/
import Goat.Proofs.MutexTasks

namespace Goat.MutexTasks

open Goat.Mutex Goat.LTS

theorem can_finish {v : Variant} {tasks : List Task} (hwf : WellFormed tasks) {ts : TState}
    (hinv : TInv v tasks ts) : ∃ more : List Nat, AllFinished tasks ((tsys v tasks).runFrom ts more) :=
  can_reach_final (tsys v tasks) (TInv v tasks) (AllFinished tasks) (remainingT tasks)
    (fun _ _ _ hi hst => ⟨tinv_step hi hst, remainingT_step hi.reqs hst⟩)
    (fun _ hi hf => deadlock_free_state hwf hi hf) ts hinv

theorem TInv.exclusion {v : Variant} {tasks : List Task} {ts : TState} (hinv : TInv v tasks ts)
    {i j : Nat} (hne : i ≠ j) {ti tj : Task} (hti : tasks[i]? = some ti) (htj : tasks[j]? = some tj)
    (in1 : InsideAt ts.lock i) (in2 : InsideAt ts.lock j) : MapsCompatible ti.map tj.map :=
  inside_compatible hinv.linv.excl hinv.reqs hne (by simp [mapsOf, hti]) (by simp [mapsOf, htj])
    in1 in2

theorem TShape.waiting_holds_nothing {tasks : List Task} {ts : TState} (hinv : TShape tasks ts)
    {i : Nat} {st : Stage} (hs : ts.stage[i]? = some st) (hne : st ≠ .running) (r : Row) :
    ¬ HoldsAt ts.lock i r := by
  rintro ⟨h, hi, hr'⟩
  simp [held_done (hinv.inert i st h hs hne hi)] at hr'

theorem TShape.finished_holds_nothing {tasks : List Task} {ts : TState} (hinv : TShape tasks ts)
    {j : Nat} (hf : finishedAt ts j = true) (r : Row) : ¬ HoldsAt ts.lock j r := by
  rintro ⟨h, hi, hr'⟩
  rcases finishedAt_iff.mp hf with hs | ⟨_, g, hg, hd⟩
  · exact hinv.waiting_holds_nothing hs (by simp) r ⟨h, hi, hr'⟩
  · rw [hi] at hg; cases hg
    simp [held_done hd] at hr'

theorem TShape.body_after_prereqs {tasks : List Task} {ts : TState} (hinv : TShape tasks ts)
    {i : Nat} {t : Task} (ht : tasks[i]? = some t) (hin : InsideAt ts.lock i) :
    ∀ j ∈ t.waits, finishedAt ts j = true ∧ failedAt tasks ts j = false := by
  obtain ⟨h, hi, hpc⟩ := hin
  -- the task got past `waitForTasks`, so everything in its wait list counts as passed
  exact hinv.prereq i t .running ht (running_of_not_done hinv hi (by simp [hpc]))

theorem TInv.never_blocked {v : Variant} {tasks : List Task} {ts : TState} (hinv : TInv v tasks ts) {i : Nat}
    (hc : ∀ mi, (mapsOf tasks)[i]? = some mi → ∀ j mj, j ≠ i → (mapsOf tasks)[j]? = some mj → MapsCompatible mi mj)
    (hact : ActiveAt ts.lock i) : (step v tasks ts i).isSome = true := by
  obtain ⟨l, hl⟩ := Option.isSome_iff_exists.mp
    (compatible_enabled hinv.linv hact fun _ hi => compatible_of_maps hinv.reqs hc hi)
  obtain ⟨h, hi, hd⟩ := hact
  obtain ⟨t, ht⟩ := hinv.task_of_lock hi
  exact step_of_kind ht (.lockstep l (running_of_not_done hinv.toTShape hi hd) hl)

theorem wellFormed_iff {tasks : List Task} :
    WellFormed tasks ↔ ∀ i < tasks.length, ∀ t ∈ tasks[i]?, ∀ j ∈ t.waits, j < i :=
  ⟨fun h i _ t ht => h i t ht, fun h i t ht => h i (lt_of_getElem? ht) t ht⟩

theorem stuckSwapped_iff {v : Variant} {tasks : List Task} {ts : TState} :
    Stuck (tsysSwapped v tasks) ts ↔ ∀ i < tasks.length, stepSwapped v tasks ts i = none := by
  refine ⟨fun h i _ => h i, fun h i => ?_⟩
  by_cases hi : i < tasks.length
  · exact h i hi
  · simp [tsysSwapped, stepSwapped, List.getElem?_eq_none (Nat.le_of_not_lt hi)]

end Goat.MutexTasks
