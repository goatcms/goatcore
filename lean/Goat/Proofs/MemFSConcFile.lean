/-
One file object.  While a stream handle of thread `t` holds the file (`lock = some t`) the only possible changes are
`t`'s own `hwrite`s and `t`'s `Close` (`held_change`; `file_values_writer` of `Props/C09` follows a whole run); along
every schedule the successive states of one file object form a `FileRun` (`file_history_from`).
-/
import Goat.Proofs.MemFSConcAct
import Goat.Proofs.MemFSConcSys

namespace Goat.MemFSConc

/-- a sequence of changes of one file object (by any threads, any acts) -/
inductive FileRun : FileObj → List (Tid × Act × Oid) → FileObj → Prop where
  | nil (f : FileObj) : FileRun f [] f
  | cons {f f1 f2 : FileObj} {t : Tid} {a : Act} {o : Oid} {rest : List (Tid × Act × Oid)} :
      FileChange t a o f f1 → FileRun f1 rest f2 → FileRun f ((t, a, o) :: rest) f2

def isClose : Act → Bool
  | .closeH _ _ => true
  | _ => false

/-- the chunks written by `hwrite` acts of a run -/
def chunksOf : List (Tid × Act × Oid) → Data
  | [] => []
  | (_, .hwrite _ c, _) :: rest => c ++ chunksOf rest
  | _ :: rest => chunksOf rest

theorem held_change {t t' : Tid} {a : Act} {o : Oid} {f f' : FileObj} (hl : f.lock = some t)
    (hc : FileChange t' a o f f') :
    t' = t ∧ ((∃ x c, a = .hwrite x c ∧ f'.data = f.data ++ c ∧ f'.lock = some t ∧ f'.committed = f.committed) ∨
      (∃ x w, a = .closeH x w ∧ f'.lock = none ∧ f'.committed = f.committed ++ [f.data] ∧ f'.data = f.data)) := by
  cases a <;> simp only [FileChange] at hc
  case setData x v => rw [hl] at hc; simp at hc
  case openH x tr => rw [hl] at hc; simp at hc
  case hwrite x c =>
    obtain ⟨_, h2, h3⟩ := hc
    rw [hl] at h2; cases h2
    exact ⟨rfl, Or.inl ⟨x, c, rfl, by rw [h3], by rw [h3]; exact hl, by rw [h3]⟩⟩
  case closeH x w =>
    obtain ⟨_, h2, h3⟩ := hc
    rw [hl] at h2; cases h2
    exact ⟨rfl, Or.inr ⟨x, w, rfl, by rw [h3], by rw [h3], by rw [h3]⟩⟩

theorem open_change {t : Tid} {x o : Oid} {f f' : FileObj} (hc : FileChange t (.openH x true) o f f') :
    f.lock = none ∧ f'.lock = some t ∧ f'.data = [] ∧ f'.committed = f.committed := by
  simp only [FileChange] at hc
  obtain ⟨_, h2, h3⟩ := hc
  exact ⟨h2, by rw [h3], by rw [h3]; rfl, by rw [h3]⟩

theorem step_file_fwd {v : Variant} {s s' : State} {t : Tid} (hs : step v s t = some s')
    {o : Oid} {f : FileObj} (hg : getFile s.heap o = some f) :
    ∃ f', getFile s'.heap o = some f' ∧ (f' = f ∨ ∃ a, FileChange t a o f f') := by
  obtain ⟨th, _, hk⟩ := step_cases hs
  cases hk with
  | start op rest _ _ => exact ⟨f, hg, Or.inl rfl⟩
  | fin r _ => exact ⟨f, hg, Or.inl rfl⟩
  | act h' r _ _ hap =>
    obtain ⟨f', hf', hc⟩ := applyAct_file_fwd hap hg
    refine ⟨f', hf', ?_⟩
    rcases hc with h | h
    · exact Or.inl h
    · exact Or.inr ⟨_, h⟩

theorem fileRun_snoc {f f1 f2 : FileObj} {run : List (Tid × Act × Oid)} {t : Tid} {a : Act} {o : Oid}
    (hr : FileRun f run f1) (hc : FileChange t a o f1 f2) : FileRun f (run ++ [(t, a, o)]) f2 := by
  induction hr with
  | nil f => exact FileRun.cons hc (FileRun.nil _)
  | cons hc0 _ ih => exact FileRun.cons hc0 (ih hc)

theorem file_history_from {v : Variant} {progs : List (List Op)} (sched : List Tid) {s : State} {o : Oid}
    {f : FileObj} (hg : getFile s.heap o = some f) :
    ∃ f' run, getFile ((sys v progs).runFrom s sched).heap o = some f' ∧ FileRun f run f' :=
  LTS.runFrom_induction (sys v progs) (fun s' => ∃ f' run, getFile s'.heap o = some f' ∧ FileRun f run f')
    (fun _ t _ ⟨_, run, hf1, hr⟩ hst =>
      let ⟨f2, hf2, hc⟩ := step_file_fwd (show step v _ t = some _ from hst) hf1
      hc.elim (fun e => ⟨f2, run, hf2, e ▸ hr⟩) fun ⟨a, hc⟩ => ⟨f2, run ++ [(t, a, o)], hf2, fileRun_snoc hr hc⟩)
    ⟨f, [], hg, .nil f⟩ sched

/-- `ReadFile`'s critical section returns a complete value of the file -/
theorem read_complete_step {v : Variant} {s s' : State} {t : Tid} {th th' : Thread} {f : Oid} {x : Data}
    (hi : Inv s) (hth : s.threads[t]? = some th) (hpc : th.pc = .rData f) (hs : step v s t = some s')
    (hth' : s'.threads[t]? = some th') (hres : th'.pc = .fin (.data x)) :
    ∃ ff, getFile s.heap f = some ff ∧ ff.lock = none ∧ x ∈ ff.committed := by
  obtain ⟨th0, hth0, hk⟩ := step_cases hs
  rw [hth] at hth0; cases hth0
  have hlt : t < s.threads.length := lt_of_getElem? hth
  cases hk with
  | start op rest hpc' _ => rw [hpc] at hpc'; cases hpc'
  | fin r hpc' => rw [hpc] at hpc'; cases hpc'
  | act h' r _ _ hap =>
    simp only [List.getElem?_set_self hlt, Option.some.injEq] at hth'
    subst hth'
    simp only [hpc, resume] at hres
    rw [hpc] at hap
    simp only [actOf] at hap
    cases r <;> simp only [reduceCtorEq, Pc.fin.injEq, Res.data.injEq] at hres
    subst hres
    exact getData_complete hi.files hap

end Goat.MemFSConc
