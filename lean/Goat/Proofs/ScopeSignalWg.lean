/-
C12: the wait-group counter of a scope is its open children plus the registrations in flight (`InvWg`), so it is never
negative.  Stated for every index, existing scope or not (a scope that does not exist yet has counter 0 and nobody
refers to it), so that publishing a new scope needs no separate well-formedness invariant.
-/
import Goat.Proofs.ScopeSignal
import Goat.Proofs.Lists

namespace Goat.ScopeSignal

/-- `sc` is a registered child of `p` that has not signed off yet -/
def openChild (p : Nat) (sc : Scope) : Nat := if sc.parent = some p ∧ sc.closed = false then 1 else 0
/-- goroutine `pc` has done `wg.Add(1)` on `p` and not yet published the child -/
def mkReg (p : Nat) : PC → Nat
  | .ncMk p' _ true => if p' = p then 1 else 0
  | _ => 0

/-- the wait-group counter of scope `p` (0 for a scope that does not exist yet) -/
def wgOf (l : List Scope) (p : Nat) : Int := match l[p]? with | some sc => sc.wg | none => 0

theorem wgOf_some {l : List Scope} {p : Nat} {sc : Scope} (h : l[p]? = some sc) : wgOf l p = sc.wg := by
  simp [wgOf, h]

/-- what the counter of `p` holds beyond its open children: the registrations still in flight -/
def pending (l : List Scope) (p : Nat) : Int := wgOf l p - wsum (openChild p) l

def InvWg (s : State) : Prop := ∀ (p : Nat), pending s.scopes p = wsum (mkReg p) s.threads

theorem pending_set {l : List Scope} {i : Nat} {a : Scope} (h : l[i]? = some a) (b : Scope) (p : Nat) :
    pending (l.set i b) p =
      pending l p + (if i = p then b.wg - a.wg else 0) + openChild p a - openChild p b := by
  obtain ⟨m, h1, h2⟩ := wsum_set (openChild p) l i a h
  have hw : wgOf (l.set i b) p = if i = p then b.wg else wgOf l p := by
    unfold wgOf
    rw [getElem?_set_of h]
    by_cases hip : i = p <;> simp [hip]
  rw [pending, hw, h2, pending, h1]
  by_cases hip : i = p
  · subst hip; rw [if_pos rfl, if_pos rfl, wgOf_some h]; omega
  · rw [if_neg hip, if_neg hip]; omega

/-- a new scope has counter 0, like the index it takes had before -/
theorem pending_snoc {l : List Scope} {b : Scope} (h : b.wg = 0) (p : Nat) :
    pending (l ++ [b]) p = pending l p - openChild p b := by
  have : wgOf (l ++ [b]) p = wgOf l p := by
    unfold wgOf
    rw [getElem?_snoc_if]
    by_cases hp : p = l.length
    · rw [if_pos hp, hp, List.getElem?_eq_none (Nat.le_refl _)]; exact h
    · rw [if_neg hp]
  rw [pending, this, wsum_snoc, pending]
  omega

theorem CtxTr.mkReg {s : State} {t c : Nat} {pc pc' : PC} {x x' : Ctx} (h : CtxTr s t c pc x pc' x') (p : Nat) :
    mkReg p pc = 0 ∧ mkReg p pc' = 0 := by
  cases h <;> (try split) <;> exact ⟨rfl, rfl⟩

/-- `ncAdd` raises the counter and puts the goroutine in `mkReg`; `ncMk` takes it out again and, if it had registered,
publishes an open child instead (an unregistered child has no parent); `closeChild` lowers the parent's counter and
closes an open child; `closeRoot` closes a scope that counted for nobody. -/
theorem invWg_tr {s s' : State} {t : Nat} (h : InvWg s) (hs : Tr s t s') : InvWg s' := by
  intro p0
  have hI := h p0
  cases hs with
  | ctx hpc hx hl =>
    obtain ⟨n, h1, h2⟩ := wsum_set (mkReg p0) _ _ _ hpc
    obtain ⟨e1, e2⟩ := hl.mkReg p0
    simp only [threads_setPC, scopes_setPC, scopes_setCtx, threads_setCtx, h1, h2, e1, e2] at hI ⊢
    exact hI
  | scope hpc hl =>
    obtain ⟨n, h1, h2⟩ := wsum_set (mkReg p0) _ _ _ hpc
    simp only [threads_setPC, scopes_setPC, h1, h2] at hI ⊢
    cases hl with
    | ncAdd hsc =>
      rw [pending_set hsc]
      simp only [mkReg, openChild] at hI ⊢
      split <;> omega
    | ncMk hsc =>
      rename_i p own reg sc
      rw [pending_snoc rfl]
      cases reg <;> simp [mkReg, openChild] at hI ⊢ <;> omega
    | closeRoot hsc _ hpar =>
      rw [pending_set hsc]
      simpa [mkReg, openChild, hpar] using hI
    | closeOrphan hsc hcl hpar hps =>
      rename_i sid p sc
      -- impossible: the open child `sid` counts for its parent `p`, whose counter would be 0
      have hp := h p
      have hge := wsum_ge (openChild p) _ _ _ hsc
      rw [getElem?_set_of hsc] at hps
      have : wgOf s.scopes p = 0 := by unfold wgOf; split at hps <;> simp_all
      simp [openChild, hpar, hcl] at hge
      unfold pending at hp
      omega
    | closeChild hsc hcl hpar hps =>
      rw [pending_set hps, pending_set hsc]
      simp [mkReg, openChild, hpar, hcl] at hI ⊢
      split <;> omega
    | _ => exact hI

end Goat.ScopeSignal
