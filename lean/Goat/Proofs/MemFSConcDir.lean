/-
One directory object.
`DirInv` (names unique, index ↔ nodes) is preserved by each critical section of `memfs.Dir`, and the
behaviour of sequences of critical sections on one directory (`DAct` traces): once a name is there it
stays and later creators lose (`stable_trace`), the first creator wins (`act_first_create`); the theorem
about whole traces is `create_once` of `Props/C09`.
-/
import Goat.Model.MemFSConc

namespace Goat.MemFSConc

/-- the directory invariant: names in `nodes` are unique and `index` is exactly `nodes` -/
def DirInv (d : DirObj) : Prop :=
  (d.nodes.map Prod.fst).Nodup ∧ ∀ n o, d.index n = some o ↔ (n, o) ∈ d.nodes

theorem dirInv_empty : DirInv {} := by
  constructor <;> simp

theorem index_none_iff {d : DirObj} (h : DirInv d) {n : Name} :
    d.index n = none ↔ n ∉ d.nodes.map Prod.fst := by
  rw [Option.eq_none_iff_forall_ne_some, List.mem_map]
  exact ⟨fun hn ⟨⟨m, o⟩, hmem, e⟩ => hn o (e ▸ (h.2 m o).2 hmem), fun hn o ho => hn ⟨(n, o), (h.2 n o).1 ho, rfl⟩⟩

theorem add_inv {d d' : DirObj} {n : Name} {o : Oid} (h : DirInv d) (ha : d.add n o = some d') :
    DirInv d' := by
  unfold DirObj.add at ha
  split at ha
  · cases ha
  · rename_i hnone
    cases ha
    have hnm := (index_none_iff h).1 hnone
    constructor
    · simp only [List.map_append, List.map_cons, List.map_nil]
      rw [List.nodup_append]
      refine ⟨h.1, by simp, ?_⟩
      intro a ha b hb
      simp at hb
      subst hb
      intro hab
      subst hab
      exact hnm ha
    · intro m p
      simp only [setIdx, List.mem_append, List.mem_singleton, Prod.mk.injEq]
      by_cases hm : m = n
      · subst hm
        simp only [if_true, Option.some.injEq, true_and]
        constructor
        · intro hp; exact Or.inr hp.symm
        · rintro (hp | hp)
          · exact absurd (List.mem_map.2 ⟨(m, p), hp, rfl⟩) hnm
          · exact hp.symm
      · simp only [hm, if_false, false_and, or_false]
        exact h.2 m p

theorem add_eq {d d' : DirObj} {n : Name} {o : Oid} (ha : d.add n o = some d') :
    d.index n = none ∧ d' = { d with nodes := d.nodes ++ [(n, o)], index := setIdx d.index n (some o) } := by
  unfold DirObj.add at ha
  split at ha
  · cases ha
  · exact ⟨‹_›, (Option.some.inj ha).symm⟩

theorem add_absent {d d' : DirObj} {n : Name} {o : Oid} (ha : d.add n o = some d') : d.index n = none := (add_eq ha).1

theorem add_index {d d' : DirObj} {n : Name} {o : Oid} (ha : d.add n o = some d') :
    d'.index = setIdx d.index n (some o) := by rw [(add_eq ha).2]

theorem add_locks {d d' : DirObj} {n : Name} {o : Oid} (ha : d.add n o = some d') :
    d'.outer = d.outer ∧ d'.muR = d.muR := by rw [(add_eq ha).2]; exact ⟨rfl, rfl⟩

theorem add_none_iff {d : DirObj} {n : Name} {o : Oid} : d.add n o = none ↔ (d.index n).isSome := by
  unfold DirObj.add
  cases d.index n <;> simp

theorem add_cases (d : DirObj) (n : Name) (o : Oid) :
    (d.index n ≠ none ∧ d.add n o = none) ∨ (d.index n = none ∧ ∃ d', d.add n o = some d') := by
  cases ha : d.add n o with
  | none => exact .inl ⟨fun hn => (by rw [add_none_iff, hn] at ha; cases ha), rfl⟩
  | some d' => exact .inr ⟨add_absent ha, d', rfl⟩

theorem removeFirst_eq (n : Name) (l : List (Name × Oid)) :
    removeFirst n l = if n ∈ l.map Prod.fst then some (l.eraseP (·.1 == n)) else none := by
  induction l with
  | nil => rfl
  | cons x xs ih =>
    obtain ⟨m, o⟩ := x
    by_cases hm : m = n
    · simp [removeFirst, hm]
    · have hnm : ¬ n = m := fun e => hm e.symm
      have hb : (m == n) = false := by simpa using hm
      simp only [removeFirst, hm, if_false, ih, List.map_cons, List.mem_cons, hnm, false_or, List.eraseP_cons]
      split <;> simp [hb]

theorem removeFirst_mem {n : Name} {l ns : List (Name × Oid)} (hr : removeFirst n l = some ns)
    (hnd : (l.map Prod.fst).Nodup) :
    (ns.map Prod.fst).Nodup ∧ (∀ m o, (m, o) ∈ ns ↔ m ≠ n ∧ (m, o) ∈ l) := by
  rw [removeFirst_eq] at hr
  split at hr <;> cases hr
  rename_i hn
  refine ⟨hnd.sublist (List.eraseP_sublist.map _), fun m o => ⟨fun hmem => ⟨?_, List.mem_of_mem_eraseP hmem⟩,
    fun ⟨hne, hmem⟩ => (List.mem_eraseP_of_neg (p := fun x : Name × Oid => x.1 == n) (mt beq_iff_eq.1 hne)).2 hmem⟩⟩
  -- the erased node was the only one named `n`
  rintro rfl
  obtain ⟨x, hx, hxm⟩ := List.mem_map.1 hn
  obtain ⟨a, l₁, l₂, _, ha, rfl, he⟩ :=
    List.exists_of_eraseP (p := fun x : Name × Oid => x.1 == m) hx (beq_iff_eq.2 hxm)
  rw [he] at hmem
  have ha' : a.1 = m := beq_iff_eq.1 ha
  simp only [List.map_append, List.map_cons, ha'] at hnd
  exact (List.nodup_cons.1 (List.perm_middle.nodup_iff.1 hnd)).1
    (by rw [← List.map_append]; exact List.mem_map.2 ⟨(m, o), hmem, rfl⟩)

theorem removeFirst_none_iff {n : Name} {l : List (Name × Oid)} :
    removeFirst n l = none ↔ n ∉ l.map Prod.fst := by
  rw [removeFirst_eq]
  split
  · rename_i h; exact ⟨nofun, fun hn => absurd h hn⟩
  · rename_i h; exact ⟨fun _ => h, fun _ => rfl⟩

theorem remove_inv {d d' : DirObj} {n : Name} (h : DirInv d) (hr : d.remove n = some d') : DirInv d' := by
  unfold DirObj.remove at hr
  cases hrf : removeFirst n d.nodes with
  | none => simp [hrf] at hr
  | some ns =>
    simp [hrf] at hr
    subst hr
    obtain ⟨h1, h2⟩ := removeFirst_mem hrf h.1
    refine ⟨h1, ?_⟩
    intro m o
    simp only [setIdx]
    by_cases hm : m = n
    · subst hm
      simp only [if_true]
      constructor
      · intro hx; cases hx
      · intro hx; exact absurd rfl ((h2 m o).1 hx).1
    · simp only [hm, if_false]
      rw [h2 m o, h.2 m o]
      simp [hm]

theorem remove_eq {d d' : DirObj} {n : Name} (hr : d.remove n = some d') :
    ∃ ns, d' = { d with nodes := ns, index := setIdx d.index n none } := by
  unfold DirObj.remove at hr
  cases hrf : removeFirst n d.nodes with
  | none => simp [hrf] at hr
  | some ns => simp [hrf] at hr; exact ⟨ns, hr.symm⟩

theorem remove_index {d d' : DirObj} {n : Name} (hr : d.remove n = some d') : d'.index = setIdx d.index n none := by
  obtain ⟨_, rfl⟩ := remove_eq hr; rfl

theorem remove_locks {d d' : DirObj} {n : Name} (hr : d.remove n = some d') :
    d'.outer = d.outer ∧ d'.muR = d.muR := by
  obtain ⟨_, rfl⟩ := remove_eq hr; exact ⟨rfl, rfl⟩

theorem indexOf_foldl (l : List (Name × Oid)) (idx : Name → Option Oid) (n : Name) (o : Oid)
    (hnd : (l.map Prod.fst).Nodup) :
    (l.foldl (fun idx p => setIdx idx p.1 (some p.2)) idx) n = some o ↔
      ((n, o) ∈ l ∨ (n ∉ l.map Prod.fst ∧ idx n = some o)) := by
  induction l generalizing idx with
  | nil => simp
  | cons x xs ih =>
    obtain ⟨m0, o0⟩ := x
    simp only [List.map_cons, List.nodup_cons] at hnd
    simp only [List.foldl_cons]
    rw [ih _ hnd.2]
    simp only [setIdx, List.mem_cons, Prod.mk.injEq, List.map_cons, not_or]
    by_cases hm : n = m0
    · subst hm
      simp only [if_true, Option.some.injEq, true_and, not_true_eq_false, false_and, or_false]
      constructor
      · rintro (h | ⟨_, h⟩)
        · exact absurd (List.mem_map.2 ⟨(n, o), h, rfl⟩) hnd.1
        · exact Or.inl h.symm
      · rintro (h | h)
        · exact Or.inr ⟨hnd.1, h.symm⟩
        · exact absurd (List.mem_map.2 ⟨(n, o), h, rfl⟩) hnd.1
    · simp only [hm, if_false, false_and, false_or, not_false_eq_true, true_and]

theorem indexOf_spec {nodes : List (Name × Oid)} (hnd : (nodes.map Prod.fst).Nodup) (n : Name) (o : Oid) :
    indexOf nodes n = some o ↔ (n, o) ∈ nodes := by
  unfold indexOf
  rw [indexOf_foldl nodes _ n o hnd]
  simp

theorem newDirObj_inv {nodes : List (Name × Oid)} (hnd : (nodes.map Prod.fst).Nodup) :
    DirInv (newDirObj nodes) :=
  ⟨hnd, indexOf_spec hnd⟩

/-- the critical sections of one `Dir` (object level; `fresh` is the node a creating call brings) -/
inductive DAct where
  | lookup (n : Name)
  | mkdir (n : Name) (fresh : Oid)     -- locked part of `mkdir`
  | add (n : Name) (o : Oid)           -- `addNode`
  | remove (n : Name)
  | snapshot

inductive DRet where
  | found (o : Option Oid)
  | created (o : Oid)        -- this call made the node
  | existing (o : Oid)       -- `mkdir` found the node made by someone else
  | refused                  -- `addNode`: name exists / `remove`: no such node
  | removed
  | listing (l : List (Name × Oid))
  deriving DecidableEq

def DirObj.act (d : DirObj) : DAct → DirObj × DRet
  | .lookup n => (d, .found (d.index n))
  | .mkdir n fresh =>
    match d.index n with
    | some o => (d, .existing o)
    | none =>
      match d.add n fresh with
      | some d' => (d', .created fresh)
      | none => (d, .refused)
  | .add n o =>
    match d.add n o with
    | some d' => (d', .created o)
    | none => (d, .refused)
  | .remove n =>
    match d.remove n with
    | some d' => (d', .removed)
    | none => (d, .refused)
  | .snapshot => (d, .listing d.nodes)

def DirObj.runTrace : DirObj → List DAct → DirObj × List DRet
  | d, [] => (d, [])
  | d, a :: rest =>
    let (d1, r) := d.act a
    let (d2, rs) := d1.runTrace rest
    (d2, r :: rs)

theorem act_inv {d : DirObj} (h : DirInv d) (a : DAct) : DirInv (d.act a).1 := by
  cases a with
  | lookup n => exact h
  | mkdir n fresh =>
    simp only [DirObj.act]
    split
    · exact h
    · split
      · rename_i ha; exact add_inv h ha
      · exact h
  | add n o =>
    simp only [DirObj.act]
    split
    · rename_i ha; exact add_inv h ha
    · exact h
  | remove n =>
    simp only [DirObj.act]
    split
    · rename_i hr; exact remove_inv h hr
    · exact h
  | snapshot => exact h

theorem act_locks (d : DirObj) (a : DAct) : (d.act a).1.outer = d.outer ∧ (d.act a).1.muR = d.muR := by
  -- `lookup`, `snapshot` and the refusing branches return `d`; the others are `d.add` / `d.remove`
  cases a <;> first
    | exact ⟨rfl, rfl⟩
    | (simp only [DirObj.act]
       (repeat' split) <;> first
         | exact ⟨rfl, rfl⟩
         | exact add_locks ‹_›
         | exact remove_locks ‹_›)

theorem act_add {d d' : DirObj} {n : Name} {c : Oid} (ha : d.add n c = some d') : d' = (d.act (.add n c)).1 := by
  simp [DirObj.act, ha]

theorem act_mkdir {d d' : DirObj} {n : Name} {c : Oid} (hi : d.index n = none) (ha : d.add n c = some d') :
    d' = (d.act (.mkdir n c)).1 := by
  simp [DirObj.act, hi, ha]

theorem act_remove {d d' : DirObj} {n : Name} (hr : d.remove n = some d') : d' = (d.act (.remove n)).1 := by
  simp [DirObj.act, hr]

theorem runTrace_inv {d : DirObj} (h : DirInv d) (tr : List DAct) : DirInv (d.runTrace tr).1 := by
  induction tr generalizing d with
  | nil => exact h
  | cons a rest ih =>
    simp only [DirObj.runTrace]
    exact ih (act_inv h a)

def countName (d : DirObj) (n : Name) : Nat := (d.nodes.filter fun p => p.1 == n).length

theorem countName_eq_count (d : DirObj) (n : Name) : countName d n = (d.nodes.map Prod.fst).count n := by
  unfold countName
  rw [List.count_eq_countP, List.countP_map, List.countP_eq_length_filter]; rfl

theorem countName_le_one {d : DirObj} (h : DirInv d) (n : Name) : countName d n ≤ 1 := by
  rw [countName_eq_count]; exact List.nodup_iff_count.1 h.1 n

theorem countName_eq_one_iff {d : DirObj} (h : DirInv d) (n : Name) :
    countName d n = 1 ↔ (d.index n).isSome := by
  have hle := countName_le_one h n
  have hpos : (d.index n).isSome ↔ 0 < countName d n := by
    rw [countName_eq_count, List.count_pos_iff, ← Option.ne_none_iff_isSome, ne_eq, index_none_iff h,
      Classical.not_not]
  rw [hpos]; omega

def DAct.creates (n : Name) : DAct → Bool
  | .mkdir m _ => m == n
  | .add m _ => m == n
  | _ => false

def DAct.removes (n : Name) : DAct → Bool
  | .remove m => m == n
  | _ => false

def DRet.isCreated : DRet → Bool
  | .created _ => true
  | _ => false

/-- number of creating calls on `n` in a trace that actually made a node -/
def winners (n : Name) : List DAct → List DRet → Nat
  | a :: tr, r :: rs => (if a.creates n && r.isCreated then 1 else 0) + winners n tr rs
  | _, _ => 0

/-- what a creating call on `n` may answer once the node `o` exists -/
def loserAnswer (o : Oid) (a : DAct) (r : DRet) : Prop :=
  match a with
  | .mkdir _ _ => r = .existing o
  | .add _ _ => r = .refused
  | _ => True

/-- every creating call on `n` in the trace answered as a loser w.r.t. node `o` -/
def AllLosers (n : Name) (o : Oid) : List DAct → List DRet → Prop
  | a :: tr, r :: rs => (a.creates n → loserAnswer o a r) ∧ AllLosers n o tr rs
  | _, _ => True

theorem add_index_ne {d d' : DirObj} {m n : Name} {o : Oid} (ha : d.add m o = some d') (hm : m ≠ n) :
    d'.index n = d.index n := by
  rw [add_index ha, setIdx, if_neg (fun e => hm e.symm)]

theorem add_some_of_index_none {d : DirObj} {n : Name} (hi : d.index n = none) (o : Oid) :
    ∃ d', d.add n o = some d' ∧ d'.index n = some o := by
  cases h : d.add n o with
  | none => rw [add_none_iff, hi] at h; cases h
  | some d' => exact ⟨d', rfl, by rw [add_index h, setIdx, if_pos rfl]⟩

theorem act_index_ne {d : DirObj} {n : Name} (a : DAct) (hc : a.creates n = false) (hr : a.removes n = false) :
    (d.act a).1.index n = d.index n := by
  cases a with
  | lookup m => rfl
  | snapshot => rfl
  | mkdir m fresh =>
    have hm : m ≠ n := by simpa [DAct.creates] using hc
    simp only [DirObj.act]
    split
    · rfl
    · split
      · rename_i ha; exact add_index_ne ha hm
      · rfl
  | add m o' =>
    have hm : m ≠ n := by simpa [DAct.creates] using hc
    simp only [DirObj.act]
    split
    · rename_i ha; exact add_index_ne ha hm
    · rfl
  | remove m =>
    have hm : ¬ m = n := by simpa [DAct.removes] using hr
    simp only [DirObj.act]
    split
    · rename_i hrm; rw [remove_index hrm, setIdx, if_neg (fun e => hm e.symm)]
    · rfl

theorem act_stable {d : DirObj} {n : Name} {o : Oid} (hi : d.index n = some o) (a : DAct)
    (hr : a.removes n = false) :
    (d.act a).1.index n = some o ∧ (a.creates n → loserAnswer o a (d.act a).2)
      ∧ ((a.creates n && (d.act a).2.isCreated) = false) := by
  cases hc : a.creates n with
  | false => exact ⟨by rw [act_index_ne a hc hr]; exact hi, fun h => Bool.noConfusion h, rfl⟩
  | true =>
    cases a with
    | mkdir m fresh =>
      have hm : m = n := by simpa [DAct.creates] using hc
      subst hm
      simp [DirObj.act, hi, loserAnswer, DRet.isCreated]
    | add m o' =>
      have hm : m = n := by simpa [DAct.creates] using hc
      subst hm
      have : d.add m o' = none := add_none_iff.2 (by simp [hi])
      simp [DirObj.act, this, hi, loserAnswer, DRet.isCreated]
    | _ => simp [DAct.creates] at hc

theorem stable_trace {n : Name} {o : Oid} (tr : List DAct) {d : DirObj} (hi : d.index n = some o)
    (hno : ∀ a ∈ tr, a.removes n = false) :
    (d.runTrace tr).1.index n = some o ∧ winners n tr (d.runTrace tr).2 = 0
      ∧ AllLosers n o tr (d.runTrace tr).2 := by
  induction tr generalizing d with
  | nil => simp [DirObj.runTrace, hi, winners, AllLosers]
  | cons a rest ih =>
    obtain ⟨h1, h2, h3⟩ := act_stable hi a (hno a (by simp))
    obtain ⟨i1, i2, i3⟩ := ih h1 (fun b hb => hno b (by simp [hb]))
    simp only [DirObj.runTrace, winners, AllLosers]
    refine ⟨i1, ?_, h2, i3⟩
    rw [h3, i2]; simp

theorem act_first_create {d : DirObj} {n : Name} (hi : d.index n = none) (a : DAct)
    (hr : a.removes n = false) :
    (a.creates n = false → (d.act a).1.index n = none) ∧
    (a.creates n = true → ∃ o, (d.act a).2 = .created o ∧ (d.act a).1.index n = some o) := by
  refine ⟨fun hc => by rw [act_index_ne a hc hr]; exact hi, fun hc => ?_⟩
  cases a with
  | mkdir m fresh =>
    have hm : m = n := by simpa [DAct.creates] using hc
    subst hm
    obtain ⟨d', hd', hidx⟩ := add_some_of_index_none hi fresh
    exact ⟨fresh, by simp [DirObj.act, hi, hd'], by simp [DirObj.act, hi, hd', hidx]⟩
  | add m o' =>
    have hm : m = n := by simpa [DAct.creates] using hc
    subst hm
    obtain ⟨d', hd', hidx⟩ := add_some_of_index_none hi o'
    exact ⟨o', by simp [DirObj.act, hd'], by simp [DirObj.act, hd', hidx]⟩
  | _ => simp [DAct.creates] at hc

end Goat.MemFSConc
