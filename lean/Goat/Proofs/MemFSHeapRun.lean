/-
The world of the heap model: the separation invariant `Sep` and the array invariant `Sync` are kept by
every step of the repaired code (`sep_step`, `sync_step`), hence on every history.
-/
import Goat.Proofs.MemFSHeapStep

namespace Goat
namespace MemFSHeap

open Path (Name split join reduceAbsPath dotSeg slash)
open FS (Op Result)
open MemFS (FSRef World)

/-- SEPARATION: nothing the caller holds is reachable from the tree, no object from two positions of the tree;
everything reachable or held is allocated, and the caller's handles refer to pairwise different objects. -/
structure Sep (w : HWorld) : Prop where
  disjoint : ∀ hd ∈ w.held, hd.id ∉ w.root.ids
  nodup : w.root.ids.Nodup
  alloc : ∀ id ∈ w.root.ids, id < w.heap.next
  heldAlloc : ∀ hd ∈ w.held, hd.id < w.heap.next
  heldNodup : (w.held.map Handle.id).Nodup

theorem Sep.bound {w : HWorld} (s : Sep w) : Bound w.heap w.root := (bound_iff _ _).mpr ⟨s.nodup, s.alloc⟩

theorem Sep.held_zero {w : HWorld} (s : Sep w) (hd : Handle) (hh : hd ∈ w.held) : w.root.cnt hd.id = 0 :=
  List.count_eq_zero.mpr (s.disjoint hd hh)

theorem sep_init : Sep HWorld.init := by
  refine ⟨fun hd hh => by simp [HWorld.init] at hh, by simp [HWorld.init], fun id hid => ?_,
    fun hd hh => by simp [HWorld.init] at hh, by simp [HWorld.init]⟩
  simp [HWorld.init] at hid; subst hid; simp [HWorld.init, Heap.allocL, Heap.empty]

theorem outHandles_ids (c : HCall) (r : HRes) : (outHandles c r).map Handle.id = r.out := by
  cases c <;> simp [outHandles, List.map_map, Function.comp_def, Handle.id]

theorem mutateHandle_frame {h h' : Heap} {hd : Handle} {i b : Nat} (e : mutateHandle h hd i b = some h') :
    Frame (· = hd.id) h h' ∧ h'.next = h.next := by
  unfold mutateHandle at e
  cases hd with
  | buf id =>
    simp only at e; split at e <;> simp only [Option.some.injEq, reduceCtorEq] at e
    subst e; exact ⟨frame_setB _ _ _, rfl⟩
  | listing id len =>
    simp only at e
    split at e
    · split at e <;> simp only [Option.some.injEq, reduceCtorEq] at e
      subst e; exact ⟨frame_setL _ _ _, rfl⟩
    · simp at e

theorem Frame.view {S : BufId → Prop} {h h' : Heap} (F : Frame S h h') {hd : Handle} (hlt : hd.id < h.next)
    (hn : ¬ S hd.id) : view h' hd = view h hd := by
  have := F.same hd.id hlt hn
  cases hd <;> simp only [MemFSHeap.view, Handle.id] at this ⊢ <;> simp [this]

/-- a step of the caller alone (`alloc`, `mutate`, `keep`, `recheck`): everything but a filespace call -/
def HOp.isCaller : HOp → Bool
  | .call .. => false
  | _ => true

theorem HOp.caller_or_call (op : HOp) : op.isCaller = true ∨ ∃ n c, op = .call n c := by
  cases op <;> simp [HOp.isCaller]

/-- what a caller-side step writes is no object of the tree -/
theorem caller_step (cfg : Cfg) {w : HWorld} (s : Sep w) {op : HOp} (hop : op.isCaller = true) :
    (w.step cfg op).1.root = w.root ∧ (w.step cfg op).1.views = w.views
    ∧ w.root.deref (w.step cfg op).1.heap = w.root.deref w.heap
    ∧ (w.root.Sync w.heap → w.root.Sync (w.step cfg op).1.heap) := by
  cases op with
  | call n c => cases hop
  | alloc d => exact ⟨rfl, rfl, (frame_allocB _ d).untouched s.bound⟩
  | keep _ => exact ⟨rfl, rfl, rfl, id⟩
  | recheck _ => exact ⟨rfl, rfl, rfl, id⟩
  | mutate hd i b =>
    simp only [HWorld.step]
    split
    · next hh =>
      split
      · next h' e =>
        exact ⟨rfl, rfl, (mutateHandle_frame e).1.untouched w.root (fun id hid =>
          ⟨s.bound.lt id hid, fun e' => by have := s.held_zero hd hh; subst e'; omegab⟩)⟩
      · exact ⟨rfl, rfl, rfl, id⟩
    · exact ⟨rfl, rfl, rfl, id⟩

theorem call_cases (cfg : Cfg) (w : HWorld) (n : Nat) (c : HCall) :
    ((w.views[n]? = none ∨ c.args.all (fun id => Handle.buf id ∈ w.held) = false)
      ∧ w.step cfg (.call n c) = (w, noOut .err))
    ∨ ∃ ref, w.views[n]? = some ref ∧ c.args.all (fun id => Handle.buf id ∈ w.held) = true
      ∧ w.step cfg (.call n c) =
          ({ heap := (callOn cfg ref w.heap w.root c).1.1, root := (callOn cfg ref w.heap w.root c).1.2,
             views := viewsAfter w.views ref c,
             held := outHandles c (callOn cfg ref w.heap w.root c).2 ++ w.held },
           (callOn cfg ref w.heap w.root c).2) := by
  cases hv : w.views[n]? with
  | none => exact Or.inl ⟨Or.inl rfl, by simp only [HWorld.step, hv]⟩
  | some ref =>
    cases ha : c.args.all (fun id => Handle.buf id ∈ w.held) with
    | true => exact Or.inr ⟨ref, rfl, rfl, by simp only [HWorld.step, hv, ha, if_true]⟩
    | false => exact Or.inl ⟨Or.inr rfl, by simp only [HWorld.step, hv, ha, Bool.false_eq_true, if_false]⟩

theorem call_sim (cfg : Cfg) (hc : cfg.old = false) {w : HWorld} (s : Sep w) (ref : FSRef) (c : HCall)
    (ha : c.args.all (fun id => Handle.buf id ∈ w.held) = true) :
    CSim w.heap w.root (callOn cfg ref w.heap w.root c) (MemFS.step ref (w.root.deref w.heap) (c.toOp w.heap)) := by
  refine callOn_sim cfg hc ref w.heap w.root s.bound c (fun id hid => ?_)
  have := List.all_eq_true.mp ha id hid
  simp only [decide_eq_true_eq] at this
  exact ⟨s.heldAlloc _ this, s.held_zero _ this⟩

theorem sep_step (cfg : Cfg) (hc : cfg.old = false) (w : HWorld) (s : Sep w) (op : HOp) :
    Sep (w.step cfg op).1 := by
  cases op with
  | alloc d =>
    simp only [HWorld.step]
    refine ⟨fun hd hh => ?_, s.nodup, fun id hid => ?_, fun hd hh => ?_, ?_⟩
    · simp only [List.mem_cons] at hh
      rcases hh with rfl | hh
      · intro hm; have := s.alloc _ hm; simp [Handle.id] at this
      · exact s.disjoint hd hh
    · have := s.alloc id hid; simp only [allocB_next]; omegab
    · simp only [List.mem_cons] at hh
      rcases hh with rfl | hh
      · simp [Handle.id]
      · have := s.heldAlloc hd hh; simp only [allocB_next]; omegab
    · simp only [List.map_cons, List.nodup_cons, allocB_id, Handle.id]
      refine ⟨fun hm => ?_, s.heldNodup⟩
      obtain ⟨hd, hh, e⟩ := List.mem_map.mp hm
      have := s.heldAlloc hd hh; omegab
  | mutate hd i b =>
    simp only [HWorld.step]
    split
    · split
      · next h' e =>
        have hn := (mutateHandle_frame e).2
        exact ⟨s.disjoint, s.nodup, fun id hid => by simp only [hn]; exact s.alloc id hid,
          fun hd hh => by simp only [hn]; exact s.heldAlloc hd hh, s.heldNodup⟩
      · exact s
    · exact s
  | keep hd => exact s
  | recheck hd => exact s
  | call n c =>
    rcases call_cases cfg w n c with ⟨_, e⟩ | ⟨ref, _, ha, e⟩
    · rw [e]; exact s
    · rw [e]
      obtain ⟨_, T, O, N⟩ := call_sim cfg hc s ref c ha
      have B := (bound_iff _ _).mp T.tr.bound
      -- a handle held afterwards was handed out by this call (fresh) or was held before
      have old : ∀ hd ∈ w.held, hd.id < (callOn cfg ref w.heap w.root c).1.1.next
          ∧ (callOn cfg ref w.heap w.root c).1.2.cnt hd.id = 0 := fun hd hh =>
        (T.tr.outside hd.id (s.heldAlloc hd hh) (s.held_zero hd hh)).2.2
      have new : ∀ hd ∈ outHandles c (callOn cfg ref w.heap w.root c).2,
          hd.id ∈ (callOn cfg ref w.heap w.root c).2.out := fun hd hh => by
        rw [← outHandles_ids c]; exact List.mem_map_of_mem hh
      refine ⟨fun hd hh => ?_, B.1, B.2, fun hd hh => ?_, ?_⟩
      · rcases List.mem_append.mp hh with hh | hh
        · exact List.count_eq_zero.mp (O _ (new hd hh)).2.2
        · exact List.count_eq_zero.mp (old hd hh).2
      · rcases List.mem_append.mp hh with hh | hh
        · exact (O _ (new hd hh)).2.1
        · exact (old hd hh).1
      · simp only [List.map_append, outHandles_ids]
        refine List.nodup_append.mpr ⟨N, s.heldNodup, fun a ha b hb e => ?_⟩
        obtain ⟨hd, hh, rfl⟩ := List.mem_map.mp hb
        have := (O a ha).1
        have := s.heldAlloc hd hh
        omegab

theorem sync_step (cfg : Cfg) (hc : cfg.old = false) (w : HWorld) (s : Sep w) (hs : w.root.Sync w.heap)
    (op : HOp) : (w.step cfg op).1.root.Sync (w.step cfg op).1.heap := by
  rcases op.caller_or_call with hop | ⟨n, c, rfl⟩
  · obtain ⟨r, _, _, S⟩ := caller_step cfg s hop
    rw [r]; exact S hs
  · rcases call_cases cfg w n c with ⟨_, e⟩ | ⟨ref, _, ha, e⟩
    · rw [e]; exact hs
    · rw [e]; exact (call_sim cfg hc s ref c ha).tx.sync hs

theorem run_nil (cfg : Cfg) (w : HWorld) : w.run cfg [] = (w, []) := rfl

theorem run_cons (cfg : Cfg) (w : HWorld) (op : HOp) (rest : List HOp) :
    w.run cfg (op :: rest) = (((w.step cfg op).1.run cfg rest).1, (w.step cfg op).2 :: ((w.step cfg op).1.run cfg rest).2) :=
  rfl

theorem run_append (cfg : Cfg) (w : HWorld) (ops more : List HOp) :
    (w.run cfg (ops ++ more)).1 = ((w.run cfg ops).1.run cfg more).1
    ∧ (w.run cfg (ops ++ more)).2 = (w.run cfg ops).2 ++ ((w.run cfg ops).1.run cfg more).2 := by
  induction ops generalizing w with
  | nil => simp [run_nil]
  | cons op rest ih =>
    simp only [List.cons_append, run_cons]
    have := ih (w.step cfg op).1
    exact ⟨this.1, by rw [this.2]⟩

theorem sep_run (cfg : Cfg) (hc : cfg.old = false) (w : HWorld) (s : Sep w) (ops : List HOp) :
    Sep (w.run cfg ops).1 := by
  induction ops generalizing w with
  | nil => exact s
  | cons op rest ih => rw [run_cons]; exact ih _ (sep_step cfg hc w s op)

theorem sync_run (cfg : Cfg) (hc : cfg.old = false) (w : HWorld) (s : Sep w) (hs : w.root.Sync w.heap)
    (ops : List HOp) : (w.run cfg ops).1.root.Sync (w.run cfg ops).1.heap := by
  induction ops generalizing w with
  | nil => exact hs
  | cons op rest ih => rw [run_cons]; exact ih _ (sep_step cfg hc w s op) (sync_step cfg hc w s hs op)

/-- THE ARRAY IS THE LISTING: where the arrays are in step with the tree (every world reachable by the repaired code:
`sync_run`), the copy of `k.entries` that the model's `ReadDir` hands out is the copy of `d.nodes[:len]` the Go code
makes. -/
theorem readDir_reads_array {w : HWorld} (hs : w.root.Sync w.heap) (p : Bytes) (l : BufId) (k : HKids)
    (hg : getDirByPath w.root p = some (l, k)) : (w.heap.lists l).take k.length = k.entries := by
  unfold getDirByPath at hg
  cases hn : getNodeByPath w.root p with
  | none => simp [hn] at hg
  | some m =>
    cases m with
    | file b => simp [hn] at hg
    | dir l' k' =>
      simp only [hn, Option.some.injEq, Prod.mk.injEq] at hg
      obtain ⟨rfl, rfl⟩ := hg
      exact ((sync_dir _ _ _).mp ((getNodeByPath_part _ _ _ p hn).2 hs)).1

end MemFSHeap
end Goat
