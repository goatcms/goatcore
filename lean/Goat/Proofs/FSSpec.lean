/-
About `Goat/Spec/FS.lean` alone: it is deterministic up to the order of a listing (`Step_det`); a call through a
filespace rooted at `r0 ++ b`, where `r0` and its ancestors are directories, is the same call through one rooted at `b`
of the tree seen from `r0`, and changes nothing outside `r0` (`Step_below`, an iff).
-/
import Goat.Proofs.DiskFSDefs
import Goat.Proofs.FS
import Goat.Proofs.Lists

namespace Goat

theorem prefix_append_cases {α} {r0 z q : List α} (h : q <+: r0 ++ z) :
    q <+: r0 ∨ ∃ q', q = r0 ++ q' ∧ q' <+: z := by
  rcases List.prefix_or_prefix_of_prefix h (List.prefix_append r0 z) with h1 | h1
  · exact .inl h1
  · obtain ⟨q', rfl⟩ := h1
    exact .inr ⟨q', rfl, (List.prefix_append_right_inj r0).mp h⟩

namespace Views

open Path (Name)
open FS

/-- `base` and all its ancestors are directories -/
def RootDirs (base : List Name) (S : State) : Prop := ∀ q, q <+: base → S q = some .dir

/-- what may happen at a path outside the root: nothing, or a missing ancestor of the root becomes a directory -/
def OutsideOK (base : List Name) (S S' : State) (q : List Name) : Prop :=
  S' q = S q ∨ (q <+: base ∧ S' q = some .dir)

theorem OutsideOK.eq {base q : List Name} {S S' : State} (h : OutsideOK base S S' q) (hroot : RootDirs base S) :
    S' q = S q :=
  h.elim id fun ⟨hp, e⟩ => e.trans (hroot q hp).symm

section Outside
variable (S : State) {base q : List Name} (hq : ¬ base <+: q)
include hq

/-- used with `P` = `base ++ p` or its parent -/
theorem mkdirSt_outsideOK {p P : List Name} (hP : P <+: base ++ p) : OutsideOK base S (mkdirSt S P) q := by
  by_cases h : q <+: P
  · exact Or.inr ⟨(List.prefix_or_prefix_of_prefix (h.trans hP) (List.prefix_append base p)).resolve_right hq, if_pos h⟩
  · exact Or.inl (if_neg h)

theorem writeSt_outsideOK (p : List Name) (d : Bytes) : OutsideOK base S (writeSt S (base ++ p) d) q := by
  have hne : q ≠ base ++ p := fun e => hq (e ▸ List.prefix_append base p)
  unfold OutsideOK writeSt
  simp only [hne, if_false]
  exact mkdirSt_outsideOK S hq (List.dropLast_prefix _)

theorem copySt_outsideOK (s d : List Name) : OutsideOK base S (copySt S (base ++ s) (base ++ d)) q := by
  have hne : ¬ base ++ d <+: q := fun h => hq ((List.prefix_append base d).trans h)
  unfold OutsideOK copySt
  simp only [hne, if_false]
  exact mkdirSt_outsideOK S hq (List.dropLast_prefix _)

end Outside

end Views

namespace FS

open Path (Name norm)
open Views (RootDirs)

theorem ResEq.refl (r : Result) : ResEq r r := by
  cases r <;> simp [ResEq]

theorem ResEq.of_eq {r₁ r₂ : Result} (h : r₁ = r₂) : ResEq r₁ r₂ := h ▸ ResEq.refl r₁

/-- In `symm` and `trans` the last arm covers every `r₁` that is neither a listing nor a Reader's chunks: there
`ResEq r₁ r₂` unfolds to `r₁ = r₂`. -/
theorem ResEq.symm {r₁ r₂ : Result} (h : ResEq r₁ r₂) : ResEq r₂ r₁ := by
  cases r₁ with
  | list l₁ =>
    cases r₂ with
    | list l₂ => exact List.Perm.symm h
    | _ => cases h
  | chunks c₁ =>
    cases r₂ with
    | chunks c₂ => exact Eq.symm h
    | _ => cases h
  | _ => obtain rfl : _ = r₂ := h; exact .refl _

theorem ResEq.trans {r₁ r₂ r₃ : Result} (h₁ : ResEq r₁ r₂) (h₂ : ResEq r₂ r₃) : ResEq r₁ r₃ := by
  cases r₁ with
  | list l₁ =>
    cases r₂ with
    | list l₂ =>
      cases r₃ with
      | list l₃ => exact List.Perm.trans h₁ h₂
      | _ => cases h₂
    | _ => cases h₁
  | chunks c₁ =>
    cases r₂ with
    | chunks c₂ =>
      cases r₃ with
      | chunks c₃ => exact Eq.trans h₁ h₂
      | _ => cases h₂
    | _ => cases h₁
  | _ => obtain rfl : _ = r₂ := h₁; exact h₂

theorem State.below_apply (S : State) (r q : Path) : S.below r q = S (r ++ q) := rfl

theorem TreeLike.closed {S : State} (h : TreeLike S) : PrefixClosed S := h.2

theorem mkdirSt_of_dir {S : State} (h : TreeLike S) {p : Path} (hp : S p = some .dir) : mkdirSt S p = S := by
  funext q
  simp only [mkdirSt]
  split
  · next hq => exact (h.closed.prefix_of_dir hp hq).symm
  · rfl

theorem mkdirSt_dropLast (S : State) {p : Path} (hp : p ≠ []) : mkdirSt S p.dropLast p = S p :=
  if_neg fun hc => ne_of_prefix_dropLast hp hc rfl

theorem mkdirOk_of_dir {S : State} (h : TreeLike S) {p : Path} (hp : S p = some .dir) : mkdirOk S p := by
  intro q hq d hd
  rw [h.closed.prefix_of_dir hp hq] at hd; cases hd

theorem mkdirOk_concat {S : State} {p : Path} {n : Name} :
    mkdirOk S (p ++ [n]) ↔ mkdirOk S p ∧ ∀ d, S (p ++ [n]) ≠ some (.file d) := by
  constructor
  · intro h
    exact ⟨fun q hq => h q (List.prefix_concat_iff.mpr (Or.inr hq)), h _ (List.prefix_refl _)⟩
  · rintro ⟨h1, h2⟩ q hq
    rcases List.prefix_concat_iff.mp hq with h | h
    · rw [h]; exact h2
    · exact h1 q h

theorem mkdirSt_concat {S : State} {p : Path} {n : Name} :
    mkdirSt S (p ++ [n]) = fun q => if q = p ++ [n] then some .dir else mkdirSt S p q := by
  funext q
  simp only [mkdirSt, List.prefix_concat_iff]
  by_cases h1 : q = p ++ [n] <;> simp [h1]

section
variable {S : State} {r0 : Path}

theorem mkdirOk_below (hroot : RootDirs r0 S) (z : Path) :
    mkdirOk S (r0 ++ z) ↔ mkdirOk (S.below r0) z := by
  constructor
  · intro h q hq d
    exact h (r0 ++ q) ((List.prefix_append_right_inj r0).mpr hq) d
  · intro h q hq d
    rcases prefix_append_cases hq with h1 | ⟨q', rfl, h1⟩
    · rw [hroot q h1]; intro e; cases e
    · exact h q' h1 d

theorem mkdirSt_below (S : State) (r0 z q : Path) :
    mkdirSt S (r0 ++ z) (r0 ++ q) = mkdirSt (S.below r0) z q := by
  simp only [mkdirSt, List.prefix_append_right_inj, State.below]

theorem writeOk_below (hroot : RootDirs r0 S) (x : Path) :
    writeOk S (r0 ++ x) ↔ writeOk (S.below r0) x := by
  by_cases hx : x = []
  · subst hx
    simp [writeOk, hroot r0 (List.prefix_refl _)]
  · simp only [writeOk, List.dropLast_append_of_ne_nil hx, mkdirOk_below hroot, State.below_apply]
    constructor
    · rintro ⟨_, h2, h3⟩; exact ⟨hx, h2, h3⟩
    · rintro ⟨_, h2, h3⟩; exact ⟨by simp [hx], h2, h3⟩

theorem writeSt_below (S : State) (r0 : Path) {x : Path} (hx : x ≠ []) (d : Bytes) (q : Path) :
    writeSt S (r0 ++ x) d (r0 ++ q) = writeSt (S.below r0) x d q := by
  simp only [writeSt, List.dropLast_append_of_ne_nil hx, mkdirSt_below, List.append_right_inj]

theorem removeOk_below (S : State) (r0 : Path) {x : Path} (hx : x ≠ []) :
    removeOk S (r0 ++ x) ↔ removeOk (S.below r0) x := by
  have h1 : r0 ++ x ≠ [] := by simp [hx]
  simp only [removeOk, State.below_apply, List.append_assoc, ne_eq, h1, hx, not_false_eq_true, true_and]

theorem removeSt_below (S : State) (r0 x q : Path) :
    removeSt S (r0 ++ x) (r0 ++ q) = removeSt (S.below r0) x q := by
  simp only [removeSt, List.append_right_inj, State.below_apply]

theorem removeAllOk_below (S : State) (r0 : Path) {x : Path} (hx : x ≠ []) :
    removeAllOk S (r0 ++ x) ↔ removeAllOk (S.below r0) x := by
  have h1 : r0 ++ x ≠ [] := by simp [hx]
  simp only [removeAllOk, State.below_apply, ne_eq, h1, hx, not_false_eq_true, true_and]

theorem removeAllSt_below (S : State) (r0 x q : Path) :
    removeAllSt S (r0 ++ x) (r0 ++ q) = removeAllSt (S.below r0) x q := by
  simp only [removeAllSt, List.prefix_append_right_inj, State.below_apply]

theorem copyOk_below (hroot : RootDirs r0 S) (kind : CopyKind) (s d : Path) :
    copyOk kind S (r0 ++ s) (r0 ++ d) ↔ copyOk kind (S.below r0) s d := by
  by_cases hd : d = []
  · subst hd
    simp [copyOk, hroot r0 (List.prefix_refl _)]
  · simp only [copyOk, List.dropLast_append_of_ne_nil hd, mkdirOk_below hroot, State.below_apply]
    constructor
    · rintro ⟨_, h2, h3⟩; exact ⟨hd, h2, h3⟩
    · rintro ⟨_, h2, h3⟩; exact ⟨by simp [hd], h2, h3⟩

theorem copySt_below (S : State) (r0 s : Path) {d : Path} (hd : d ≠ []) (q : Path) :
    copySt S (r0 ++ s) (r0 ++ d) (r0 ++ q) = copySt (S.below r0) s d q := by
  simp only [copySt, List.dropLast_append_of_ne_nil hd, List.prefix_append_right_inj,
    List.length_append, List.drop_length_add_append, List.append_assoc, mkdirSt_below]

theorem isListing_below (S : State) (r0 x : Path) (l : List (Name × Bool)) :
    IsListing S (r0 ++ x) l ↔ IsListing (S.below r0) x l := by
  simp only [IsListing, State.below_apply, List.append_assoc]

theorem statName_append (r0 : Path) {x : Path} (hx : x ≠ []) : statName (r0 ++ x) = statName x := by
  unfold statName
  rw [List.getLast?_append]
  cases h : x.getLast? with
  | none => exact absurd (List.getLast?_eq_none_iff.mp h) hx
  | some n => rfl

theorem writeOk_ne_nil (hr : S r0 = some .dir) {x : Path} (h : writeOk S (r0 ++ x)) : x ≠ [] := by
  intro e; subst e; exact h.2.2 (by simpa using hr)

theorem copyOk_ne_nil (hr : S r0 = some .dir) {s d : Path} {kind : CopyKind}
    (h : copyOk kind S s (r0 ++ d)) : d ≠ [] := by
  intro e; subst e
  have := h.2.2.2
  rw [List.append_nil, hr] at this
  cases this

end

theorem err_det {S S₁ S₂ : State} {r₁ r₂ : Result} (h₁ : r₁ = .err ∧ S₁ = S) (h₂ : r₂ = .err ∧ S₂ = S) :
    S₁ = S₂ ∧ ResEq r₁ r₂ :=
  ⟨h₁.2.trans h₂.2.symm, .of_eq (h₁.1.trans h₂.1.symm)⟩

theorem Mut_det {pre : Prop} {post S S₁ S₂ : State} {r₁ r₂ : Result}
    (h₁ : Mut pre post S r₁ S₁) (h₂ : Mut pre post S r₂ S₂) : S₁ = S₂ ∧ ResEq r₁ r₂ :=
  ⟨(h₁.det h₂).2, .of_eq (h₁.det h₂).1⟩

theorem State.ext_below {A B : State} (r0 : Path) (hout : ∀ q, ¬ r0 <+: q → A q = B q)
    (hin : A.below r0 = B.below r0) : A = B := by
  funext q
  by_cases h : r0 <+: q
  · obtain ⟨t, rfl⟩ := h
    exact congrFun hin t
  · exact hout q h

/- Each shape of `Step` (failing call, mutation, query) as an iff: nothing outside `r0` changes, and it is the same
call on the tree seen from `r0`. -/

theorem err_below {S S' : State} {r : Result} (r0 : Path) :
    (r = .err ∧ S' = S) ↔ (∀ q, ¬ r0 <+: q → S' q = S q) ∧ (r = .err ∧ S'.below r0 = S.below r0) :=
  ⟨fun h => ⟨fun _ _ => by rw [h.2], h.1, by rw [h.2]⟩, fun h => ⟨h.2.1, State.ext_below r0 h.1 h.2.2⟩⟩

theorem query_below {S S' : State} {Q Q' : Prop} (r0 : Path) (hQ : Q ↔ Q') :
    (S' = S ∧ Q) ↔ (∀ q, ¬ r0 <+: q → S' q = S q) ∧ (S'.below r0 = S.below r0 ∧ Q') :=
  ⟨fun h => ⟨fun _ _ => by rw [h.1], by rw [h.1], hQ.mp h.2⟩, fun h => ⟨State.ext_below r0 h.1 h.2.1, hQ.mpr h.2.2⟩⟩

theorem Mut_below {pre pre' : Prop} {post post' S S' : State} {r : Result} (r0 : Path)
    (hpre : pre ↔ pre') (hpost : pre → ∀ q, post (r0 ++ q) = post' q)
    (hout : ∀ q, ¬ r0 <+: q → post q = S q) :
    Mut pre post S r S' ↔ (∀ q, ¬ r0 <+: q → S' q = S q) ∧ Mut pre' post' (S.below r0) r (S'.below r0) := by
  constructor
  · rintro (⟨p, rfl, rfl⟩ | ⟨p, rfl, rfl⟩)
    · exact ⟨hout, .inl ⟨hpre.mp p, rfl, funext (hpost p)⟩⟩
    · exact ⟨fun _ _ => rfl, .inr ⟨fun p' => p (hpre.mpr p'), rfl, rfl⟩⟩
  · rintro ⟨hf, ⟨p', rfl, e⟩ | ⟨p', rfl, e⟩⟩
    · have p := hpre.mpr p'
      exact .inl ⟨p, rfl, State.ext_below r0 (fun q hq => (hf q hq).trans (hout q hq).symm)
        (e.trans (funext (hpost p)).symm)⟩
    · exact .inr ⟨fun p => p' (hpre.mp p), rfl, State.ext_below r0 hf e⟩

theorem IsListing.perm {S : State} {p : Path} {l₁ l₂ : List (Name × Bool)}
    (h₁ : IsListing S p l₁) (h₂ : IsListing S p l₂) : l₁.Perm l₂ := by
  have nd : ∀ {l : List (Name × Bool)}, (l.map Prod.fst).Nodup → l.Nodup := fun h =>
    List.Pairwise.of_map Prod.fst (fun a b hab e => hab (e ▸ rfl)) h
  refine (List.perm_ext_iff_of_nodup (nd h₁.1) (nd h₂.1)).mpr ?_
  rintro ⟨n, b⟩
  rw [h₁.2, h₂.2]

theorem Step_det (b : Path) (S : State) (op : Op) (r₁ r₂ : Result) (S₁ S₂ : State)
    (h₁ : Step b S op r₁ S₁) (h₂ : Step b S op r₂ S₂) : S₁ = S₂ ∧ ResEq r₁ r₂ := by
  cases op <;> dsimp only [Step] at h₁ h₂
  case writeFile raw _ | writer raw _ | mkdirAll raw | remove raw | removeAll raw =>
    generalize norm raw = o at h₁ h₂
    cases o
    · exact err_det h₁ h₂
    · exact Mut_det h₁ h₂
  case copy rs rd | copyDirectory rs rd | copyFile rs rd =>
    generalize norm rs = os at h₁ h₂
    generalize norm rd = od at h₁ h₂
    cases os <;> cases od
    case some.some => exact Mut_det h₁ h₂
    all_goals exact err_det h₁ h₂
  -- the queries: the state stays, and the answer is a function of the tree — a listing apart
  all_goals
    refine ⟨h₁.1.trans h₂.1.symm, ?_⟩
    replace h₁ := h₁.2; replace h₂ := h₂.2
    generalize norm ‹Bytes› = o at h₁ h₂
    rcases o with _ | p
    · exact .of_eq (h₁.trans h₂.symm)
    dsimp only at h₁ h₂
  case isExist | filespace => exact .of_eq (h₁.trans h₂.symm)
  all_goals
    generalize S (b ++ p) = e at h₁ h₂
    rcases e with _ | _ | _ <;> dsimp only at h₁ h₂
  case readDir.some.some.dir =>
    obtain ⟨l₁, rfl, hl₁⟩ := h₁; obtain ⟨l₂, rfl, hl₂⟩ := h₂
    exact hl₁.perm hl₂
  all_goals exact .of_eq (h₁.trans h₂.symm)

/-- The call, made through base `b`, does not ask for the name of the tree's root: it is no `Lstat` of a path that
normalises to `[]` from `b`.  That answer alone depends on where the tree hangs (`ROOT`, or the last name of the path
to it). -/
def NoRootLstat (b : Path) (op : Op) : Prop := ∀ raw p, op = .lstat raw → norm raw = some p → b ++ p ≠ []

theorem NoRootLstat.append {b : Path} {op : Op} (h : NoRootLstat b op) (r0 : Path) : NoRootLstat (r0 ++ b) op :=
  fun raw p e hn hc => h raw p e hn (List.append_eq_nil_iff.mp (List.append_assoc r0 b p ▸ hc)).2

theorem Step_below (r0 b : Path) (S S' : State) (op : Op) (res : Result) (hroot : RootDirs r0 S)
    (hl : NoRootLstat b op) :
    Step (r0 ++ b) S op res S' ↔
      (∀ q, ¬ r0 <+: q → S' q = S q) ∧ Step b (S.below r0) op res (S'.below r0) := by
  have hr : S r0 = some .dir := hroot r0 (List.prefix_refl _)
  cases op <;> dsimp only [Step]
  case writeFile raw _ | writer raw _ =>
    generalize norm raw = o
    cases o
    · exact err_below r0
    · simp only [List.append_assoc]
      exact Mut_below r0 (writeOk_below hroot _)
        (fun hp q => writeSt_below S r0 (writeOk_ne_nil hr hp) _ q)
        (fun q hq => (Views.writeSt_outsideOK S hq _ _).eq hroot)
  case mkdirAll raw =>
    generalize norm raw = o
    cases o
    · exact err_below r0
    · simp only [List.append_assoc]
      exact Mut_below r0 (mkdirOk_below hroot _) (fun _ q => mkdirSt_below S r0 _ q)
        (fun q hq => (Views.mkdirSt_outsideOK S hq (List.prefix_refl _)).eq hroot)
  case remove raw =>
    generalize norm raw = o
    cases o
    · exact err_below r0
    · simp only [List.append_assoc]
      exact Mut_below r0 (and_congr_right fun hp => removeOk_below S r0 (List.append_ne_nil_of_right_ne_nil _ hp))
        (fun _ q => removeSt_below S r0 _ q) (fun q hq => removeSt_outside S _ hq)
  case removeAll raw =>
    generalize norm raw = o
    cases o
    · exact err_below r0
    · simp only [List.append_assoc]
      exact Mut_below r0 (and_congr_right fun hp => removeAllOk_below S r0 (List.append_ne_nil_of_right_ne_nil _ hp))
        (fun _ q => removeAllSt_below S r0 _ q) (fun q hq => removeAllSt_outside S _ hq)
  case copy rs rd | copyDirectory rs rd | copyFile rs rd =>
    generalize norm rs = os
    generalize norm rd = od
    cases os <;> cases od
    case some.some =>
      simp only [List.append_assoc]
      exact Mut_below r0 (copyOk_below hroot _ _ _)
        (fun hp q => copySt_below S r0 _ (copyOk_ne_nil hr hp) q)
        (fun q hq => (Views.copySt_outsideOK S hq _ _).eq hroot)
    all_goals exact err_below r0
  -- the queries: the answer is a function of the tree seen from `r0`; only `lstat` reports a name, hence `hl`
  all_goals
    refine query_below r0 ?_
    generalize hn : norm ‹Bytes› = o
    rcases o with _ | p
    · exact Iff.rfl
    try simp only [State.below_apply, List.append_assoc]
  case readDir =>
    generalize S (r0 ++ (b ++ p)) = e
    rcases e with _ | _ | _
    · exact Iff.rfl
    · exact Iff.rfl
    · exact exists_congr fun l => and_congr_right fun _ => isListing_below S r0 _ l
  case lstat raw =>
    rw [statName_append r0 (hl raw p rfl hn)]

theorem rootDirs_of_tree {S : State} {r0 : Path} (hT : TreeLike S) (hr : S r0 = some .dir) : RootDirs r0 S :=
  fun _ hq => hT.closed.prefix_of_dir hr hq

theorem Step_rebase (r0 b : Path) (S S' : State) (op : Op) (res : Result)
    (hT : TreeLike S) (hr : S r0 = some .dir) (hl : NoRootLstat b op)
    (h : Step (r0 ++ b) S op res S') :
    Step b (S.below r0) op res (S'.below r0) :=
  ((Step_below r0 b S S' op res (rootDirs_of_tree hT hr) hl).mp h).2

theorem Step_outside (r0 b : Path) (S S' : State) (op : Op) (res : Result)
    (hT : TreeLike S) (hr : S r0 = some .dir)
    (h : Step (r0 ++ b) S op res S') :
    ∀ q, ¬ r0 <+: q → S' q = S q := by
  -- `Step_below` wants `NoRootLstat`; an `Lstat` changes nothing at all, and no other call is one
  cases op with
  | lstat raw => intro q _; rw [h.1]
  | _ => exact ((Step_below r0 b S S' _ res (rootDirs_of_tree hT hr) (fun _ _ e => by cases e)).mp h).1

theorem viewsAfter_map (m0 : Path) (cs : List Path) (h : Nat) (op : Op) :
    viewsAfter (cs.map (m0 ++ ·)) h op = (viewsAfter cs h op).map (m0 ++ ·) := by
  cases op with
  | filespace raw =>
    simp only [viewsAfter, List.getElem?_map]
    cases hc : cs[h]? with
    | none => simp
    | some c =>
      cases hn : norm raw with
      | none => simp [hn]
      | some q => simp [hn, List.append_assoc]
  | _ => rfl

end FS
end Goat
