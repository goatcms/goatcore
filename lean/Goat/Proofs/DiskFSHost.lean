/-
The host of `Goat/Model/DiskFS.lean`: `get` after `put` / `del` / `delTree`, preservation of `Host.WF`,
`WF → TreeLike`, the children of a directory and its sorted listing.
-/
import Goat.Proofs.DiskFSDefs
import Goat.Proofs.DiskFSSort

namespace Goat
namespace DiskFS

open Path (Name norm)
open FS (Op Result Entry State TreeLike)

theorem eq_snoc_of_getLast? {α} {l : List α} {m : α} (h : l.getLast? = some m) : l = l.dropLast ++ [m] := by
  obtain ⟨ys, rfl⟩ := List.getLast?_eq_some_iff.mp h
  simp

theorem getLast?_ne_nil {α} {l : List α} {m : α} (h : l.getLast? = some m) : l ≠ [] := by
  intro hc; simp [hc] at h

namespace Host

theorem raw_filter (H : Host) (g : HPath → Bool) (p : HPath) :
    raw (H.filter fun kv => g kv.1) p = if g p then raw H p else none := by
  induction H with
  | nil => simp [raw]
  | cons kv rest ih =>
    obtain ⟨k, e⟩ := kv
    simp only [List.filter]
    by_cases hk : g k = true
    · simp only [hk, raw]
      by_cases hkp : k = p
      · subst hkp; simp [hk]
      · simp only [hkp, if_false]; exact ih
    · have hk' : g k = false := by simpa using hk
      simp only [hk', raw]
      by_cases hkp : k = p
      · subst hkp; simp [hk', ih]
      · simp only [hkp, if_false]; exact ih

theorem get_nil (H : Host) : H.get [] = some .dir := by simp [get]

theorem get_of_ne {H : Host} {p : HPath} (hp : p ≠ []) : H.get p = H.raw p := by simp [get, hp]

theorem get_put (H : Host) (p : HPath) (e : Entry) (hp : p ≠ []) (q : HPath) :
    (H.put p e).get q = if q = p then some e else H.get q := by
  by_cases hq : q = []
  · subst hq
    simp [get, Ne.symm hp]
  · simp only [get, hq, if_false, put, raw]
    by_cases hqp : q = p
    · subst hqp; simp
    · have : ¬ p = q := fun h => hqp h.symm
      simp only [this, if_false, hqp]
      have := raw_filter H (fun k => decide (k ≠ p)) q
      simp only [hqp, ne_eq, not_false_eq_true, decide_true, if_true] at this
      exact this

theorem get_del (H : Host) (p : HPath) (hp : p ≠ []) (q : HPath) :
    (H.del p).get q = if q = p then none else H.get q := by
  by_cases hq : q = []
  · subst hq; simp [get, Ne.symm hp]
  · simp only [get, hq, if_false, del]
    rw [raw_filter H (fun k => decide (k ≠ p)) q]
    by_cases hqp : q = p <;> simp [hqp]

theorem get_delTree (H : Host) (p : HPath) (hp : p ≠ []) (q : HPath) :
    (H.delTree p).get q = if p <+: q then none else H.get q := by
  by_cases hq : q = []
  · subst hq
    have : ¬ p <+: [] := by simpa using hp
    simp [get, this]
  · simp only [get, hq, if_false, delTree]
    rw [raw_filter H (fun k => decide (¬ p <+: k)) q]
    by_cases hpq : p <+: q <;> simp [hpq]

theorem mem_of_raw {H : Host} {p : HPath} {e : Entry} (h : H.raw p = some e) : (p, e) ∈ H := by
  induction H with
  | nil => simp [raw] at h
  | cons kv rest ih =>
    obtain ⟨k, e'⟩ := kv
    simp only [raw] at h
    by_cases hk : k = p
    · subst hk; simp at h; subst h; simp
    · simp only [hk, if_false] at h
      exact List.mem_cons_of_mem _ (ih h)

theorem raw_of_mem {H : Host} (hn : (H.map (·.1)).Nodup) {p : HPath} {e : Entry} (h : (p, e) ∈ H) :
    H.raw p = some e := by
  induction H with
  | nil => simp at h
  | cons kv rest ih =>
    obtain ⟨k, e'⟩ := kv
    simp only [List.map_cons, List.nodup_cons] at hn
    simp only [raw]
    rcases List.mem_cons.mp h with h1 | h1
    · cases h1; simp
    · have : k ≠ p := by
        intro hk; subst hk
        exact hn.1 (List.mem_map.mpr ⟨(k, e), h1, rfl⟩)
      simp only [this, if_false]
      exact ih hn.2 h1

theorem raw_ne_none_iff {H : Host} {p : HPath} : H.raw p ≠ none ↔ p ∈ H.map (·.1) := by
  induction H with
  | nil => simp [raw]
  | cons kv rest ih =>
    obtain ⟨k, e⟩ := kv
    simp only [raw, List.map_cons, List.mem_cons]
    by_cases hk : k = p
    · subst hk; simp
    · simp only [hk, if_false, ih]
      constructor
      · exact Or.inr
      · rintro (h | h)
        · exact absurd h.symm hk
        · exact h

theorem parent_dir {H : Host} (h : H.WF) {p : HPath} (hp : p ≠ []) (he : H.get p ≠ none) :
    H.get p.dropLast = some .dir := by
  rw [get_of_ne hp] at he
  cases hr : H.raw p with
  | none => exact absurd hr he
  | some e => exact (h.2 _ (mem_of_raw hr)).2

theorem wf_treeLike {H : Host} (h : H.WF) : TreeLike H.get :=
  ⟨get_nil H, fun q n hq => by simpa using parent_dir h (by simp) hq⟩

theorem wf_nil : WF ([] : Host) := by simp [WF]

theorem wf_put {H : Host} (h : H.WF) {p : HPath} {e : Entry} (hp : p ≠ [])
    (hpar : H.get p.dropLast = some .dir) (hold : H.get p = some .dir → e = .dir) : (H.put p e).WF := by
  constructor
  · simp only [put, List.map_cons, List.nodup_cons]
    refine ⟨?_, ?_⟩
    · intro hm
      obtain ⟨kv, hkv, hk⟩ := List.mem_map.mp hm
      have := (List.mem_filter.mp hkv).2
      simp at this
      exact this hk
    · exact (List.filter_sublist.map _).nodup h.1
  · intro kv hkv
    have hdl := dropLast_ne_self hp
    simp only [put, List.mem_cons] at hkv
    rcases hkv with rfl | hkv
    · refine ⟨hp, ?_⟩
      rw [get_put H p e hp]
      simp [hdl, hpar]
    · obtain ⟨hm, hne⟩ := List.mem_filter.mp hkv
      have hne' : kv.1 ≠ p := by simpa using hne
      refine ⟨(h.2 kv hm).1, ?_⟩
      rw [get_put H p e hp]
      by_cases hd : kv.1.dropLast = p
      · simp only [hd, if_true]
        have := (h.2 kv hm).2
        rw [hd] at this
        rw [hold this]
      · simp only [hd, if_false]
        exact (h.2 kv hm).2

theorem wf_del {H : Host} (h : H.WF) {p : HPath} (hp : p ≠ []) (hkids : ∀ n, H.get (p ++ [n]) = none) :
    (H.del p).WF := by
  constructor
  · exact (List.filter_sublist.map _).nodup h.1
  · intro kv hkv
    obtain ⟨hm, _⟩ := List.mem_filter.mp hkv
    refine ⟨(h.2 kv hm).1, ?_⟩
    rw [get_del H p hp]
    by_cases hd : kv.1.dropLast = p
    · exfalso
      have hk := (h.2 kv hm).1
      have hk2 : kv.1 = p ++ [kv.1.getLast hk] := by
        rw [← hd]; exact (List.dropLast_concat_getLast hk).symm
      have h1 := hkids (kv.1.getLast hk)
      rw [← hk2, get_of_ne hk] at h1
      have h2 := raw_of_mem h.1 (show (kv.1, kv.2) ∈ H from hm)
      rw [h1] at h2
      cases h2
    · simp only [hd, if_false]
      exact (h.2 kv hm).2

theorem wf_delTree {H : Host} (h : H.WF) {p : HPath} (hp : p ≠ []) : (H.delTree p).WF := by
  constructor
  · exact (List.filter_sublist.map _).nodup h.1
  · intro kv hkv
    obtain ⟨hm, hf⟩ := List.mem_filter.mp hkv
    have hf' : ¬ p <+: kv.1 := by simpa using hf
    refine ⟨(h.2 kv hm).1, ?_⟩
    rw [get_delTree H p hp]
    have : ¬ p <+: kv.1.dropLast := fun hc => hf' (hc.trans (List.dropLast_prefix _))
    simp only [this, if_false]
    exact (h.2 kv hm).2

section
variable {κ : Type} {f : HPath × Entry → Option (κ × Bool)} {emb : κ → HPath} {D : κ → Prop}
  (hf : ∀ kv x, f kv = some x ↔ D x.1 ∧ kv.1 = emb x.1 ∧ x.2 = kv.2.isDir)
include hf

/-- `f` selects the bindings at the paths `emb k` with `D k`, so the selection lists what stands there -/
theorem mem_filterMap_keys (hne : ∀ k, D k → emb k ≠ []) {H : Host} (h : H.WF) (k : κ) (b : Bool) :
    (k, b) ∈ H.filterMap f ↔ D k ∧ (H.get (emb k)).map Entry.isDir = some b := by
  simp only [List.mem_filterMap, hf]
  constructor
  · rintro ⟨⟨p, e⟩, hm, hD, rfl, rfl⟩
    exact ⟨hD, by rw [get_of_ne (h.2 _ hm).1, raw_of_mem h.1 hm]; rfl⟩
  · rintro ⟨hD, hg⟩
    rw [get_of_ne (hne k hD)] at hg
    cases hr : H.raw (emb k) with
    | none => simp [hr] at hg
    | some e =>
      simp only [hr, Option.map_some, Option.some.injEq] at hg
      exact ⟨(emb k, e), mem_of_raw hr, hD, rfl, hg.symm⟩

theorem nodup_filterMap_keys {H : Host} (hn : (H.map (·.1)).Nodup) : ((H.filterMap f).map (·.1)).Nodup := by
  rw [List.Nodup, List.pairwise_map] at hn ⊢
  exact hn.filterMap f fun a a' hne x hx x' hx' e =>
    hne (by rw [((hf a x).mp hx).2.1, ((hf a' x').mp hx').2.1, e])

end

/-- `children p` as `mem_filterMap_keys` wants it; every name is admitted, hence `D := fun _ => True` -/
theorem children_keys (p : HPath) (kv : HPath × Entry) (x : Name × Bool) :
    (match kv.1.getLast? with
      | some n => if kv.1.dropLast = p then some (n, kv.2.isDir) else none
      | none => none) = some x ↔ True ∧ kv.1 = p ++ [x.1] ∧ x.2 = kv.2.isDir := by
  constructor
  · intro hx
    split at hx
    · next m hl =>
      split at hx
      · next hd => cases hx; exact ⟨trivial, by rw [← hd]; exact eq_snoc_of_getLast? hl, rfl⟩
      · cases hx
    · cases hx
  · rintro ⟨_, hk, hb⟩
    rw [hk, ← hb]
    simp

theorem mem_children {H : Host} (h : H.WF) (p : HPath) (n : Name) (b : Bool) :
    (n, b) ∈ H.children p ↔ (H.get (p ++ [n])).map Entry.isDir = some b :=
  (mem_filterMap_keys (emb := (p ++ [·])) (D := fun _ => True) (children_keys p) (fun _ _ => by simp) h n b).trans
    (and_iff_right trivial)

theorem children_nodup {H : Host} (hn : (H.map (·.1)).Nodup) (p : HPath) :
    ((H.children p).map (·.1)).Nodup :=
  nodup_filterMap_keys (emb := (p ++ [·])) (D := fun _ => True) (children_keys p) hn

theorem children_isEmpty {H : Host} (h : H.WF) (p : HPath) :
    (H.children p).isEmpty = true ↔ ∀ n, H.get (p ++ [n]) = none := by
  constructor
  · intro he n
    have hnil : H.children p = [] := List.isEmpty_iff.mp he
    cases hg : H.get (p ++ [n]) with
    | none => rfl
    | some e =>
      have := (mem_children h p n e.isDir).mpr (by simp [hg])
      simp [hnil] at this
  · intro hall
    apply List.isEmpty_iff.mpr
    apply List.eq_nil_iff_forall_not_mem.mpr
    rintro ⟨n, b⟩ hm
    have := (mem_children h p n b).mp hm
    simp [hall n] at this

end Host

theorem isListing_sorted {H : Host} (h : H.WF) (p : HPath) :
    FS.IsListing H.get p (sortBy keyLe (H.children p)) := by
  have hp := sortBy_perm (keyLe (α := UInt8) (β := Bool)) (H.children p)
  constructor
  · exact (hp.map _).nodup_iff.mpr (Host.children_nodup h.1 p)
  · intro n b
    rw [hp.mem_iff]
    exact Host.mem_children h p n b

end DiskFS
end Goat
