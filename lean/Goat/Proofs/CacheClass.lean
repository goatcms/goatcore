/-
The class of `commit_equiv_partial` as a special case of that of `ryw_partial`, and the co-simulation `Sim.run` on
histories of mutating calls that succeed through the cache (as those of the class do).
-/
import Goat.Proofs.CacheRyw

namespace Goat
namespace Cache

open Path (Name norm join slash Reduced Plain cleanPath reduceAbsPath)
open FS (Op Result Entry Mut)

theorem writeClass_rywClass (x : Handle × Op) (h : writeClass x = true) : rywClass x = true := by
  obtain ⟨hd, op⟩ := x
  cases op <;> simp_all [rywClass, writeClass]

/-- A `SubFS` hands every method on as the same method, or refuses it: no call of `writeClass` reaches the cache as
`remove` / `removeAll`. -/
theorem bufferOnlyAt_writeClass (r : Node) (h : Handle) (op : Op) (hc : writeClass (h, op) = true) :
    bufferOnlyAt r h op = true := by
  cases op with
  | writeFile p _ | writer p _ | mkdirAll p =>
    cases h with
    | cache => rfl
    | sub base => simp only [bufferOnlyAt, cacheOp, subOp]; cases reduceAbsPath p <;> rfl
  | copyFile a b =>
    cases h with
    | cache => rfl
    | sub base => simp only [bufferOnlyAt, cacheOp, subOp]; cases reduceAbsPath a <;> cases reduceAbsPath b <;> rfl
  | _ => cases hc

theorem removesBufferOnly_writeClass (r : Node) (ops : List (Handle × Op)) (h : ops.all writeClass = true) :
    removesBufferOnly r ops = true := by
  induction ops with
  | nil => rfl
  | cons x rest ih =>
    simp only [List.all_cons, Bool.and_eq_true] at h
    rw [removesBufferOnly_cons, bufferOnlyAt_writeClass r x.1 x.2 h.1, ih h.2]
    rfl

theorem writeClass_run {s : State} {D : Node} (V : VInv s D) (J : JInv s) (ops : List (Handle × Op))
    (hclass : ops.all writeClass = true) (hdirect : allDirectOk D ops = true) :
    VInv (run s ops) (directRun D ops) ∧ JInv (run s ops) ∧ ∀ r ∈ runResults s ops, r = .ok := by
  have := class_run V ops
    (List.all_eq_true.mpr fun x hx => writeClass_rywClass x (List.all_eq_true.mp hclass x hx)) hdirect
    (removesBufferOnly_writeClass _ ops hclass)
  exact ⟨this.1, this.2.2 hclass J, this.2.1⟩

theorem writeClass_mutating (x : Handle × Op) (h : writeClass x = true) : isMutating x.2 = true := by
  obtain ⟨hd, op⟩ := x
  cases op <;> first | rfl | cases h

theorem directStep_fst (t : Node) (h : Handle) (op : Op) :
    (directStep t h op).1 = match specRef h with | some ref => (MemFS.step ref t op).1 | none => t := by
  unfold directStep; cases specRef h <;> rfl

theorem sim_step_call (m : Sim) (h : Handle) (op : Op) (hmut : isMutating op = true)
    (hr : (step h m.cache op).2 = .ok) :
    (m.step (.call h op)).1 = { m with cache := (step h m.cache op).1, direct := (directStep m.direct h op).1 } := by
  simp only [Sim.step, hmut, hr, directStep_fst, beq_self_eq_true, Bool.and_self, if_true]
  rfl

theorem sim_run_calls (m : Sim) (ops : List (Handle × Op)) (hmut : ∀ x ∈ ops, isMutating x.2 = true)
    (hok : ∀ r ∈ runResults m.cache ops, r = .ok) :
    (m.run (ops.map fun x => HOp.call x.1 x.2)).cache = run m.cache ops
    ∧ (m.run (ops.map fun x => HOp.call x.1 x.2)).direct = directRun m.direct ops := by
  induction ops generalizing m with
  | nil => exact ⟨rfl, rfl⟩
  | cons x rest ih =>
    simp only [List.map_cons, Sim.run, run, directRun]
    rw [sim_step_call m x.1 x.2 (hmut x (by simp)) (hok _ (by simp [runResults]))]
    exact ih _ (fun y hy => hmut y (List.mem_cons_of_mem _ hy)) (fun r hr => hok r (by simp [runResults, hr]))

end Cache
end Goat
