/-
About the point-wise filespace specification (`Goat/Spec/FS.lean`) alone: what a `Mut` clause says of the answer, and
what the post-states (`mkdirSt`, `writeSt`, …) hold at, above, below and off the paths they are given.
-/
import Goat.Spec.FS

namespace Goat
namespace FS

open Path (Name)

theorem Mut.intro_ok {pre : Prop} {post S : State} (h : pre) : Mut pre post S .ok post := Or.inl ⟨h, rfl, rfl⟩

theorem Mut.intro_err {pre : Prop} {post S : State} (h : ¬ pre) : Mut pre post S .err S := Or.inr ⟨h, rfl, rfl⟩

section
variable {pre : Prop} {post S S' : State} {r : Result}

theorem Mut.ok (h : Mut pre post S r S') (hr : r = .ok) : pre ∧ S' = post := by
  rcases h with ⟨a, _, c⟩ | ⟨_, b, _⟩
  · exact ⟨a, c⟩
  · rw [hr] at b; cases b

theorem Mut.ok_iff (h : Mut pre post S r S') : r = .ok ↔ pre := by
  rcases h with ⟨a, b, _⟩ | ⟨a, b, _⟩
  · exact ⟨fun _ => a, fun _ => b⟩
  · exact ⟨fun h => (by rw [h] at b; cases b), fun h => absurd h a⟩

theorem Mut.not_ok (h : Mut pre post S r S') (hr : r ≠ .ok) : r = .err := by
  rcases h with ⟨_, b, _⟩ | ⟨_, b, _⟩
  · exact absurd b hr
  · exact b

theorem Mut.det {S₁ S₂ : State} {r₁ r₂ : Result} (h₁ : Mut pre post S r₁ S₁) (h₂ : Mut pre post S r₂ S₂) :
    r₁ = r₂ ∧ S₁ = S₂ := by
  rcases h₁ with ⟨a, b, c⟩ | ⟨a, b, c⟩ <;> rcases h₂ with ⟨a', b', c'⟩ | ⟨a', b', c'⟩
  · exact ⟨by rw [b, b'], by rw [c, c']⟩
  · exact absurd a a'
  · exact absurd a' a
  · exact ⟨by rw [b, b'], by rw [c, c']⟩

theorem Mut.congr_pre {pre' : Prop} (h : pre ↔ pre') (m : Mut pre post S r S') : Mut pre' post S r S' :=
  m.imp (fun ⟨a, b⟩ => ⟨h.mp a, b⟩) (fun ⟨a, b⟩ => ⟨fun x => a (h.mpr x), b⟩)

end

/-- whatever exists hangs below a directory -/
def PrefixClosed (S : State) : Prop := ∀ q n, S (q ++ [n]) ≠ none → S q = some .dir

namespace PrefixClosed
variable {S : State} (h : PrefixClosed S)
include h

theorem anc_dir (q t : Path) (ht : t ≠ []) (hp : S (q ++ t) ≠ none) : S q = some .dir := by
  induction t generalizing q with
  | nil => exact absurd rfl ht
  | cons a t ih =>
    by_cases ht' : t = []
    · subst ht'; exact h q a hp
    · have h1 : S ((q ++ [a]) ++ t) ≠ none := by simpa using hp
      have h2 := ih (q ++ [a]) ht' h1
      exact h q a (by rw [h2]; simp)

theorem prefix_dir {q p : Path} (hq : q <+: p) (hne : q ≠ p) (hp : S p ≠ none) : S q = some .dir := by
  obtain ⟨t, rfl⟩ := hq
  apply h.anc_dir q t _ hp
  intro ht; subst ht; simp at hne

theorem prefix_of_dir {q r0 : Path} (hr : S r0 = some .dir) (hq : q <+: r0) : S q = some .dir := by
  by_cases e : q = r0
  · subst e; exact hr
  · exact h.prefix_dir hq e (by rw [hr]; exact Option.some_ne_none _)

theorem below_none (q t : Path) (ht : t ≠ []) (hq : S q ≠ some .dir) : S (q ++ t) = none := by
  cases hs : S (q ++ t) with
  | none => rfl
  | some e => exact absurd (h.anc_dir q t ht (by simp [hs])) hq

theorem none_below {p q : Path} (hp : S p = none) (hq : p <+: q) : S q = none := by
  obtain ⟨r, rfl⟩ := hq
  by_cases hr : r = []
  · subst hr; simpa using hp
  · exact h.below_none p r hr (by rw [hp]; simp)

end PrefixClosed

theorem mkdirSt_self (S : State) (p : Path) : mkdirSt S p p = some .dir := if_pos (List.prefix_refl p)

theorem mkdirSt_dir {S : State} {q : Path} (p : Path) (h : S q = some .dir) : mkdirSt S p q = some .dir := by
  unfold mkdirSt
  split
  · rfl
  · exact h

theorem mkdirOk_mkdirSt (S : State) (p : Path) : mkdirOk (mkdirSt S p) p := by
  intro q hq d
  simp [mkdirSt, hq]

theorem mkdirSt_idem (S : State) (p : Path) : mkdirSt (mkdirSt S p) p = mkdirSt S p := by
  funext q
  simp only [mkdirSt]
  split <;> rfl

theorem writeOk_concat (S : State) (init : Path) (name : Name) :
    writeOk S (init ++ [name]) ↔ mkdirOk S init ∧ S (init ++ [name]) ≠ some .dir := by
  simp [writeOk]

theorem writeSt_at (S : State) (p : Path) (d : Bytes) : writeSt S p d p = some (.file d) := by
  simp [writeSt]

theorem writeSt_parent (S : State) (p q : Path) (d : Bytes) (h : q <+: p) (hne : q ≠ p) :
    writeSt S p d q = some .dir := by
  obtain ⟨r, rfl⟩ := h
  have hr : r ≠ [] := fun e => hne (by simp [e])
  simp [writeSt, mkdirSt, hr, List.dropLast_append_of_ne_nil hr]

theorem writeSt_frame (S : State) (p q : Path) (d : Bytes) (h : ¬ q <+: p) : writeSt S p d q = S q := by
  have hne : q ≠ p := fun e => h (e ▸ List.prefix_refl _)
  have h2 : ¬ q <+: p.dropLast := fun hp => h (hp.trans (List.dropLast_prefix p))
  simp [writeSt, hne, mkdirSt, h2]

theorem writeSt_writeSt (S : State) (q : Path) (a b : Bytes) :
    writeSt (writeSt S q a) q b = writeSt S q b := by
  funext x
  simp only [writeSt, mkdirSt]
  by_cases h1 : x = q
  · simp [h1]
  · simp only [h1, if_false]
    split <;> rfl

section
variable {r0 : Path}

/-- `S` with what stands at and below `p` replaced by `X` (`none`: by nothing): the state every mutation other than
`MkdirAll` leaves, over `S` or over `mkdirSt S p.dropLast` -/
def graft (S : State) (p : Path) (X : Option State) : State :=
  fun q => if p <+: q then X.bind (· (q.drop p.length)) else S q

theorem copySt_eq_graft (S : State) (s d : Path) :
    copySt S s d = graft (mkdirSt S d.dropLast) d (some fun r => mkdirSt S d.dropLast (s ++ r)) := rfl

theorem removeSt_outside (S : State) (x : Path) {q : Path} (hq : ¬ r0 <+: q) : removeSt S (r0 ++ x) q = S q :=
  if_neg fun (e : q = r0 ++ x) => hq (e ▸ List.prefix_append r0 x)

theorem removeAllSt_outside (S : State) (x : Path) {q : Path} (hq : ¬ r0 <+: q) :
    removeAllSt S (r0 ++ x) q = S q :=
  if_neg fun (h : r0 ++ x <+: q) => hq ((List.prefix_append r0 x).trans h)

end

theorem copyOk_concat (kind : CopyKind) (S : State) (s init : Path) (name : Name) :
    copyOk kind S s (init ++ [name]) ↔
      kind.accepts (S s) ∧ mkdirOk S init ∧ S (init ++ [name]) = none := by
  simp [copyOk]

theorem copySt_under (S : State) (s d r : Path) : copySt S s d (d ++ r) = mkdirSt S d.dropLast (s ++ r) := by
  simp [copySt]

theorem copySt_under_plain (S : State) (s d r : Path) (h : ¬ s <+: d) : copySt S s d (d ++ r) = S (s ++ r) := by
  rw [copySt_under]
  have : ¬ (s ++ r <+: d.dropLast) := by
    intro hp
    exact h ((List.prefix_append s r).trans (hp.trans (List.dropLast_prefix d)))
  simp [mkdirSt, this]

theorem copySt_frame (S : State) (s d q : Path) (h : ¬ d <+: q) (h2 : ¬ q <+: d) : copySt S s d q = S q := by
  have : ¬ q <+: d.dropLast := fun hp => h2 (hp.trans (List.dropLast_prefix d))
  simp [copySt, h, mkdirSt, this]

theorem copySt_file {S : State} (hS : PrefixClosed S) {s d : Path} {x : Bytes} (hs : S s = some (.file x))
    (hne : d ≠ []) (hmk : mkdirOk S d.dropLast) (habs : S d = none) : copySt S s d = writeSt S d x := by
  -- no path at or below the file `s` is on the way to `d`
  have hnp : ∀ r, ¬ (s ++ r) <+: d.dropLast := fun r hp => hmk s ((List.prefix_append s r).trans hp) x hs
  funext q
  simp only [copySt, writeSt]
  by_cases hq : d <+: q
  · rw [if_pos hq]
    obtain ⟨r, rfl⟩ := hq
    simp only [List.drop_left']
    by_cases hr : r = []
    · subst hr
      rw [List.append_nil, List.append_nil, if_pos rfl, mkdirSt, if_neg (by simpa using hnp [])]
      exact hs
    · have h2 : ¬ (d ++ r) <+: d.dropLast := fun hp => by
        have h3 := hp.length_le
        have h4 := List.length_pos_iff.mpr hne
        rw [List.length_append, List.length_dropLast] at h3
        omega
      rw [if_neg (fun e => hr (List.append_right_eq_self.mp e)), mkdirSt, if_neg (hnp r), mkdirSt, if_neg h2,
        hS.below_none s r hr (by rw [hs]; exact fun e => nomatch e)]
      exact (hS.none_below habs (List.prefix_append d r)).symm
  · rw [if_neg hq, if_neg (fun (e : q = d) => hq (e ▸ List.prefix_refl _))]

theorem PrefixClosed.removeAllSt_absent {S : State} (hS : PrefixClosed S) {p : Path} (h : S p = none) :
    removeAllSt S p = S := by
  funext q
  simp only [removeAllSt]
  split
  · next hq => exact (hS.none_below h hq).symm
  · rfl

end FS
end Goat
