/-
The loader is a run of `I18.set`, and `Set` appends: `load` answers the concatenation of the maps of the
`*.json` files, in order (`load_eq`).
-/
import Goat.Model.PlainMap

namespace Goat.PlainMap

/-- one file handed to `OnFile` -/
def lstep (reader : Bytes → Option (Flat Bytes)) (st : I18) (f : Bytes × Bytes) : Option I18 :=
  (reader f.2).map fun tmap => I18.set st tmap

theorem foldlM_lstep (reader : Bytes → Option (Flat Bytes)) (l : List (Bytes × Bytes)) : ∀ (st0 : I18),
    (∀ f ∈ l, ∃ m, reader f.2 = some m) →
    l.foldlM (lstep reader) st0 = some (st0 ++ (l.filterMap fun f => reader f.2).flatten) := by
  induction l with
  | nil => intro st0 _; simp
  | cons g l ih =>
    intro st0 hok
    obtain ⟨mg, hmg⟩ := hok g List.mem_cons_self
    rw [List.foldlM_cons, lstep, hmg, List.filterMap_cons_some (f := fun f : Bytes × Bytes => reader f.2) hmg,
      List.flatten_cons, ← List.append_assoc]
    exact ih _ fun f hf => hok f (List.mem_cons_of_mem _ hf)

theorem load_eq (reader : Bytes → Option (Flat Bytes)) (files : List (Bytes × Bytes))
    (hok : ∀ f ∈ files, isJsonName f.1 = true → ∃ m, reader f.2 = some m) :
    load reader files = some ((files.filter fun f => isJsonName f.1).filterMap fun f => reader f.2).flatten :=
  (foldlM_lstep reader _ [] fun f hf => hok f (List.mem_filter.mp hf).1 (List.mem_filter.mp hf).2).trans (by simp)

end Goat.PlainMap
