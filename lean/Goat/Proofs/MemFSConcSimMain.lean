/-
Every step keeps the simulation invariant (`sim_step`), it holds initially (`sim_start_state`), hence after every
schedule (`sim_runFrom`); and what it says when all threads have finished (`sim_final`).
-/
import Goat.Proofs.MemFSConcSys
import Goat.Proofs.MemFSConcSimStepWrite
import Goat.Proofs.MemFSConcSimStepWalk
import Goat.Proofs.MemFSConcSimStepCopy

namespace Goat.MemFSConc

variable {T0 : Tree} {progs : List (List Op)} {s : State}

theorem splitLast_concat (d : Path) (n : Name) : splitLast (d ++ [n]) = some (d, n) := by
  induction d with
  | nil => rfl
  | cons a rest ih =>
    cases rest with
    | nil => simp [splitLast]
    | cons b rest' =>
      simp only [List.cons_append] at ih ⊢
      rw [splitLast, ih]
      · rfl
      · simp

theorem start_inv (hs : Shape s.heap) {op : Op} (hok : op.ok) (hds : List Handle) :
    (start hds op).undecided = true ∧ PcInv T0 s.heap op (start hds op) ∧ (start hds op).pending = [] := by
  have root := DirAt.root hs
  cases op <;> simp only [Op.ok] at hok
  -- a walk from the root along the whole path
  case mkdirAll p | readFile p | readDir p | probe p _ =>
    cases p with
    | nil => exact absurd rfl hok
    | cons n r => exact ⟨rfl, ⟨[], root, by simp, rfl⟩, rfl⟩
  -- a walk from the root to the parent of the target
  case writeFile p _ | remove p | removeAll p =>
    obtain ⟨d, n, rfl⟩ := (eq_nil_or_snoc _).resolve_left hok
    simp only [start, splitLast_concat]
    cases d with
    -- second alternative: `RemoveAll` of a top-level name starts at `rmDo`, whose `PcInv` is a disjunction
    | nil => first | exact ⟨rfl, ⟨[], root, rfl⟩, rfl⟩ | exact ⟨rfl, ⟨[], root, Or.inl rfl⟩, rfl⟩
    | cons m d' => exact ⟨rfl, ⟨[], root, by simp, rfl⟩, rfl⟩
  case copy s0 d0 =>
    obtain ⟨dd, dn, rfl⟩ := (eq_nil_or_snoc _).resolve_left hok.2.1
    simp only [start, splitLast_concat]
    cases s0 with
    | nil => exact absurd rfl hok.1
    | cons m r => exact ⟨rfl, ⟨[], root, by simp, rfl⟩, rfl⟩

theorem sim_start_step (hyp : Hyp T0 progs) (hs : Sim T0 progs s) {τ : Nat} {th : Thread}
    (hth : s.threads[τ]? = some th) {op : Op} {rest : List Op} (hpc : th.pc = .idle) (hprog : th.prog = op :: rest) :
    Sim T0 progs { s with threads := s.threads.set τ { th with pc := start th.handles op, prog := rest } } := by
  have hlt : τ < s.threads.length := (List.getElem?_eq_some_iff.1 hth).1
  obtain ⟨P, hP⟩ := hs.prog_of hth
  have old := hs.thr τ P th hP hth
  have hsp : P = (begun P th ++ [op]) ++ rest := by
    have := old.split; rw [hprog] at this; simpa using this
  have hb : begun P { th with pc := start th.handles op, prog := rest } = begun P th ++ [op] := begun_eq hsp
  obtain ⟨hund, hinv, hpe⟩ := start_inv (T0 := T0) hs.shape
    (hyp.ok P (List.mem_of_getElem? hP) op (by rw [hsp]; simp)) th.handles
  have hidle : start th.handles op ≠ .idle := by intro e; rw [e] at hund; cases hund
  refine ⟨hs.shape, by simp [hs.len], ?_, ?_, pend_set hth (fun _ _ _ _ c hc => by rw [hpe] at hc; cases hc) hs.pend⟩
  · intro τ1 P1 th1 hP1 hth1
    simp only at hth1
    by_cases hτ : τ1 = τ
    · subst hτ
      rw [List.getElem?_set_self hlt] at hth1; cases hth1
      rw [hP] at hP1; cases hP1
      exact ⟨by rw [hb]; exact hsp, fun e => absurd e hidle,
        fun _ => ⟨op, by unfold curOp; rw [hb, List.getLast?_concat], hinv,
          by rw [hb, List.dropLast_concat]; exact old.idle hpc⟩⟩
    · rw [List.getElem?_set_ne (fun e => hτ e.symm)] at hth1
      exact hs.thr τ1 P1 th1 hP1 hth1
  · unfold AbsOK
    obtain ⟨A, B, h1, h2, _⟩ := decAll_split hP hth
    have hdec : decOf P { th with pc := start th.handles op, prog := rest } = decOf P th := by
      rw [decOf_und (show ({ th with pc := start th.handles op, prog := rest } : Thread).pc.undecided = true from hund), hb,
        List.dropLast_concat, decOf_dec (by rw [hpc]; rfl)]
    rw [h2, hdec, ← h1]
    exact absRel_mono hs.abs (fun q hq => ext_set_und hP hth (fun e => by rw [hpc] at e; cases e) hq)

theorem sim_fin_step (hs : Sim T0 progs s) {τ : Nat} {th : Thread}
    (hth : s.threads[τ]? = some th) {r : Res} (hpc : th.pc = .fin r) :
    Sim T0 progs { heap := s.heap, threads := s.threads.set τ { th with pc := .idle }, log := (τ, r) :: s.log } := by
  have hlt : τ < s.threads.length := (List.getElem?_eq_some_iff.1 hth).1
  obtain ⟨P, hP⟩ := hs.prog_of hth
  have old := hs.thr τ P th hP hth
  obtain ⟨i, hcur, hinv, hres⟩ := old.busy (by rw [hpc]; simp)
  rw [hpc] at hinv
  refine ⟨hs.shape, by simp [hs.len], ?_, ?_, pend_set hth (fun _ _ _ _ c hc => by simp [Pc.pending] at hc) hs.pend⟩
  · intro τ1 P1 th1 hP1 hth1
    simp only at hth1
    rw [resultsOf_log_cons]
    by_cases hτ : τ1 = τ
    · subst hτ
      rw [List.getElem?_set_self hlt] at hth1; cases hth1
      rw [hP] at hP1; cases hP1
      simp only [if_true]
      refine ⟨old.split, fun _ => ?_, fun hb => absurd rfl hb⟩
      show ResList T0 (begun P th) _
      rw [begun_cur hcur]
      exact resList_snoc hres hinv
    · rw [List.getElem?_set_ne (fun e => hτ e.symm)] at hth1
      simp only [hτ, if_false]
      exact hs.thr τ1 P1 th1 hP1 hth1
  · exact absOK_decided_step hs hP hth (pc' := .idle) (hs' := th.handles) (by rw [hpc]; rfl) rfl rfl

theorem sim_step (hyp : Hyp T0 progs) (hs : Sim T0 progs s) {t : Tid} {s' : State}
    (hst : step .fixed s t = some s') : Sim T0 progs s' := by
  obtain ⟨th, hth, hk⟩ := step_cases hst
  obtain ⟨P, hP⟩ := hs.prog_of hth
  cases hk with
  | start op rest hpc hprog => exact sim_start_step hyp hs hth hpc hprog
  | fin r hpc => exact sim_fin_step hs hth hpc
  | act h' r hni hnf hap =>
    have old := hs.thr t P th hP hth
    obtain ⟨i, hcur, hinv, _⟩ := old.busy hni
    have key : ∀ pc, th.pc = pc → PcInv T0 s.heap i pc → applyAct s.heap t (actOf .fixed pc) = some (h', r) →
        Sim T0 progs (s.after t th h' (resume .fixed pc r) (handleEffect pc r th.handles)) := by
      intro pc hpc hinv hap
      have use : pc.undecided = true → StepOK pc →
          Sim T0 progs (s.after t th h' (resume .fixed pc r) (handleEffect pc r th.handles)) :=
        fun hu st => st ⟨hyp, hs, hP, hth, by rw [hpc]; exact hu, hcur⟩ hpc hinv hap
      -- program counters not listed have `PcInv = False`: handles and the old lock orders are not simulated
      cases pc <;> try (simp only [PcInv] at hinv)
      case fin r0 => exact absurd hpc (hnf r0)
      case mk cur rest k =>
        cases rest with
        | nil => obtain ⟨_, _, hne, _⟩ := hinv; exact absurd rfl hne
        | cons n rest' => exact use rfl step_mk
      case mkLocked cur n rest k =>
        exact use rfl step_mkLocked
      case wLock d n v => exact use rfl step_wLock
      case wLook d n v => exact use rfl step_wLook
      case wAdd d n v => exact use rfl step_wAdd
      case wUnlockFin d res => exact step_wUnlockFin hyp hs hP hth hcur hpc hinv hap
      case wUnlockSet d f v => exact use rfl step_wUnlockSet
      case wSet f v => exact use rfl step_wSet
      case walk cur rest k =>
        cases rest with
        | nil => obtain ⟨_, _, hne, _⟩ := hinv; exact absurd rfl hne
        | cons n rest' => exact use rfl step_walk
      case rData f => exact use rfl step_rData
      case rList d => exact use rfl step_rList
      case rmLook o n => exact use rfl step_rmLook
      case rmLen o n c => exact use rfl step_rmLen
      case rmDo o n => exact use rfl step_rmDo
      case cFile d n src => exact use rfl step_cFile
      case cEnter d n src => exact use rfl step_cEnter
      case cAdd d n c => exact use rfl step_cAdd
      case cDir d n stack =>
        cases stack with
        | nil => obtain ⟨_, _, _, _, _, hne, _⟩ := hinv; exact absurd rfl hne
        | cons fr rest => exact use rfl step_cDir
    exact key th.pc rfl hinv hap

theorem decAll_start (progs : List (List Op)) : decAll progs (progs.map fun p => ({ prog := p } : Thread)) = [] := by
  induction progs with
  | nil => rfl
  | cons P Ps ih =>
    simp only [List.map_cons, decAll, ih, List.append_nil]
    simp [decOf, begun, Pc.undecided]

theorem sim_start_state {h0 : Heap} (hs : Shape h0) (progs : List (List Op)) :
    Sim (absT h0) progs (startState h0 progs) := by
  refine ⟨hs, by simp [startState], ?_, ?_, ?_⟩
  · intro τ P th hP hth
    simp only [startState, List.getElem?_map] at hth
    rw [hP] at hth
    simp at hth
    subst hth
    have hst : begun P ({ prog := P } : Thread) = [] := begun_eq rfl
    refine ⟨by rw [hst]; rfl, fun _ => ?_, fun hb => absurd rfl hb⟩
    rw [hst]
    exact resList_nil _
  · simp only [AbsOK, startState, decAll_start]
    intro q; left; rfl
  · intro a b tha thb _ ha _ c hc
    simp only [startState, List.getElem?_map] at ha
    cases hPa : progs[a]? with
    | none => simp [hPa] at ha
    | some Pa => simp [hPa] at ha; subst ha; simp [Pc.pending] at hc

theorem sim_runFrom (hyp : Hyp T0 progs) (sched : List Tid) (hs : Sim T0 progs s) :
    Sim T0 progs ((sys .fixed progs).runFrom s sched) :=
  LTS.runFrom_induction (sys .fixed progs) (Sim T0 progs) (fun _ _ _ h hst => sim_step hyp h hst) hs sched

theorem decAll_finished {ths : List Thread} (hl : ths.length = progs.length)
    (hfin : ∀ th ∈ ths, th.finished = true) : decAll progs ths = progs.flatten := by
  induction progs generalizing ths with
  | nil => cases ths <;> simp [decAll]
  | cons P Ps ih =>
    cases ths with
    | nil => simp at hl
    | cons th ts =>
      simp only [decAll, List.flatten_cons]
      have hf := hfin th (by simp)
      have hpc := finished_iff.1 hf
      have : decOf P th = P := by rw [decOf_dec (by rw [hpc.1]; rfl), begun_done hpc.2]
      rw [this, ih (by simpa using hl) (fun th1 h1 => hfin th1 (by simp [h1]))]

/-- ALL THREADS FINISHED: the abstract tree of the heap is the initial tree with the micro effects of all
operations (in the order of the programs — and, the effects being independent, in any order), and every
thread has logged, for each of its operations in order, the result the operation has in the initial tree. -/
theorem sim_final (hs : Sim T0 progs s)
    (hfin : ∀ t, unfinished s t = false) :
    absT s.heap = SD T0 progs.flatten ∧
    ∀ τ P, progs[τ]? = some P → ResList T0 P (resultsOf s τ) := by
  have hall : ∀ th ∈ s.threads, th.finished = true := List.all_eq_true.1 (all_finished_iff.1 hfin)
  have hdec : decAll progs s.threads = progs.flatten :=
    decAll_finished hs.len hall
  constructor
  · funext q
    rcases hs.abs q with h1 | ⟨_, _, _, τ, P, th, op, c, _, h2, e⟩
    · rw [h1, hdec]
    · -- a finished thread is not creating
      have := e.creating
      rw [(finished_iff.1 (hall th (List.mem_of_getElem? h2))).1] at this; cases this
  · intro τ P hP
    have hlt : τ < s.threads.length := by
      rw [hs.len]; exact (List.getElem?_eq_some_iff.1 hP).1
    have hth : s.threads[τ]? = some s.threads[τ] := List.getElem?_eq_getElem hlt
    have old := hs.thr τ P _ hP hth
    have hf := hall _ (List.getElem_mem hlt)
    have hpc := finished_iff.1 hf
    have := old.idle hpc.1
    rw [begun_done hpc.2] at this
    exact this

end Goat.MemFSConc
