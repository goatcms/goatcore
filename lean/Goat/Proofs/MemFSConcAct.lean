/-
What a critical section (`applyAct`) does, act by act, for the acts of the operations without stream handles in
the repaired lock order: the heap afterwards and the answer, given the object the act works on.  (`actEff_spec` of
`MemFSConcHeap` says what all acts have in common.)
-/
import Goat.Proofs.MemFSConcHeap

namespace Goat.MemFSConc

/-- `getNode` / `getDir` -/
theorem act_lookup {h h' : Heap} {t : Tid} {d : Oid} {n : Name} {r : Ret}
    (hs : applyAct h t (.lookup d n) = some (h', r)) :
    h' = h ∧ r = .node ((edge h d n).map fun o => (o, kindOf h o)) := by
  obtain ⟨e, he, hh, hr⟩ := applyAct_some hs
  simp only [actEff] at he
  unfold edge
  cases hd : getDir h d with
  | none => simp [hd] at he; subst he; exact ⟨hh.symm, hr.symm⟩
  | some dd => simp [hd] at he; subst he; exact ⟨hh.symm, hr.symm⟩

theorem act_tau {h h' : Heap} {t : Tid} {r : Ret} (hs : applyAct h t .tau = some (h', r)) : h' = h := by
  obtain ⟨e, he, hh, _⟩ := applyAct_some hs
  simp only [actEff, Option.some.injEq] at he
  subst he; exact hh.symm

/-- the locked part of `mkdir` -/
theorem act_mkdirLocked {h h' : Heap} {t : Tid} {d : Oid} {n : Name} {r : Ret} {dd : DirObj}
    (hd : getDir h d = some dd) (hs : applyAct h t (.mkdirLocked d n) = some (h', r)) :
    (∃ o, dd.index n = some o ∧ kindOf h o = true ∧ h' = h ∧ r = .oid o) ∨
    (∃ o, dd.index n = some o ∧ kindOf h o = false ∧ h' = h ∧ r = .err) ∨
    (dd.index n = none ∧ ∃ dd', dd.add n h.length = some dd' ∧ h' = h.set d (.dir dd') ++ [.dir {}] ∧ r = .oid h.length) := by
  obtain ⟨e, he, hh, hr⟩ := applyAct_some hs
  simp only [actEff, hd] at he
  split at he
  · cases hi : dd.index n with
    | some o =>
      simp only [hi] at he
      by_cases hk : kindOf h o = true
      · simp [hk] at he; subst he
        exact Or.inl ⟨o, rfl, hk, hh.symm, hr.symm⟩
      · simp [hk] at he; subst he
        exact Or.inr (Or.inl ⟨o, rfl, by simpa using hk, hh.symm, hr.symm⟩)
    | none =>
      simp only [hi] at he
      cases ha : dd.add n h.length with
      | none => rw [add_none_iff] at ha; simp [hi] at ha
      | some dd' =>
        simp [ha] at he; subst he
        exact Or.inr (Or.inr ⟨rfl, dd', rfl, by rw [← hh]; rfl, hr.symm⟩)
  · cases he

/-- `NewFile` + `addNode` -/
theorem act_addNewFile {h h' : Heap} {t : Tid} {d : Oid} {n : Name} {v : Data} {r : Ret} {dd : DirObj}
    (hd : getDir h d = some dd) (hs : applyAct h t (.addNewFile d n v) = some (h', r)) :
    (dd.index n ≠ none ∧ h' = h ∧ r = .err) ∨
    (dd.index n = none ∧ ∃ dd', dd.add n h.length = some dd' ∧
      h' = h.set d (.dir dd') ++ [.file { data := v, committed := [v] }] ∧ r = .oid h.length) := by
  obtain ⟨e, he, hh, hr⟩ := applyAct_some hs
  simp only [actEff, hd] at he
  split at he
  · rcases add_cases dd n h.length with ⟨hi, ha⟩ | ⟨hi, dd', ha⟩ <;> simp [ha] at he <;> subst he
    · exact .inl ⟨hi, hh.symm, hr.symm⟩
    · exact .inr ⟨hi, dd', ha, by rw [← hh]; rfl, hr.symm⟩
  · cases he

/-- `removeNodeByName` -/
theorem act_removeNode {h h' : Heap} {t : Tid} {d : Oid} {n : Name} {r : Ret} {dd : DirObj}
    (hi : DirInv dd) (hd : getDir h d = some dd) (hs : applyAct h t (.removeNode d n) = some (h', r)) :
    (dd.index n = none ∧ h' = h ∧ r = .err) ∨
    (dd.index n ≠ none ∧ ∃ dd', dd.remove n = some dd' ∧ h' = h.set d (.dir dd') ∧ r = .unit) := by
  obtain ⟨e, he, hh, hr⟩ := applyAct_some hs
  simp only [actEff, hd] at he
  split at he
  · cases ha : dd.remove n with
    | none =>
      simp [ha] at he; subst he
      left
      refine ⟨?_, hh.symm, hr.symm⟩
      unfold DirObj.remove at ha
      simp only [Option.map_eq_none_iff] at ha
      rw [removeFirst_none_iff] at ha
      exact (index_none_iff hi).2 ha
    | some dd' =>
      simp [ha] at he; subst he
      right
      refine ⟨?_, dd', rfl, by rw [← hh]; rfl, hr.symm⟩
      intro hn
      have := (index_none_iff hi).1 hn
      rw [← removeFirst_none_iff] at this
      unfold DirObj.remove at ha
      simp [this] at ha
  · cases he

/-- `getNodes` -/
theorem act_snapshot {h h' : Heap} {t : Tid} {d : Oid} {r : Ret} {dd : DirObj}
    (hd : getDir h d = some dd) (hs : applyAct h t (.snapshot d false) = some (h', r)) :
    h' = h ∧ r = .nodes (dd.nodes.map fun p => (p.1, p.2, kindOf h p.2)) := by
  obtain ⟨e, he, hh, hr⟩ := applyAct_some hs
  simp [actEff, hd] at he
  subst he
  exact ⟨hh.symm, hr.symm⟩

theorem act_readLen {h h' : Heap} {t : Tid} {d : Oid} {r : Ret} {dd : DirObj}
    (hd : getDir h d = some dd) (hs : applyAct h t (.readLen d) = some (h', r)) :
    h' = h ∧ r = .len dd.nodes.length := by
  obtain ⟨e, he, hh, hr⟩ := applyAct_some hs
  simp [actEff, hd] at he
  subst he
  exact ⟨hh.symm, hr.symm⟩

/-- `File.getData`, under `dataMU` -/
theorem act_getData {h h' : Heap} {t : Tid} {f : Oid} {r : Ret} (hs : applyAct h t (.getData f) = some (h', r)) :
    h' = h ∧ ((getFile h f = none ∧ r = .err) ∨ ∃ ff, getFile h f = some ff ∧ ff.lock = none ∧ r = .data ff.data) := by
  obtain ⟨e, he, hh, hr⟩ := applyAct_some hs
  simp only [actEff] at he
  split at he
  · cases he; exact ⟨hh.symm, .inl ⟨‹_›, hr.symm⟩⟩
  · split at he
    · cases he; exact ⟨hh.symm, .inr ⟨_, ‹_›, ‹_›, hr.symm⟩⟩
    · cases he

theorem getData_complete {h h' : Heap} {t : Tid} {f : Oid} {x : Data} (hi : FilesInv h)
    (hs : applyAct h t (.getData f) = some (h', .data x)) :
    ∃ ff, getFile h f = some ff ∧ ff.lock = none ∧ x ∈ ff.committed := by
  obtain ⟨_, ⟨_, hr⟩ | ⟨ff, hff, hl, hr⟩⟩ := act_getData hs
  · cases hr
  · cases hr; exact ⟨ff, hff, hl, hi f ff hff hl⟩

theorem act_setData {h h' : Heap} {t : Tid} {f : Oid} {v : Data} {r : Ret} {ff : FileObj}
    (hf : getFile h f = some ff) (hs : applyAct h t (.setData f v) = some (h', r)) :
    (∃ ff' : FileObj, ff'.data = v ∧ h' = h.set f (.file ff')) ∧ r = .unit := by
  obtain ⟨e, he, hh, hr⟩ := applyAct_some hs
  simp only [actEff, hf] at he
  split at he
  · simp at he; subst he
    exact ⟨⟨_, rfl, by rw [← hh]; rfl⟩, hr.symm⟩
  · cases he

/-- `Dir.Lock()` -/
theorem act_outerLock {h h' : Heap} {t : Tid} {d : Oid} {r : Ret} {dd : DirObj} (hd : getDir h d = some dd)
    (hs : applyAct h t (.outerLock d) = some (h', r)) :
    dd.outer = none ∧ h' = h.set d (.dir { dd with outer := some t }) ∧ r = .unit := by
  obtain ⟨e, he, hh, hr⟩ := applyAct_some hs
  simp only [actEff, hd] at he
  split at he
  · cases he; exact ⟨‹_›, hh.symm, hr.symm⟩
  · cases he

/-- `Dir.Unlock()` -/
theorem act_outerUnlock {h h' : Heap} {t : Tid} {d : Oid} {r : Ret} (hs : applyAct h t (.outerUnlock d) = some (h', r)) :
    ((∀ dd, getDir h d = some dd → dd.outer ≠ some t) ∧ h' = h ∧ r = .err) ∨
    ∃ dd, getDir h d = some dd ∧ dd.outer = some t ∧ h' = h.set d (.dir { dd with outer := none }) ∧ r = .unit := by
  obtain ⟨e, he, hh, hr⟩ := applyAct_some hs
  simp only [actEff] at he
  split at he
  · rename_i hn
    cases he; exact .inl ⟨fun dd hdd => (by rw [hn] at hdd; cases hdd), hh.symm, hr.symm⟩
  · rename_i dd hdd
    split at he
    · cases he; exact .inr ⟨dd, hdd, ‹_›, hh.symm, hr.symm⟩
    · rename_i hne
      cases he; exact .inl ⟨fun dd' hdd' => (by rw [hdd] at hdd'; cases hdd'; exact hne), hh.symm, hr.symm⟩

theorem act_copyFile {h h' : Heap} {t : Tid} {f : Oid} {r : Ret} {ff : FileObj}
    (hf : getFile h f = some ff) (hs : applyAct h t (.copyFile f) = some (h', r)) :
    h' = h ++ [.file { data := ff.data, committed := [ff.data] }] ∧ r = .oid h.length := by
  obtain ⟨e, he, hh, hr⟩ := applyAct_some hs
  simp only [actEff, hf] at he
  split at he
  · simp at he; subst he
    exact ⟨by rw [← hh]; rfl, hr.symm⟩
  · cases he

theorem act_newDir {h h' : Heap} {t : Tid} {nodes : List (Name × Oid)} {r : Ret}
    (hs : applyAct h t (.newDir nodes none) = some (h', r)) :
    h' = h ++ [.dir (newDirObj nodes)] ∧ r = .oid h.length := by
  obtain ⟨e, he, hh, hr⟩ := applyAct_some hs
  simp only [actEff, Option.some.injEq] at he
  subst he
  exact ⟨by rw [← hh]; rfl, hr.symm⟩

theorem act_addNode {h h' : Heap} {t : Tid} {d : Oid} {n : Name} {c : Oid} {r : Ret} {dd : DirObj}
    (hd : getDir h d = some dd) (hs : applyAct h t (.addNode d n c) = some (h', r)) :
    (dd.index n ≠ none ∧ h' = h ∧ r = .err) ∨
    (dd.index n = none ∧ ∃ dd', dd.add n c = some dd' ∧ h' = h.set d (.dir dd') ∧ r = .unit) := by
  obtain ⟨e, he, hh, hr⟩ := applyAct_some hs
  simp only [actEff, hd] at he
  split at he
  · rcases add_cases dd n c with ⟨hi, ha⟩ | ⟨hi, dd', ha⟩ <;> simp [ha] at he <;> subst he
    · exact .inl ⟨hi, hh.symm, hr.symm⟩
    · exact .inr ⟨hi, dd', ha, by rw [← hh]; rfl, hr.symm⟩
  · cases he

end Goat.MemFSConc
