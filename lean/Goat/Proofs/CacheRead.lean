/-
Read-type methods of the cache under the view invariant `VInv`: every answer is the specification's (`FS.Step`) on
the direct tree, at the normal form of the cleaned path string (or its failure, if that climbs).
-/
import Goat.Proofs.CacheView

namespace Goat
namespace Cache

open Path (Name norm join slash Reduced Plain cleanPath reduceAbsPath)
open FS (Op Result Entry Mut)
open MemFS MemAbs

theorem srcFS_eq (s : State) (hb : Inv s.buffer) (raw : Bytes) (Q : List Name) (hn : norm (cleanPath raw) = some Q) :
    srcFS s raw = ((abs s.buffer Q).isSome, cleanPath raw) := by
  simp [srcFS, root_isExist_eq _ hb _ Q hn, isTrue]

theorem any_name_iff (lr : List (Name × Bool)) (n : Name) :
    (lr.any fun c => c.1 == n) = true ↔ n ∈ lr.map Prod.fst := by
  simp only [List.any_eq_true, beq_iff_eq, List.mem_map]

theorem mem_mergeDirs (lr lb : List (Name × Bool)) (x : Name × Bool) :
    x ∈ mergeDirs lr lb ↔ x ∈ lr ∨ (x ∈ lb ∧ x.1 ∉ lr.map Prod.fst) := by
  unfold mergeDirs
  simp only [List.mem_append, List.mem_filter]
  constructor
  · rintro (h | ⟨h1, h2⟩)
    · exact Or.inl h
    · refine Or.inr ⟨h1, fun hm => ?_⟩
      have := (any_name_iff lr x.1).mpr hm
      simp [this] at h2
  · rintro (h | ⟨h1, h2⟩)
    · exact Or.inl h
    · refine Or.inr ⟨h1, ?_⟩
      have : (lr.any fun c => c.1 == x.1) = false := by
        cases h : lr.any fun c => c.1 == x.1
        · rfl
        · exact absurd ((any_name_iff lr x.1).mp h) h2
      simp [this]

theorem mergeDirs_nodup (lr lb : List (Name × Bool)) (hr : (lr.map Prod.fst).Nodup) (hb : (lb.map Prod.fst).Nodup) :
    ((mergeDirs lr lb).map Prod.fst).Nodup := by
  unfold mergeDirs
  rw [List.map_append, List.nodup_append]
  refine ⟨hr, ?_, ?_⟩
  · exact (List.Sublist.map _ List.filter_sublist).nodup hb
  · intro a ha b hb' hab
    subst hab
    obtain ⟨y, hy, rfl⟩ := List.mem_map.mp hb'
    have hy' := (List.mem_filter.mp hy).2
    have := (any_name_iff lr y.1).mpr ha
    simp [this] at hy'

theorem mergeDirs_nil_left (lb : List (Name × Bool)) : mergeDirs [] lb = lb := by
  simp [mergeDirs]

theorem mergeDirs_nil_right (lr : List (Name × Bool)) : mergeDirs lr [] = lr := by
  simp [mergeDirs]

theorem isListing_merge {B R : FS.State} (hc : Compat B R) {Q : List Name} {lr lb : List (Name × Bool)}
    (hlr : FS.IsListing R Q lr) (hlb : FS.IsListing B Q lb) : FS.IsListing (overlay B R) Q (mergeDirs lr lb) := by
  refine ⟨mergeDirs_nodup lr lb hlr.1 hlb.1, fun n b => ?_⟩
  have hin : n ∈ lr.map Prod.fst ↔ R (Q ++ [n]) ≠ none := by
    constructor
    · rintro h
      obtain ⟨⟨n', b'⟩, hy, rfl⟩ := List.mem_map.mp h
      intro e
      have := (hlr.2 n' b').mp hy
      rw [e] at this; cases this
    · intro h
      rcases hrn : R (Q ++ [n]) with _ | e'
      · exact absurd hrn h
      · exact List.mem_map.mpr ⟨(n, e'.isDir), (hlr.2 n _).mpr (by rw [hrn]; rfl), rfl⟩
  rw [mem_mergeDirs, hlr.2, hlb.2, hin]
  simp only [overlay]
  rcases hbn : B (Q ++ [n]) with _ | e <;> rcases hrn : R (Q ++ [n]) with _ | e' <;> simp
  -- left: both have the name and the remote's kind is listed; it is the buffer's by `Compat`
  rw [hc _ _ _ hbn hrn]

theorem read_readDir {s : State} {D : Node} (V : VInv s D) (raw : Bytes) (Q : List Name)
    (hn : norm (cleanPath raw) = some Q) :
    match abs D Q with
    | some .dir => ∃ l, readDir s raw = .list l ∧ FS.IsListing (abs D) Q l
    | _ => readDir s raw = .err := by
  obtain ⟨lr, hlr, hr⟩ := root_listing s.remote V.hr _ Q hn
  obtain ⟨lb, hlb, hb⟩ := root_listing s.buffer V.hb _ Q hn
  have hm := isListing_merge V.compat hlr hlb
  have hc := V.compat Q
  rw [V.eq]
  unfold readDir
  -- by what the two trees answer; where only the remote has the directory the buffer has nothing (`Compat`)
  rcases hb with ⟨db, eb⟩ | ⟨db, eb, rfl⟩ <;> rcases hr with ⟨dr, er⟩ | ⟨dr, er, rfl⟩ <;> simp only [eb, er]
  · rw [overlay_some db]; exact ⟨_, rfl, hm⟩
  · rw [overlay_some db]; exact ⟨_, rfl, hm⟩
  · rcases hbq : abs s.buffer Q with _ | (d | _)
    · rw [overlay_none hbq, dr]; exact ⟨_, rfl, hm⟩
    · have := hc _ _ hbq dr; simp [Entry.isDir] at this
    · exact absurd hbq db
  · rcases hbq : abs s.buffer Q with _ | (d | _)
    · rw [overlay_none hbq]
      split
      · next h => exact absurd h dr
      · trivial
    · rw [overlay_some hbq]; trivial
    · exact absurd hbq db

theorem cache_read {s : State} {D : Node} (V : VInv s D) (op : Op) (raw : Bytes) (hread : isRead op = true)
    (ha : opArgs op = [raw]) : ReadAns (abs D) (norm (cleanPath raw)) op (stepCache s op).2 := by
  cases hn : norm (cleanPath raw) with
  | none =>
    have hB := root_climb s.buffer _ hn
    have hR := root_climb s.remote _ hn
    rw [readAns_none hread]
    cases op <;> cases hread <;> cases ha <;> simp only [failResult, stepCache]
    · simp [readDir, hB.readDir, hR.readDir]
    · simp [isExist, hB.isExist, hR.isExist, isTrue]
    · simp [isFile, hB.isFile, hR.isFile, isTrue]
    · simp [isDir, hB.isDir, hR.isDir, isTrue]
    · simp only [readFile, srcFS, hB.isExist, isTrue, srcTree]; exact hR.readFile
    · simp only [reader, srcFS, hB.isExist, isTrue, srcTree]; exact hR.reader _
    · simp only [lstat, srcFS, hB.isExist, isTrue, srcTree]; exact hR.lstat
  | some Q =>
    -- `ReadFile`, `Reader`, `Lstat`: answered by the tree that `srcFS` resolves the path in
    have hsrc : ∀ op', isRead op' = true → opArgs op' = [cleanPath raw] → (∀ p, op' ≠ .readDir p) →
        (MemFS.step .root (srcTree s (abs s.buffer Q).isSome) op').2 = ansE Q op' (abs D Q) := by
      intro op' h1 h2 h3
      rw [V.eq]
      unfold overlay srcTree
      rcases hb : abs s.buffer Q with _ | e <;> simp only [Option.isSome, if_true, Bool.false_eq_true, if_false]
      · exact root_ansE s.remote V.hr _ Q hn op' h1 h2 h3
      · rw [← hb]; exact root_ansE s.buffer V.hb _ Q hn op' h1 h2 h3
    have hc := V.compat Q
    cases op <;> cases hread <;> cases ha <;> simp only [ReadAns, stepCache]
    · exact read_readDir V raw Q hn
    · simp only [isExist, root_isExist_eq _ V.hb _ Q hn, root_isExist_eq _ V.hr _ Q hn, isTrue, V.eq, overlay, ansE]
      cases abs s.buffer Q <;> simp
    · simp only [isFile, root_isFile_eq _ V.hb _ Q hn, root_isFile_eq _ V.hr _ Q hn, isTrue, V.eq, overlay, ansE]
      rcases hb : abs s.buffer Q with _ | (d | _) <;> rcases hr : abs s.remote Q with _ | (d' | _) <;> simp [isFileE]
      have := hc _ _ hb hr; simp [Entry.isDir] at this
    · simp only [isDir, root_isDir_eq _ V.hb _ Q hn, root_isDir_eq _ V.hr _ Q hn, isTrue, V.eq, overlay, ansE]
      rcases hb : abs s.buffer Q with _ | (d | _) <;> rcases hr : abs s.remote Q with _ | (d' | _) <;> simp [isDirE]
      have := hc _ _ hb hr; simp [Entry.isDir] at this
    · unfold readFile; rw [srcFS_eq s V.hb raw Q hn]; exact hsrc (.readFile _) rfl rfl (fun _ h => by cases h)
    · unfold reader; rw [srcFS_eq s V.hb raw Q hn]; exact hsrc (.reader _ _) rfl rfl (fun _ h => by cases h)
    · unfold lstat; rw [srcFS_eq s V.hb raw Q hn]; exact hsrc (.lstat _) rfl rfl (fun _ h => by cases h)

end Cache
end Goat
