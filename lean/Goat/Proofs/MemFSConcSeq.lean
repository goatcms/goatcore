/-
The SEQUENTIAL side.  Operations of the lock-granular model as calls of the sequential model `Goat.MemFS.step` (`toFS`),
and: running independent operations one after the other in ANY order from a tree `t0` yields a tree whose abstract state
is `SD (abs t0) ops`, each call answering what `ResOK` prescribes.  The link is C01's refinement `step_refines`
(model ⊑ `FS.Step`) and the point-wise post-states of the specification.
-/
import Goat.Proofs.MemFSConcOps
import Goat.Proofs.MemFSStep

namespace Goat.MemFSConc
open Goat.Path (Reduced join)

/-- an operation of the concurrent model as a call of the sequential model (reduced segment lists travel
as `/`-joined byte strings) -/
def toFS : Op → FS.Op
  | .mkdirAll p => .mkdirAll (join p)
  | .writeFile p v => .writeFile (join p) v
  | .readFile p => .readFile (join p)
  | .readDir p => .readDir (join p)
  | .probe p none => .isExist (join p)
  | .probe p (some true) => .isDir (join p)
  | .probe p (some false) => .isFile (join p)
  | .remove p => .remove (join p)
  | .removeAll p => .removeAll (join p)
  | .copy s d => .copy (join s) (join d)
  | _ => .filespace []   -- the handle operations: a dummy that `Op.ok` keeps from being reached

def resFS : Res → FS.Result
  | .ok => .ok
  | .err => .err
  | .bool b => .bool b
  | .data v => .data v
  | .list l => .list l

def Op.reduced (op : Op) : Prop := ∀ p ∈ op.mains, Reduced p

def ResOKfs (T : Tree) (op : Op) (r : FS.Result) : Prop := ∃ r', r = resFS r' ∧ ResOK T op r'

/-- what is known about the current abstract state `S` relative to the initial tree, seen from `i` -/
structure SeqFrame (T0 S : Tree) (i : Op) : Prop where
  wf : TreeWF T0
  root : S [] = some .dir
  pfx : ∀ x ∈ i.paths, ∀ q, q <+: x → S q = T0 q ∨ (T0 q = none ∧ S q = some .dir)
  below : ∀ x ∈ i.owned, ∀ q, x <+: q → S q = T0 q

variable {T0 S S' : Tree} {i : Op}

theorem SeqFrame.mkdirOk_iff (hf : SeqFrame T0 S i) {c : Path} (hc : c ∈ i.paths) : FS.mkdirOk S c ↔ FS.mkdirOk T0 c := by
  constructor
  · intro h q hq d hT
    rcases hf.pfx c hc q hq with h1 | ⟨h1, _⟩
    · exact h q hq d (by rw [h1, hT])
    · rw [hT] at h1; cases h1
  · intro h q hq d hS
    rcases hf.pfx c hc q hq with h1 | ⟨_, h1⟩
    · exact h q hq d (by rw [← h1, hS])
    · rw [hS] at h1; cases h1

theorem mkdirSt_closed (hroot : S [] = some .dir) {c : Path} (hok : FS.mkdirOk S c) (q : Path) :
    FS.mkdirSt S c q = ensureAlong S c q := by
  unfold FS.mkdirSt ensureAlong
  by_cases hq : q <+: c
  · simp only [hq, if_true, true_and]
    cases hS : S q with
    | none =>
      have : q ≠ [] := by intro e; rw [e, hroot] at hS; cases hS
      simp [this]
    | some e =>
      cases e with
      | dir => simp
      | file d => exact absurd hS (hok q hq d)
  · simp [hq]

theorem runEffs_nil (S : Tree) : runEffs S [] = S := rfl

theorem mut_closed {op : Op} {pre : Prop} {post : Tree} {r : FS.Result}
    (hm : FS.Mut pre post S r S') (hiff : pre ↔ succ T0 op) (hop : (op.aop T0).isSome = true)
    (hpost : pre → succ T0 op → post = runEffs S (effOf T0 op)) :
    ResOKfs T0 op r ∧ S' = runEffs S (effOf T0 op) := by
  rcases hm with ⟨h1, h2, h3⟩ | ⟨h1, h2, h3⟩
  · have hs := hiff.1 h1
    exact ⟨⟨.ok, h2, (ResOK_mut hop _).2 (Or.inl ⟨hs, rfl⟩)⟩, by rw [h3]; exact hpost h1 hs⟩
  · have hs : ¬ succ T0 op := fun h => h1 (hiff.2 h)
    exact ⟨⟨.err, h2, (ResOK_mut hop _).2 (Or.inr ⟨hs, rfl⟩)⟩, by rw [h3, effOf_fail hs]; rfl⟩

theorem below_removed (hw : TreeWF T0) {p : Path} (hok : FS.removeOk T0 p) {r : Path} (hr : r ≠ []) :
    T0 (p ++ r) = none := by
  rcases hok.2 with ⟨d, hd⟩ | ⟨_, hall⟩
  · exact hw.closed.below_none _ _ hr (by rw [hd]; simp)
  · cases r with
    | nil => exact absurd rfl hr
    | cons m r' => exact hw.closed.none_below (hall m) (snoc_pfx p m r')

theorem graft_post (hroot : S [] = some .dir) {p : Path} (hmk : FS.mkdirOk S p.dropLast) {sub post : Tree}
    (hin : ∀ r, post (p ++ r) = sub r) (hout : ∀ q, ¬ p <+: q → post q = FS.mkdirSt S p.dropLast q) :
    post = runEffs S (AOp.effects ⟨p, some sub⟩) := by
  funext q
  rw [runEffs_aop_graft]
  by_cases hpq : p <+: q
  · obtain ⟨r, rfl⟩ := hpq
    rw [if_pos (List.prefix_append _ _), hin, List.drop_left]
  · rw [if_neg hpq, hout q hpq, mkdirSt_closed hroot hmk q]
    unfold ensureAlong
    by_cases hq : q <+: p
    · simp [hq, prefix_dropLast_of_ne hq (ne_of_not_prefix hpq)]
    · have h2 : ¬ q <+: p.dropLast := fun h => hq (h.trans (List.dropLast_prefix _))
      simp [hq, h2]

theorem SeqFrame.dirs_above (hf : SeqFrame T0 S i) {p : Path} (hp : p ∈ i.paths) (hT : T0 p ≠ none) {q : Path}
    (hq : q <+: p.dropLast) : S q = some .dir := by
  have hqp : q <+: p := hq.trans (List.dropLast_prefix _)
  have hTq : T0 q = some .dir := by
    by_cases hp0 : p = []
    · subst hp0; rw [List.prefix_nil.1 hq]; exact hf.wf.1
    · exact hf.wf.closed.prefix_dir hqp (ne_of_prefix_dropLast hp0 hq) hT
  rcases hf.pfx p hp q hqp with h | ⟨h, _⟩
  · rw [h, hTq]
  · rw [hTq] at h; cases h

/-- a removal creates nothing on the way: what it removes exists in `T0`, so the way to it consists of directories -/
theorem SeqFrame.graft_removed (hf : SeqFrame T0 S i) {p : Path} (hp : p ∈ i.paths) (hT : T0 p ≠ none) {post : Tree}
    (hin : ∀ r, post (p ++ r) = none) (hout : ∀ q, ¬ p <+: q → post q = S q) :
    post = runEffs S (AOp.effects ⟨p, some fun _ => none⟩) :=
  graft_post hf.root (fun q hq d h => by rw [hf.dirs_above hp hT hq] at h; cases h) hin fun q hpq => by
    rw [hout q hpq, FS.mkdirSt]
    split
    · exact hf.dirs_above hp hT ‹_›
    · rfl

theorem spec_step (hf : SeqFrame T0 S i) (hok : i.ok) (hred : i.reduced) {r : FS.Result}
    (hst : FS.Step [] S (toFS i) r S') : ResOKfs T0 i r ∧ S' = runEffs S (effOf T0 i) := by
  cases i with
  | mkdirAll p =>
    have hn := Path.norm_join p (hred p (by simp [Op.mains]))
    simp only [toFS, FS.Step, hn, List.nil_append] at hst
    have hc : p ∈ (Op.mkdirAll p).paths := by simp [Op.paths, Op.C]
    refine mut_closed hst (hf.mkdirOk_iff hc) rfl ?_
    intro hpre hs
    rw [effOf_succ_aop hs rfl]
    funext q
    rw [runEffs_aop_mk S p hok q, mkdirSt_closed hf.root hpre q]
  | writeFile p v =>
    have hn := Path.norm_join p (hred p (by simp [Op.mains]))
    simp only [toFS, FS.Step, hn, List.nil_append] at hst
    have hc : p.dropLast ∈ (Op.writeFile p v).paths := by simp [Op.paths, Op.C]
    have hw : p ∈ (Op.writeFile p v).owned := by simp [Op.owned, Op.W]
    have hSp : S p = T0 p := hf.below p hw p (List.prefix_refl _)
    refine mut_closed hst ?_ rfl ?_
    · unfold FS.writeOk succ
      rw [hf.mkdirOk_iff hc, hSp]
      exact Iff.rfl
    · intro hpre hs
      rw [effOf_succ_aop hs rfl]
      refine graft_post hf.root hpre.2.1 (fun r => ?_) (fun q hq => if_neg (ne_of_not_prefix hq))
      cases r with
      | nil => simp [FS.writeSt]
      | cons m r' =>
        -- nothing stands below a path that is not a directory
        rw [FS.writeSt_frame _ _ _ _ (fun h => by have := h.length_le; rw [List.length_append, List.length_cons] at this; omega),
          hf.below p hw _ (List.prefix_append _ _), hf.wf.closed.below_none _ _ (by simp) hs.2.2]
        simp
  | remove p =>
    have hn := Path.norm_join p (hred p (by simp [Op.mains]))
    simp only [toFS, FS.Step, hn, List.nil_append] at hst
    have hw : p ∈ (Op.remove p).owned := by simp [Op.owned, Op.W]
    have hwp : p ∈ (Op.remove p).paths := by simp [Op.paths, Op.W]
    have hbelow : ∀ q, p <+: q → S q = T0 q := hf.below p hw
    have hiff : FS.removeOk S p ↔ FS.removeOk T0 p := by
      unfold FS.removeOk
      rw [hbelow p (List.prefix_refl _)]
      have : (∀ n, S (p ++ [n]) = none) ↔ (∀ n, T0 (p ++ [n]) = none) := by
        constructor <;> intro h n <;> have := h n <;> rw [hbelow _ (List.prefix_append _ _)] at * <;> exact this
      rw [this]
    refine mut_closed hst ⟨fun h => hiff.1 h.2, fun h => ⟨hok, hiff.2 h⟩⟩ rfl ?_
    intro hpre hs
    rw [effOf_succ_aop hs rfl]
    have hTp : T0 p ≠ none := by
      rcases hs.2 with ⟨d, hd⟩ | ⟨hd, _⟩ <;> rw [hd] <;> simp
    refine hf.graft_removed hwp hTp (fun r => ?_) (fun q hq => if_neg (ne_of_not_prefix hq))
    by_cases hr : r = []
    · subst hr; simp [FS.removeSt]
    · rw [FS.removeSt, if_neg (fun e => hr (List.append_right_eq_self.mp e)), hbelow _ (List.prefix_append _ _)]
      exact below_removed hf.wf hs hr
  | removeAll p =>
    have hn := Path.norm_join p (hred p (by simp [Op.mains]))
    simp only [toFS, FS.Step, hn, List.nil_append] at hst
    have hw : p ∈ (Op.removeAll p).owned := by simp [Op.owned, Op.W]
    have hwp : p ∈ (Op.removeAll p).paths := by simp [Op.paths, Op.W]
    have hiff : FS.removeAllOk S p ↔ FS.removeAllOk T0 p := by
      unfold FS.removeAllOk; rw [hf.below p hw p (List.prefix_refl _)]
    refine mut_closed hst ⟨fun h => hiff.1 h.2, fun h => ⟨hok, hiff.2 h⟩⟩ rfl ?_
    intro hpre hs
    rw [effOf_succ_aop hs rfl]
    exact hf.graft_removed hwp hs.2 (fun r => if_pos (List.prefix_append _ _)) (fun q hq => if_neg hq)
  | copy s d =>
    have hn1 := Path.norm_join s (hred s (by simp [Op.mains]))
    have hn2 := Path.norm_join d (hred d (by simp [Op.mains]))
    simp only [toFS, FS.Step, hn1, hn2, List.nil_append] at hst
    simp only [Op.ok] at hok
    obtain ⟨_, hd0, hsd, hds⟩ := hok
    have hc : d.dropLast ∈ (Op.copy s d).paths := by simp [Op.paths, Op.C]
    have hw : d ∈ (Op.copy s d).owned := by simp [Op.owned, Op.W]
    have hr : s ∈ (Op.copy s d).owned := by simp [Op.owned, Op.R]
    have hSd : S d = T0 d := hf.below d hw d (List.prefix_refl _)
    have hSs : S s = T0 s := hf.below s hr s (List.prefix_refl _)
    refine mut_closed hst ?_ rfl ?_
    · unfold FS.copyOk succ FS.copyOk
      rw [hf.mkdirOk_iff hc, hSd, hSs]
    · intro hpre hs
      rw [effOf_succ_aop hs rfl]
      exact graft_post hf.root hpre.2.2.1
        (fun r => by rw [FS.copySt_under_plain S s d r hsd]; exact hf.below s hr _ (List.prefix_append _ _))
        (fun q hq => if_neg hq)
  | readFile p =>
    have hn := Path.norm_join p (hred p (by simp [Op.mains]))
    simp only [toFS, FS.Step, hn, List.nil_append] at hst
    obtain ⟨rfl, hr⟩ := hst
    have hSp : S' p = T0 p := hf.below p (by simp [Op.owned, Op.R]) p (List.prefix_refl _)
    refine ⟨?_, by rw [effOf_read rfl]; rfl⟩
    rw [hSp] at hr
    cases hT : T0 p with
    | none => rw [hT] at hr; exact ⟨.err, hr, by simp [ResOK, hT]⟩
    | some e =>
      cases e with
      | dir => rw [hT] at hr; exact ⟨.err, hr, by simp [ResOK, hT]⟩
      | file dat => rw [hT] at hr; exact ⟨.data dat, hr, by simp [ResOK, hT]⟩
  | readDir p =>
    have hn := Path.norm_join p (hred p (by simp [Op.mains]))
    simp only [toFS, FS.Step, hn, List.nil_append] at hst
    obtain ⟨rfl, hr⟩ := hst
    have hb : ∀ q, p <+: q → S' q = T0 q := hf.below p (by simp [Op.owned, Op.R])
    refine ⟨?_, by rw [effOf_read rfl]; rfl⟩
    rw [hb p (List.prefix_refl _)] at hr
    cases hT : T0 p with
    | none => rw [hT] at hr; exact ⟨.err, hr, by simp [ResOK, hT]⟩
    | some e =>
      cases e with
      | file dat => rw [hT] at hr; exact ⟨.err, hr, by simp [ResOK, hT]⟩
      | dir =>
        rw [hT] at hr
        obtain ⟨l, rfl, hl⟩ := hr
        refine ⟨.list l, rfl, ?_⟩
        simp only [ResOK, hT]
        refine ⟨l, rfl, hl.1, ?_⟩
        intro n b
        rw [hl.2 n b, hb _ (List.prefix_append _ _)]
  | probe p want =>
    have hn := Path.norm_join p (hred p (by simp [Op.mains]))
    have hSp : S p = T0 p := hf.below p (by simp [Op.owned, Op.R]) p (List.prefix_refl _)
    have key : S' = S ∧ r = .bool (probeVal (S p) want) := by
      cases want with
      | none =>
        simp only [toFS, FS.Step, hn, List.nil_append] at hst
        exact ⟨hst.1, by rw [hst.2]; cases S p <;> rfl⟩
      | some w =>
        cases w <;> simp only [toFS, FS.Step, hn, List.nil_append] at hst <;> refine ⟨hst.1, ?_⟩ <;>
          cases hS : S p with
          | none => rw [hS] at hst; exact hst.2
          | some e => cases e <;> rw [hS] at hst <;> exact hst.2
    exact ⟨⟨.bool (probeVal (S p) want), key.2, by simp only [ResOK, hSp]⟩, by rw [key.1, effOf_read rfl]; rfl⟩
  | _ => exact absurd hok (by simp [Op.ok])

def seqRun (t : Node) : List Op → Node × List FS.Result
  | [] => (t, [])
  | op :: rest =>
    let x := MemFS.step .root t (toFS op)
    let y := seqRun x.1 rest
    (y.1, x.2 :: y.2)

theorem treeWF_abs (t : Node) (ht : MemFS.Inv t) : TreeWF (Goat.abs t) :=
  ⟨ht.abs_nil, MemAbs.abs_closed t⟩

theorem step_toFS_inv {t : Node} (ht : MemFS.Inv t) (i : Op) : MemFS.Inv (MemFS.step .root t (toFS i)).1 :=
  (MemFS.step_refines .root [] rfl t ht (toFS i)).keeps.inv ht
    (by intro s hs; exact MemFS.opSegs_plain _ s (by simpa using hs))

/-- ANY ORDER.  From a well-formed tree `t0`, the sequential model run over a list `done ++ ops` of
pairwise independent operations: after `done` the abstract state is `SD`, and so it is after `ops`; every
call answers what `ResOK` prescribes in the INITIAL tree. -/
theorem seqRun_closed {T0 : Tree} (hwf : TreeWF T0) (ops : List Op) :
    ∀ (done : List Op) (t : Node), MemFS.Inv t → Goat.abs t = SD T0 done →
      (∀ j ∈ done ++ ops, j.ok ∧ j.reduced) → (done ++ ops).Pairwise IndepOp →
      MemFS.Inv (seqRun t ops).1 ∧ Goat.abs (seqRun t ops).1 = SD T0 (done ++ ops) ∧
      (seqRun t ops).2.length = ops.length ∧
      ∀ (k : Nat) op r, ops[k]? = some op → (seqRun t ops).2[k]? = some r → ResOKfs T0 op r := by
  induction ops with
  | nil =>
    intro done t ht ha _ _
    simp only [seqRun, List.append_nil]
    exact ⟨ht, ha, rfl, by intro k op r h; simp at h⟩
  | cons i rest ih =>
    intro done t ht ha hall hpw
    have hi := hall i (by simp)
    have hpw' : (done ++ [i] ++ rest).Pairwise IndepOp := by simpa [List.append_assoc] using hpw
    have hdone : (done ++ [i]).Pairwise IndepOp := (List.pairwise_append.1 hpw').1
    have hind : ∀ j ∈ done, IndepOp i j := by
      intro j hj
      exact ((List.pairwise_append.1 hdone).2.2 j hj i (by simp)).symm
    have hokd : ∀ j ∈ done, j.ok := fun j hj => (hall j (by simp [hj])).1
    have hframe : SeqFrame T0 (Goat.abs t) i := by
      rw [ha]
      exact ⟨hwf, SD_root hwf hokd, fun x hx q hq => SD_prefix hokd hind hx hq,
        fun x hx q hq => SD_below hokd hind hx hq⟩
    have href := MemFS.step_refines .root [] rfl t ht (toFS i)
    obtain ⟨hres, hS⟩ := spec_step hframe hi.1 hi.2 href.spec
    have ht' := step_toFS_inv ht i
    have ha' : Goat.abs (MemFS.step .root t (toFS i)).1 = SD T0 (done ++ [i]) := by
      rw [hS, ha, SD_snoc]
    obtain ⟨h1, h2, h3, h4⟩ := ih (done ++ [i]) _ ht' ha'
      (by intro j hj; exact hall j (by simpa [List.append_assoc] using hj)) hpw'
    simp only [seqRun]
    refine ⟨h1, by rw [h2]; simp [List.append_assoc], by simp [h3], ?_⟩
    intro k op r hk hr
    cases k with
    | zero => simp at hk hr; subst hk; subst hr; exact hres
    | succ k' => simp at hk hr; exact h4 k' op r hk hr

/-- the sequential run is a run of the abstract specification (C01's refinement, call by call) -/
theorem seqRun_run (σ : List Op) (hok : ∀ op ∈ σ, op.ok) : ∀ (t : Node), MemFS.Inv t →
    FS.Run [[]] (abs t) (σ.map fun op => (0, toFS op)) (seqRun t σ).2 (abs (seqRun t σ).1) := by
  induction σ with
  | nil => intro t _; exact ⟨rfl, rfl⟩
  | cons i rest ih =>
    intro t ht
    have href := MemFS.step_refines .root [] rfl t ht (toFS i)
    have ht' := step_toFS_inv ht i
    have hviews : FS.viewsAfter [[]] 0 (toFS i) = [[]] := by
      have := hok i (by simp)
      cases i <;> first | rfl | (simp [Op.ok] at this)
      case probe p w => cases w with
        | none => rfl
        | some b => cases b <;> rfl
    simp only [List.map_cons, seqRun, FS.Run, List.getElem?_cons_zero]
    refine ⟨_, _, _, rfl, href.spec, ?_⟩
    rw [hviews]
    exact ih (fun op hop => hok op (by simp [hop])) _ ht'

end Goat.MemFSConc
