/-
Refinement of the methods of the root memory filespace (`MemFS.Root.*`) to the point-wise specification, on a raw path
whose normal form is known: every mutating method `m` gets `root_m : MutOK pre post t segs (Root.m t raw …)` (here, in
`MemFSOps`, and for the three copies `root_copyWith` in `MemFSCopy`).
-/
import Goat.Proofs.MemFSBridge

namespace Goat
namespace MemFS

open Path (Name split join reduceAbsPath norm Reduced Plain NoSlash dotSeg slash)
open FS (Entry State Result Mut)
open MemAbs

/-- what every call preserves: the root stays a directory, and every hereditary property (`Node.Hered`) that holds of
the tree and admits the names the call was given still holds (used with `Plain`: `Keeps.inv`, and with "supplied by some
call": `run_all`).  Remove and RemoveAll add no name (`segs = []`); `Keeps.mono` widens that for `step_root` -/
structure Keeps (t t' : Node) (segs : List Name) : Prop where
  isDir : t'.isDir = true
  hered : ∀ {N : Node → Prop} {K : Kids → Prop} {Q : Name → Prop}, Node.Hered N K Q → N t → (∀ s ∈ segs, Q s) → N t'

theorem Keeps.refl {t : Node} (h : Inv t) (segs : List Name) : Keeps t t segs := ⟨h.isDir, fun _ hN _ => hN⟩

theorem Keeps.all {t t' : Node} {segs : List Name} (k : Keeps t t' segs) (P : Name → Prop) :
    t.All P → (∀ s ∈ segs, P s) → t'.All P := k.hered (Node.hered_all P)

theorem Keeps.inv {t t' : Node} {segs : List Name} (h : Inv t) (k : Keeps t t' segs)
    (hs : ∀ s ∈ segs, Plain s) : Inv t' :=
  ⟨k.isDir, k.hered Node.hered_nodup h.wf.1 fun _ _ => trivial, k.all Plain h.wf.2 hs⟩

theorem Keeps.mono {t t' : Node} {segs segs' : List Name} (k : Keeps t t' segs)
    (h : ∀ s ∈ segs, s ∈ segs') : Keeps t t' segs' :=
  ⟨k.isDir, fun H hN hs => k.hered H hN (fun s m => hs s (h s m))⟩

theorem keeps_mkdirs {t t' : Node} (p : List Name) (h : t.mkdirs p = some t') : Keeps t t' p :=
  ⟨Node.mkdirs_isDir t t' p h, fun H hN hs => H.mkdirs t t' p hN hs h⟩

/-- what a call on `t` that answers `r.2` and leaves `r.1` owes: its clause of the specification, the invariant, and
that a failed call returns the tree it was given (the Go code may have created parents before it refuses) -/
structure Outcome (spec : Result → State → Prop) (t : Node) (segs : List Name) (r : Node × Result) : Prop where
  spec : spec r.2 (abs r.1)
  keeps : Keeps t r.1 segs
  err_same : r.2 = .err → r.1 = t

abbrev MutOK (pre : Prop) (post : State) (t : Node) (segs : List Name) (r : Node × Result) : Prop :=
  Outcome (Mut pre post (abs t)) t segs r

theorem MutOK.refuse {pre : Prop} {post : State} {t : Node} (ht : Inv t) {segs : List Name} (h : ¬ pre) :
    MutOK pre post t segs (t, .err) := ⟨Mut.intro_err h, Keeps.refl ht _, fun _ => rfl⟩

theorem MutOK.done {pre : Prop} {post : State} {t t' : Node} {segs : List Name} (h : pre) (hk : Keeps t t' segs)
    (habs : abs t' = post) : MutOK pre post t segs (t', .ok) := ⟨Or.inl ⟨h, rfl, habs⟩, hk, fun e => by cases e⟩

theorem root_mkdirAll (t : Node) (ht : Inv t) (raw : Bytes) (p : List Name) (hn : norm raw = some p) :
    MutOK (FS.mkdirOk (abs t) p) (FS.mkdirSt (abs t) p) t p (Root.mkdirAll t raw) := by
  have hp := Path.norm_reduced raw p hn
  simp only [Root.mkdirAll, reduceAbsPath_of_norm hn, mkdirAll_join t ht hp]
  cases hm : t.mkdirs p with
  | none => exact MutOK.refuse ht (not_mkdirOk_of_none hm)
  | some t' => exact MutOK.done (mkdirOk_of_some hm) (keeps_mkdirs p hm) (abs_mkdirs t t' p hm)

/-- the shape of what WriteFile, Writer and the copies do inside the destination directory: bind
`name` to `x` when the entry standing there is acceptable -/
def PutLike (f : Kids → Option Kids) (name : Name) (x : Node) (C : Option Entry → Prop) : Prop :=
  ∀ k k', f k = some k' ↔ C ((k.find name).map Node.entry) ∧ k' = k.set name x

/-- the two stages WriteFile, Writer and the copies share: the parents are there (`h1`), now `name` is bound.  The
second stage fails exactly when the entry under the name is not acceptable, and then the first had changed nothing: the
name is occupied, so its parent existed already (`mkdirs_eq_self`). -/
theorem put_spec {t t1 : Node} {init : List Name} {name : Name} {x : Node} {f : Kids → Option Kids}
    {C : Option Entry → Prop} (hf : PutLike f name x C) (hC : C none)
    (h1 : t.mkdirs init = some t1)
    (hx : ∀ {N : Node → Prop} {K : Kids → Prop} {Q : Name → Prop}, Node.Hered N K Q → N t1 → N x) :
    (¬ C (abs t (init ++ [name])) ∧ t1.update init f = none ∧ t1 = t)
    ∨ (C (abs t (init ++ [name])) ∧ ∃ t2, t1.update init f = some t2 ∧ Keeps t t2 (init ++ [name])
        ∧ abs t2 = FS.graft (FS.mkdirSt (abs t) init) (init ++ [name]) (some (abs x))) := by
  have hS := abs_mkdirs t t1 init h1
  obtain ⟨k, hk⟩ := (abs_eq_dir t1 init).mp (by rw [hS]; exact FS.mkdirSt_self _ _)
  have hocc : (k.find name).map Node.entry = abs t (init ++ [name]) := by
    rw [← Node.lookup_snoc t1 init name k hk]
    show abs t1 _ = _
    rw [hS, FS.mkdirSt, if_neg (not_snoc_prefix init name)]
  cases h2 : t1.update init f with
  | none =>
    have hnone := Node.update_eq_none t1 init f h2 k hk
    have hc : ¬ C (abs t (init ++ [name])) := fun hc => by
      rw [(hf k _).mpr ⟨hocc ▸ hc, rfl⟩] at hnone; cases hnone
    refine Or.inl ⟨hc, rfl, ?_⟩
    obtain ⟨k0, hk0⟩ := (abs_eq_dir t init).mp
      ((abs_closed t).anc_dir init [name] (by simp) fun e => hc (e ▸ hC))
    exact Option.some.inj (h1.symm.trans (Node.mkdirs_eq_self t init k0 hk0))
  | some t2 =>
    have hset : ∀ k k', f k = some k' → k' = k.set name x := fun k k' h => ((hf k k').mp h).2
    obtain ⟨k0, k', hk0, hfk, hk'⟩ := Node.update_eq_some t1 t2 init f h2
    cases hk.symm.trans hk0
    obtain ⟨hc, rfl⟩ := (hf k k').mp hfk
    refine Or.inr ⟨hocc ▸ hc, t2, rfl, ⟨Node.update_isDir t1 t2 init f h2, fun H hN hs => ?_⟩, ?_⟩
    · have h1N := H.mkdirs t t1 init hN (fun s m => hs s (List.mem_append_left _ m)) h1
      exact H.update t1 t2 init f h1N
        (fun k k' hk hfk => hset k k' hfk ▸ H.set k name x hk (hs name (by simp)) (hx H h1N)) h2
    · rw [abs_rebind h2 hk hk' (some x) (fun m => Kids.find_set k name m x), hS]; rfl

theorem writeIn_putLike (name : Name) (data : Bytes) :
    PutLike (Root.writeIn name data) name (.file data) (· ≠ some .dir) := by
  intro k k'
  simp only [Root.writeIn, Kids.add]
  cases hfind : k.find name with
  | none => simp [eq_comm]
  | some n => cases n <;> simp [Node.entry, eq_comm]

/-- where no directory stood, nothing stood below -/
theorem writeSt_of_put (t : Node) (init : List Name) (name : Name) (data : Bytes)
    (hnd : abs t (init ++ [name]) ≠ some .dir) :
    FS.graft (FS.mkdirSt (abs t) init) (init ++ [name]) (some (abs (.file data)))
      = FS.writeSt (abs t) (init ++ [name]) data := by
  funext q
  simp only [FS.graft, Option.bind_some, FS.writeSt, List.dropLast_concat]
  split
  · next hp =>
    obtain ⟨r, rfl⟩ := hp
    rw [List.drop_left' (by simp)]
    cases r with
    | nil => simp [abs, Node.entry]
    | cons a b =>
      have h2 : ¬ (init ++ [name] ++ a :: b <+: init) := fun hp =>
        not_snoc_prefix init name ((List.prefix_append _ _).trans hp)
      rw [abs_file_cons, if_neg (by simp), FS.mkdirSt, if_neg h2]
      exact ((abs_closed t).below_none (init ++ [name]) (a :: b) (by simp) hnd).symm
  · next hp =>
    have hne : q ≠ init ++ [name] := fun e => hp (e ▸ List.prefix_rfl)
    rw [if_neg hne]

theorem root_writeFile (t : Node) (ht : Inv t) (raw data : Bytes) (p : List Name)
    (hn : norm raw = some p) :
    MutOK (FS.writeOk (abs t) p) (FS.writeSt (abs t) p data) t p (Root.writeFile t raw data) := by
  have hp := Path.norm_reduced raw p hn
  simp only [Root.writeFile, reduceAbsPath_of_norm hn]
  rcases eq_nil_or_snoc p with rfl | ⟨init, name, rfl⟩
  · simp only [splitContainsPath_nil]
    exact MutOK.refuse ht (by simp [FS.writeOk])
  · simp only [splitContainsPath_concat hp]
    cases h1 : t.mkdirs init with
    | none =>
      exact MutOK.refuse ht fun hok => not_mkdirOk_of_none h1 ((FS.writeOk_concat ..).mp hok).1
    | some t1 =>
      rcases put_spec (writeIn_putLike name data) (by simp) h1 (fun H _ => H.file data)
        with ⟨hd, e, rfl⟩ | ⟨hc, t2, e, hk, habs⟩ <;> simp only [e]
      · exact MutOK.refuse ht fun hok => hd ((FS.writeOk_concat ..).mp hok).2
      · exact MutOK.done ((FS.writeOk_concat ..).mpr ⟨mkdirOk_of_some h1, hc⟩) hk
          (habs.trans (writeSt_of_put t init name data hc))

end MemFS
end Goat
