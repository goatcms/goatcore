/-
The service units of `Model/DataScopeSvc.lean`.  Every service operation is a fold of `dataSet` on one node
(`svcStep_writes`); hence well-formedness, the frame for own slots nobody touches, and stickiness.
-/
import Goat.Proofs.DataScope
import Goat.Model.DataScopeSvc

namespace Goat.DataScope

theorem svcStep_writes (σ : Svc) (op : SvcOp) :
    ∃ (n : Nat) (ws : List (Key × Val)), (svcStep σ op).ss = ws.foldl (fun ss w => dataSet ss n w.1 w.2) σ.ss ∧
      ∀ n' k, op.touches n' k = false → n' ≠ n ∨ ∀ w ∈ ws, k ≠ w.1 := by
  have one : ∀ (n : Nat) (k : Key) (v : Val) (n' : Nat) (k' : Key), (n == n' && k == k') = false →
      n' ≠ n ∨ ∀ w ∈ [(k, v)], k' ≠ w.1 := by
    intro n k v n' k' h
    simp only [Bool.and_eq_false_iff, beq_eq_false_iff_ne] at h
    exact h.imp Ne.symm fun hk w hw => by rw [List.mem_singleton.mp hw]; exact Ne.symm hk
  cases op with
  | goc n k =>
    simp only [svcStep, svcGoc]
    cases value σ.ss n k with
    | some v => exact ⟨n, [], rfl, fun _ _ _ => .inr (fun _ hw => by cases hw)⟩
    | none => exact ⟨n, [(k, some σ.fresh)], rfl, one n k _⟩
  | bind n k m => exact ⟨n, [(k, some m)], rfl, one n k _⟩
  | clear n k => exact ⟨n, [(k, none)], rfl, one n k _⟩
  | set n k v => exact ⟨n, [(k, v)], rfl, one n k _⟩
  | get n k => exact ⟨n, [], rfl, fun _ _ _ => .inr (fun _ hw => by cases hw)⟩
  | sect n ws =>
    refine ⟨n, ws, rfl, fun n' k h => ?_⟩
    simp only [SvcOp.touches, Bool.and_eq_false_iff, beq_eq_false_iff_ne, List.any_eq_false, beq_iff_eq] at h
    exact h.imp Ne.symm fun hk w hw e => hk w hw e.symm

theorem svcStep_WF {σ : Svc} (h : WF σ.ss) (op : SvcOp) : WF (svcStep σ op).ss := by
  obtain ⟨n, ws, e, -⟩ := svcStep_writes σ op
  rw [e]
  exact List.foldlRecOn ws _ h fun _ h w _ => WF_dataSet h n w.1 w.2

theorem svcStep_length (σ : Svc) (op : SvcOp) : (svcStep σ op).ss.length = σ.ss.length := by
  obtain ⟨n, ws, e, -⟩ := svcStep_writes σ op
  rw [e]
  exact List.foldlRecOn (motive := fun ss => ss.length = σ.ss.length) ws _ rfl
    fun ss h w _ => (dataSet_length ss n w.1 w.2).trans h

theorem svcStep_ownSlot (σ : Svc) (op : SvcOp) (n : Nat) (k : Key) (h : op.touches n k = false) :
    ownSlot (svcStep σ op) n k = ownSlot σ n k := by
  unfold ownSlot
  obtain ⟨n', ws, e, hws⟩ := svcStep_writes σ op
  rw [e]
  refine List.foldlRecOn (motive := fun ss => dataGet ss n k = dataGet σ.ss n k) ws _ rfl fun ss hp w hw => ?_
  rw [← hp]
  exact dataGet_dataSet_other ss n' n w.1 k w.2 ((hws n k h).imp_right fun hk => hk w hw)

theorem svcRun_WF (ops : List SvcOp) (σ : Svc) (h : WF σ.ss) : WF (svcRun σ ops).ss :=
  List.foldlRecOn (motive := fun σ => WF σ.ss) ops svcStep h fun _ h op _ => svcStep_WF h op

theorem svcRun_ownSlot (n : Nat) (k : Key) (ops : List SvcOp) (h : ∀ op ∈ ops, op.touches n k = false)
    (σ : Svc) : ownSlot (svcRun σ ops) n k = ownSlot σ n k :=
  List.foldlRecOn (motive := fun τ => ownSlot τ n k = ownSlot σ n k) ops svcStep rfl
    fun τ hp op ho => (svcStep_ownSlot τ op n k (h op ho)).trans hp

theorem svcRun_sticky {σ : Svc} {n : Nat} {k : Key} {v : Val} (hown : ownSlot σ n k = some v)
    (ops : List SvcOp) (h : ∀ op ∈ ops, op.touches n k = false) :
    resolve (svcRun σ ops) n k = v :=
  value_of_own ((svcRun_ownSlot n k ops h σ).trans hown)

end Goat.DataScope
