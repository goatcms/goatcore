/-
The extra injectors.  Whether one returns an error depends on the tags of the struct only, never on what the
fields hold; a run that did not fail leaves in every field what `Injector.pick` / `pickAll` say.
-/
import Goat.Model.DI

namespace Goat.DI

@[simp] theorem pad_length (n : Nat) (vals : List (Option Inst)) : (pad n vals).length = n := by
  induction n generalizing vals with
  | zero => rfl
  | succ n ih => simp [pad, ih]

/-- a map / data-scope injector stops at a required field it has no object for -/
def leafOK (isScope : Bool) (t : TagName) (data : List (Name × Inst)) (fld : Field) : Bool :=
  match parseTag (fld.raw t) with
  | none => true
  | some (key, opt) =>
    match lookupData data key with
    | none => opt
    | some x => if x = .nil then isScope && opt else true

theorem leafRun_cons (sc : Bool) (t : TagName) (data : List (Name × Inst)) (fld : Field) (fs : List Field)
    (vals : List (Option Inst)) :
    leafRun sc t data (fld :: fs) vals =
      if leafOK sc t data fld then
        (leafPick t data fld vals.head?.join :: (leafRun sc t data fs vals.tail).1,
          (leafRun sc t data fs vals.tail).2)
      else (vals.head?.join :: pad fs.length vals.tail, true) := by
  rw [leafRun]
  unfold leafOK leafPick
  cases parseTag (fld.raw t) with
  | none => rfl
  | some p =>
    obtain ⟨key, opt⟩ := p
    simp only
    cases lookupData data key with
    | none => cases opt <;> rfl
    | some x =>
      by_cases hx : x = .nil
      · cases sc <;> cases opt <;> simp [hx]
      · simp [hx]

theorem leafRun_err_indep (sc : Bool) (t : TagName) (data : List (Name × Inst)) :
    ∀ (fs : List Field) (v v' : List (Option Inst)), (leafRun sc t data fs v).2 = (leafRun sc t data fs v').2 := by
  intro fs
  induction fs with
  | nil => intro v v'; rfl
  | cons fld fs ih =>
    intro v v'
    rw [leafRun_cons, leafRun_cons]
    split
    · exact ih v.tail v'.tail
    · rfl

theorem leafRun_length (sc : Bool) (t : TagName) (data : List (Name × Inst)) :
    ∀ (fs : List Field) (v : List (Option Inst)), (leafRun sc t data fs v).1.length = fs.length := by
  intro fs
  induction fs with
  | nil => intro v; rfl
  | cons fld fs ih =>
    intro v
    rw [leafRun_cons]
    split
    · exact congrArg (· + 1) (ih v.tail)
    · exact congrArg (· + 1) (pad_length ..)

theorem runMulti_cons (i : Injector) (rest : List Injector) (fs : List Field) (v : List (Option Inst)) :
    runMulti (i :: rest) fs v =
      if (i.run fs v).2 = true then ((i.run fs v).1, true) else runMulti rest fs (i.run fs v).1 := by
  rw [runMulti]
  cases i.run fs v with
  | mk w b => cases b <;> rfl

theorem runInjectors_cons (k : Nat) (i : Injector) (rest : List Injector) (fs : List Field)
    (v : List (Option Inst)) :
    runInjectors k (i :: rest) fs v =
      if (i.run fs v).2 = true then ((i.run fs v).1, some (.injector k))
      else runInjectors (k + 1) rest fs (i.run fs v).1 := by
  rw [runInjectors]
  cases i.run fs v with
  | mk w b => cases b <;> rfl

mutual
theorem Injector.run_err_indep : ∀ (i : Injector) (fs : List Field) (v v' : List (Option Inst)),
    (i.run fs v).2 = (i.run fs v').2
  | .map t data, fs, v, v' => leafRun_err_indep false t data fs v v'
  | .scope t data, fs, v, v' => leafRun_err_indep true t data fs v v'
  | .nop, _, _, _ => rfl
  | .multi l, fs, v, v' => runMulti_err_indep l fs v v'
theorem runMulti_err_indep : ∀ (l : List Injector) (fs : List Field) (v v' : List (Option Inst)),
    (runMulti l fs v).2 = (runMulti l fs v').2
  | [], _, _, _ => rfl
  | i :: rest, fs, v, v' => by
    rw [runMulti_cons, runMulti_cons, Injector.run_err_indep i fs v v']
    split
    · rfl
    · exact runMulti_err_indep rest fs _ _
end

theorem runInjectors_err_indep : ∀ (l : List Injector) (k : Nat) (fs : List Field) (v v' : List (Option Inst)),
    (runInjectors k l fs v).2 = (runInjectors k l fs v').2 := by
  intro l
  induction l with
  | nil => intro k fs v v'; rfl
  | cons i rest ih =>
    intro k fs v v'
    rw [runInjectors_cons, runInjectors_cons, Injector.run_err_indep i fs v v']
    split
    · rfl
    · exact ih (k + 1) fs _ _

theorem pad_getElem? : ∀ (n : Nat) (vals : List (Option Inst)) (k : Nat), k < n →
    (pad n vals)[k]? = some (vals[k]?.join) := by
  intro n
  induction n with
  | zero => intro vals k hk; cases hk
  | succ n ih =>
    intro vals k hk
    rw [pad]
    cases k with
    | zero => cases vals <;> rfl
    | succ k =>
      rw [List.getElem?_cons_succ, ih vals.tail k (Nat.lt_of_succ_lt_succ hk)]
      cases vals <;> rfl

theorem pad_pick (fs : List Field) (vals : List (Option Inst)) {k : Nat} {fld : Field}
    (hk : fs[k]? = some fld) : (pad fs.length vals)[k]? = some (vals[k]?.join) :=
  pad_getElem? _ _ _ (List.getElem?_eq_some_iff.1 hk).1

theorem leafRun_pick (sc : Bool) (t : TagName) (data : List (Name × Inst)) :
    ∀ (fs : List Field) (vals : List (Option Inst)), (leafRun sc t data fs vals).2 = false →
      ∀ (k : Nat) (fld : Field), fs[k]? = some fld →
        (leafRun sc t data fs vals).1[k]? = some (leafPick t data fld (vals[k]?.join)) := by
  intro fs
  induction fs with
  | nil => intro vals _ k fld hk; simp at hk
  | cons f fs ih =>
    intro vals hne k fld hk
    rw [leafRun_cons] at hne ⊢
    split at hne
    · rw [if_pos ‹_›]
      cases k with
      | zero =>
        simp only [List.getElem?_cons_zero, Option.some.injEq] at hk ⊢
        rw [hk]; cases vals <;> rfl
      | succ k =>
        simp only [List.getElem?_cons_succ] at hk ⊢
        rw [ih vals.tail hne k fld hk]; cases vals <;> rfl
    · cases hne

mutual
theorem Injector.run_pick : ∀ (i : Injector) (fs : List Field) (vals : List (Option Inst)),
    (i.run fs vals).2 = false → ∀ (k : Nat) (fld : Field), fs[k]? = some fld →
      (i.run fs vals).1[k]? = some (i.pick fld (vals[k]?.join))
  | .map t data, fs, vals, h, k, fld, hk => leafRun_pick false t data fs vals h k fld hk
  | .scope t data, fs, vals, h, k, fld, hk => leafRun_pick true t data fs vals h k fld hk
  | .nop, fs, vals, _, _, _, hk => pad_pick fs vals hk
  | .multi l, fs, vals, h, k, fld, hk => runMulti_pick l fs vals h k fld hk
theorem runMulti_pick : ∀ (l : List Injector) (fs : List Field) (vals : List (Option Inst)),
    (runMulti l fs vals).2 = false → ∀ (k : Nat) (fld : Field), fs[k]? = some fld →
      (runMulti l fs vals).1[k]? = some (pickAll l fld (vals[k]?.join))
  | [], fs, vals, _, _, _, hk => pad_pick fs vals hk
  | i :: rest, fs, vals, h, k, fld, hk => by
    rw [runMulti_cons] at h ⊢
    split at h
    · cases h
    · rename_i hb
      rw [if_neg hb, runMulti_pick rest fs _ h k fld hk,
        Injector.run_pick i fs vals (Bool.eq_false_iff.2 hb) k fld hk]
      rfl
end

theorem runInjectors_pick : ∀ (l : List Injector) (j : Nat) (fs : List Field) (vals : List (Option Inst)),
    (runInjectors j l fs vals).2 = none → ∀ (k : Nat) (fld : Field), fs[k]? = some fld →
      (runInjectors j l fs vals).1[k]? = some (pickAll l fld (vals[k]?.join)) := by
  intro l
  induction l with
  | nil => intro j fs vals _ k fld hk; exact pad_pick fs vals hk
  | cons i rest ih =>
    intro j fs vals h k fld hk
    rw [runInjectors_cons] at h ⊢
    split at h
    · cases h
    · rename_i hb
      rw [if_neg hb, ih (j + 1) fs _ h k fld hk, Injector.run_pick i fs vals (Bool.eq_false_iff.2 hb) k fld hk]
      rfl

theorem pickAll_append (l1 l2 : List Injector) (fld : Field) (cur : Option Inst) :
    pickAll (l1 ++ l2) fld cur = pickAll l2 fld (pickAll l1 fld cur) := by
  induction l1 generalizing cur with
  | nil => rfl
  | cons i rest ih => simp [pickAll, ih]

end Goat.DI
