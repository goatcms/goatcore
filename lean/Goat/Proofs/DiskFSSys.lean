/-
What the system calls of the host model do, expressed through `Host.get`: when each succeeds, and which state
function of `FS` (`mkdirSt`, a point update, `removeAllSt`, …) the new host is.
-/
import Goat.Proofs.FSSpec
import Goat.Proofs.DiskFSHost

namespace Goat
namespace DiskFS

open Path (Name norm)
open FS (Op Result Entry State TreeLike)

theorem full_path (r : HPath) (p : List Name) : (full r p).path = r ++ p := rfl

theorem full_dir_path (r : HPath) (p : List Name) : (full r p).dir.path = r ++ p.dropLast := by
  cases p with
  | nil => simp [full, HP.dir]
  | cons a t => simp [full, HP.dir, List.dropLast_append_of_ne_nil]

theorem full_eq (r : HPath) (p : List Name) (hp : p ≠ []) : full r p = ⟨r ++ p, false⟩ := by
  have : p.isEmpty = false := by cases p <;> simp_all
  simp [full, this]

theorem full_nil (r : HPath) : full r [] = ⟨r, true⟩ := by simp [full]

/-- the trailing slash of `fs.path + ""` asks for a directory and, by `hroot`, finds one -/
theorem osStat_full {H : Host} {r : HPath} (hroot : H.get r = some .dir) (p : List Name) :
    osStat H (full r p) = H.get (r ++ p) := by
  simp only [osStat, full]
  cases p with
  | nil => simp [hroot]
  | cons a t =>
    cases hg : H.get (r ++ a :: t) with
    | none => rfl
    | some e => cases e <;> simp

theorem osStat_some {H : Host} {x : HP} {e : Entry} (h : osStat H x = some e) : H.get x.path = some e := by
  simp only [osStat] at h
  split at h
  · next d hg => split at h <;> cases h; exact hg
  · exact h

theorem isDir_full {H : Host} {r : HPath} (hroot : H.get r = some .dir) (p : List Name) :
    isDir H (full r p) = true ↔ H.get (r ++ p) = some .dir := by
  simp [isDir, osStat_full hroot]

/-- stated for the REVERSED path because the model's `mkdirAllRev` recurses on it: the parent is the tail -/
theorem mkdirAllRev_spec {H : Host} (h : H.WF) (rp : List Name) :
    (FS.mkdirOk H.get rp.reverse →
        ∃ H', mkdirAllRev H rp = some H' ∧ H'.WF ∧ H'.get = FS.mkdirSt H.get rp.reverse)
    ∧ (¬ FS.mkdirOk H.get rp.reverse → mkdirAllRev H rp = none) := by
  have hT := Host.wf_treeLike h
  induction rp with
  | nil =>
    exact ⟨fun _ => ⟨H, rfl, h, (FS.mkdirSt_of_dir hT (Host.get_nil H)).symm⟩,
      fun hno => absurd (FS.mkdirOk_of_dir hT (Host.get_nil H)) hno⟩
  | cons n up ih =>
    have hrev : (n :: up).reverse = up.reverse ++ [n] := by simp
    simp only [mkdirAllRev]
    rw [hrev]
    cases hg : H.get (up.reverse ++ [n]) with
    | some e =>
      cases e with
      | dir =>
        refine ⟨fun _ => ⟨H, rfl, h, (FS.mkdirSt_of_dir hT hg).symm⟩, fun hno => ?_⟩
        exact absurd (FS.mkdirOk_of_dir hT hg) hno
      | file d =>
        refine ⟨fun hok => ?_, fun _ => rfl⟩
        exact absurd hg (hok _ (List.prefix_refl _) d)
    | none =>
      rw [FS.mkdirOk_concat]
      constructor
      · rintro ⟨hok, _⟩
        obtain ⟨H1, h1, hwf1, hget1⟩ := ih.1 hok
        rw [h1]
        have hne : up.reverse ++ [n] ≠ [] := by simp
        have hpar : H1.get (up.reverse ++ [n]).dropLast = some .dir := by
          rw [List.dropLast_concat, hget1]; exact FS.mkdirSt_self _ _
        have habs : H1.get (up.reverse ++ [n]) = none := by
          have := FS.mkdirSt_dropLast H.get hne
          rw [List.dropLast_concat] at this
          rw [hget1, this]; exact hg
        -- after `MkdirAll(parent)`, the path absent, `Mkdir` cannot fail: the model's second look (`Lstat`) is not reached
        simp only [osMkdir, hne, if_false, hpar, habs]
        refine ⟨_, rfl, Host.wf_put hwf1 hne hpar (by rw [habs]; intro hc; cases hc), ?_⟩
        rw [FS.mkdirSt_concat]
        funext q
        rw [Host.get_put _ _ _ hne, hget1]
      · intro hno
        have hno' : ¬ FS.mkdirOk H.get up.reverse := by
          intro hok; apply hno
          exact ⟨hok, fun d => by rw [hg]; intro hc; cases hc⟩
        rw [ih.2 hno']

theorem osMkdirAll_ok {H : Host} (h : H.WF) (p : HPath) (hok : FS.mkdirOk H.get p) :
    ∃ H', osMkdirAll H p = some H' ∧ H'.WF ∧ H'.get = FS.mkdirSt H.get p := by
  have := (mkdirAllRev_spec h p.reverse).1
  rw [List.reverse_reverse] at this
  exact this hok

theorem osMkdirAll_fail {H : Host} (h : H.WF) (p : HPath) (hno : ¬ FS.mkdirOk H.get p) :
    osMkdirAll H p = none := by
  have := (mkdirAllRev_spec h p.reverse).2
  rw [List.reverse_reverse] at this
  exact this hno

theorem osMkdirAll_some {H H' : Host} (hwf : H.WF) {p : HPath} (h : osMkdirAll H p = some H') :
    FS.mkdirOk H.get p ∧ H'.WF ∧ H'.get = FS.mkdirSt H.get p := by
  by_cases hok : FS.mkdirOk H.get p
  · obtain ⟨H1, h1, hwf1, hget1⟩ := osMkdirAll_ok hwf p hok
    rw [h] at h1; cases h1
    exact ⟨hok, hwf1, hget1⟩
  · rw [osMkdirAll_fail hwf p hok] at h; cases h

theorem osMkdirAll_dir {H : Host} (h : H.WF) (p : HPath) (hp : H.get p = some .dir) :
    ∃ H', osMkdirAll H p = some H' ∧ H'.WF ∧ H'.get = H.get := by
  obtain ⟨H', h1, h2, h3⟩ := osMkdirAll_ok h p (FS.mkdirOk_of_dir (Host.wf_treeLike h) hp)
  exact ⟨H', h1, h2, by rw [h3, FS.mkdirSt_of_dir (Host.wf_treeLike h) hp]⟩

theorem osMkdirAll_leaf {H : Host} (h : H.WF) (p : HPath) (hne : p ≠ [])
    (hpar : H.get p.dropLast = some .dir) (habs : H.get p = none) :
    ∃ H', osMkdirAll H p = some H' ∧ H'.WF ∧ H'.get = fun q => if q = p then some .dir else H.get q := by
  have hT := Host.wf_treeLike h
  obtain ⟨init, n, rfl⟩ := (eq_nil_or_snoc p).resolve_left hne
  rw [List.dropLast_concat] at hpar
  have hok : FS.mkdirOk H.get (init ++ [n]) :=
    FS.mkdirOk_concat.mpr ⟨FS.mkdirOk_of_dir hT hpar, fun d => by rw [habs]; intro hc; cases hc⟩
  obtain ⟨H', h1, h2, h3⟩ := osMkdirAll_ok h _ hok
  refine ⟨H', h1, h2, ?_⟩
  rw [h3, FS.mkdirSt_concat, FS.mkdirSt_of_dir hT hpar]

theorem osOpenTrunc_eq (H : Host) (x : HP) :
    osOpenTrunc H x =
      if x.slash = false ∧ x.path ≠ [] ∧ H.get x.path.dropLast = some .dir ∧ H.get x.path ≠ some .dir
      then some (H.put x.path (.file [])) else none := by
  unfold osOpenTrunc
  split
  · next hc =>
    rw [if_neg]
    rintro ⟨h1, h2, _⟩
    rcases hc with h | h
    · rw [h] at h1; cases h1
    · exact h2 h
  · next hc =>
    have hs : x.slash = false := by
      cases hs : x.slash
      · rfl
      · exact absurd (Or.inl hs) hc
    split
    · split
      · next hg => rw [if_neg]; exact fun h => h.2.2.2 hg
      · next hpar _ hg => rw [if_pos ⟨hs, fun h => hc (Or.inr h), hpar, hg⟩]
    · next hpar => rw [if_neg]; exact fun h => hpar h.2.2.1

theorem osOpenTrunc_ok {H : Host} (h : H.WF) (p : HPath) (hne : p ≠ [])
    (hpar : H.get p.dropLast = some .dir) (hnd : H.get p ≠ some .dir) :
    osOpenTrunc H ⟨p, false⟩ = some (H.put p (.file [])) ∧ (H.put p (.file [])).WF :=
  ⟨by rw [osOpenTrunc_eq, if_pos ⟨rfl, hne, hpar, hnd⟩], Host.wf_put h hne hpar (fun hc => absurd hc hnd)⟩

theorem osOpenTrunc_some {H H' : Host} {x : HP} (h : osOpenTrunc H x = some H') :
    x.path ≠ [] ∧ H.get x.path.dropLast = some .dir ∧ H.get x.path ≠ some .dir ∧ H' = H.put x.path (.file []) := by
  rw [osOpenTrunc_eq] at h
  split at h
  · next hc => exact ⟨hc.2.1, hc.2.2.1, hc.2.2.2, (Option.some.inj h).symm⟩
  · cases h

theorem osAppend_ok {H : Host} (h : H.WF) (p : HPath) (hne : p ≠ []) (d c : Bytes)
    (hf : H.get p = some (.file d)) :
    osAppend H p c = some (H.put p (.file (d ++ c))) ∧ (H.put p (.file (d ++ c))).WF := by
  refine ⟨by simp [osAppend, hf], ?_⟩
  exact Host.wf_put h hne (Host.parent_dir h hne (by simp [hf])) (fun hc => by rw [hf] at hc; cases hc)

theorem osAppend_some {H H' : Host} {p : HPath} {c : Bytes} (h : osAppend H p c = some H') :
    ∃ d, H.get p = some (.file d) ∧ H' = H.put p (.file (d ++ c)) := by
  simp only [osAppend] at h
  split at h
  · next d hg => exact ⟨d, hg, (Option.some.inj h).symm⟩
  · cases h

theorem osAppendAll_ok {H : Host} (h : H.WF) (p : HPath) (hne : p ≠ []) (d : Bytes) (cs : List Bytes)
    (hf : H.get p = some (.file d)) :
    ∃ H', osAppendAll H p cs = some H' ∧ H'.WF
      ∧ H'.get = fun q => if q = p then some (.file (d ++ cs.flatten)) else H.get q := by
  induction cs generalizing H d with
  | nil =>
    refine ⟨H, rfl, h, ?_⟩
    funext q
    by_cases hq : q = p
    · simp [hq, hf]
    · simp [hq]
  | cons c cs ih =>
    obtain ⟨h1, hwf1⟩ := osAppend_ok h p hne d c hf
    simp only [osAppendAll, h1]
    have hf1 : (H.put p (.file (d ++ c))).get p = some (.file (d ++ c)) := by
      rw [Host.get_put _ _ _ hne]; simp
    obtain ⟨H', h2, hwf2, hget2⟩ := ih hwf1 (d ++ c) hf1
    refine ⟨H', h2, hwf2, ?_⟩
    rw [hget2]
    funext q
    by_cases hq : q = p
    · simp [hq, List.append_assoc]
    · simp [hq, Host.get_put _ _ _ hne]

theorem copyFile_ok {H : Host} (h : H.WF) (src dst : HPath) (x : Bytes) (hs : H.get src = some (.file x))
    (hne : dst ≠ []) (hpar : H.get dst.dropLast = some .dir) (habs : H.get dst = none) :
    ∃ H', copyFile H ⟨src, false⟩ ⟨dst, false⟩ = (H', true) ∧ H'.WF
      ∧ H'.get = fun q => if q = dst then some (.file x) else H.get q := by
  have hsd : src ≠ dst := by intro hc; rw [hc, habs] at hs; cases hs
  obtain ⟨ho, hwf1⟩ := osOpenTrunc_ok h dst hne hpar (by rw [habs]; intro hc; cases hc)
  have hs1 : (H.put dst (.file [])).get src = some (.file x) := by
    rw [Host.get_put _ _ _ hne]; simp [hsd, hs]
  have hd1 : (H.put dst (.file [])).get dst = some (.file []) := by
    rw [Host.get_put _ _ _ hne]; simp
  obtain ⟨ha, hwf2⟩ := osAppend_ok hwf1 dst hne [] x hd1
  refine ⟨_, ?_, hwf2, ?_⟩
  · simp only [copyFile, osStat, hs, ho, hs1, ha]
    rfl
  · funext q
    rw [Host.get_put _ _ _ hne, Host.get_put _ _ _ hne]
    by_cases hq : q = dst <;> simp [hq]

/-- what `os.Remove` accepts: not `/`; a file, or a directory with nothing directly below -/
def RemoveOk (H : Host) (x : HP) : Prop :=
  x.path ≠ [] ∧ ((∃ d, osStat H x = some (.file d)) ∨ (osStat H x = some .dir ∧ ∀ n, H.get (x.path ++ [n]) = none))

theorem osRemove_spec {H : Host} (hwf : H.WF) (x : HP) :
    (RemoveOk H x → osRemove H x = some (H.del x.path) ∧ (H.del x.path).WF)
    ∧ (¬ RemoveOk H x → osRemove H x = none) := by
  unfold RemoveOk osRemove
  split
  · next h0 => exact ⟨fun h => absurd h0 h.1, fun _ => rfl⟩
  · next hne =>
    have hdel := Host.wf_del hwf hne
    split
    · next d hs =>
      refine ⟨fun _ => ⟨rfl, hdel fun n => ?_⟩, fun hno => absurd ⟨hne, Or.inl ⟨d, hs⟩⟩ hno⟩
      exact (Host.wf_treeLike hwf).closed.below_none x.path [n] (by simp) (by rw [osStat_some hs]; intro hc; cases hc)
    · next hs =>
      split
      · next he =>
        have hk := (Host.children_isEmpty hwf _).mp he
        exact ⟨fun _ => ⟨rfl, hdel hk⟩, fun hno => absurd ⟨hne, Or.inr ⟨hs, hk⟩⟩ hno⟩
      · next he =>
        refine ⟨fun hok => absurd ?_ he, fun _ => rfl⟩
        rcases hok.2 with ⟨d, hd⟩ | ⟨_, hk⟩
        · rw [hs] at hd; cases hd
        · exact (Host.children_isEmpty hwf _).mpr hk
    · next hs =>
      exact ⟨fun hok => by rcases hok.2 with ⟨d, hd⟩ | ⟨hd, _⟩ <;> (rw [hs] at hd; cases hd), fun _ => rfl⟩

theorem osRemoveAll_eq (H : Host) (p : HPath) :
    osRemoveAll H p =
      if H.get p = none then (if H.throughFile p = true then none else some H) else some (H.delTree p) := by
  unfold osRemoveAll
  cases H.get p <;> rfl

theorem osRemoveAll_ok {H : Host} (h : H.WF) {p : HPath} (hne : p ≠ []) (hex : H.get p ≠ none) :
    osRemoveAll H p = some (H.delTree p) ∧ (H.delTree p).WF ∧ (H.delTree p).get = FS.removeAllSt H.get p :=
  ⟨by rw [osRemoveAll_eq, if_neg hex], Host.wf_delTree h hne, funext fun q => by rw [Host.get_delTree _ _ hne]; rfl⟩

end DiskFS
end Goat
