/-
The concrete stacks and tree of the examples of `Props/C03.lean`: values of the models only (the tree is built with `MemFS.step`).
-/
import Goat.Model.Views

namespace Goat
namespace Views

/-- encrypted view of a sub-path view `./in/` of the memory wrapper at `in`: rooted at `in/in` -/
def demoStack : List Layer := [newEncrypted, newSubFS [46, 47, 105, 110, 47], ⟨.memWrapper, [105, 110]⟩]

/-- the same below a read-only mask (depth 4) -/
def demoRO : List Layer := newReadOnly :: demoStack

/-- secret at `s`, a file `in/a`, a file `in/in/a` -/
def demoTree : Node :=
  (MemFS.step .root (MemFS.step .root (MemFS.step .root Node.empty
    (.writeFile [115] [83])).1 (.writeFile [105, 110, 47, 97] [1])).1 (.writeFile [105, 110, 47, 105, 110, 47, 97] [2])).1

end Views
end Goat
