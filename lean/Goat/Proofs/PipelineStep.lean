/-
For properties C14/C16: every transition of the pipeline model preserves `Inv` (and with it `TraceOk`): `inv_step`,
by cases on the transition (`PipelineTrans`), each case an instance of the frame theorem (`PipelineFrame`); what the
invariant says about the state before the step (who is idle, who has closed) is in `PipelineFacts`.
-/
import Goat.Proofs.PipelineFrame
import Goat.Proofs.PipelineTrans

namespace Goat.Pipeline

theorem waitsOk_of_wait {g : Graph} {tr : List Ev} {t k : Nat}
    (h : ∀ j, j < k → ∀ w, (g.waits t)[j]? = some w → Ev.done w true ∈ tr)
    (hk : (g.waits t)[k]? = none) : waitsOk g tr t := by
  intro w hw
  obtain ⟨j, hj, hjw⟩ := List.getElem_of_mem hw
  have hlen : (g.waits t).length ≤ k := by
    rcases Nat.lt_or_ge k (g.waits t).length with h1 | h1
    · rw [List.getElem?_eq_getElem h1] at hk; cases hk
    · exact h1
  exact h j (by omega) w (by rw [List.getElem?_eq_getElem hj, hjw])

theorem TI.ok_ret {g : Graph} {t i : Nat} {tr : List Ev} {ce b : Bool} {tgv : TG}
    (T : TI g t (.inCmd i) tr ce tgv) (h : retOk g tr t i b) : Ok g tr (.ret t i b) :=
  ⟨(T.inc i rfl).2, T.no_ret, T.nodone nofun, h⟩

theorem Loc.ret_true {g : Graph} {t i : Nat} {tr : List Ev} {ce : Bool} (L : Loc g t tr ce (.inCmd i)) :
    Loc g t (tr ++ [.ret t i true]) ce (.afterCmd i) :=
  ⟨Upto.snoc_ret L.upto, OkTo.mono _ (freshDone_single nofun) L.okTo, L.lt, by simp⟩

theorem Loc.ret_false {g : Graph} {t i : Nat} {tr : List Ev} {ce : Bool} (L : Loc g t tr ce (.inCmd i)) :
    Loc g t (tr ++ [.ret t i false]) true (.closing false) := by
  refine ⟨fun j _ hj => ?_, fun _ => Or.inl rfl, nofun⟩
  rcases Nat.lt_succ_iff_lt_or_eq.mp (L.upto.1 j ((mem_snoc_ne (by simp)).mp hj)) with h1 | rfl
  · exact hasRet_mono _ (Or.inl (L.okTo.2 j h1).1)
  · exact Or.inr (by simp)

theorem inv_close {g : Graph} {s : St} (hw : WF g) (hI : Inv g s) {t : Nat} {f : Bool}
    (hpc : s.pc t = .closing f) :
    Inv g (emit { s with pc := upd s.pc t .finished } (.done t (!s.cerr (g.ctx t)))) := by
  have hna : ∀ i, s.pc t ≠ .afterCmd i := by rw [hpc]; nofun
  refine inv_go hw hI hpc ⟨rfl, nofun⟩ rfl (hfin := fun _ hc => by rw [hc]; simp) (haft := nofun) (htr := rfl)
    (hd := fun b hb => ?_) (hcerr := .inl ⟨rfl, rfl⟩) fun T => ?_
  · cases List.mem_singleton.mp hb
    exact ⟨rfl, rfl, by simp⟩
  obtain ⟨hclo, hff, hft⟩ := T.loc
  have ht : t < g.n := T.range nofun
  have h0 : 0 < (g.body t).length := List.length_pos_iff.mpr (hw.body t ht)
  refine ⟨Or.inr ⟨_, rfl, ⟨T.nodone nofun, ?_, ?_⟩, rfl⟩, by cases hce : (!s.cerr (g.ctx t)) <;> simp [hasDone], ?_⟩
  · -- every command entered is `cmdClosed`
    intro i hi hc
    refine ⟨hclo i (List.mem_range.mp hi) hc, fun hret => ?_⟩
    split
    · rename_i c hcmd; exact child_closed hw hI (Or.inl hcmd) hret (hna i)
    · rename_i y hcmd; exact try_closed hw hI hcmd hret (hna i)
    · trivial
  · -- the verdict clause of `Ok`
    cases hce : s.cerr (g.ctx t)
    · simp only [Bool.not_false, if_true]
      cases f
      · rcases hff rfl with h1 | ⟨h1, h2⟩
        · rw [hce] at h1; cases h1
        · -- the wait list was passed when the first command was entered
          obtain ⟨pre0, post0, hs0⟩ := List.append_of_mem h1.1
          exact ⟨hs0 ▸ waitsOk_mono _ (hI.ok.start hs0).2, Or.inr ⟨h1, fun i _ hc => h2 i hc⟩⟩
      · exact ⟨(hft rfl).1, Or.inl (fun i hi => (hft rfl).2 i (List.mem_range.mp hi))⟩
    · simp only [Bool.not_true]
      exact hI.i2 _ hce
  · -- `Loc.Finished.started`
    cases f
    · rcases hff rfl with h1 | h1
      · exact Or.inr h1
      · exact Or.inl (List.mem_append_left _ h1.1.1)
    · exact Or.inl (List.mem_append_left _ (cmd_of_ret hI.ok ((hft rfl).2 0 h0).1))

theorem TI.create {g : Graph} {c : Nat} {tr : List Ev} {ce ce' : Bool} {tgv tgv' : TG}
    (C : TI g c .idle tr ce tgv) {es : List Ev} {q : PC} (hq : q = .waiting 0 ∨ q = .rejected)
    (hn : c < g.n)
    (hcr : created g (tr ++ es) tgv' c)
    (hsub : q = .waiting 0 → submitted g (tr ++ es) c)
    (hacc : q = .waiting 0 → nameable g c → acceptedEv g (tr ++ es) c)
    (hacc' : q = .rejected → ¬ acceptedEv g (tr ++ es) c)
    (hno : ∀ e ∈ es, (∀ j, e ≠ .cmd c j) ∧ (∀ j b, e ≠ .ret c j b) ∧ (∀ b, e ≠ .done c b))
    (hce : ce = true → ce' = true) :
    TI g c q (tr ++ es) ce' tgv' := by
  have old : ∀ {e}, ((∃ j, e = .cmd c j) ∨ (∃ j b, e = .ret c j b) ∨ ∃ b, e = .done c b) →
      e ∈ tr ++ es → e ∈ tr := by
    intro e he hm
    refine mem_old (fun hm' => ?_) hm
    obtain ⟨h1, h2, h3⟩ := hno e hm'
    rcases he with ⟨j, he⟩ | ⟨j, b, he⟩ | ⟨b, he⟩
    · exact h1 j he
    · exact h2 j b he
    · exact h3 b he
  have L : Upto c (tr ++ es) 0 0 :=
    ⟨fun j hj => C.cmdB 0 rfl j (old (Or.inl ⟨j, rfl⟩) hj),
      fun j b hj => C.retB 0 rfl j b (old (Or.inr (Or.inl ⟨j, b, rfl⟩)) hj)⟩
  have hd : ∀ {b}, Ev.done c b ∈ tr ++ es → Ev.done c b ∈ tr := old (Or.inr (Or.inr ⟨_, rfl⟩))
  have nd : ¬ hasDone (tr ++ es) c := fun h => C.nodone nofun (h.imp hd hd)
  rcases hq with rfl | rfl
  · exact .of_loc (fun _ => hn) (fun _ => hcr) (fun _ => hsub rfl) (fun _ => hacc rfl) (fun _ => rfl)
      (fun _ => nd) (fun h => hce (C.df (hd h))) (fun h => C.duniq ⟨hd h.1, hd h.2⟩)
      ⟨L, fun j hj => absurd hj (Nat.not_lt_zero _)⟩
  · exact .of_loc (fun _ => hn) (fun _ => hcr) (fun h => by cases h) (fun h => by cases h)
      (fun h => absurd h (hacc' rfl)) (fun _ => nd) (fun h => hce (C.df (hd h)))
      (fun h => C.duniq ⟨hd h.1, hd h.2⟩) L

theorem YI.before_handlers {g : Graph} {s : St} {y : Nat} {q : TG} (hq : s.tg y = q) (hrk : q.rank < 3)
    (hne : q ≠ .idle) (started : Ev.ret (g.tryd y).owner (g.tryd y).idx true ∈ s.tr)
    (bodyAcc : q = .waitBody → (s.pc (g.tryd y).body).accepted = true)
    (v : ∀ v, q = .subFin v →
      hasDone s.tr (g.tryd y).body ∧ (v = true ↔ Ev.done (g.tryd y).body true ∈ s.tr))
    (active : s.pc (g.tryd y).owner = .afterCmd (g.tryd y).idx) : YI g s y := by
  have hr : (s.tg y).rank < 3 := hq ▸ hrk
  refine .of_handled (fun _ => started) (fun h => bodyAcc (hq ▸ h)) (fun v' hv => ?_)
    (fun h => by rw [h] at hr; simp [TG.rank] at hr) (fun _ _ => active) (fun _ => hq ▸ hne)
    (fun k hk => absurd (Nat.le_trans k.three_le_thr hk) (Nat.not_le_of_lt hr))
  rcases hv with h | h | h
  · exact v v' (hq ▸ h)
  all_goals rw [h] at hr; simp [TG.rank] at hr

theorem inv_submit {g : Graph} {s : St} (hw : WF g) (hI : Inv g s) {t i c : Nat}
    (hpc : s.pc t = .inCmd i) (hch : Submits g t i c) (acc : Bool) (hcan : acc = true → canCreate g s c = true)
    {tg' : Nat → TG}
    (htg' : ∀ z, tg' z = if g.cmdAt t i = some (.try_ z) ∧ acc = true then .waitBody else s.tg z) :
    Inv g (emit { s with pc := upd (upd s.pc c (if acc then .waiting 0 else .rejected)) t
                           (if acc then .afterCmd i else .closing false),
                         cerr := if acc then s.cerr else upd s.cerr (g.ctx t) true, tg := tg' } (.ret t i acc)) := by
  obtain ⟨hcn, _, hpar, hcr, hsub, haccE⟩ := hch.facts hw
  obtain ⟨hci, hct⟩ := child_idle hw hI hpc hch
  have hok : retOk g s.tr t i acc := by
    unfold retOk
    rcases hch with h | ⟨y, h, _⟩ <;> rw [h]
    · exact fun ha => waits_accepted_of_canCreate hw hI hcn (hcan ha)
    · trivial
  have T := hI.ti t
  unfold TIs at T; rw [hpc] at T
  have C := hI.ti c
  unfold TIs at C; rw [hci] at C
  have hpct : upd (upd s.pc c (if acc then .waiting 0 else .rejected)) t (if acc then PC.afterCmd i else .closing false) t =
      if acc then .afterCmd i else .closing false := upd_same _ _ _
  have hpcc : upd (upd s.pc c (if acc then PC.waiting 0 else .rejected)) t (if acc then PC.afterCmd i else .closing false) c =
      if acc then .waiting 0 else .rejected := by rw [upd_other _ _ hct, upd_same]
  have hce : ∀ X, s.cerr X = true → (if acc then s.cerr else upd s.cerr (g.ctx t) true) X = true := by
    intro X h; cases acc <;> simp [upd_apply, h]
  have hrk : ∀ z, (s.tg z).rank ≤ (tg' z).rank := fun z => by
    rw [htg']; split
    · rename_i h; rw [tryg_idle hw hI hpc h.1]; exact Nat.zero_le _
    · exact Nat.le_refl _
  refine inv_frame hw hI rfl (Or.inr ⟨_, rfl, T.ok_ret hok⟩) (fun u => u = t ∨ u = c) ?_ ?_ hce ?_
    (fun z => g.cmdAt t i = some (.try_ z) ∧ acc = true) ?_ ?_ (hI.mi.frame rfl rfl (by simp)) (by simp)
  · -- `hsame`
    intro u hu
    have h1 : u ≠ t := fun h => hu (Or.inl h)
    refine ⟨by show upd (upd s.pc c _) t _ u = _; rw [upd_other _ _ h1, upd_other _ _ (fun h => hu (Or.inr h))],
      fun e he => ?_⟩
    rw [List.mem_singleton.mp he]
    exact fun h => hu (Or.inr ((touches_ret hw h1 h).unique hch))
  · -- `hmv`: `t`, then `c`
    rintro u (rfl | rfl)
    · refine Moves.task hpc hpct ⟨rfl, nofun⟩ (by cases acc <;> rfl) (fun h => by cases acc <;> cases h) nofun ?_
      show TI g u (upd (upd s.pc c _) u _ u) (s.tr ++ _) ((if acc then s.cerr else upd s.cerr (g.ctx u) true) _) _
      rw [hpct]
      cases acc
      · simp only [Bool.false_eq_true, if_false, upd_same]
        exact T.move ⟨rfl, nofun⟩ rfl rfl (hrk _) (by simp) T.loc.ret_false
      · exact T.move ⟨rfl, nofun⟩ rfl rfl (hrk _) (by simp) T.loc.ret_true
    · refine Moves.created hci (by cases acc <;> simp [emit, upd_apply, hct]) ?_ ?_
      · show TI g u (upd (upd s.pc u _) t _ u) (s.tr ++ [.ret t i acc]) _ _
        rw [hpcc]
        refine C.create (by cases acc <;> simp) hcn ((hcr _ _).mpr (by cases acc <;> simp [hasRet]))
          (fun _ => (hsub _).mpr (List.mem_append_left _ (T.inc i rfl).2)) (fun hq _ => (haccE _).mpr ?_)
          (fun hq h => ?_) ?_ (hce _)
        · cases acc <;> simp at hq ⊢
        · cases acc <;> simp at hq
          exact T.no_ret (Or.inl (by simpa using (haccE _).mp h))
        · intro e he
          rw [List.mem_singleton.mp he]
          exact ⟨nofun, fun j b h => by cases h; exact hct rfl, nofun⟩
      · intro hq p j hp
        rw [hpar] at hp; cases hp
        show upd (upd s.pc u _) t _ t = _
        rw [hpct]
        cases acc
        · have : upd (upd s.pc u _) t _ u = PC.waiting 0 := hq
          rw [hpcc] at this; cases this
        · rfl
  · -- `hcn`; cause: the `ret … false` itself, witness: `t`
    intro X hX
    cases acc
    · by_cases hXt : X = g.ctx t
      · subst hXt
        exact Or.inr ⟨Or.inl causeIn_self, t, rfl, by show (upd (upd s.pc c _) t _ t).accepted = true; rw [hpct]; rfl,
          by show upd (upd s.pc c _) t _ t ≠ _; rw [hpct]; nofun⟩
      · exact Or.inl (by rw [← upd_other s.cerr true hXt]; exact hX)
    · exact Or.inl hX
  · -- `htg`
    intro z hz
    refine ⟨by show tg' z = _; rw [htg', if_neg hz], fun hzl hm => ?_⟩
    cases List.mem_singleton.mp hm
    exact hz ⟨(hw.tryOwner hzl).2.1, rfl⟩
  · -- `hyi`
    rintro z ⟨hz, rfl⟩
    obtain ⟨hy, ho, hix⟩ := hw.tryc (t_lt_of_cmd hz) hz
    have hcb : (g.tryd z).body = c := Submits.unique (Or.inr ⟨z, hz, rfl⟩) hch
    refine ⟨hy, hrk z, YI.before_handlers (q := .waitBody) (by show tg' z = _; rw [htg', if_pos ⟨hz, rfl⟩]) (by decide)
      nofun (by rw [ho, hix]; simp [emit]) (fun _ => ?_) nofun (by rw [ho, hix]; exact upd_same _ _ _)⟩
    show (upd (upd s.pc _ _) t _ _).accepted = true
    rw [hcb, upd_other _ _ hct, upd_same]; rfl

theorem inv_tg_only {g : Graph} {s : St} (hw : WF g) (hI : Inv g s) {y : Nat} {q : TG}
    (hy : y < g.tries.length) (hrk : (s.tg y).rank ≤ q.rank)
    (hY : YI g { s with tg := upd s.tg y q } y) : Inv g { s with tg := upd s.tg y q } :=
  inv_frame hw hI (es := []) (List.append_nil _).symm (Or.inl rfl) (fun _ => False)
    (fun u _ => ⟨rfl, nofun⟩) (fun _ h => h.elim) (fun _ h => h) (fun _ h => Or.inl h) (· = y)
    (fun z hz => ⟨upd_other _ _ hz, fun _ => nofun⟩)
    (by rintro z rfl; exact ⟨hy, by show _ ≤ (upd s.tg z q z).rank; rw [upd_same]; exact hrk, hY⟩)
    (hI.mi.frame (es := []) (List.append_nil _).symm rfl (fun _ => ⟨nofun, nofun⟩)) nofun

theorem inv_bodyClosed {g : Graph} {s : St} (hw : WF g) (hI : Inv g s) {y : Nat} (htg : s.tg y = .waitBody)
    (hb : s.pc (g.tryd y).body = .finished) :
    Inv g { s with tg := upd s.tg y (.subFin (decide (Ev.done (g.tryd y).body true ∈ s.tr))) } := by
  have hy := hI.tgr y (by rw [htg]; nofun)
  have Y := hI.yi y hy
  refine inv_tg_only hw hI hy (by rw [htg]; simp [TG.rank])
    (YI.before_handlers (upd_same _ _ _) (by simp [TG.rank]) nofun (Y.started (by rw [htg]; nofun)) nofun
      (fun v h => ?_) (Y.active (by rw [htg]; nofun) (by rw [htg]; nofun)))
  cases h
  exact ⟨((hI.ti _).fin hb).1, by simp⟩

/-- after one `Runner.Run` of a handler (or its omission): the try goroutine moved on and the handler (if it was to be
run) exists with its acceptance in the trace, or the submission was refused, which the trace shows as well -/
def SubOut (g : Graph) (s' : St) (y : Nat) (next : TG) (ho : Option Nat) (sel : Bool) : Prop :=
  (s'.tg y = next ∧ ∀ hh, ho = some hh → sel = true → (s'.pc hh).accepted = true ∧ Ev.hacc hh ∈ s'.tr) ∨
  (s'.tg y = .done ∧ s'.cerr (g.ctx (g.tryd y).owner) = true ∧
    ∃ hh ∈ g.handlers y, Ev.hrej hh ∈ s'.tr)

theorem YI.run_iff_sel {g : Graph} {s : St} (hI : Inv g s) {y : Nat} (Y : YI g s y) (k : HKind) {v : Bool}
    (hcur : s.tg y = k.cur v) : hasDone s.tr (g.tryd y).body ∧ (k.run v = true ↔ k.sel g s.tr y) := by
  have hv := Y.v v (by rw [hcur]; cases k <;> simp [HKind.cur])
  refine ⟨hv.1, ?_⟩
  cases k
  · exact ⟨fun _ => trivial, fun _ => rfl⟩
  · show (!v) = true ↔ Ev.done _ false ∈ s.tr
    constructor
    · intro h
      exact hv.1.resolve_left fun hd => by rw [hv.2.mpr hd] at h; cases h
    · intro hd
      cases v
      · rfl
      · exact absurd ⟨hv.2.mp rfl, hd⟩ (hI.ti _).duniq
  · exact hv.2

/-- the handlers dealt with before keep what was known of them; this one is in the table with its acceptance logged,
or the refusal excuses all of them -/
theorem YI.after_handler {g : Graph} {s s' : St} (hI : Inv g s) {y : Nat} (Y : YI g s y) (k : HKind) {v : Bool}
    (hcur : s.tg y = k.cur v) {es : List Ev} (htr : s'.tr = s.tr ++ es) (hes : ∀ u b, Ev.done u b ∉ es)
    (hm1 : ∀ u, (s.pc u).accepted = true → (s'.pc u).accepted = true)
    (hm2 : ∀ X, s.cerr X = true → s'.cerr X = true)
    (hout : SubOut g s' y (k.next v) (k.get (g.tryd y)) (k.run v))
    (hown : s'.tg y ≠ .done → s'.pc (g.tryd y).owner = s.pc (g.tryd y).owner) : YI g s' y := by
  have hne1 : s.tg y ≠ .idle := hcur ▸ k.cur_ne_idle v
  have hne2 : s.tg y ≠ .done := hcur ▸ k.cur_ne_done v
  obtain ⟨hbd, hrs⟩ := Y.run_iff_sel hI k hcur
  have hv := Y.v v (by rw [hcur]; cases k <;> simp [HKind.cur])
  have hrk : (s.tg y).rank + 1 = k.thr := hcur ▸ k.rank_cur v
  have hthr := k.rank_next v
  have htgn : s'.tg y = k.next v ∨ s'.tg y = .done := hout.imp And.left And.left
  have hfd : FreshDone s.tr es := fun u b h => absurd h (hes u b)
  have hmem : ∀ e, e ∈ s.tr → e ∈ s'.tr := fun e he => by rw [htr]; exact List.mem_append_left _ he
  have hdone : ∀ b, Ev.done (g.tryd y).body b ∈ s'.tr ↔ Ev.done (g.tryd y).body b ∈ s.tr := by
    intro b; rw [htr]; exact done_stable hfd hbd b
  have vnext : ∀ v', (s'.tg y = .subFin v' ∨ s'.tg y = .subFail v' ∨ s'.tg y = .subSucc v') → v' = v := by
    intro v' hv'
    rcases htgn with h1 | h1 <;> rw [h1] at hv'
    · cases k <;> rcases hv' with h | h | h <;> cases h <;> rfl
    · rcases hv' with h | h | h <;> cases h
  refine .of_handled (fun _ => hmem _ (Y.started hne1)) (fun h => ?_) (fun v' hv' => ?_)
    (fun _ => htr ▸ hasDone_mono es hbd) (fun _ h2 => by rw [hown h2]; exact Y.active hne1 hne2) (fun _ h => ?_)
    (fun k' hr hs h hh => ?_)
  · rcases htgn with h1 | h1 <;> rw [h1] at h
    · cases k <;> cases h
    · cases h
  · rw [vnext v' hv', hdone true, htr]; exact ⟨hasDone_mono es hbd, hv.2⟩
  · rcases htgn with h1 | h1 <;> rw [h1] at h
    · cases k <;> cases h
    · cases h
  · have hs0 : k'.sel g s.tr y := by
      cases k'
      · trivial
      · exact (hdone _).mp hs
      · exact (hdone _).mp hs
    rcases hout with ⟨ht, ha⟩ | ⟨_, hc, hrej⟩
    · rw [ht, hthr] at hr
      by_cases hlt : k'.thr ≤ (s.tg y).rank
      · obtain ⟨a, b⟩ := Y.handled k' hlt hs0 hh
        exact ⟨a.imp (hm1 _) (hm2 _), subSeen_mono hmem hm1 b⟩
      · have e : k'.thr = k.thr := by omega
        cases HKind.thr_inj e
        have := ha h hh (hrs.mpr hs0)
        exact ⟨Or.inl this.1, Or.inl this⟩
    · exact ⟨Or.inr hc, Or.inr hrej⟩

theorem inv_handler {g : Graph} {s : St} (hw : WF g) (hI : Inv g s) {y hh : Nat} (k : HKind) {v : Bool}
    (hcur : s.tg y = k.cur v) (hk : k.get (g.tryd y) = some hh) (hrun : k.run v = true) (acc : Bool)
    (hcan : canCreate g s hh = acc) :
    Inv g (emit { s with pc := upd s.pc hh (if acc then .waiting 0 else .rejected),
                         cerr := if acc then s.cerr else upd s.cerr (g.ctx (g.tryd y).owner) true,
                         tg := upd s.tg y (if acc then k.next v else .done) } (if acc then .hacc hh else .hrej hh)) := by
  have hne1 : s.tg y ≠ .idle := hcur ▸ k.cur_ne_idle v
  have hne2 : s.tg y ≠ .done := hcur ▸ k.cur_ne_done v
  have hy := hI.tgr y hne1
  have Y := hI.yi y hy
  obtain ⟨hbd, hrs⟩ := Y.run_iff_sel hI k hcur
  have hact := Y.active hne1 hne2
  have hrk : (s.tg y).rank + 1 = k.thr := hcur ▸ k.rank_cur v
  have hthr := k.rank_next v
  have hn5 := k.thr_le_five
  obtain ⟨hlt, b⟩ := hw.ofKind hy k hk
  obtain ⟨htof, hnn, hih, hna, hcr, hsbi, hpar⟩ := role_kind b
  have hsb : submitted g s.tr hh := (hsbi _).mpr ⟨hbd, hrs.mp hrun⟩
  have hmem : hh ∈ g.handlers y := mem_handlers_kind.mpr ⟨k, hk⟩
  have hcidle := handler_idle hw hI hy k hk (by omega)
  have C := hI.ti hh
  unfold TIs at C; rw [hcidle] at C
  have hown_ne : (g.tryd y).owner ≠ hh := by intro h; rw [h, hcidle] at hact; cases hact
  have hce : ∀ X, s.cerr X = true →
      (if acc then s.cerr else upd s.cerr (g.ctx (g.tryd y).owner) true) X = true := by
    intro X h; cases acc <;> simp [upd_apply, h]
  have hrk' : (s.tg y).rank ≤ (upd s.tg y (if acc then k.next v else .done) y).rank ∧
      k.thr ≤ (upd s.tg y (if acc then k.next v else .done) y).rank := by
    rw [upd_same]; cases acc
    · exact ⟨by show _ ≤ 5; omega, hn5⟩
    · rw [if_pos rfl, hthr]; exact ⟨by omega, Nat.le_refl _⟩
  have hcause : acc = false → causeFor g s.tr hh := fun ha =>
    root_cause_of_refusal hI (hw.ofRole hlt b).waits_nil hih (by rw [hcan, ha]; nofun)
  have hev : ∀ e ∈ [if acc then Ev.hacc hh else .hrej hh], e = .hacc hh ∨ e = .hrej hh := by
    intro e he; rw [List.mem_singleton.mp he]; cases acc <;> simp
  have hownpc : upd s.pc hh (if acc then PC.waiting 0 else .rejected) (g.tryd y).owner = .afterCmd (g.tryd y).idx := by
    rw [upd_other _ _ hown_ne]; exact hact
  refine inv_frame hw hI rfl (Or.inr ⟨_, rfl, ?_⟩) (· = hh)
    ?_ ?_ hce ?_ (· = y) ?_ ?_ (hI.mi.frame rfl rfl (by cases acc <;> simp)) ?_
  · -- `hes`
    cases acc
    · exact ⟨hih, hsb, hcause rfl⟩
    · exact ⟨hih, hsb⟩
  · -- `hsame`
    intro u hu
    refine ⟨upd_other _ _ hu, fun e he => ?_⟩
    rcases hev e he with rfl | rfl
    · exact fun h => hu h.symm
    · exact id
  · -- `hmv`
    rintro u rfl
    refine Moves.created hcidle (by cases acc <;> simp [emit]) ?_ ?_
    · show TI g u (upd s.pc u _ u) _ _ _
      refine C.create (by cases acc <;> simp) hlt (by rw [hcr, htof]; exact hrk'.2)
        (fun _ => submitted_mono _ hsb) (fun _ hn => absurd hn hnn) (fun _ => hna _) (fun e he => ?_) (hce _)
      rcases hev e he with rfl | rfl <;> exact ⟨nofun, nofun, nofun⟩
    · intro _ p j hp
      rw [hpar] at hp; cases hp
      exact hownpc
  · -- `hcn`; cause: what made the manager refuse, witness: the owner
    intro X hX
    cases acc
    · by_cases hXo : X = g.ctx (g.tryd y).owner
      · subst hXo
        have := causeFor_mono [Ev.hrej hh] (hcause rfl)
        unfold causeFor at this
        rw [(hw.ofRole hlt b).ctx] at this
        exact Or.inr ⟨this, _, rfl, by show (upd s.pc hh _ _).accepted = true; rw [hownpc]; rfl,
          by show upd s.pc hh _ _ ≠ _; rw [hownpc]; nofun⟩
      · exact Or.inl (by rw [← upd_other s.cerr true hXo]; exact hX)
    · exact Or.inl hX
  · -- `htg`
    intro z hz
    exact ⟨upd_other _ _ hz, fun _ hm => by rcases hev _ hm with h | h <;> cases h⟩
  · -- `hyi`
    rintro z rfl
    refine ⟨hy, hrk'.1, Y.after_handler hI k hcur rfl (by cases acc <;> simp)
      (fun u hu => accepted_upd (by rw [hcidle]; nofun) u hu) hce ?_ (fun _ => upd_other _ _ hown_ne)⟩
    cases acc
    · exact Or.inr ⟨upd_same _ _ _, upd_same _ _ _, hh, hmem, by simp [emit]⟩
    · refine Or.inl ⟨upd_same _ _ _, fun h' h1 _ => ?_⟩
      cases hk.symm.trans h1
      exact ⟨by simp [emit, PC.accepted], by simp [emit]⟩
  · -- `hha`
    intro h hm
    rcases hev _ hm with h1 | h1 <;> cases h1
    cases acc
    · simp at hm
    · simp [emit, PC.accepted]

/-- the events only the main thread logs; they concern no task -/
def isReport : Ev → Prop
  | .sub _ => True
  | .mwait _ => True
  | .fin _ _ => True
  | .root _ => True
  | _ => False

theorem inv_main_log {g : Graph} {s s' : St} (hw : WF g) (hI : Inv g s) {es : List Ev}
    (hpc' : s'.pc = s.pc) (htg' : s'.tg = s.tg) (hcerr' : s'.cerr = s.cerr) (htr' : s'.tr = s.tr ++ es)
    (hes : es = [] ∨ ∃ e, es = [e] ∧ Ok g s.tr e ∧ isReport e) (hmi : MI g s') : Inv g s' := by
  have hrep : ∀ e ∈ es, isReport e := by
    rcases hes with rfl | ⟨e, rfl, _, h⟩
    · nofun
    · intro e' he'; rw [List.mem_singleton.mp he']; exact h
  refine inv_frame hw hI htr' (hes.imp id fun ⟨e, h1, h2, _⟩ => ⟨e, h1, h2⟩)
    (fun _ => False) (fun u _ => ⟨by rw [hpc'], fun e he ht => ?_⟩) (fun _ h => h.elim)
    (by rw [hcerr']; exact fun _ h => h) (by rw [hcerr']; exact fun _ h => Or.inl h) (fun _ => False)
    (fun y _ => ⟨by rw [htg'], fun _ hm => (hrep _ hm).elim⟩) (fun _ h => h.elim) hmi
    (fun h hm => (hrep _ hm).elim)
  have := hrep e he
  -- report events touch nobody (`ht : False`); the other events are no reports (`this : False`)
  cases e <;> first | exact ht | exact this

theorem inv_create {g : Graph} {s : St} (hw : WF g) (hI : Inv g s) {j t : Nat} (hmp : s.mp = .create j)
    (htop : g.top[j]? = some t) (acc : Bool) (hcan : acc = true → canCreate g s t = true) :
    Inv g (emit { s with mp := .sub (j + 1), pc := upd s.pc t (if acc then .waiting 0 else .rejected) }
      (if acc then .acc t else .rej t)) := by
  obtain ⟨t', ht', hsub⟩ := hI.mi.cr j hmp
  rw [htop] at ht'; cases ht'
  obtain ⟨_, htr⟩ := hw.top t (List.mem_of_getElem? htop)
  obtain ⟨hcidle, htn, hnoacc⟩ := top_idle hw hI hmp htop
  have C := hI.ti t
  unfold TIs at C; rw [hcidle] at C
  have hev : ∀ e ∈ [if acc then Ev.acc t else Ev.rej t], e = .acc t ∨ e = .rej t := by
    intro e he; rw [List.mem_singleton.mp he]; cases acc <;> simp
  refine inv_frame hw hI rfl (Or.inr ⟨_, rfl, ?_⟩) (· = t)
    ?_ ?_ (fun _ h => h) (fun _ h => Or.inl h)
    (fun _ => False) (fun y _ => ⟨rfl, fun _ hm => by rcases hev _ hm with h | h <;> cases h⟩)
    (fun _ h => h.elim) ⟨fun j' hj' u hu => ?_, fun j' hj' => ?_, fun hm => ?_⟩
    (fun h hm => by rcases hev _ hm with h | h <;> cases h)
  · -- `hes`
    cases acc
    · exact hsub
    · exact ⟨hsub, waits_accepted_of_canCreate hw hI htn (hcan rfl)⟩
  · -- `hsame`
    intro u hu
    refine ⟨upd_other _ _ hu, fun e he => ?_⟩
    rcases hev e he with rfl | rfl <;> exact fun h => hu h.symm
  · -- `hmv`
    rintro u rfl
    refine Moves.created hcidle (by cases acc <;> simp [emit]) ?_ ?_
    · show TI g u (upd s.pc u _ u) _ _ _
      refine C.create (by cases acc <;> simp) htn (by unfold created; rw [htr]; cases acc <;> simp)
        (fun _ => by unfold submitted; rw [htr]; exact List.mem_append_left _ hsub) (fun hq _ => ?_)
        (fun hq => ?_) (fun e he => ?_) id
      · unfold acceptedEv; rw [htr]; cases acc <;> simp at hq ⊢
      · unfold acceptedEv; rw [htr]
        cases acc <;> simp at hq
        simp only [Bool.false_eq_true, if_false, List.mem_append, List.mem_singleton]
        rintro (h | h)
        · exact hnoacc (Or.inl h)
        · cases h
      · rcases hev e he with rfl | rfl <;> exact ⟨nofun, nofun, nofun⟩
    · intro _ p i hp
      unfold parentOf at hp; rw [htr] at hp; cases hp
  · -- `MI.early`
    have hjj : j' = j + 1 := by rcases hj' with h | h <;> cases h; rfl
    by_cases hut : u = t
    · subst hut; exact ⟨j, by omega, htop⟩
    · have hne : ∀ e ∈ [if acc then Ev.acc t else Ev.rej t], e ≠ .acc u ∧ e ≠ .rej u := by
        intro e he
        rcases hev e he with rfl | rfl
        · exact ⟨fun h => by cases h; exact hut rfl, nofun⟩
        · exact ⟨nofun, fun h => by cases h; exact hut rfl⟩
      obtain ⟨j'', h1, h2⟩ := hI.mi.early j (Or.inr hmp) u
        (hu.imp (mem_old fun h => (hne _ h).1 rfl) (mem_old fun h => (hne _ h).2 rfl))
      exact ⟨j'', by omega, h2⟩
  · -- `MI.cr`
    cases hj'
  · -- `MI.mw`
    rcases hm with ⟨_, hm⟩ | hm <;> cases hm

theorem MI.reporting {g : Graph} {s s' : St} (hmw : hasMwait s.tr) {es : List Ev} (htr : s'.tr = s.tr ++ es)
    (hmp' : (∃ t', s'.mp = .fins t') ∨ s'.mp = .finished) : MI g s' := by
  constructor
  · intro j' hj'; rcases hmp' with ⟨_, h⟩ | h <;> rw [h] at hj' <;> rcases hj' with h | h <;> cases h
  · intro j' hj'; rcases hmp' with ⟨_, h⟩ | h <;> rw [h] at hj' <;> cases hj'
  · intro _; rw [htr]; exact hasMwait_mono _ hmw

theorem inv_init (g : Graph) : Inv g init := by
  refine ⟨fun u => ?_, fun y _ => ?_, ?_, ?_, ?_, traceOk_nil g, fun y h => by simp [init] at h,
    fun X h => by simp [init] at h, fun h hm => by simp [init] at hm⟩
  · have nil : ∀ e : Ev, e ∉ (init : St).tr := fun _ => List.not_mem_nil
    exact .of_loc (fun h => absurd rfl h) (fun h => absurd rfl h) (fun h => by cases h) (fun h => by cases h)
      (fun h => by unfold acceptedEv at h; split at h <;> first | exact absurd h (nil _) | exact h.elim)
      (fun _ h => h.elim (nil _) (nil _)) (fun h => absurd h (nil _)) (fun h => nil _ h.1)
      ⟨fun _ h => absurd h (nil _), fun _ _ h => absurd h (nil _)⟩
  · constructor <;> simp [init, TG.rank]
  · intro u h; simp [init, PC.accepted] at h
  · constructor <;> simp [init]
  · intro X h; simp [init] at h

theorem inv_step {g : Graph} {s s' : St} (hw : WF g) (hI : Inv g s) (l : Label)
    (h : step g s l = some s') : Inv g s' := by
  cases Trans.of_step h with
  | waitsDone hpc hk =>
    exact inv_silent hw hI hpc ⟨rfl, nofun⟩ ⟨rfl, nofun⟩ nofun fun T =>
      ⟨T.loc.upto, ⟨waitsOk_of_wait T.loc.passed hk, fun j hj => absurd hj (Nat.not_lt_zero _)⟩, Nat.zero_le _⟩
  | waitFailed hpc hk hwf hwc =>
    rename_i t k w
    have hctx : g.ctx w = g.ctx t := by
      have hwn : w < g.n := (hI.ti w).range (by rw [hwf]; nofun)
      rcases hw.wait_cases ((hI.ti t).range (by rw [hpc]; nofun)) (List.mem_of_getElem? hk) with h | h
      · omega
      · exact h.2.2
    exact inv_go hw hI hpc ⟨rfl, nofun⟩ rfl (hfin := nofun) (haft := nofun) (htr := (List.append_nil _).symm)
      (hd := nofun) (hcerr := .inr ⟨rfl, rfl, nofun, hctx ▸ hI.i2 _ hwc⟩) fun T =>
      ⟨Or.inl rfl, fun i _ hc => absurd (T.loc.upto.1 i hc) (Nat.not_lt_zero _), fun _ => Or.inl rfl, nofun⟩
  | waitNext hpc hk hwf hwc =>
    refine inv_silent hw hI hpc ⟨rfl, nofun⟩ ⟨rfl, nofun⟩ nofun fun T =>
      ⟨T.loc.upto, Nat.forall_lt_succ_right.mpr ⟨T.loc.passed, fun w' hw' => ?_⟩⟩
    rw [hk] at hw'; cases hw'
    exact done_true_of_finished hI hwf hwc
  | enter hpc hi =>
    rename_i t i
    refine inv_go hw hI hpc ⟨rfl, nofun⟩ rfl (hfin := nofun) (haft := nofun) (htr := rfl) (hd := by simp)
      (hcerr := .inl ⟨rfl, rfl⟩) fun T => ?_
    have L := T.loc
    refine ⟨Or.inr ⟨_, rfl, ⟨hi, fun h => Nat.lt_irrefl _ (L.upto.1 i h), T.nodone nofun, ?_⟩, rfl⟩,
      Upto.snoc_cmd L.upto, OkTo.mono _ (freshDone_single nofun) L.okTo, hi, by simp⟩
    split
    · exact ⟨T.sub rfl, L.okTo.1⟩
    · exact L.okTo.2 (i - 1) (by omega)
  | endOfScript hpc hi =>
    refine inv_silent hw hI hpc ⟨rfl, nofun⟩ ⟨rfl, nofun⟩ nofun fun T => ?_
    have L := T.loc
    have hil := Nat.le_antisymm (Nat.le_of_not_lt hi) L.le
    exact ⟨fun j hj _ => Or.inl (L.okTo.2 j (hil ▸ hj)).1, nofun, fun _ => hil ▸ L.okTo⟩
  | stop hpc hc =>
    refine inv_silent hw hI hpc ⟨rfl, nofun⟩ ⟨rfl, nofun⟩ nofun fun T => ?_
    have hcb := T.loc.upto.1
    have hd := T.loc.okTo.2
    refine ⟨fun j _ hj => Or.inl (hd j (hcb j hj)).1, fun _ => ?_, nofun⟩
    rcases Bool.or_eq_true_iff.mp hc with h1 | h1
    · exact Or.inl h1
    · -- a `stop` command below `i` has run, as have all commands entered so far
      obtain ⟨k, hk, hkc⟩ := List.any_eq_true.mp h1
      have hkc' := beq_iff_eq.mp hkc
      exact Or.inr ⟨⟨cmd_of_ret hI.ok (hd 0 (by have := List.mem_range.mp hk; omega)).1, k,
        List.mem_range.mpr (cmdAt_lt hkc'), hkc', cmd_of_ret hI.ok (hd k (List.mem_range.mp hk)).1⟩,
        fun j hj => hd j (hcb j hj)⟩
  | retNil hpc hcmd =>
    refine inv_go hw hI hpc ⟨rfl, nofun⟩ rfl (hfin := nofun) (haft := nofun) (htr := rfl) (hd := by simp)
      (hcerr := .inl ⟨rfl, rfl⟩) fun T =>
      ⟨Or.inr ⟨_, rfl, T.ok_ret ?_, rfl, ?_, ?_⟩, T.loc.ret_true⟩
    all_goals rcases hcmd with h | h <;> simp [retOk, h]
  | retErr hpc hcmd =>
    exact inv_go hw hI hpc ⟨rfl, nofun⟩ rfl (hfin := nofun) (haft := nofun) (htr := rfl) (hd := by simp)
      (hcerr := .inr ⟨rfl, rfl, nofun, .inl causeIn_self⟩) fun T =>
      ⟨Or.inr ⟨_, rfl, T.ok_ret (by simp [retOk, hcmd]), rfl, by simp [hcmd], by simp [hcmd]⟩, T.loc.ret_false⟩
  | submit hpc hch acc hcan htg' => exact inv_submit hw hI hpc hch acc hcan htg'
  | leaveErr hpc hcmd hg hce =>
    rename_i t i c
    refine inv_silent hw hI hpc ⟨rfl, nofun⟩ ⟨rfl, nofun⟩ (fun j hj => by cases hj; exact ⟨c, hcmd, hg⟩) fun T => ?_
    have L := T.loc
    refine ⟨fun j _ hj => ?_, fun _ => Or.inl hce, nofun⟩
    rcases Nat.lt_succ_iff_lt_or_eq.mp (L.upto.1 j hj) with h1 | rfl
    · exact Or.inl (L.okTo.2 j h1).1
    · exact Or.inl L.returned
  | leaveOk hpc hcmd hg hce =>
    rename_i t i c
    refine inv_silent hw hI hpc ⟨rfl, nofun⟩ ⟨rfl, nofun⟩ (fun j hj => by cases hj; exact ⟨c, hcmd, hg⟩) fun T => ?_
    have L := T.loc
    exact ⟨L.upto, ⟨L.okTo.1, Nat.forall_lt_succ_right.mpr ⟨L.okTo.2, cmdDoneOk_of_guard hw hI hcmd L.returned hg hce⟩⟩, L.lt⟩
  | close hpc => exact inv_close hw hI hpc
  | bodyClosed htg hb => exact inv_bodyClosed hw hI htg hb
  | handler k htg hh hrun acc hcan => exact inv_handler hw hI k htg hh hrun acc hcan
  | noHandler k htg hno =>
    have hy := hI.tgr _ (htg ▸ k.cur_ne_idle _)
    exact inv_tg_only hw hI hy (by rw [htg, k.rank_next]; exact Nat.le_of_lt (k.rank_cur _ ▸ Nat.lt_succ_self _))
      ((hI.yi _ hy).after_handler hI k htg (List.append_nil _).symm nofun (fun _ h => h) (fun _ h => h)
        (Or.inl ⟨upd_same _ _ _, fun h h1 h2 => (hno h h1 h2).elim⟩) (fun _ => rfl))
  | announce hmp htop =>
    rename_i j t
    refine inv_main_log hw hI (es := [.sub t]) rfl rfl rfl rfl
      (Or.inr ⟨_, rfl, List.mem_of_getElem? htop, trivial⟩) ⟨fun j' hj' u hu => ?_, fun j' hj' => ?_, ?_⟩
    · have hjj : j' = j := by rcases hj' with h | h <;> cases h <;> rfl
      subst hjj
      exact hI.mi.early j' (Or.inl hmp) u (hu.imp (mem_old (by simp)) (mem_old (by simp)))
    · cases hj'
      exact ⟨t, htop, by simp [emit]⟩
    · intro hm; rcases hm with ⟨_, hm⟩ | hm <;> cases hm
  | noMore hmp htop =>
    exact inv_main_log hw hI (es := []) rfl rfl rfl (List.append_nil _).symm (Or.inl rfl)
      ⟨fun j' hj' => (by rcases hj' with h | h <;> cases h), fun j' hj' => (by cases hj'),
        fun hm => (by rcases hm with ⟨_, hm⟩ | hm <;> cases hm)⟩
  | create hmp htop acc hcan => exact inv_create hw hI hmp htop acc hcan
  | waitReturns hmp hall =>
    have hall' := finished_of_allFinished hI hall
    refine inv_main_log hw hI (es := [.mwait (tableOk g s)]) rfl rfl rfl rfl (Or.inr ⟨_, rfl, ⟨?_, ?_⟩, trivial⟩)
      ⟨fun j' hj' => (by rcases hj' with h | h <;> cases h), fun j' hj' => (by cases hj'),
        fun _ => (by cases tableOk g s <;> simp [emit, hasMwait])⟩
    · intro u hu hacc
      exact ((hI.ti u).fin (hall' u ((hI.ti u).accEv' hacc))).1
    · cases htab : tableOk g s
      · simp only [Bool.false_eq_true, if_false]
        obtain ⟨u, _, _, hc⟩ := tableOk_false htab
        rcases hI.i2 _ hc with h | h <;> exact anyCause_of_causeIn h
      · simp only [if_true]
        intro e he
        cases hd : isDoneFail e
        · rfl
        obtain ⟨u, rfl⟩ := isDoneFail_iff.mp hd
        have hfin : s.pc u = .finished := Classical.byContradiction fun h1 => (hI.ti u).nodone h1 (Or.inr he)
        have hun : u < g.n := (hI.ti u).range (by rw [hfin]; simp)
        have hc := (hI.ti u).df he
        unfold tableOk at htab
        rw [List.all_eq_true] at htab
        have := htab u (List.mem_range.mpr hun)
        rw [hfin, hc] at this
        simp [PC.accepted] at this
  | report hmp =>
    have hmw := hI.mi.mw (Or.inl ⟨_, hmp⟩)
    exact inv_main_log hw hI (es := [.fin _ _]) rfl rfl rfl rfl
      (Or.inr ⟨_, rfl, ⟨hmw, report_ok hI _⟩, trivial⟩) (MI.reporting hmw rfl (Or.inl ⟨_, rfl⟩))
  | skip hmp =>
    exact inv_main_log hw hI (es := []) rfl rfl rfl (List.append_nil _).symm (Or.inl rfl)
      (MI.reporting (hI.mi.mw (Or.inl ⟨_, hmp⟩)) (List.append_nil _).symm (Or.inl ⟨_, rfl⟩))
  | root hmp =>
    have hmw := hI.mi.mw (Or.inl ⟨_, hmp⟩)
    refine inv_main_log hw hI (es := [.root _]) rfl rfl rfl rfl
      (Or.inr ⟨_, rfl, ⟨hmw, ?_⟩, trivial⟩) (MI.reporting hmw rfl (Or.inr rfl))
    have := report_ok hI 0
    split at this
    · rename_i hc; rw [if_pos hc]; exact this
    · rename_i hc; rw [if_neg hc]; exact this.elim id id

end Goat.Pipeline
