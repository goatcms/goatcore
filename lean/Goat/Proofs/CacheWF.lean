/-
Well-formedness of buffer and remote (`WInv`) along EVERY history: all 16 methods through every handle, copies
included, and Commit with any iteration order and failure position.
-/
import Goat.Proofs.CacheReplay

namespace Goat
namespace Cache

open Path (Name norm join slash Reduced Plain cleanPath reduceAbsPath)
open FS (Op Result Entry Mut)
open MemFS MemAbs

theorem openView_viewOK {ref v : FSRef} {b : List Name} (hv : ViewOK ref b) {raw : Bytes}
    (h : MemFS.openView ref raw = some v) : ∃ b', ViewOK v b' := by
  cases hn : norm raw with
  | none => rw [openView_none ref raw hn] at h; cases h
  | some q =>
    obtain ⟨v', hv', hok⟩ := openView_some ref b hv raw q hn
    rw [h] at hv'; cases hv'
    exact ⟨b ++ q, hok⟩

theorem copyLoop_inv (src : Node) (srcBase destBase : Bytes) (b : List Name) (hv : ViewOK (.wrap destBase) b)
    (items : List (Bool × Bytes)) (buf : Node) (hb : Inv buf) :
    Inv (copyLoop src srcBase destBase items buf).1 := by
  induction items generalizing buf with
  | nil => exact hb
  | cons it rest ih =>
    obtain ⟨isDir, sub⟩ := it
    cases isDir with
    | true =>
      unfold copyLoop
      have h1 : Inv (Wrap.mkdirAll destBase buf sub).1 := step_inv (.wrap destBase) b hv buf hb (.mkdirAll sub)
      rcases hr : Wrap.mkdirAll destBase buf sub with ⟨buf', r⟩
      rw [hr] at h1
      cases r <;> first | exact ih buf' h1 | exact h1
    | false =>
      unfold copyLoop
      have h1 : Inv (Wrap.mkdirAll destBase buf (pathDir sub)).1 :=
        step_inv (.wrap destBase) b hv buf hb (.mkdirAll (pathDir sub))
      rcases hr : Wrap.mkdirAll destBase buf (pathDir sub) with ⟨buf1, r⟩
      rw [hr] at h1
      cases r
      case ok =>
        rcases hrd : Wrap.readFile srcBase src sub with ⟨x, rr⟩
        cases rr
        case data d =>
          simp only []
          have h2 : Inv (Wrap.writer destBase buf1 sub (ioChunks d)).1 :=
            step_inv (.wrap destBase) b hv buf1 h1 (.writer sub (ioChunks d))
          rcases hw : Wrap.writer destBase buf1 sub (ioChunks d) with ⟨buf2, r2⟩
          rw [hw] at h2
          cases r2 <;> first | exact ih buf2 h2 | exact h2
        all_goals exact h1
      all_goals exact h1

theorem copierFrom_inv (st : Node) (st1 : Node → Node) (buffer : Node) (hb : Inv buffer) (src dest : Bytes) :
    Inv (copierFrom st st1 buffer src dest).1 := by
  -- every exit returns the buffer it got or the result of a call on it through the root or a `ViewOK` wrapper
  unfold copierFrom
  by_cases h1 : isTrue (Root.isFile st src) = true
  · rw [if_pos h1]
    cases Root.readFile st src <;> first | exact hb | exact root_step_inv buffer hb (.writer dest _)
  · rw [if_neg h1]
    by_cases h2 : (!isTrue (Root.isDir st src)) = true
    · rw [if_pos h2]; exact hb
    · rw [if_neg h2]
      cases hov : MemFS.openView .root src with
      | none => exact hb
      | some v =>
        cases v with
        | root => exact hb
        | wrap srcBase =>
          have hm : Inv (Root.mkdirAll buffer dest).1 := root_step_inv buffer hb (.mkdirAll dest)
          rcases hmk : Root.mkdirAll buffer dest with ⟨b1, r⟩
          rw [hmk] at hm
          cases r
          case ok =>
            cases hov2 : MemFS.openView .root dest with
            | none => exact hm
            | some v2 =>
              cases v2 with
              | root => exact hm
              | wrap destBase =>
                simp only []
                obtain ⟨b, hv⟩ := openView_viewOK (ref := .root) rfl hov2
                cases getDirByPath (st1 b1) ((reduceAbsPath src).getD []) with
                | none => exact hm
                | some k => exact copyLoop_inv _ _ _ b hv _ b1 hm
          all_goals exact hm

def WInv (s : State) : Prop := Inv s.buffer ∧ Inv s.remote

theorem winv_new (r : Node) (hr : Inv r) : WInv (State.new r) := ⟨inv_empty, hr⟩

theorem copy_winv (s : State) (W : WInv s) (a b : Bytes) : WInv (copy s a b).1 := by
  unfold copy copier
  simp only []
  split
  · exact W
  · exact ⟨copierFrom_inv _ _ _ W.1 _ _, W.2⟩

theorem step_winv (h : Handle) (s : State) (W : WInv s) (op : Op) : WInv (step h s op).1 := by
  refine step_induct s (fun x => WInv x.1) (fun _ => W) (copy_winv s W)
    (fun p => ⟨root_step_inv s.buffer W.1 (.mkdirAll _), W.2⟩)
    (fun p d => ⟨root_step_inv s.buffer W.1 (.writeFile _ d), W.2⟩)
    (fun p cs => ⟨root_step_inv s.buffer W.1 (.writer _ cs), W.2⟩) (fun p => ⟨?_, W.2⟩) (fun p => ⟨?_, W.2⟩) h op
  · show Inv (if _ then Root.remove s.buffer _ else (s.buffer, Result.ok)).1
    split
    · exact root_step_inv s.buffer W.1 (.remove _)
    · exact W.1
  · show Inv (if _ then Root.removeAll s.buffer _ else (s.buffer, Result.ok)).1
    split
    · exact root_step_inv s.buffer W.1 (.removeAll _)
    · exact W.1

theorem run_winv (s : State) (W : WInv s) (ops : List (Handle × Op)) : WInv (run s ops) := by
  induction ops generalizing s with
  | nil => exact W
  | cons x rest ih => exact ih _ (step_winv x.1 s W x.2)

theorem commitWith_winv (rm rma mk wr : List Bytes) (fa : Option Nat) (s : State) (W : WInv s) :
    WInv (commitWith rm rma mk wr fa s).1 :=
  ⟨(commitWith_frame rm rma mk wr fa s).1 ▸ W.1, (commit_replayed rm rma mk wr fa s).inv W.2⟩

theorem sim_step_winv (m : Sim) (W : WInv m.cache) (x : HOp) : WInv (m.step x).1.cache := by
  cases x with
  | call h op => exact step_winv h m.cache W op
  | commit fa => exact commitWith_winv _ _ _ _ fa m.cache W

theorem sim_run_winv (m : Sim) (W : WInv m.cache) (hist : List HOp) : WInv (m.run hist).cache := by
  induction hist generalizing m with
  | nil => exact W
  | cons x rest ih => exact ih _ (sim_step_winv m W x)

end Cache
end Goat
