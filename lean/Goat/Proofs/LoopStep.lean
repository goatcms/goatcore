/-
What one action of a goroutine of the fsloop protocol does.  The invariant of `LoopInv` counts with weights summed
over the producers and over the consumers (`lsum`); here every kind of action is described once, about the acting
goroutine and the shared state alone, with what it does to each weight and what it leaves untouched.
-/
import Goat.Proofs.LoopWalk

namespace Goat.Loop

def lsum {α : Type} (f : α → Nat) : List α → Nat
  | [] => 0
  | a :: r => f a + lsum f r

theorem lsum_eq_sum {α : Type} (f : α → Nat) (l : List α) : lsum f l = (l.map f).sum := by
  induction l with
  | nil => rfl
  | cons a r ih => simp [lsum, ih]

theorem lsum_set {α : Type} (f : α → Nat) (l : List α) (i : Nat) (a a' : α) (h : l[i]? = some a) :
    lsum f (l.set i a') + f a = lsum f l + f a' := by
  simpa only [lsum_eq_sum] using LTS.sum_map_set f a' h

theorem lsum_append {α : Type} (f : α → Nat) (a b : List α) : lsum f (a ++ b) = lsum f a + lsum f b := by
  simp [lsum_eq_sum]

theorem lsum_replicate {α : Type} (f : α → Nat) (n : Nat) (a : α) : lsum f (List.replicate n a) = n * f a := by
  simp [lsum_eq_sum]

theorem lsum_eq_zero_iff {α : Type} (f : α → Nat) (l : List α) : lsum f l = 0 ↔ ∀ a ∈ l, f a = 0 := by
  simp [lsum_eq_sum, List.sum_eq_zero_iff_forall_eq_nat]

theorem lsum_ge {α : Type} (f : α → Nat) {l : List α} {a : α} (h : a ∈ l) : f a ≤ lsum f l :=
  lsum_eq_sum f l ▸ LTS.le_sum_map f h

theorem lsum_const_zero {α : Type} {f : α → Nat} {a₀ : α} (hf : f a₀ = 0) {l : List α} (h : ∀ a ∈ l, a = a₀) :
    lsum f l = 0 :=
  (lsum_eq_zero_iff f l).mpr fun a ha => by rw [h a ha]; exact hf

/-- weight of a consumer that is inside the callback on `x` -/
def cbW (x : Item) (pc : PC) : Nat := if pc = .inCb x.1 x.2 then 1 else 0
/-- weight of a consumer that is about to report the failure of the callback on `x` -/
def repW (x : Item) (pc : PC) : Nat := if pc = .rep x.1 x.2 then 1 else 0
/-- weight of a consumer goroutine that has not executed `pool.Done()` -/
def liveW (pc : PC) : Nat := if pc = .exited then 0 else 1

/-- a producer goroutine that has not executed `pool.Done()` -/
def liveP : Prod → Nat
  | .gone => 0
  | _ => 1
/-- how often the rest of a producer's program (and of the producers it will start) sends `x` -/
def unsentC (x : Item) : Prod → Nat
  | .run acts => (sendsL acts).count x
  | .rep _ _ rest => (sendsL rest).count x
  | .gone => 0
/-- weight of a producer that is about to report the failed listing of `p` -/
def lrepW (p : Path) : Prod → Nat
  | .rep q _ _ => if q = p then 1 else 0
  | _ => 0
/-- how many failing listings of `p` the rest of a producer's program contains -/
def lpendC (p : Path) : Prod → Nat
  | .run acts => (listsL acts).count (p, false)
  | .rep _ _ rest => (listsL rest).count (p, false)
  | .gone => 0

/-- `unsentC` summed over the directory items -/
def unsentD : Prod → Nat
  | .run acts => (sendsL acts).countP (fun x => x.1)
  | .rep _ _ rest => (sendsL rest).countP (fun x => x.1)
  | .gone => 0
/-- `unsentC` summed over the file items -/
def unsentF : Prod → Nat
  | .run acts => (sendsL acts).countP (fun x => !x.1)
  | .rep _ _ rest => (sendsL rest).countP (fun x => !x.1)
  | .gone => 0

theorem count_inflight (x : Item) (l : List PC) : (inflight l).count x = lsum (cbW x) l := by
  induction l with
  | nil => simp [inflight, lsum]
  | cons a r ih =>
    cases a <;> simp [inflight, lsum, cbW, ih, List.count_cons]
    rename_i d p
    obtain ⟨x1, x2⟩ := x
    by_cases h : d = x1 ∧ p = x2
    · obtain ⟨rfl, rfl⟩ := h; simp; omega
    · simp [h]

theorem count_reporting (x : Item) (l : List PC) : (reporting l).count (.cb x.1 x.2) = lsum (repW x) l := by
  induction l with
  | nil => simp [reporting, lsum]
  | cons a r ih =>
    cases a <;> simp [reporting, lsum, repW, ih, List.count_cons]
    rename_i d p
    by_cases h : d = x.1 ∧ p = x.2
    · obtain ⟨rfl, rfl⟩ := h; simp; omega
    · simp [h]

theorem count_reportingP (p : Path) (l : List Prod) : (reportingP l).count p = lsum (lrepW p) l := by
  induction l with
  | nil => simp [reportingP, lsum]
  | cons a r ih =>
    cases a <;> simp [reportingP, lsum, lrepW, ih, List.count_cons]
    rename_i q _ _
    by_cases h : q = p
    · subst h; simp; omega
    · simp [h]

theorem countP_sendsL_drop_le (f : Item → Bool) (k : Nat) (l : List PAct) :
    (sendsL (l.drop k)).countP f ≤ (sendsL l).countP f := by
  have := congrArg (List.countP f) (sendsL_take_drop k l)
  simp [List.countP_append] at this
  omega

theorem liveProds_eq (l : List Prod) : liveProds l = lsum liveP l := by
  induction l with
  | nil => simp [liveProds, lsum]
  | cons a r ih => cases a <;> simp [liveProds, lsum, liveP, ih] <;> omega

@[simp] theorem Ctx.dead_kill (c : Ctx) : c.kill.dead = true := by cases c <;> rfl
@[simp] theorem Ctx.dead_expire (c : Ctx) : c.expire.dead = true := by cases c <;> rfl
theorem Ctx.kill_of_dead {c : Ctx} (h : c.dead = true) : c.kill = c := by cases c <;> simp_all [Ctx.dead, Ctx.kill]
theorem Ctx.expire_of_dead {c : Ctx} (h : c.dead = true) : c.expire = c := by cases c <;> simp_all [Ctx.dead, Ctx.expire]
theorem Ctx.err_ne_nil {c : Ctx} : c.err ≠ [] ↔ c.dead = true := by cases c <;> simp [Ctx.err, Ctx.dead]

theorem errorsOf_nil {s : St} : errorsOf s = [] ↔ s.errors = [] ∧ s.killed = false := by
  unfold errorsOf St.killed
  cases s.ctx <;> simp [Ctx.err, Ctx.dead]

theorem errorsOf_ne_nil_of_killed {s : St} (hk : s.killed = true) : errorsOf s ≠ [] :=
  fun he => Bool.false_ne_true ((errorsOf_nil.mp he).2.symm.trans hk)

/-- what every action leaves of the lifecycle -/
def LifecycleKept (s u : St) : Prop :=
  u.killed = true ∨ (u.ctx = s.ctx ∧ u.errors = s.errors ∧ u.dropped = s.dropped)

theorem LifecycleKept.killed {s u : St} (h : LifecycleKept s u) (hk : s.killed = true) : u.killed = true := by
  rcases h with h | ⟨h, _⟩
  · exact h
  · unfold St.killed; rw [h]; exact hk

theorem LifecycleKept.dropped {s u : St} (h : LifecycleKept s u) (hd : s.killed = false → s.dropped = [])
    (hk : u.killed = false) : u.dropped = [] := by
  rcases h with h | ⟨h1, _, h3⟩
  · rw [hk] at h; cases h
  · rw [h3]; apply hd; unfold St.killed at hk ⊢; rw [← h1]; exact hk

theorem LifecycleKept.strict {s u : St} (h : LifecycleKept s u) (hs : s.errors ≠ [] → s.killed = true)
    (he : u.errors ≠ []) : u.killed = true := by
  rcases h with h | ⟨h1, h2, _⟩
  · exact h
  · unfold St.killed; rw [h1]; exact hs (h2 ▸ he)

/-- actions that only advance the program: a listing that succeeds, a filter evaluation,
`pool.Add` returning 0, a kill test on a live lifecycle -/
def PAct.passes (s : St) : PAct → Bool
  | .list _ _ ok _ => ok
  | .filtD _ _ | .filtF _ _ | .add _ => true
  | .chk _ => !s.killed
  | _ => false

theorem PAct.passes_sends {s : St} {a : PAct} (h : a.passes s = true) : a.sends = [] := by
  cases a <;> simp_all [PAct.passes]

theorem PAct.passes_lists {s : St} {a : PAct} (h : a.passes s = true) (p : Path) :
    a.lists.count (p, false) = 0 := by
  cases a <;> simp_all [PAct.passes]

/-- `PMove P s pr pr' extra u`: the producer `pr` executes its next action in state `s`, becomes `pr'` and starts
the producers `extra`; `u` is the new shared state, in which `prods` is left to the caller (as `consAct` leaves
`cons`).  `skip` is the kill test of `processList` on a killed lifecycle, the `return true` that drops the rest of
the invocation; `report` is `lifecycle.Error(err)` after a failed `ReadDir`, followed by the same early return. -/
inductive PMove (P : Params) (s : St) : Prod → Prod → List Prod → St → Prop
  | report (p k rest) : PMove P s (.rep p k rest) (.run (rest.drop k)) []
      { s with errors := s.errors ++ [.listing p], ctx := s.ctx.kill, dropped := rest.take k ++ s.dropped }
  | exit : PMove P s (.run []) .gone [] { s with ppool := s.ppool - 1 }
  | sendD (p rest) : s.qd.length < P.capD → s.dClosed = false →
      PMove P s (.run (.send true p :: rest)) (.run rest) [] { s with qd := s.qd ++ [p] }
  | sendF (p rest) : s.qf.length < P.capF → s.fClosed = false →
      PMove P s (.run (.send false p :: rest)) (.run rest) [] { s with qf := s.qf ++ [p] }
  | listFail (p sl k rest) :
      PMove P s (.run (.list p sl false k :: rest)) (.rep p k rest) [] { s with lfailed := p :: s.lfailed }
  | pass (a rest) : a.passes s = true → PMove P s (.run (a :: rest)) (.run rest) [] s
  | spawn (p body rest) :
      PMove P s (.run (.spawn p body :: rest)) (.run rest) [.run body] { s with ppool := s.ppool + 1 }
  | skip (k rest) : s.killed = true →
      PMove P s (.run (.chk k :: rest)) (.run (rest.drop k)) [] { s with dropped := rest.take k ++ s.dropped }

theorem prodStep_move {P : Params} {s t : St} {j : Nat} (h : prodStep P s j = some t) :
    ∃ pr pr' extra u, s.prods[j]? = some pr ∧ PMove P s pr pr' extra u ∧
      t = { u with prods := s.prods.set j pr' ++ extra } := by
  have single : ∀ {pr pr' u}, s.prods[j]? = some pr → PMove P s pr pr' [] u →
      t = { u with prods := s.prods.set j pr' } → ∃ pr pr' extra u, s.prods[j]? = some pr ∧
        PMove P s pr pr' extra u ∧ t = { u with prods := s.prods.set j pr' ++ extra } :=
    fun hj hm e => ⟨_, _, _, _, hj, hm, by rw [List.append_nil]; exact e⟩
  unfold prodStep at h
  split at h
  · cases h
  · cases h
  · cases h; exact single ‹_› (.report ..) rfl
  · cases h; exact single ‹_› .exit rfl
  · rename_i a rest hj
    cases a with
    | send d p =>
      cases d <;> simp only [prodAct] at h <;> split at h <;> cases h <;> rename_i hc
      · exact single hj (.sendF _ _ hc.1 hc.2) rfl
      · exact single hj (.sendD _ _ hc.1 hc.2) rfl
    | list p sl ok k =>
      cases ok <;> cases h
      · exact single hj (.listFail ..) rfl
      · exact single hj (.pass _ _ rfl) rfl
    | filtD _ _ | filtF _ _ | add _ => cases h; exact single hj (.pass _ _ rfl) rfl
    | spawn _ _ => cases h; exact ⟨_, _, _, _, hj, .spawn .., rfl⟩
    | chk k =>
      simp only [prodAct] at h
      split at h <;> cases h <;> rename_i hk
      · exact single hj (.skip _ _ hk) rfl
      · exact single hj (.pass _ _ (by simp [PAct.passes, hk])) rfl

namespace PMove
variable {P : Params} {s u : St} {pr pr' : Prod} {extra : List Prod}

structure Frame (s u : St) : Prop where
  cons : u.cons = s.cons
  closer : u.closer = s.closer
  closed : u.closed = s.closed
  dClosed : u.dClosed = s.dClosed
  fClosed : u.fClosed = s.fClosed
  poolCtr : u.poolCtr = s.poolCtr
  done : u.done = s.done

theorem frame (h : PMove P s pr pr' extra u) : Frame s u := by
  cases h <;> exact ⟨rfl, rfl, rfl, rfl, rfl, rfl, rfl⟩

theorem lifecycle (h : PMove P s pr pr' extra u) : LifecycleKept s u := by
  cases h
  case report => exact .inl (by simp [St.killed])
  case skip hk => exact .inl hk
  all_goals exact .inr ⟨rfl, rfl, rfl⟩

theorem cbErrors (h : PMove P s pr pr' extra u) (d : Bool) (x : Path) :
    u.errors.count (.cb d x) = s.errors.count (.cb d x) := by
  cases h <;> simp [List.count_append]

/-- `s.ppool ≠ 0` is for `pool.Done()` (`exit`), whose `ppool - 1` is truncated; the invariant gives it, the acting
producer being counted. -/
theorem live (h : PMove P s pr pr' extra u) :
    liveP pr = 1 ∧ (s.ppool ≠ 0 → u.ppool + 1 = s.ppool + liveP pr' + lsum liveP extra) := by
  cases h <;> simp [liveP, lsum] <;> omega

theorem items (h : PMove P s pr pr' extra u) (x : Item) :
    unsentC x pr + (qItems s).count x + (sendsL s.dropped).count x
      = unsentC x pr' + lsum (unsentC x) extra + (qItems u).count x + (sendsL u.dropped).count x := by
  cases h with
  | report p k rest | skip k rest =>
    have := congrArg (List.count x) (sendsL_take_drop k rest)
    simp [unsentC, lsum, qItems, sendsL_append, List.count_append] at this ⊢; omega
  | pass a rest hp => simp [unsentC, lsum, PAct.passes_sends hp]
  | _ => simp [unsentC, lsum, qItems, List.count_append, List.count_cons] <;> omega

theorem lrep (h : PMove P s pr pr' extra u) (p : Path) :
    s.errors.count (.listing p) + lrepW p pr + u.lfailed.count p
      = u.errors.count (.listing p) + lrepW p pr' + lsum (lrepW p) extra + s.lfailed.count p := by
  cases h <;> simp [lrepW, lsum, List.count_append, List.count_cons] <;> split <;> omega

theorem lfail (h : PMove P s pr pr' extra u) (p : Path) :
    s.lfailed.count p + lpendC p pr + (listsL s.dropped).count (p, false)
      = u.lfailed.count p + lpendC p pr' + lsum (lpendC p) extra + (listsL u.dropped).count (p, false) := by
  cases h with
  | report q k rest | skip k rest =>
    have := congrArg (List.count (p, false)) (listsL_take_drop k rest)
    simp [lpendC, lsum, listsL_append, List.count_append] at this ⊢; omega
  | pass a rest hp => simp [lpendC, lsum, List.count_append, PAct.passes_lists hp]
  | _ => simp [lpendC, lsum, List.count_append, List.count_cons] <;> (try split) <;> omega

theorem cap (h : PMove P s pr pr' extra u) (hD : s.qd.length ≤ P.capD) (hF : s.qf.length ≤ P.capF) :
    u.qd.length ≤ P.capD ∧ u.qf.length ≤ P.capF := by
  cases h with
  | sendD p rest hc => exact ⟨by rw [List.length_append]; exact hc, hF⟩
  | sendF p rest hc => exact ⟨hD, by rw [List.length_append]; exact hc⟩
  | _ => exact ⟨hD, hF⟩

theorem unsent (h : PMove P s pr pr' extra u) :
    u.qd.length + unsentD pr' + lsum unsentD extra ≤ s.qd.length + unsentD pr
    ∧ u.qf.length + unsentF pr' + lsum unsentF extra ≤ s.qf.length + unsentF pr := by
  cases h with
  | report p k rest | skip k rest =>
    have hD := countP_sendsL_drop_le (fun x => x.1) k rest
    have hF := countP_sendsL_drop_le (fun x => !x.1) k rest
    simp [unsentD, unsentF, lsum]; omega
  | _ => simp [unsentD, unsentF, lsum, List.countP_append] <;> omega

end PMove

def PC.busy : PC → Bool
  | .inCb _ _ | .rep _ _ => true
  | _ => false

theorem cbW_idle {pc : PC} (h : pc.busy = false) (x : Item) : cbW x pc = 0 := by
  cases pc <;> simp_all [PC.busy, cbW]

theorem repW_idle {pc : PC} (h : pc.busy = false) (x : Item) : repW x pc = 0 := by
  cases pc <;> simp_all [PC.busy, repW]

theorem busy_afterCb (d : Bool) : (afterCb d).busy = false := by cases d <;> rfl

/-- the kinds of action `consAct` consists of.  `look`: a test or read changes nothing but the program counter, and
neither enters nor leaves a callback or the goroutine. -/
inductive CMove (P : Params) (s : St) : PC → PC → St → Prop
  | look {pc pc'} : pc.busy = false → pc'.busy = false → liveW pc' = liveW pc → CMove P s pc pc' s
  | recvD (x r) : s.qd = x :: r → CMove P s .selD (.inCb true x) { s with qd := r }
  | recvF (x r) : s.qf = x :: r → CMove P s .selF (.inCb false x) { s with qf := r }
  | ret (d x) : CMove P s (.inCb d x) (if P.failCb d x then .rep d x else afterCb d)
      { s with done := (d, x) :: s.done }
  | report (d x) : CMove P s (.rep d x) (afterCb d) { s with errors := s.errors ++ [.cb d x], ctx := s.ctx.kill }
  | done : CMove P s .exiting .exited { s with poolCtr := s.poolCtr - 1 }

theorem consAct_move (P : Params) (s : St) (pc : PC) : CMove P s pc (consAct P s pc).1 (consAct P s pc).2 := by
  cases pc with
  | selD => simp only [consAct]; split <;> first | exact .look rfl rfl rfl | exact .recvD _ _ ‹_›
  | selF => simp only [consAct]; split <;> first | exact .look rfl rfl rfl | exact .recvF _ _ ‹_›
  | inCb d x => simp only [consAct]; split <;> rename_i hf <;> simpa [hf] using CMove.ret (P := P) (s := s) d x
  | rep d x => exact .report d x
  | exiting => exact .done
  | _ => simp only [consAct] <;> (repeat' split) <;> exact .look rfl rfl rfl

namespace CMove
variable {P : Params} {s u : St} {pc pc' : PC}

structure Frame (s u : St) : Prop where
  prods : u.prods = s.prods
  ppool : u.ppool = s.ppool
  closer : u.closer = s.closer
  closed : u.closed = s.closed
  dClosed : u.dClosed = s.dClosed
  fClosed : u.fClosed = s.fClosed
  dropped : u.dropped = s.dropped
  lfailed : u.lfailed = s.lfailed
  qd : u.qd.length ≤ s.qd.length
  qf : u.qf.length ≤ s.qf.length

theorem frame (h : CMove P s pc pc' u) : Frame s u := by
  cases h <;> constructor <;> simp_all

theorem lifecycle (h : CMove P s pc pc' u) : LifecycleKept s u := by
  cases h
  case report => exact .inl (by simp [St.killed])
  all_goals exact .inr ⟨rfl, rfl, rfl⟩

/-- an item goes from its queue into a callback and from there to `done` -/
theorem items (h : CMove P s pc pc' u) (x : Item) :
    (qItems u).count x + cbW x pc' + u.done.count x = (qItems s).count x + cbW x pc + s.done.count x := by
  obtain ⟨x1, x2⟩ := x
  cases h with
  | look h h' => rw [cbW_idle h, cbW_idle h']
  | recvD y r hq | recvF y r hq => simp [qItems, hq, cbW, List.count_cons, List.count_append] <;> omega
  | ret d y =>
    have : cbW (x1, x2) (if P.failCb d y then .rep d y else afterCb d) = 0 := by
      split
      · simp [cbW]
      · exact cbW_idle (busy_afterCb d) _
    rw [this]; simp [cbW, qItems, List.count_cons]; omega
  | report d y => rw [cbW_idle (busy_afterCb d)]; simp [cbW, qItems]
  | done => simp [cbW, qItems]

/-- a failure goes from the callback's return into `rep` and from there to the error list -/
theorem cbErrors (h : CMove P s pc pc' u) (x : Item) :
    u.errors.count (.cb x.1 x.2) + repW x pc' + (if P.failCb x.1 x.2 then s.done.count x else 0)
      = s.errors.count (.cb x.1 x.2) + repW x pc + (if P.failCb x.1 x.2 then u.done.count x else 0) := by
  obtain ⟨x1, x2⟩ := x
  cases h with
  | look h h' => rw [repW_idle h, repW_idle h']
  | ret d y =>
    by_cases hx : d = x1 ∧ y = x2
    · obtain ⟨rfl, rfl⟩ := hx
      cases hf : P.failCb d y
      · rw [if_neg (by simp), repW_idle (busy_afterCb d)]; simp [repW]
      · simp [repW]; omega
    · have : repW (x1, x2) (if P.failCb d y then .rep d y else afterCb d) = 0 := by
        split
        · simp [repW, hx]
        · exact repW_idle (busy_afterCb d) _
      rw [this]; simp [repW, hx]
  | report d y => rw [repW_idle (busy_afterCb d)]; simp [repW, List.count_append, List.count_cons]
  | _ => simp [repW]

theorem listingErrors (h : CMove P s pc pc' u) (p : Path) :
    u.errors.count (.listing p) = s.errors.count (.listing p) := by
  cases h <;> simp [List.count_append]

/-- The second alternative is `pool.Done()` at counter 0, where `poolCtr - 1` is truncated; the invariant
excludes it, the acting consumer being counted. -/
theorem pool (h : CMove P s pc pc' u) :
    u.poolCtr + liveW pc = s.poolCtr + liveW pc' ∨ (s.poolCtr = 0 ∧ pc = .exiting) := by
  cases h with
  | look _ _ h => exact .inl (by rw [h])
  | ret d y => left; split <;> cases d <;> simp [liveW, afterCb]
  | report d y => cases d <;> simp [liveW, afterCb]
  | done => simp [liveW]; omega
  | _ => simp [liveW]

end CMove

theorem consStep_move {P : Params} {s t : St} {i : Nat} (h : consStep P s i = some t) :
    ∃ pc pc' u, s.cons[i]? = some pc ∧ pc ≠ .exited ∧ consAct P s pc = (pc', u) ∧ CMove P s pc pc' u
      ∧ t = { u with cons := s.cons.set i pc' } := by
  unfold consStep at h
  split at h
  · cases h
  · split at h <;> cases h
    exact ⟨_, _, _, ‹_›, ‹_›, rfl, consAct_move P s _, rfl⟩

/-- the four actions of the completion goroutine, in their order; the first waits for the producer pool to be
empty -/
inductive ClMove (s : St) : St → Prop
  | waited : s.closer = .waiting → s.ppool = 0 → ClMove s { s with closer := .waited }
  | announce : s.closer = .waited → ClMove s { s with closed := true, closer := .announced }
  | closeD : s.closer = .announced → ClMove s { s with dClosed := true, closer := .closedD }
  | closeF : s.closer = .closedD → ClMove s { s with fClosed := true, closer := .fin }

theorem closerStep_move {s t : St} (h : closerStep s = some t) : ClMove s t := by
  unfold closerStep at h
  split at h
  · split at h <;> cases h; exact .waited ‹_› ‹_›
  · cases h; exact .announce ‹_›
  · cases h; exact .closeD ‹_›
  · cases h; exact .closeF ‹_›
  · cases h

theorem closerStep_none {s : St} (h : closerStep s = none) :
    s.closer = .fin ∨ (s.closer = .waiting ∧ s.ppool ≠ 0) := by
  unfold closerStep at h
  split at h
  · split at h
    · cases h
    · exact .inr ⟨‹_›, ‹_›⟩
  · cases h
  · cases h
  · cases h
  · exact .inl ‹_›

theorem closerStep_eq {s t : St} (h : closerStep s = some t) :
    ∃ c a d f, t = { s with closer := c, closed := a, dClosed := d, fClosed := f } := by
  cases closerStep_move h <;> exact ⟨_, _, _, _, rfl⟩

theorem env_step {P : Params} {s t : St} {l : Label} (hl : l.isProg = false) (h : step P s l = some t) :
    ∃ c, t = { s with ctx := c } ∧ c.dead = true ∧ (s.ctx.dead = true → c = s.ctx) := by
  cases l <;> cases hl <;> cases h
  · exact ⟨_, rfl, Ctx.dead_kill _, Ctx.kill_of_dead⟩
  · exact ⟨_, rfl, Ctx.dead_kill _, Ctx.kill_of_dead⟩
  · exact ⟨_, rfl, Ctx.dead_expire _, Ctx.expire_of_dead⟩

theorem step_cons_done {P : Params} {s t : St} {l : Label} (h : step P s l = some t) (hl : ∀ i, l ≠ .cons i) :
    t.cons = s.cons ∧ t.done = s.done := by
  cases l with
  | prod j =>
    obtain ⟨_, _, _, _, _, hm, rfl⟩ := prodStep_move h
    exact ⟨hm.frame.cons, hm.frame.done⟩
  | closer => obtain ⟨_, _, _, _, rfl⟩ := closerStep_eq h; exact ⟨rfl, rfl⟩
  | cons i => exact absurd rfl (hl i)
  | _ => obtain ⟨_, rfl, _⟩ := env_step rfl h; exact ⟨rfl, rfl⟩

theorem step_killed {P : Params} {s t : St} (l : Label) (hs : step P s l = some t)
    (hk : s.killed = true) : t.killed = true := by
  cases l with
  | prod j => obtain ⟨_, _, _, _, _, hm, rfl⟩ := prodStep_move hs; exact hm.lifecycle.killed hk
  | closer => obtain ⟨_, _, _, _, rfl⟩ := closerStep_eq hs; exact hk
  | cons i => obtain ⟨_, _, _, _, _, _, hm, rfl⟩ := consStep_move hs; exact hm.lifecycle.killed hk
  | _ => obtain ⟨_, rfl, h, _⟩ := env_step rfl hs; exact h

end Goat.Loop
