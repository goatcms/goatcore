/-
The locked sections of the counter scenario never deadlock: as long as some thread has work left, some thread can
move (`counter_enabled`), on every state of the invariant `PInv` = counter invariant + valid names + every held
mutex has an owner.
-/
import Goat.Proofs.DataScopeCounter
import Goat.Proofs.DataScopeTerm

namespace Goat.DataScope

structure PInv (s : Nat) (c : Key) (role : Nat → Bool) (total len : Nat) (st : St) : Prop where
  cinv : CInv s c role total st
  tinv : TInv len st
  owned : OwnedInv st

theorem progValid_incProg {len s : Nat} (c : Key) (hs : s < len) : ∀ k, progValid len (incProg s c k) = true := by
  intro k
  induction k with
  | zero => rfl
  | succ k ih =>
    simp only [progValid] at ih
    simp [incProg_succ, progValid, instrValid, hs, ih]

theorem PInv_init {ss : Scopes} {s : Nat} {c : Key} {v0 n k fresh : Nat} {others : List (List Instr)}
    (hwf : WF ss) (hfree : AllFree ss)
    (hv : dataGet ss s c = some (some v0)) (hn : ∀ p ∈ others, isNoise s c p = true)
    (hvalid : ∀ p ∈ others, progValid ss.length p = true) :
    PInv s c (fun i => decide (i < n)) (v0 + n * k) ss.length (initSt ss n (incProg s c k) others fresh) := by
  refine ⟨CInv_init hv hn, ⟨hwf, rfl, ?_⟩, ?_⟩
  · exact initSt_forall (P := fun _ th => ValidTh ss.length th)
      ⟨progValid_incProg c (dataGet_lt hv) k, fun _ _ h => by cases h⟩ fun p hp => ⟨hvalid p hp, fun _ _ h => by cases h⟩
  · exact fun j hj => nomatch (hfree.isHeld j).symm.trans hj

theorem PInv_run {ss : Scopes} {s : Nat} {c : Key} {v0 n k fresh : Nat} {others : List (List Instr)}
    (hwf : WF ss) (hfree : AllFree ss)
    (hv : dataGet ss s c = some (some v0)) (hn : ∀ p ∈ others, isNoise s c p = true)
    (hvalid : ∀ p ∈ others, progValid ss.length p = true) (sched : List Nat) :
    PInv s c (fun i => decide (i < n)) (v0 + n * k) ss.length ((sys (initSt ss n (incProg s c k) others fresh)).run sched) :=
  LTS.inv_run (sys _) _ (PInv_init hwf hfree hv hn hvalid)
    (fun _ _ _ hinv h => ⟨CInv_step hinv.cinv h, (TInv_step hinv.tinv h).1, OwnedInv_step hinv.owned h⟩) sched

theorem plain_enabled {s : Nat} {c : Key} {st : St} {i : Nat} {th : Thread} (hth : st.threads[i]? = some th)
    (hn : isNoise s c th.prog = true) (hval : ValidTh st.scopes.length th) (hfin : Thread.finished th = false)
    (allfree : ∀ j, j < st.scopes.length → isFree st.scopes j = true) : ∃ t, step st i = some t := by
  obtain ⟨prog, lks, reg, walk⟩ := th
  cases walk with
  | some pk => exact ⟨_, step_of_rel hth (.climb (allfree pk.1 (hval.2 pk.1 pk.2 rfl)))⟩
  | none =>
    cases prog with
    | nil => cases hfin
    | cons ins rest =>
      have hv1 := (progValid_tail hval.1).1
      cases ins with
      | set s' k' v' => exact ⟨_, step_of_rel hth (.set (allfree s' (of_decide_eq_true hv1)))⟩
      | get s' k' => exact ⟨_, step_of_rel hth (.get (allfree s' (of_decide_eq_true hv1)))⟩
      | keys s' => exact ⟨_, step_of_rel hth (.keys (allfree s' (of_decide_eq_true hv1)))⟩
      | _ => cases (isNoise_cons hn).1

theorem counter_enabled {s : Nat} {c : Key} {role : Nat → Bool} {total len : Nat} {st : St}
    (hinv : PInv s c role total len st) (hnd : allDone st = false) : ∃ i t, step st i = some t := by
  have hslt : s < st.scopes.length := by
    rcases hinv.cinv.count with ⟨v, hv, _⟩
    exact dataGet_lt hv
  by_cases hold : ∃ (o : Nat) (tho : Thread), st.threads[o]? = some tho ∧ s ∈ tho.lks
  · -- the holder of `s` is never blocked: its next actions go through its locker
    rcases hold with ⟨o, ⟨prog, lks, reg, walk⟩, htho, hmem⟩
    have hph := hinv.cinv.phase o _ htho
    have hh := hinv.cinv.lock.held o s (mem_lksOf htho hmem)
    refine ⟨o, ?_⟩
    generalize role o = r at hph
    cases hph with
    | noise hl hp | idle m hp hl hw => cases hl; cases hmem
    | locked m hp hl hw => cases hp; cases hl; cases hw; exact ⟨_, step_of_rel htho .lget⟩
    | read m hp hl hw hr => cases hp; cases hl; cases hw; exact ⟨_, step_of_rel htho .linc⟩
    | written m hp hl hw => cases hp; cases hl; cases hw; exact ⟨_, step_of_rel htho (.commit hh)⟩
  · -- nobody holds `s`, hence no mutex is taken at all
    have allfree : ∀ j, j < st.scopes.length → isFree st.scopes j = true := by
      intro j hj
      rw [isFree_eq_not_isHeld hj]
      cases hh : isHeld st.scopes j with
      | false => rfl
      | true =>
        obtain ⟨o, hjo⟩ := hinv.owned j hh
        obtain ⟨x, ho, hjx⟩ := exists_of_mem_lksOf hjo
        exact absurd ⟨o, x, ho, (hinv.cinv.phase o x ho).mem_lks hjx ▸ hjx⟩ hold
    rcases List.all_eq_false.mp hnd with ⟨th, hmem, hfin⟩
    rcases List.mem_iff_getElem?.mp hmem with ⟨i, hth⟩
    have hfin : Thread.finished th = false := by simpa using hfin
    have hph := hinv.cinv.phase i th hth
    refine ⟨i, ?_⟩
    generalize role i = r at hph
    cases hph with
    | noise hl hp => exact plain_enabled hth hp (hinv.tinv.hlen ▸ hinv.tinv.valid i th hth) hfin allfree
    | idle m hp hl hw =>
      obtain ⟨prog, lks, reg, walk⟩ := th
      cases hp; cases hw
      cases m with
      | zero => cases hfin
      | succ m => exact ⟨_, step_of_rel hth (.lock (allfree s hslt))⟩
    | locked m hp hl hw | read m hp hl hw hr | written m hp hl hw => exact absurd ⟨i, th, hth, by simp [hl]⟩ hold

end Goat.DataScope
