/-
The root memory filespace as the cache uses it (buffer, remote, direct tree): every answer of a read-type method
as a function of the abstract tree, every mutating method as `RootMut`, well-formedness after any call.
-/
import Goat.Proofs.MemFSStep
import Goat.Model.Cache

namespace Goat
namespace Cache

open Path (Name norm join slash Reduced Plain cleanPath reduceAbsPath)
open FS (Op Result Entry Mut)
open MemFS MemAbs

-- the read clauses of `FS.Step` as functions (Proofs/FSRead), under the names the cache files use unqualified
export FS (isFileE isDirE readFileE readerE lstatE ansE ReadAns Step_read)

theorem readPath_of {op : Op} {raw : Bytes} (hread : isRead op = true) (ha : opArgs op = [raw]) :
    op.readPath = some raw := by
  cases op <;> cases hread <;> cases ha <;> rfl

theorem readAns_none {S : FS.State} {op : Op} {r : Result} (hread : isRead op = true) :
    ReadAns S none op r ↔ r = failResult op := by
  cases op <;> cases hread <;> exact Iff.rfl

theorem isFileE_eq_true {e : Option Entry} : isFileE e = true ↔ ∃ d, e = some (.file d) := by
  rcases e with _ | (d | _) <;> simp [isFileE]

theorem ne_nil_of_file {t : Node} (ht : Inv t) {Q : List Name} {d : Bytes} (h : abs t Q = some (.file d)) : Q ≠ [] := by
  rintro rfl
  rw [ht.abs_nil] at h; cases h

section
variable (t : Node) (ht : Inv t) (src : Bytes) (Q : List Name) (hn : norm src = some Q)
include ht hn

theorem root_ans (op : Op) (hread : isRead op = true) (ha : opArgs op = [src]) :
    ReadAns (abs t) (some Q) op (MemFS.step .root t op).2 := by
  have := root_read t ht op src (readPath_of hread ha)
  rwa [hn] at this

theorem root_ansE (op : Op) (hread : isRead op = true) (ha : opArgs op = [src]) (hnd : ∀ p, op ≠ .readDir p) :
    (MemFS.step .root t op).2 = ansE Q op (abs t Q) := by
  have := root_ans t ht src Q hn op hread ha
  cases op <;> first | exact this | exact absurd rfl (hnd _) | cases hread

theorem root_isExist_eq : Root.isExist t src = .bool (abs t Q).isSome := root_ans t ht src Q hn (.isExist src) rfl rfl

theorem root_isFile_eq : Root.isFile t src = .bool (isFileE (abs t Q)) := root_ans t ht src Q hn (.isFile src) rfl rfl

theorem root_isDir_eq : Root.isDir t src = .bool (isDirE (abs t Q)) := root_ans t ht src Q hn (.isDir src) rfl rfl

theorem root_readFile_eq : Root.readFile t src = readFileE (abs t Q) := root_ans t ht src Q hn (.readFile src) rfl rfl

theorem root_readDir_dir (h : abs t Q = some .dir) : ∃ l, Root.readDir t src = .list l ∧ FS.IsListing (abs t) Q l := by
  have := root_ans t ht src Q hn (.readDir src) rfl rfl
  simp only [ReadAns, h] at this
  exact this

theorem root_readDir_err (h : abs t Q ≠ some .dir) : Root.readDir t src = .err := by
  have := root_ans t ht src Q hn (.readDir src) rfl rfl
  simp only [ReadAns] at this
  exact this

end

/-- Where `readDir` fails `[]` is still a listing of `Q`: a tree has nothing below a path that is not a directory. -/
theorem root_listing (t : Node) (ht : Inv t) (src : Bytes) (Q : List Name) (hn : norm src = some Q) :
    ∃ l, FS.IsListing (abs t) Q l
      ∧ (abs t Q = some .dir ∧ Root.readDir t src = .list l
        ∨ abs t Q ≠ some .dir ∧ Root.readDir t src = .err ∧ l = []) := by
  by_cases h : abs t Q = some .dir
  · obtain ⟨l, e, hl⟩ := root_readDir_dir t ht src Q hn h
    exact ⟨l, hl, .inl ⟨h, e⟩⟩
  · refine ⟨[], ⟨List.nodup_nil, fun n b => ?_⟩, .inr ⟨h, root_readDir_err t ht src Q hn h, rfl⟩⟩
    rw [(abs_closed t).below_none Q [n] (by simp) h]
    simp

/-- Every read-type method fails at `src` (as it does when `src` climbs above the root). -/
structure Climbs (t : Node) (src : Bytes) : Prop where
  isExist : Root.isExist t src = .bool false
  isFile : Root.isFile t src = .bool false
  isDir : Root.isDir t src = .bool false
  readFile : Root.readFile t src = .err
  reader : ∀ sizes, Root.reader t src sizes = .err
  lstat : Root.lstat t src = .err
  readDir : Root.readDir t src = .err

theorem root_climb (t : Node) (src : Bytes) (hn : norm src = none) : Climbs t src := by
  have h := reduceAbsPath_none hn
  constructor <;> simp [Root.isExist, Root.isFile, Root.isDir, Root.readFile, Root.reader, Root.lstat, Root.readDir, h]

theorem root_step_inv (t : Node) (ht : Inv t) (op : Op) : Inv (MemFS.step .root t op).1 :=
  step_inv .root [] rfl t ht op

/-- A mutating call `x = Root.m t …` as specified by `Mut pre post`. -/
structure RootMut (pre : Prop) (post : FS.State) (t : Node) (x : Node × Result) : Prop where
  inv : Inv x.1
  ok : pre → x.2 = .ok ∧ abs x.1 = post
  err : ¬ pre → x = (t, .err)

theorem RootMut.of {pre : Prop} {post : FS.State} {t : Node} {x : Node × Result} {segs : List Name} (ht : Inv t)
    (h : MutOK pre post t segs x) (hs : ∀ s ∈ segs, Plain s) : RootMut pre post t x := by
  refine ⟨h.keeps.inv ht hs, fun hp => ?_, fun hp => ?_⟩
  · have hr := h.spec.ok_iff.mpr hp
    exact ⟨hr, (h.spec.ok hr).2⟩
  · have hr := h.spec.not_ok (mt h.spec.ok_iff.mp hp)
    exact Prod.ext (h.err_same hr) hr

theorem RootMut.ok_iff {pre : Prop} {post : FS.State} {t : Node} {x : Node × Result} (h : RootMut pre post t x) :
    x.2 = .ok ↔ pre := by
  refine ⟨fun hr => Classical.byContradiction fun hp => ?_, fun hp => (h.ok hp).1⟩
  rw [h.err hp] at hr; cases hr

section
variable (t : Node) (ht : Inv t) (raw : Bytes) (p : List Name) (hn : norm raw = some p)
include ht hn

theorem rootMut_mkdirAll : RootMut (FS.mkdirOk (abs t) p) (FS.mkdirSt (abs t) p) t (Root.mkdirAll t raw) :=
  .of ht (root_mkdirAll t ht raw p hn) (Path.norm_plain raw p hn)

theorem rootMut_writeFile (d : Bytes) :
    RootMut (FS.writeOk (abs t) p) (FS.writeSt (abs t) p d) t (Root.writeFile t raw d) :=
  .of ht (root_writeFile t ht raw d p hn) (Path.norm_plain raw p hn)

theorem rootMut_writer (cs : List Bytes) :
    RootMut (FS.writeOk (abs t) p) (FS.writeSt (abs t) p cs.flatten) t (Root.writer t raw cs) :=
  .of ht (root_writer t ht raw cs p hn) (Path.norm_plain raw p hn)

theorem rootMut_remove : RootMut (FS.removeOk (abs t) p) (FS.removeSt (abs t) p) t (Root.remove t raw) :=
  .of ht (root_remove t ht raw p hn) (by simp)

theorem rootMut_removeAll : RootMut (FS.removeAllOk (abs t) p) (FS.removeAllSt (abs t) p) t (Root.removeAll t raw) :=
  .of ht (root_removeAll t ht raw p hn) (by simp)

end

end Cache
end Goat
