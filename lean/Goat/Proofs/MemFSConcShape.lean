/-
The shape of the heap and the abstract tree it represents.  `edge h o n` is the parent→child relation of the heap
(`index` of a directory object), `resolve` walks it, `absT h` is the tree seen from the root (object 0): the abstract
state `Path → Option Entry` of the sequential specification.  `Shape`: every directory object is consistent, the root is
a directory, every child id is allocated and is not the root, and EVERY OBJECT HAS AT MOST ONE PARENT ENTRY; hence the
heap is a forest: an object is reachable from the root along at most one path (`resolve_inj`).
-/
import Goat.Proofs.MemFSConcHeap
import Goat.Proofs.MemFSConcCommute
import Goat.Proofs.FS

namespace Goat.MemFSConc

/-- kind of an allocated object: `some true` directory, `some false` file -/
def okind (h : Heap) (o : Oid) : Option Bool :=
  match h[o]? with
  | some (.dir _) => some true
  | some (.file _) => some false
  | none => none

/-- what an object contributes to the abstract tree -/
def entryOf (h : Heap) (o : Oid) : Option Entry :=
  match h[o]? with
  | some (.dir _) => some .dir
  | some (.file f) => some (.file f.data)
  | none => none

/-- the abstract tree below an object -/
def absAt (h : Heap) (o : Oid) : Tree := fun q => (resolve h o q).bind (entryOf h)

/-- the abstract tree of the filespace: what stands at each path from the root object -/
def absT (h : Heap) : Tree := absAt h 0

theorem ne_snoc_of_prefix {q π : Path} {n : Name} (hq : q <+: π) : q ≠ π ++ [n] :=
  ne_of_prefix_dropLast (by simp) (by rw [List.dropLast_concat]; exact hq)

theorem resolve_nil (h : Heap) (o : Oid) : resolve h o [] = some o := by
  unfold resolve; rfl

theorem resolve_cons (h : Heap) (o : Oid) (n : Name) (rest : Path) :
    resolve h o (n :: rest) = (edge h o n).bind fun c => resolve h c rest := by
  rw [resolve]
  unfold edge
  cases getDir h o with
  | none => rfl
  | some d =>
    show (match d.index n with | none => none | some c => resolve h c rest) = (d.index n).bind _
    cases d.index n <;> rfl

theorem resolve_append (h : Heap) (o : Oid) (p q : Path) :
    resolve h o (p ++ q) = (resolve h o p).bind fun a => resolve h a q := by
  induction p generalizing o with
  | nil => simp [resolve_nil]
  | cons n rest ih =>
    simp only [List.cons_append, resolve_cons]
    cases edge h o n with
    | none => rfl
    | some c => simp [ih]

theorem resolve_snoc (h : Heap) (o : Oid) (p : Path) (n : Name) :
    resolve h o (p ++ [n]) = (resolve h o p).bind fun a => edge h a n := by
  rw [resolve_append]
  cases resolve h o p with
  | none => rfl
  | some a =>
    simp only [Option.bind_some, resolve_cons]
    cases edge h a n <;> simp [resolve_nil]

theorem resolve_snoc_some {h : Heap} {o : Oid} {p : Path} {n : Name} {x : Oid}
    (hr : resolve h o (p ++ [n]) = some x) : ∃ a, resolve h o p = some a ∧ edge h a n = some x := by
  rw [resolve_snoc] at hr
  cases hp : resolve h o p with
  | none => simp [hp] at hr
  | some a => exact ⟨a, rfl, by simpa [hp] using hr⟩

theorem resolve_absent {h : Heap} {p : Path} {od : Oid} {n : Name} (hp : resolve h 0 p = some od)
    (habs : edge h od n = none) {π : Path} (hpre : (p ++ [n]) <+: π) : resolve h 0 π = none := by
  obtain ⟨r, rfl⟩ := hpre
  rw [List.append_assoc, resolve_append, hp]
  simp [resolve_cons, habs]

theorem okind_of_getDir {h : Heap} {a : Oid} {d : DirObj} (hd : getDir h a = some d) : okind h a = some true := by
  unfold getDir at hd; unfold okind
  split at hd <;> simp_all

theorem okind_of_getFile {h : Heap} {a : Oid} {f : FileObj} (hd : getFile h a = some f) : okind h a = some false := by
  unfold getFile at hd; unfold okind
  split at hd <;> simp_all

theorem getDir_of_okind {h : Heap} {a : Oid} (hk : okind h a = some true) : ∃ d, getDir h a = some d := by
  unfold okind at hk; unfold getDir
  split at hk <;> simp_all

theorem getFile_of_okind {h : Heap} {a : Oid} (hk : okind h a = some false) : ∃ f, getFile h a = some f := by
  unfold okind at hk; unfold getFile
  split at hk <;> simp_all

theorem entryOf_of_getDir {h : Heap} {a : Oid} {d : DirObj} (hd : getDir h a = some d) : entryOf h a = some .dir := by
  unfold getDir at hd; unfold entryOf
  split at hd <;> simp_all

theorem entryOf_of_getFile {h : Heap} {a : Oid} {f : FileObj} (hd : getFile h a = some f) :
    entryOf h a = some (.file f.data) := by
  unfold getFile at hd; unfold entryOf
  split at hd <;> simp_all

theorem kindOf_eq_okind (h : Heap) (o : Oid) : kindOf h o = (okind h o == some true) := by
  unfold kindOf okind
  cases h[o]? with
  | none => rfl
  | some x => cases x <;> rfl

theorem entryOf_dir_iff {h : Heap} {a : Oid} : entryOf h a = some .dir ↔ okind h a = some true := by
  unfold entryOf okind
  split <;> simp_all

theorem entryOf_isDir (h : Heap) (a : Oid) : (entryOf h a).map FS.Entry.isDir = okind h a := by
  unfold entryOf okind; split <;> rfl

theorem okind_lt {h : Heap} {a : Oid} {b : Bool} (hk : okind h a = some b) : a < h.length := by
  unfold okind at hk
  cases hx : h[a]? with
  | none => simp [hx] at hk
  | some x => exact (List.getElem?_eq_some_iff.1 hx).1

theorem edge_file_none {h : Heap} {a : Oid} (hk : okind h a ≠ some true) (n : Name) : edge h a n = none := by
  cases he : edge h a n with
  | none => rfl
  | some c =>
    obtain ⟨d, hd, _⟩ := edge_some_dir he
    exact absurd (okind_of_getDir hd) hk

theorem resolve_cons_some {h : Heap} {o : Oid} {n : Name} {rest : Path} {x : Oid}
    (hr : resolve h o (n :: rest) = some x) : okind h o = some true ∧ ∃ c, edge h o n = some c ∧ resolve h c rest = some x := by
  rw [resolve_cons] at hr
  cases he : edge h o n with
  | none => simp [he] at hr
  | some c =>
    simp [he] at hr
    obtain ⟨d, hd, _⟩ := edge_some_dir he
    exact ⟨okind_of_getDir hd, c, rfl, hr⟩

theorem resolve_prefix_dir {h : Heap} {o : Oid} {p : Path} {n : Name} {q : Path} {x : Oid}
    (hr : resolve h o (p ++ n :: q) = some x) : ∃ a, resolve h o p = some a ∧ okind h a = some true := by
  rw [resolve_append] at hr
  cases hp : resolve h o p with
  | none => simp [hp] at hr
  | some a =>
    simp [hp] at hr
    exact ⟨a, rfl, (resolve_cons_some hr).1⟩

structure Shape (h : Heap) : Prop where
  inv : HeapInv h
  root : okind h 0 = some true
  closed : ∀ a n c, edge h a n = some c → c < h.length ∧ c ≠ 0
  up : ∀ a n a' n' c, edge h a n = some c → edge h a' n' = some c → a = a' ∧ n = n'

theorem Shape.length_pos {h : Heap} (hs : Shape h) : 0 < h.length := okind_lt hs.root

theorem resolve_lt {h : Heap} (hs : Shape h) {o : Oid} (ho : o < h.length) {p : Path} {x : Oid}
    (hr : resolve h o p = some x) : x < h.length := by
  induction p generalizing o with
  | nil => rw [resolve_nil] at hr; cases hr; exact ho
  | cons n rest ih =>
    obtain ⟨_, c, he, hc⟩ := resolve_cons_some hr
    exact ih (hs.closed _ _ _ he).1 hc

theorem resolve_inj {h : Heap} (hs : Shape h) : ∀ (p q : Path) (x : Oid),
    resolve h 0 p = some x → resolve h 0 q = some x → p = q := by
  suffices H : ∀ (k : Nat) (p q : Path) (x : Oid), p.length = k →
      resolve h 0 p = some x → resolve h 0 q = some x → p = q from fun p q x => H _ p q x rfl
  -- the root has no parent entry, every other object exactly one: compare the walks from their ends
  have root : ∀ (q : Path), resolve h 0 q = some 0 → q = [] := by
    intro q hq
    rcases eq_nil_or_snoc q with rfl | ⟨q', m, rfl⟩
    · rfl
    · obtain ⟨a, _, he⟩ := resolve_snoc_some hq
      exact absurd rfl (hs.closed _ _ _ he).2
  intro k
  induction k with
  | zero =>
    intro p q x hk hp hq
    have : p = [] := List.eq_nil_of_length_eq_zero hk
    subst this
    rw [resolve_nil] at hp; cases hp
    exact (root q hq).symm
  | succ k ih =>
    intro p q x hk hp hq
    obtain ⟨p', n, rfl⟩ := (eq_nil_or_snoc p).resolve_left (by rintro rfl; simp at hk)
    obtain ⟨a, hp', hpe⟩ := resolve_snoc_some hp
    rcases eq_nil_or_snoc q with rfl | ⟨q', m, rfl⟩
    · rw [resolve_nil] at hq; cases hq
      exact absurd rfl (hs.closed _ _ _ hpe).2
    · obtain ⟨b, hq', hqe⟩ := resolve_snoc_some hq
      obtain ⟨rfl, rfl⟩ := hs.up _ _ _ _ _ hpe hqe
      rw [ih p' q' a (by simpa using hk) hp' hq']

theorem absT_parent {h : Heap} {p : Path} {n : Name} (hne : absT h (p ++ [n]) ≠ none) : absT h p = some .dir := by
  unfold absT absAt at hne ⊢
  rw [resolve_snoc] at hne
  cases hp : resolve h 0 p with
  | none => simp [hp] at hne
  | some a =>
    simp only [hp, Option.bind_some] at hne ⊢
    cases he : edge h a n with
    | none => simp [he] at hne
    | some c =>
      obtain ⟨d, hd, _⟩ := edge_some_dir he
      exact entryOf_of_getDir hd

theorem absT_closed (h : Heap) : FS.PrefixClosed (absT h) := fun _ _ => absT_parent

theorem absT_root {h : Heap} (hs : Shape h) : absT h [] = some .dir := by
  unfold absT absAt
  rw [resolve_nil]
  exact entryOf_dir_iff.2 hs.root

theorem absT_of_resolve {h : Heap} {p : Path} {x : Oid} (hr : resolve h 0 p = some x) : absT h p = entryOf h x := by
  unfold absT absAt; rw [hr]; rfl

theorem absT_none_of_resolve {h : Heap} {p : Path} (hr : resolve h 0 p = none) : absT h p = none := by
  unfold absT absAt; rw [hr]; rfl

theorem absT_some_resolve {h : Heap} {p : Path} {e : Entry} (ha : absT h p = some e) :
    ∃ x, resolve h 0 p = some x ∧ entryOf h x = some e := by
  unfold absT absAt at ha
  cases hr : resolve h 0 p with
  | none => simp [hr] at ha
  | some x => simp [hr] at ha; exact ⟨x, rfl, ha⟩

/-! `edge` and `entryOf` only look at the object itself: their forms on `h[o]?`, for heaps given as `h.set …`, `h ++ […]` -/

def edgeObj : Option Obj → Name → Option Oid
  | some (.dir d), n => d.index n
  | _, _ => none

def entryObj : Option Obj → Option Entry
  | some (.dir _) => some .dir
  | some (.file f) => some (.file f.data)
  | none => none

theorem edge_eq (h : Heap) (a : Oid) (n : Name) : edge h a n = edgeObj h[a]? n := by
  unfold edge getDir edgeObj
  cases h[a]? with
  | none => rfl
  | some x => cases x <;> rfl

theorem entryOf_eq (h : Heap) (a : Oid) : entryOf h a = entryObj h[a]? := rfl

def DirAt (h : Heap) (π : Path) (o : Oid) : Prop := resolve h 0 π = some o ∧ okind h o = some true

/-- the object at `π` is the file `o` (`DirAt`: the directory `o`) -/
def FileAt (h : Heap) (π : Path) (o : Oid) : Prop := resolve h 0 π = some o ∧ okind h o = some false

theorem okind_eq_kindOf {h : Heap} {o : Oid} (ho : o < h.length) : okind h o = some (kindOf h o) := by
  unfold okind kindOf; rw [List.getElem?_eq_getElem ho]; cases h[o] <;> rfl

theorem okind_some_of_lt {h : Heap} {o : Oid} (ho : o < h.length) : ∃ b, okind h o = some b :=
  ⟨_, okind_eq_kindOf ho⟩

theorem kindOf_true {h : Heap} {o : Oid} (hk : kindOf h o = true) : okind h o = some true := by
  rw [kindOf_eq_okind] at hk
  simpa using hk

theorem kindOf_false_lt {h : Heap} {o : Oid} (ho : o < h.length) (hk : kindOf h o = false) : okind h o = some false := by
  rw [okind_eq_kindOf ho, hk]

theorem entryOf_of_okind_false {h : Heap} {o : Oid} (hk : okind h o = some false) : ∃ d, entryOf h o = some (.file d) := by
  obtain ⟨f, hf⟩ := getFile_of_okind hk
  exact ⟨f.data, entryOf_of_getFile hf⟩

theorem entryOf_ne_none_of_lt {h : Heap} {o : Oid} (ho : o < h.length) : entryOf h o ≠ none := by
  intro e
  have := entryOf_isDir h o
  rw [e, okind_eq_kindOf ho] at this
  cases this

theorem DirAt.getDir {h : Heap} {π : Path} {o : Oid} (hd : DirAt h π o) : ∃ dd, getDir h o = some dd :=
  getDir_of_okind hd.2

theorem DirAt.abs {h : Heap} {π : Path} {o : Oid} (hd : DirAt h π o) : absT h π = some .dir := by
  rw [absT_of_resolve hd.1]; exact entryOf_dir_iff.2 hd.2

theorem abs_pfx_of_resolve {h : Heap} {p : Path} {o : Oid} (hr : resolve h 0 p = some o) {q : Path}
    (hq : q <+: p) (hne : q ≠ p) : absT h q = some .dir := by
  obtain ⟨r, rfl⟩ := hq
  cases r with
  | nil => simp at hne
  | cons m r' =>
    obtain ⟨a, ha, hk⟩ := resolve_prefix_dir hr
    rw [absT_of_resolve ha]; exact entryOf_dir_iff.2 hk

theorem DirAt.abs_pfx {h : Heap} {π : Path} {o : Oid} (hd : DirAt h π o) {q : Path} (hq : q <+: π) :
    absT h q = some .dir := by
  by_cases hne : q = π
  · rw [hne]; exact hd.abs
  · exact abs_pfx_of_resolve hd.1 hq hne

theorem FileAt.abs {h : Heap} {p : Path} {f : Oid} (hf : FileAt h p f) : ∃ d, absT h p = some (.file d) := by
  obtain ⟨d, hd⟩ := entryOf_of_okind_false hf.2
  exact ⟨d, by rw [absT_of_resolve hf.1]; exact hd⟩

theorem DirAt.child {h : Heap} (hs : Shape h) {π : Path} {o : Oid} (hd : DirAt h π o) {n : Name} {c : Oid}
    (he : edge h o n = some c) : resolve h 0 (π ++ [n]) = some c ∧ c < h.length := by
  refine ⟨by rw [resolve_snoc, hd.1]; simpa using he, (hs.closed _ _ _ he).1⟩

theorem DirAt.abs_child_none {h : Heap} {π : Path} {o : Oid} (hd : DirAt h π o) {n : Name}
    (he : edge h o n = none) : absT h (π ++ [n]) = none := by
  apply absT_none_of_resolve
  rw [resolve_snoc, hd.1]; simpa using he

theorem DirAt.abs_child_ne_none {h : Heap} (hs : Shape h) {π : Path} {o : Oid} (hd : DirAt h π o) {n : Name} {c : Oid}
    (he : edge h o n = some c) : absT h (π ++ [n]) ≠ none := by
  obtain ⟨hr, hlt⟩ := hd.child hs he
  rw [absT_of_resolve hr]; exact entryOf_ne_none_of_lt hlt

theorem DirAt.child_dir {h : Heap} (hs : Shape h) {π : Path} {o : Oid} (hd : DirAt h π o) {n : Name} {c : Oid}
    (he : edge h o n = some c) (hk : kindOf h c = true) : DirAt h (π ++ [n]) c :=
  ⟨(hd.child hs he).1, kindOf_true hk⟩

theorem DirAt.child_file {h : Heap} (hs : Shape h) {π : Path} {o : Oid} (hd : DirAt h π o) {n : Name} {c : Oid}
    (he : edge h o n = some c) (hk : kindOf h c = false) : FileAt h (π ++ [n]) c :=
  ⟨(hd.child hs he).1, kindOf_false_lt (hd.child hs he).2 hk⟩

theorem DirAt.root {h : Heap} (hs : Shape h) : DirAt h [] 0 := ⟨resolve_nil _ _, hs.root⟩

end Goat.MemFSConc
