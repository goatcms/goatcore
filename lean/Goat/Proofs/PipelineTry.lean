/-
For property C16: the fate of a selected handler is TIMED (the event that seals it has its cause of failure strictly
before it), and the try goroutine submits `finally` before the selected handler (`TraceOrd`, an invariant of the model
that is NOT a clause of the monitor: the property prescribes no order of submission, the model has one).
-/
import Goat.Proofs.PipelineFacts
import Goat.Proofs.PipelineTrans

namespace Goat.Pipeline

variable {g : Graph}

/-- an event that seals the fate of a handler of try `y` that did not start -/
def sealsFate (g : Graph) (y h : Nat) (e : Ev) : Prop :=
  e = .done h false ∨ ∃ h' ∈ g.handlers y, e = .hrej h'

theorem fate_timed (hw : WF g) {pre : List Ev} (hok : TraceOk g pre) {y h : Nat} (hy : y < g.tries.length)
    (hh : h ∈ g.handlers y) (hf : handlerFate g pre y h) :
    Ev.cmd h 0 ∈ pre ∨ ∃ a e b, pre = a ++ e :: b ∧ sealsFate g y h e ∧ causeFor g a (g.tryd y).owner := by
  have hctx := (handler_facts hw hy hh).ctx
  rcases hf with h1 | ⟨_, hd⟩ | ⟨h', hm, hr⟩
  · exact Or.inl h1
  · obtain ⟨a, b, hs⟩ := List.append_of_mem hd
    refine Or.inr ⟨a, _, b, hs, Or.inl rfl, ?_⟩
    have := hok.doneFalse hs
    unfold causeFor at this ⊢
    rwa [hctx] at this
  · obtain ⟨a, b, hs⟩ := List.append_of_mem hr
    refine Or.inr ⟨a, _, b, hs, Or.inr ⟨h', hm, rfl⟩, ?_⟩
    have := hok.hrej_cause hs
    unfold causeFor at this ⊢
    rwa [(handler_facts hw hy hm).ctx] at this

theorem fate_cause (hw : WF g) {pre : List Ev} (hok : TraceOk g pre) {y h : Nat} (hy : y < g.tries.length)
    (hh : h ∈ g.handlers y) (hf : handlerFate g pre y h) :
    Ev.cmd h 0 ∈ pre ∨ causeFor g pre (g.tryd y).owner := by
  rcases fate_timed hw hok hy hh hf with h1 | ⟨a, e, b, hs, _, hc⟩
  · exact Or.inl h1
  · rw [hs]; exact Or.inr (causeFor_mono _ hc)

theorem fate_at_close {tr pre post : List Ev} (htr : TraceOk g tr) {p i y h : Nat} {ok : Bool}
    (hs : tr = pre ++ Ev.done p ok :: post) (hc : g.cmdAt p i = some (.try_ y)) (hret : Ev.ret p i true ∈ pre)
    (hsel : h ∈ selected g pre y) : handlerFate g pre y h := by
  have := htr.closed hs (cmdAt_lt hc) hret
  rw [hc] at this
  exact this.2.2.2 h hsel

theorem started_or_cause (hw : WF g) {tr pre post : List Ev} (htr : TraceOk g tr) {p i y h : Nat} {ok : Bool}
    (hs : tr = pre ++ Ev.done p ok :: post) (hc : g.cmdAt p i = some (.try_ y)) (hret : Ev.ret p i true ∈ pre)
    (hsel : h ∈ selected g pre y) : Ev.cmd h 0 ∈ pre ∨ causeFor g pre p := by
  have hpre : TraceOk g pre := htr.pre hs
  obtain ⟨hy, ho, _⟩ := hw.tryc (t_lt_of_cmd hc) hc
  have := fate_cause hw hpre hy (selected_sub_handlers hsel) (fate_at_close htr hs hc hret hsel)
  rwa [ho] at this

def TraceOrd (g : Graph) (tr : List Ev) : Prop :=
  ∀ pre e post, tr = pre ++ e :: post → ordOk g pre e

theorem traceOrd_snoc {tr : List Ev} {e : Ev} (h : TraceOrd g tr) (he : ordOk g tr e) : TraceOrd g (tr ++ [e]) :=
  each_snoc h he

/-- once the try goroutine is past `subFin`, `finally` (if defined) has been accepted; and the trace so
far has the order property -/
structure OInv (g : Graph) (s : St) : Prop where
  tg  : ∀ y v f, (s.tg y = .subFail v ∨ s.tg y = .subSucc v) → (g.tryd y).fin = some f → Ev.hacc f ∈ s.tr
  ord : TraceOrd g s.tr

theorem oinv_other {s s' : St} {l : Label} (hO : OInv g s) (hl : ∀ y, l ≠ .tryg y)
    (hs : step g s l = some s') : OInv g s' := by
  have htg := (step_shape hs).2.2 hl
  have htr : s'.tr = s.tr ∨ ∃ e, s'.tr = s.tr ++ [e] ∧ ∀ pre, ordOk g pre e :=
    (step_shape hs).1.imp id fun ⟨e, h, _, hn, _⟩ => ⟨e, h, hn hl⟩
  have hmem : ∀ e, e ∈ s.tr → e ∈ s'.tr := by
    intro e he
    rcases htr with h | ⟨e', h, _⟩ <;> rw [h]
    · exact he
    · exact List.mem_append_left _ he
  constructor
  · intro y v f hy hf
    have : s'.tg y = s.tg y := by
      rcases htg y with h | h
      · exact h
      · rw [h] at hy; rcases hy with hy | hy <;> cases hy
    rw [this] at hy
    exact hmem _ (hO.tg y v f hy hf)
  · rcases htr with h | ⟨e', h, hn⟩ <;> rw [h]
    · exact hO.ord
    · exact traceOrd_snoc hO.ord (hn _)

theorem OInv.upd_tg {s s' : St} (hO : OInv g s) {y : Nat} {q : TG} (htg : s'.tg = upd s.tg y q)
    (hmem : ∀ e, e ∈ s.tr → e ∈ s'.tr)
    (hq : ∀ v f, (q = .subFail v ∨ q = .subSucc v) → (g.tryd y).fin = some f → Ev.hacc f ∈ s'.tr)
    (hord : TraceOrd g s'.tr) : OInv g s' := by
  refine ⟨fun z v f hz hf => ?_, hord⟩
  rw [htg, upd_apply] at hz
  split at hz
  · rename_i e; subst e; exact hq v f hz hf
  · exact hmem _ (hO.tg z v f hz hf)

theorem OInv.fin_acc {s : St} (hO : OInv g s) {y : Nat} (k : HKind) {v : Bool} (htg : s.tg y = k.cur v) {f : Nat}
    (hf : (g.tryd y).fin = some f) : (k.get (g.tryd y) = some f ∧ k.run v = true) ∨ Ev.hacc f ∈ s.tr := by
  cases k
  · exact Or.inl ⟨hf, rfl⟩
  · exact Or.inr (hO.tg y v f (Or.inl htg) hf)
  · exact Or.inr (hO.tg y v f (Or.inr htg) hf)

theorem oinv_step {s s' : St} (hw : WF g) (hI : Inv g s) (hO : OInv g s) (l : Label)
    (hs : step g s l = some s') : OInv g s' := by
  cases Trans.of_step hs with
  | bodyClosed => exact hO.upd_tg rfl (fun _ h => h) (fun _ _ h => by rcases h with h | h <;> cases h) hO.ord
  | noHandler k htg hno =>
    refine hO.upd_tg rfl (fun _ h => h) (fun _ f _ hf => ?_) hO.ord
    rcases hO.fin_acc k htg hf with ⟨h1, h2⟩ | h1
    · exact (hno f h1 h2).elim
    · exact h1
  | handler k htg hh hrun acc hcan =>
    rename_i y h v
    obtain ⟨a, b⟩ := hw.ofKind (hI.tgr y (htg ▸ k.cur_ne_idle _)) k hh
    have hord : ∀ y' f, (g.role h = .hfail y' ∨ g.role h = .hsucc y') → (g.tryd y').fin = some f →
        Ev.hacc f ∈ s.tr := by
      intro y' f hr hf
      cases k <;> simp only [HKind.role] at b <;> rw [b] at hr <;> rcases hr with hr | hr <;> cases hr
      · exact hO.tg y v f (Or.inl htg) hf
      · exact hO.tg y v f (Or.inr htg) hf
    cases acc
    · exact hO.upd_tg (q := .done) rfl (fun e he => List.mem_append_left _ he)
        (fun _ _ h => by rcases h with h | h <;> cases h)
        (traceOrd_snoc hO.ord
          ⟨hord, root_cause_of_refusal hI (hw.ofRole a b).waits_nil (role_kind b).isHandler (by rw [hcan]; nofun)⟩)
    · refine hO.upd_tg (q := k.next v) rfl (fun e he => List.mem_append_left _ he) (fun _ f _ hf => ?_)
        (traceOrd_snoc hO.ord hord)
      rcases hO.fin_acc k htg hf with ⟨h1, _⟩ | h1
      · cases hh.symm.trans h1; simp [emit]
      · exact List.mem_append_left _ h1
  | _ => exact oinv_other hO (by intro _ h; cases h) hs

theorem oinv_init (g : Graph) : OInv g init := by
  constructor
  · intro y v f h; simp [init] at h
  · intro pre e post h; simp [init] at h

end Goat.Pipeline
