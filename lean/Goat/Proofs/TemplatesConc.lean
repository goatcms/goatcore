/-
C19, concurrent part: mutual exclusion in the guarded cache-map protocol.  `Excl`: at most one goroutine is in the
write-locked section, and none holds the read lock then.  `Sys.run` is a `foldl` of a total step (a blocked goroutine
stays where it is), so the invariant goes along a schedule by `List.foldlRecOn`; the kit of `Base/LTS` (partial
steps) is not needed.
-/
import Goat.Model.Templates
import Goat.Proofs.Lists

namespace Goat.Tmpl

def Excl (pcs : List PC) : Prop :=
  ∀ (i j : Nat) (p q : PC), pcs[i]? = some p → pcs[j]? = some q →
    (p.inW = true → q.inW = true → i = j) ∧ (p.inW = true → q.inR = true → False)

theorem inW_not_inR (p : PC) : p.inW = true → p.inR = true → False := by
  cases p <;> simp [PC.inW, PC.inR]

theorem excl_set {pcs : List PC} {i : Nat} {p' : PC} (h : Excl pcs)
    (hc : ∀ j q, j ≠ i → pcs[j]? = some q →
      (p'.inW = true → q.inW = false ∧ q.inR = false) ∧ (p'.inR = true → q.inW = false)) :
    Excl (pcs.set i p') := by
  intro a b x y ha hb
  -- each index is the changed entry `i` or an old one: both `i`; the first; the second; neither
  rcases getElem?_set_cases ha with ⟨ea, ex⟩ | ⟨na, ha'⟩ <;>
  rcases getElem?_set_cases hb with ⟨eb, ey⟩ | ⟨nb, hb'⟩
  · subst ea; subst eb; subst ex; subst ey
    exact ⟨fun _ _ => rfl, fun a b => inW_not_inR _ a b⟩
  · subst ex
    have := (hc b y nb hb').1
    exact ⟨fun w e => by simp [(this w).1] at e, fun w e => by simp [(this w).2] at e⟩
  · subst ey
    have := hc a x na ha'
    exact ⟨fun e w => by simp [(this.1 w).1] at e, fun e r => by simp [this.2 r] at e⟩
  · exact h _ _ _ _ ha' hb'

/-- moving inside a lock class, or leaving it: what the old entry excluded stays excluded -/
theorem excl_set_mono {pcs : List PC} {i : Nat} {p p' : PC} (h : Excl pcs) (hi : pcs[i]? = some p)
    (hw : p'.inW = true → p.inW = true) (hr : p'.inR = true → p.inR = true) :
    Excl (pcs.set i p') :=
  excl_set h fun j q nj hq =>
    ⟨fun w => ⟨Bool.eq_false_iff.2 fun e => nj ((h i j p q hi hq).1 (hw w) e).symm,
        Bool.eq_false_iff.2 ((h i j p q hi hq).2 (hw w))⟩,
      fun r => Bool.eq_false_iff.2 fun e => (h j i q p hq hi).2 e (hr r)⟩

theorem not_midWrite {s : Sys} {i : Nat} {p : PC} (h : Excl s.pcs) (hi : s.pcs[i]? = some p)
    (hp : p.inR = true ∨ (p.inW = true ∧ p ≠ PC.writing)) : s.midWrite = false := by
  cases hm : s.midWrite with
  | false => rfl
  | true =>
    exfalso
    unfold Sys.midWrite at hm
    rw [List.any_eq_true] at hm
    obtain ⟨q, hq, hqe⟩ := hm
    have hqw : q = PC.writing := by simpa using hqe
    subst hqw
    obtain ⟨j, hj⟩ := List.getElem?_of_mem hq
    rcases hp with hr | ⟨hw, hne⟩
    · exact (h j i _ _ hj hi).2 rfl hr
    · have := (h j i _ _ hj hi).1 rfl hw
      subst this
      rw [hi] at hj
      exact hne (Option.some.inj hj)

def SysInv (s : Sys) : Prop := s.fatal = false ∧ Excl s.pcs

theorem sysInv_init (n : Nat) : SysInv (Sys.init n) := by
  refine ⟨rfl, ?_⟩
  intro i j p q hi hj
  have hp : p = PC.idle := by
    have := List.mem_of_getElem? hi
    simp [Sys.init] at this
    exact this.2
  subst hp
  exact ⟨fun a => by simp [PC.inW] at a, fun a => by simp [PC.inW] at a⟩

theorem sysInv_step (cached : Bool) {s : Sys} (i : Nat) (h : SysInv s) :
    SysInv (Sys.step true cached s i) := by
  obtain ⟨hf, hx⟩ := h
  unfold Sys.step
  simp only [hf, Bool.false_eq_true, if_false, if_true]
  cases hi : s.pcs[i]? with
  | none => exact ⟨hf, hx⟩
  | some p =>
    cases p with
    | idle =>
      dsimp only
      by_cases hc : s.canRLock = true
      · simp only [hc, if_true]
        exact ⟨hf, excl_set hx fun _ _ _ hq => ⟨nofun, fun _ => by simpa using all_of_getElem? hc hq⟩⟩
      · simp only [hc]
        exact ⟨hf, hx⟩
    | rlocked =>
      dsimp only
      rw [not_midWrite hx hi (Or.inl rfl)]
      exact ⟨hf, excl_set_mono hx hi (by simp [PC.inW]) (by simp [PC.inR])⟩
    | rread hit =>
      dsimp only
      refine ⟨hf, excl_set_mono hx hi ?_ ?_⟩ <;> cases hit <;> simp [PC.inW, PC.inR]
    | wantW =>
      dsimp only
      by_cases hc : s.canLock = true
      · simp only [hc, if_true]
        exact ⟨hf, excl_set hx fun _ _ _ hq => ⟨fun _ => by simpa using all_of_getElem? hc hq, nofun⟩⟩
      · simp only [hc]
        exact ⟨hf, hx⟩
    | wlocked =>
      dsimp only
      rw [not_midWrite hx hi (Or.inr ⟨rfl, by simp⟩)]
      refine ⟨hf, excl_set_mono hx hi ?_ ?_⟩ <;> cases s.filled <;> simp [PC.inW, PC.inR]
    | built =>
      dsimp only
      rw [not_midWrite hx hi (Or.inr ⟨rfl, by simp⟩)]
      cases cached <;> exact ⟨hf, excl_set_mono hx hi (by simp [PC.inW]) (by simp [PC.inR])⟩
    | writing =>
      dsimp only
      exact ⟨hf, excl_set_mono hx hi (by simp [PC.inW]) (by simp [PC.inR])⟩
    | wrote =>
      dsimp only
      exact ⟨hf, excl_set_mono hx hi (by simp [PC.inW]) (by simp [PC.inR])⟩

theorem sysInv_run (cached : Bool) (sched : List Nat) {s : Sys} (h : SysInv s) :
    SysInv (Sys.run true cached s sched) :=
  List.foldlRecOn sched (Sys.step true cached) h fun _ h i _ => sysInv_step cached i h

/-- the pinned protocol: goroutine 0 gets into the map assignment, goroutine 1 looks up without a lock -/
theorem pinned_fatal (m : Nat) :
    (Sys.run false true (Sys.init (m + 2)) [0, 0, 0, 0, 1]).fatal = true := by
  simp [Sys.run, Sys.init, Sys.step, Sys.setPC, Sys.midWrite, Sys.canLock, List.replicate_succ,
    PC.inW, PC.inR]

end Goat.Tmpl
