/-
The lock graph.  How `resume` enters and leaves a directory's outer critical section (`holdsOuter`), the
invariant `LInv` tying lock holders to program counters, heaps without held locks (`NoLocks`), and who holds
a directory lock (`outer_holder`).
-/
import Goat.Proofs.MemFSConcAct
import Goat.Proofs.MemFSConcSys

namespace Goat.MemFSConc

@[simp] theorem start_holds (hs : List Handle) (op : Op) : holdsOuter (start hs op) = none :=
  (start_fresh hs op).2.1

theorem copyStep_locks (v : Variant) (d : Oid) (n : Name) (fr : Frame) (stack : List Frame) (r : Ret) :
    Pc.inVariant v (copyStep d n fr stack r) ∧ holdsOuter (copyStep d n fr stack r) = none := by
  unfold copyStep
  (repeat' split) <;> exact ⟨trivial, rfl⟩

/-- the control flow enters a directory's outer critical section by a granted `outerLock`, leaves it by
`outerUnlock`, and arrives at a program counter of an old lock order only in that order -/
theorem resume_locks (v : Variant) (pc : Pc) (r : Ret) :
    Pc.inVariant v (resume v pc r) ∧
    (holdsOuter (resume v pc r) = holdsOuter pc ∨
     (∃ d, actOf v pc = .outerLock d ∧ r = .unit ∧ holdsOuter pc = none ∧ holdsOuter (resume v pc r) = some d) ∨
     (∃ d, actOf v pc = .outerUnlock d ∧ holdsOuter pc = some d)) := by
  cases pc with
  | idle => exact ⟨trivial, .inl rfl⟩
  | _ =>
    simp only [resume] <;> (repeat' split) <;>
      first
      | exact ⟨trivial, .inl rfl⟩                                     -- no lock event, a literal next program counter
      | exact ⟨trivial, .inr (.inl ⟨_, rfl, rfl, rfl, rfl⟩)⟩          -- `wLock` / `oLock` granted
      | exact ⟨trivial, .inr (.inr ⟨_, rfl, rfl⟩)⟩                    -- the three unlocking program counters
      | exact ⟨(walkOn_fresh _ _ _ _).2.2 v, .inl (walkOn_fresh _ _ _ _).2.1⟩   -- a walk goes on
      | exact ⟨(mkOn_fresh _ _ _).2.2 v, .inl (mkOn_fresh _ _ _).2.1⟩           -- `mkdirAllNodes` goes on
      | exact ⟨(copyStep_locks v _ _ _ _ _).1, .inl (copyStep_locks v _ _ _ _ _).2⟩   -- `copyDir`
      -- into `wSetLocked` / `oOpenLocked`: the branch under `if v.writeFileUnderDir` / `if v.writerUnderDir`
      | exact ⟨by simp only [Pc.inVariant]; assumption, .inl rfl⟩

theorem holds_resume (v : Variant) {pc : Pc} {d : Oid} (r : Ret) (h : holdsOuter pc = some d) :
    holdsOuter (resume v pc r) = some d ∨ actOf v pc = .outerUnlock d := by
  rcases (resume_locks v pc r).2 with e | ⟨_, _, _, e, _⟩ | ⟨_, e, e'⟩
  · exact .inl (e.trans h)
  · rw [h] at e; cases e
  · rw [h] at e'; cases e'; exact .inr e

theorem holds_resume_none (v : Variant) {pc : Pc} {d : Oid} (r : Ret) (h : holdsOuter pc = none)
    (h' : holdsOuter (resume v pc r) = some d) : actOf v pc = .outerLock d ∧ r = .unit := by
  rcases (resume_locks v pc r).2 with e | ⟨_, ha, hr, _, e⟩ | ⟨_, _, e⟩
  · rw [e, h] at h'; cases h'
  · rw [e] at h'; cases h'; exact ⟨ha, hr⟩
  · rw [h] at e; cases e

theorem dirChange_outer {t : Tid} {a : Act} {o : Oid} {d d' : DirObj} (hc : DirChange t o d a d') :
    d'.outer = d.outer ∨ (a = .outerLock o ∧ d'.outer = some t) ∨ (a = .outerUnlock o ∧ d'.outer = none) := by
  cases hc with
  | crit _ da _ _ e => rw [e]; exact .inl (act_locks d da).1
  | lock => exact .inr (.inl ⟨rfl, rfl⟩)
  | unlock => exact .inr (.inr ⟨rfl, rfl⟩)
  | _ => exact .inl rfl

theorem dirChange_muR {t : Tid} {a : Act} {o : Oid} {d d' : DirObj} (hc : DirChange t o d a d')
    (hm : d.muR = []) : d'.muR = [] ∨ ∃ x, a = .snapshot x true := by
  cases hc with
  | crit _ da _ _ e => rw [e, (act_locks d da).2]; exact .inl hm
  | hold => exact .inr ⟨_, rfl⟩
  | release => left; simp [hm]
  | _ => exact .inl hm

theorem actOf_snapshot {v : Variant} {pc : Pc} {x : Oid} (h : actOf v pc = .snapshot x true) :
    v.copyDirHoldsMu = true := by
  cases pc with
  | cEnter d n src => exact (Act.snapshot.inj h).2
  | cDir d n st =>
    cases st with
    | nil => cases h
    | cons fr st' =>
      simp only [actOf] at h
      split at h <;> first | cases h | exact (Act.snapshot.inj h).2
  | walk _ rest _ => cases rest <;> cases h
  | mk _ rest _ => cases rest <;> cases h
  | _ => cases h

theorem actOf_outerLock {v : Variant} {pc : Pc} {d : Oid} (h : actOf v pc = .outerLock d) :
    holdsOuter (resume v pc .unit) = some d := by
  cases pc with
  | wLock d' n vv => simp only [actOf, Act.outerLock.injEq] at h; subst h; rfl
  | oLock d' hh n => simp only [actOf, Act.outerLock.injEq] at h; subst h; rfl
  | walk cur rest k => cases rest <;> simp [actOf] at h
  | mk cur rest k => cases rest <;> simp [actOf] at h
  | cDir d' n st =>
    cases st with
    | nil => simp [actOf] at h
    | cons fr st' =>
      simp only [actOf] at h
      split at h <;> simp at h
  | _ => simp [actOf] at h

/-- the lock invariant: the holder of a directory's outer lock is inside a critical section on it; the
program counters of the old lock orders occur only in their variant; unless `copyDir` keeps `mu`, no
`mu.RLock` is held across a wait -/
structure LInv (v : Variant) (s : State) : Prop where
  outer : ∀ d dd t, getDir s.heap d = some dd → dd.outer = some t →
    ∃ th, s.threads[t]? = some th ∧ holdsOuter th.pc = some d
  old : ∀ th ∈ s.threads, Pc.inVariant v th.pc
  mu : v.copyDirHoldsMu = false → ∀ d dd, getDir s.heap d = some dd → dd.muR = []

def NoLocks (h : Heap) : Prop :=
  (∀ d dd, getDir h d = some dd → dd.outer = none ∧ dd.muR = []) ∧ (∀ f ff, getFile h f = some ff → ff.lock = none)

theorem noLocks_init : NoLocks [Obj.dir {}] :=
  ⟨fun d dd hg => by rw [getDir_init hg]; exact ⟨rfl, rfl⟩, fun f ff hg => by rw [getFile_init] at hg; cases hg⟩

theorem linv_startState (v : Variant) {h0 : Heap} (hq : NoLocks h0) (progs : List (List Op)) :
    LInv v (startState h0 progs) := by
  refine ⟨?_, ?_, ?_⟩
  · intro d dd t hg ho
    rw [(hq.1 d dd hg).1] at ho; cases ho
  · intro th hth
    simp only [startState, List.mem_map] at hth
    obtain ⟨p, _, rfl⟩ := hth
    trivial
  · intro _ d dd hg
    exact (hq.1 d dd hg).2

theorem applyAct_outer {h h' : Heap} {t : Tid} {a : Act} {r : Ret} (hap : applyAct h t a = some (h', r))
    {d : Oid} {dd' : DirObj} {t2 : Tid} (hg : getDir h' d = some dd') (ho : dd'.outer = some t2) :
    (∃ dd, getDir h d = some dd ∧ dd.outer = some t2 ∧ (t2 = t → a ≠ .outerUnlock d)) ∨
    (t2 = t ∧ a = .outerLock d ∧ r = .unit) := by
  rcases applyAct_dir hap hg with hun | ⟨dd, hdd, hc⟩ | ⟨_, hnew⟩
  · refine Or.inl ⟨dd', hun, ho, ?_⟩
    rintro rfl rfl
    -- the holder's `Unlock` would have changed the object
    rcases act_outerUnlock hap with ⟨hne, _⟩ | ⟨dd, hdd, _, rfl, _⟩
    · exact hne dd' hun ho
    · rw [getDir_eq_some, getElem?_set_if, if_pos ⟨rfl, getDir_lt_len hdd⟩] at hg
      cases hg; cases ho
  · rcases dirChange_outer hc with hsame | ⟨ha, hto⟩ | ⟨_, hnone⟩
    · refine Or.inl ⟨dd, hdd, by rw [← hsame]; exact ho, ?_⟩
      rintro _ rfl
      cases hc with
      | crit _ _ h => cases h
      | unlock => cases ho
    · rw [hto] at ho; cases ho
      exact Or.inr ⟨rfl, ha, (act_outerLock hdd (by rw [← ha]; exact hap)).2.2⟩
    · rw [hnone] at ho; cases ho
  · rw [hnew.unlocked.1] at ho; cases ho

theorem linv_step {v : Variant} {s s' : State} {t : Tid} (hi : LInv v s) (hs : step v s t = some s') :
    LInv v s' := by
  obtain ⟨th, hth, hk⟩ := step_cases hs
  have hlt : t < s.threads.length := lt_of_getElem? hth
  -- threads other than `t` keep their program counter; `t` gets the one of `th'`
  have other : ∀ (th' : Thread) d dd t2, getDir s.heap d = some dd → dd.outer = some t2 →
      (t2 = t → holdsOuter th.pc = some d → holdsOuter th'.pc = some d) →
      ∃ x, (s.threads.set t th')[t2]? = some x ∧ holdsOuter x.pc = some d := by
    intro th' d dd t2 hg ho hkeep
    obtain ⟨th2, hth2, hh2⟩ := hi.outer d dd t2 hg ho
    by_cases ht : t2 = t
    · subst ht
      rw [hth] at hth2; cases hth2
      exact ⟨th', List.getElem?_set_self hlt, hkeep rfl hh2⟩
    · exact ⟨th2, by rw [List.getElem?_set_ne (fun e => ht e.symm)]; exact hth2, hh2⟩
  cases hk with
  | start op rest hpc hprog =>
    exact ⟨fun d dd t2 hg ho => other _ d dd t2 hg ho (fun _ hd => by rw [hpc] at hd; cases hd),
      forall_mem_set hi.old ((start_fresh _ _).2.2 v) t, hi.mu⟩
  | fin r hpc =>
    exact ⟨fun d dd t2 hg ho => other _ d dd t2 hg ho (fun _ hd => by rw [hpc] at hd; cases hd),
      forall_mem_set hi.old (by exact trivial) t, hi.mu⟩
  | act h' r hni hnf hap =>
    refine ⟨?_, ?_, ?_⟩
    · intro d dd' t2 hg ho
      rcases applyAct_outer hap hg ho with ⟨dd, hdd, ho', hne⟩ | ⟨rfl, ha, rfl⟩
      · exact other _ d dd t2 hdd ho' (fun e hh => (holds_resume v r hh).resolve_right (hne e))
      · exact ⟨_, List.getElem?_set_self hlt, actOf_outerLock ha⟩
    · exact forall_mem_set hi.old (resume_locks v _ _).1 t
    · intro hv d dd' hg
      simp only at hg
      rcases applyAct_dir hap hg with hun | ⟨dd, hdd, hc⟩ | ⟨_, hnew⟩
      · exact hi.mu hv d dd' hun
      · rcases dirChange_muR hc (hi.mu hv d dd hdd) with hm | ⟨x, hx⟩
        · exact hm
        · rw [actOf_snapshot hx] at hv; cases hv
      · exact hnew.unlocked.2

theorem linv_run (v : Variant) (progs : List (List Op)) (sched : List Tid) : LInv v ((sys v progs).run sched) :=
  LTS.inv_run (sys v progs) (LInv v) (linv_startState v noLocks_init progs) (fun _ _ _ hi hs => linv_step hi hs) sched

theorem holdsOuter_ne_idle {pc : Pc} {d : Oid} (h : holdsOuter pc = some d) : pc ≠ .idle := by
  intro hi
  rw [hi] at h
  cases h

theorem holdsOuter_unfinished {s : State} {t : Tid} {th : Thread} {d : Oid}
    (hth : s.threads[t]? = some th) (hh : holdsOuter th.pc = some d) : unfinished s t = true := by
  rw [unfinished_eq hth]
  cases hf : th.finished with
  | false => rfl
  | true => exact absurd (finished_iff.1 hf).1 (holdsOuter_ne_idle hh)

theorem outer_holder {v : Variant} {s : State} (hi : LInv v s) {d : Oid} {dd : DirObj} {t : Tid}
    (hg : getDir s.heap d = some dd) (ho : dd.outer = some t) :
    ∃ th, s.threads[t]? = some th ∧ th.pc ≠ .idle ∧ holdsOuter th.pc = some d ∧ unfinished s t = true := by
  obtain ⟨th, hth, hh⟩ := hi.outer d dd t hg ho
  exact ⟨th, hth, holdsOuter_ne_idle hh, hh, holdsOuter_unfinished hth hh⟩

theorem outer_free_of_quiescent {v : Variant} {s : State} (hi : LInv v s) (hq : ∀ t, unfinished s t = false)
    {d : Oid} {dd : DirObj} (hg : getDir s.heap d = some dd) : dd.outer = none := by
  cases ho : dd.outer with
  | none => rfl
  | some t =>
    obtain ⟨_, _, _, _, hu⟩ := outer_holder hi hg ho
    rw [hq t] at hu
    cases hu

end Goat.MemFSConc
