/-
After the lifecycle has been killed (callback / listing error, scope Kill or Error event, deadline): every action
of a goroutine of the loop strictly decreases a measure, every consumer leaves within a fixed number of its own
steps, `Wait` becomes enabled.
-/
import Goat.Proofs.LoopStuck

namespace Goat.Loop
open Goat.LTS

/-- how many of its own actions a consumer can still execute once the lifecycle is killed (repaired order).  The
numbers run backwards along one iteration of the loop after a kill: `rdStep → lenD → lenF → work → selD →
inCb true → rep true → workF → selF → inCb false → rep false → top → exiting → exited`; each action goes to the
right, so `rank .rdStep = 13` bounds them all. -/
def rank : PC → Nat
  | .exited => 0
  | .exiting => 1
  | .top => 2
  | .rep false _ => 3
  | .inCb false _ => 4
  | .selF => 5
  | .workF => 6
  | .rep true _ => 7
  | .inCb true _ => 8
  | .selD => 9
  | .work => 10
  | .lenF _ => 11
  | .lenD _ => 12
  | .rdStep => 13

theorem rank_le (pc : PC) : rank pc ≤ rank .rdStep := by
  unfold rank; split <;> decide

theorem rank_zero {pc : PC} (h : rank pc = 0) : pc = .exited := by
  unfold rank at h; split at h <;> first | rfl | omega

/-- the actions a producer can still execute (its program, the programs of the producers it will start, and the
final `pool.Done()`) -/
def prodSize : Prod → Nat
  | .run acts => 1 + sizeL acts
  | .rep _ _ rest => 2 + sizeL rest
  | .gone => 0

def closerRank : CPC → Nat
  | .waiting => 4
  | .waited => 3
  | .announced => 2
  | .closedD => 1
  | .fin => 0

/-- bounds the actions the goroutines of a killed loop can still execute -/
def measure (s : St) : Nat := lsum rank s.cons + lsum prodSize s.prods + closerRank s.closer

theorem consAct_rank {P : Params} (hP : P.fixedOrder = true) {s u : St} (hk : s.killed = true) {pc pc' : PC}
    (hne : pc ≠ .exited) (hr : consAct P s pc = (pc', u)) : rank pc' < rank pc := by
  have e : (consAct P s pc).1 = pc' := by rw [hr]
  subst e
  cases pc with
  | exited => exact absurd rfl hne
  | top => simp [consAct, hk, rank]
  | rdStep => simp [consAct, hP, rank]
  | lenD b => simp only [consAct]; split <;> simp [rank]
  | lenF b => simp only [consAct, hP]; (repeat' split) <;> simp_all [rank]
  | work | selD | workF | selF => simp only [consAct]; split <;> simp [rank]
  | inCb d x => simp only [consAct]; cases d <;> split <;> simp [rank, afterCb]
  | rep d x => cases d <;> simp [consAct, rank, afterCb]
  | exiting => simp [consAct, rank]

theorem consStep_measure {P : Params} (hP : P.fixedOrder = true) {s t : St} {i : Nat}
    (hs : consStep P s i = some t) (hk : s.killed = true) : measure t < measure s := by
  obtain ⟨pc, pc', u, hpc, hne, hr, hm, rfl⟩ := consStep_move hs
  have h1 := lsum_set rank s.cons i pc pc' hpc
  have h2 := consAct_rank hP hk hne hr
  show lsum rank (s.cons.set i pc') + lsum prodSize u.prods + closerRank u.closer < _
  rw [hm.frame.prods, hm.frame.closer]
  unfold measure
  omega

@[simp] theorem sizeL_nil : sizeL [] = 0 := by simp [sizeL]
@[simp] theorem sizeL_cons (a : PAct) (r : List PAct) : sizeL (a :: r) = a.size + sizeL r := by
  simp [sizeL]

theorem sizeL_append (a b : List PAct) : sizeL (a ++ b) = sizeL a + sizeL b := by
  induction a with
  | nil => simp
  | cons x r ih => simp [ih]; omega

theorem sizeL_drop_le (k : Nat) (l : List PAct) : sizeL (l.drop k) ≤ sizeL l := by
  have h := sizeL_append (l.take k) (l.drop k)
  rw [List.take_append_drop] at h
  omega

theorem PAct.size_pos (a : PAct) : 0 < a.size := by
  cases a <;> simp [PAct.size] <;> omega

theorem PMove.size {P : Params} {s u : St} {pr pr' : Prod} {extra : List Prod} (h : PMove P s pr pr' extra u) :
    prodSize pr' + lsum prodSize extra < prodSize pr := by
  cases h with
  | report p k rest | skip k rest => have := sizeL_drop_le k rest; simp [prodSize, lsum, PAct.size]; omega
  | pass a rest => have := a.size_pos; simp [prodSize, lsum]; omega
  | _ => simp [prodSize, lsum, PAct.size] <;> omega

theorem prodStep_measure {P : Params} {s t : St} {j : Nat} (hs : prodStep P s j = some t) :
    measure t < measure s := by
  obtain ⟨pr, pr', extra, u, hj, hm, rfl⟩ := prodStep_move hs
  have h1 := lsum_set prodSize s.prods j pr pr' hj
  have h2 := hm.size
  show lsum rank u.cons + lsum prodSize (s.prods.set j pr' ++ extra) + closerRank u.closer < _
  rw [hm.frame.cons, hm.frame.closer, lsum_append]
  unfold measure
  omega

theorem prog_step_measure {P : Params} (hP : P.fixedOrder = true) {s t : St} (l : Label)
    (hl : l.isProg = true) (hs : step P s l = some t) (hk : s.killed = true) : measure t < measure s := by
  cases l with
  | prod j => exact prodStep_measure hs
  | closer => unfold measure; cases closerStep_move hs <;> simp [closerRank, *]
  | cons i => exact consStep_measure hP hs hk
  | kill | errEvent | timeout => cases hl

theorem fired_prog_bound {P : Params} (hP : P.fixedOrder = true) {prog : List PAct} {n : Nat} (s : St)
    (hk : s.killed = true) (more : List Label) :
    ((sys P prog n).firedFrom s more).countP (fun p => p.2.isProg) ≤ measure s :=
  countP_fired_le_measure (sys P prog n) (·.killed = true) measure (fun p => p.2.isProg)
    (fun s l t hk hs => ⟨step_killed l hs hk, by
      cases hl : l.isProg
      · obtain ⟨c, rfl, _, hc⟩ := env_step hl hs; rw [hc hk]; simp
      · have := prog_step_measure hP l hl hs hk
        simp only [if_true]; omega⟩) more s hk

theorem cons_of_other_step {P : Params} {s t : St} (l : Label) (i : Nat) (hl : l ≠ .cons i)
    (hs : step P s l = some t) : t.cons[i]? = s.cons[i]? := by
  cases l with
  | cons i' =>
    obtain ⟨_, _, _, _, _, _, _, rfl⟩ := consStep_move hs
    exact List.getElem?_set_ne fun e => hl (by rw [e])
  | _ => rw [(step_cons_done hs (by intro i h; cases h)).1]

theorem rank_next {P : Params} (hP : P.fixedOrder = true) {prog : List PAct} {n : Nat} (i : Nat) (s : St)
    (hk : s.killed = true) (pc : PC) (hpc : s.cons[i]? = some pc) (l : Label) :
    ((sys P prog n).next s l).killed = true ∧ ∃ pc', ((sys P prog n).next s l).cons[i]? = some pc' ∧
      rank pc' ≤ rank pc - (if l = .cons i then 1 else 0) := by
  unfold Sys.next
  cases hs : (sys P prog n).step s l with
  | none =>
    refine ⟨hk, pc, hpc, ?_⟩
    split
    · -- its own action is disabled: it has signed off
      subst l
      have : pc = .exited := Classical.byContradiction fun hne => by
        obtain ⟨t, ht⟩ := cons_enabled P s i pc hpc hne
        exact absurd (ht.symm.trans hs) (by simp)
      simp [this, rank]
    · exact Nat.le_refl _
  | some t =>
    refine ⟨step_killed l hs hk, ?_⟩
    split
    · subst l
      obtain ⟨pc₀, pc', u, hpc₀, hne, hr, _, rfl⟩ := consStep_move hs
      cases hpc.symm.trans hpc₀
      have hr' := consAct_rank hP hk hne hr
      exact ⟨pc', by simp [(List.getElem?_eq_some_iff.mp hpc).1], by omega⟩
    · exact ⟨pc, (cons_of_other_step l i ‹_› hs).trans hpc, Nat.le_refl _⟩

theorem rank_after {P : Params} (hP : P.fixedOrder = true) {prog : List PAct} {n : Nat} (i : Nat) (s : St)
    (hk : s.killed = true) (pc : PC) (hpc : s.cons[i]? = some pc) (more : List Label) :
    ∃ pc', ((sys P prog n).runFrom s more).cons[i]? = some pc' ∧
      rank pc' ≤ rank pc - more.count (.cons i) := by
  induction more generalizing s pc with
  | nil => exact ⟨pc, hpc, by simp⟩
  | cons l rest ih =>
    obtain ⟨hk₁, pc₁, hpc₁, h₁⟩ := rank_next hP (prog := prog) (n := n) i s hk pc hpc l
    obtain ⟨pc', hpc', h'⟩ := ih _ hk₁ pc₁ hpc₁
    refine ⟨pc', hpc', ?_⟩
    rw [List.count_cons]
    simp only [beq_iff_eq]
    omega

theorem cons_exits_after_kill {P : Params} (hP : P.fixedOrder = true) {prog : List PAct} {n : Nat} (i : Nat)
    (s : St) (hk : s.killed = true) (pc : PC) (hpc : s.cons[i]? = some pc) (more : List Label)
    (hm : rank .rdStep ≤ more.count (.cons i)) :
    ((sys P prog n).runFrom s more).cons[i]? = some .exited := by
  obtain ⟨pc', h1, h2⟩ := rank_after hP (prog := prog) (n := n) i s hk pc hpc more
  have := rank_le pc
  have : rank pc' = 0 := by omega
  rw [h1, rank_zero this]

theorem wait_after_kill {P : Params} (hP : P.fixedOrder = true) {prog : List PAct} {n : Nat} (s : St)
    (hr : Reachable (sys P prog n) s) (hk : s.killed = true) (more : List Label)
    (hm : ∀ i, i < n → rank .rdStep ≤ more.count (.cons i)) : waitEnabled ((sys P prog n).runFrom s more) := by
  have hI := inv_reachable hP prog n s hr
  have hIt := inv_reachable hP prog n _ (runFrom_reachable _ hr more)
  apply (wait_iff_allExited hIt).mpr
  intro pc hpc
  obtain ⟨i, hi⟩ := List.getElem?_of_mem hpc
  have hlt : i < n := by
    have := (List.getElem?_eq_some_iff.mp hi).1
    rw [hIt.len] at this; exact this
  have : i < s.cons.length := by rw [hI.len]; exact hlt
  have hsi : s.cons[i]? = some s.cons[i] := by simp [this]
  have := cons_exits_after_kill hP (prog := prog) (n := n) i s hk _ hsi more (hm i hlt)
  rw [hi] at this
  cases this; rfl

end Goat.Loop
