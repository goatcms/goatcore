/-
One call of the disk filespace model inside the property's precondition refines the specification (`step_pre`): the
writing methods, the three copy methods by the kind of source they accept, then all 16 methods in one case analysis.
-/
import Goat.Proofs.DiskFSCopy

namespace Goat
namespace DiskFS

open Path (Name norm)
open FS (Op Result Entry State TreeLike Mut Step ResEq CopyKind)

/-- the outcome `x` of `op` on host `H` through the filespace rooted at `r`: the host stays well formed, no panic,
result (up to `ResEq`) and tree are those the specification prescribes -/
def Refines (r : HPath) (H : Host) (op : Op) (x : Host × Out) : Prop :=
  x.1.WF ∧ ∃ res res', x.2 = .val res ∧ ResEq res' res ∧ Step r H.get op res' x.1.get

theorem refines_of {r : HPath} {H : Host} {op : Op} {H' : Host} {res : Result} (hwf : H'.WF)
    (hstep : Step r H.get op res H'.get) : Refines r H op (H', .val res) :=
  ⟨hwf, res, res, rfl, ResEq.refl res, hstep⟩

theorem statName_eq {p : HPath} (hp : p ≠ []) : statName p = FS.statName p := by
  simp only [statName, FS.statName]
  cases h : p.getLast? with
  | none => simp at h; exact absurd h hp
  | some n => rfl

theorem readLoop_fst (d : Bytes) (sizes : List Nat) :
    (readLoop d sizes).map (·.1) = (FS.readChunks d sizes).map (·.1) := by
  induction sizes generalizing d with
  | nil => rfl
  | cons n rest ih => simp [readLoop, FS.readChunks, ih]

/-- `H1` is `H` with the parents of `r ++ p` made.  A directory at `r ++ p` refuses the open, and then no parent was
missing: the tree is still `H`'s. -/
theorem write_refines {r : HPath} {H : Host} (hwf : H.WF) {op : Op} {p : List Name} (hp : p ≠ [])
    {H1 : Host} (hwf1 : H1.WF) (hok : FS.mkdirOk H.get (r ++ p).dropLast)
    (hget1 : H1.get = FS.mkdirSt H.get (r ++ p).dropLast) (cs : List Bytes)
    (hstep : ∀ res S', Mut (FS.writeOk H.get (r ++ p)) (FS.writeSt H.get (r ++ p) cs.flatten) H.get res S' →
      Step r H.get op res S') :
    Refines r H op
      (match osOpenTrunc H1 ⟨r ++ p, false⟩ with
        | none => (H1, .val .err)
        | some H2 =>
          match osAppendAll H2 (r ++ p) cs with
          | some H3 => (H3, .val .ok)
          | none => (H2, .val .err)) := by
  have hT := Host.wf_treeLike hwf
  have hne : r ++ p ≠ [] := List.append_ne_nil_of_right_ne_nil _ hp
  have hpar : H1.get (r ++ p).dropLast = some .dir := by rw [hget1]; exact FS.mkdirSt_self _ _
  have hsame : H1.get (r ++ p) = H.get (r ++ p) := by rw [hget1]; exact FS.mkdirSt_dropLast _ hne
  by_cases hd : H.get (r ++ p) = some .dir
  · have hopen : osOpenTrunc H1 ⟨r ++ p, false⟩ = none := by
      rw [osOpenTrunc_eq, if_neg]; exact fun h => h.2.2.2 (hsame.trans hd)
    have hparent := hT.closed.prefix_dir (List.dropLast_prefix _) (dropLast_ne_self hne) (by simp [hd])
    rw [hopen]
    refine refines_of hwf1 (hstep _ _ ?_)
    rw [hget1, FS.mkdirSt_of_dir hT hparent]
    exact Mut.intro_err fun h => h.2.2 hd
  · obtain ⟨h2, hwf2⟩ := osOpenTrunc_ok hwf1 (r ++ p) hne hpar (by rw [hsame]; exact hd)
    obtain ⟨H3, h3, hwf3, hget3⟩ := osAppendAll_ok hwf2 (r ++ p) hne [] cs
      (by rw [Host.get_put _ _ _ hne]; exact if_pos rfl)
    rw [h2]; dsimp only; rw [h3]
    refine refines_of hwf3 (hstep _ _ ?_)
    have : H3.get = FS.writeSt H.get (r ++ p) cs.flatten := by
      rw [hget3]
      funext q
      rw [Host.get_put _ _ _ hne, hget1]
      by_cases hq : q = r ++ p <;> simp [FS.writeSt, hq]
    rw [this]
    exact Mut.intro_ok ⟨hne, hok, hd⟩

theorem osAppendAll_single (H : Host) (p : HPath) (c : Bytes) : osAppendAll H p [c] = osAppend H p c := by
  simp only [osAppendAll]; cases osAppend H p c <;> rfl

theorem not_writeOk_root {r : HPath} {H : Host} (hroot : H.get r = some .dir) : ¬ FS.writeOk H.get (r ++ []) := by
  intro h
  rw [List.append_nil] at h
  exact h.2.2 hroot

section
variable {r : HPath} {H : Host} (hwf : H.WF) (hroot : H.get r = some .dir)
include hwf hroot

theorem fileCopy_mut (kind : CopyKind) (hacc : ∀ x, kind.accepts (some (.file x))) (s d : List Name) (x : Bytes)
    (hs : H.get (r ++ s) = some (.file x))
    (hpre : d = [] ∨ (H.get (r ++ d.dropLast) = some .dir ∧ H.get (r ++ d) = none)) :
    (copyFile H (full r s) (full r d)).1.WF ∧
    Mut (FS.copyOk kind H.get (r ++ s) (r ++ d)) (FS.copySt H.get (r ++ s) (r ++ d)) H.get
      (if (copyFile H (full r s) (full r d)).2 then .ok else .err) (copyFile H (full r s) (full r d)).1.get := by
  have hT := Host.wf_treeLike hwf
  have hsne : s ≠ [] := by
    intro hc; subst hc; rw [List.append_nil, hroot] at hs; cases hs
  by_cases hd : d = []
  · subst hd
    have : copyFile H (full r s) (full r []) = (H, false) := by
      simp [copyFile, osStat_full hroot, hs, full_nil, osOpenTrunc]
    rw [this]
    refine ⟨hwf, Mut.intro_err ?_⟩
    intro hok
    have := hok.2.2.2
    rw [List.append_nil, hroot] at this; cases this
  · obtain ⟨hpar, habs⟩ := hpre.resolve_left hd
    have hne : r ++ d ≠ [] := List.append_ne_nil_of_right_ne_nil _ hd
    rw [← List.dropLast_append_of_ne_nil hd] at hpar
    have hmk := FS.mkdirOk_of_dir hT hpar
    obtain ⟨H', hc, hwf', hget'⟩ := copyFile_ok hwf (r ++ s) (r ++ d) x hs hne hpar habs
    have : H'.get = FS.copySt H.get (r ++ s) (r ++ d) := by
      rw [hget', FS.copySt_file hT.closed hs hne hmk habs]
      funext q; simp only [FS.writeSt, FS.mkdirSt_of_dir hT hpar]
    rw [full_eq r s hsne, full_eq r d hd, hc, this]
    exact ⟨hwf', Mut.intro_ok ⟨hne, by rw [hs]; exact hacc x, hmk, habs⟩⟩

theorem dirCopy_mut (kind : CopyKind) (hacc : kind.accepts (some .dir)) (s d : List Name)
    (hs : H.get (r ++ s) = some .dir) (habs : H.get (r ++ d) = none) :
    (copyDir H (full r s) (full r d)).1.WF ∧
    Mut (FS.copyOk kind H.get (r ++ s) (r ++ d)) (FS.copySt H.get (r ++ s) (r ++ d)) H.get
      (if (copyDir H (full r s) (full r d)).2 then .ok else .err) (copyDir H (full r s) (full r d)).1.get := by
  have hd : d ≠ [] := by
    intro hc; subst hc; rw [List.append_nil, hroot] at habs; cases habs
  have hne : r ++ d ≠ [] := List.append_ne_nil_of_right_ne_nil _ hd
  rw [full_eq r d hd]
  by_cases hok : FS.mkdirOk H.get (r ++ d).dropLast
  · obtain ⟨H', hc, hwf', hget'⟩ := copyDirectory_ok hwf (full r s) (r ++ d) hs hne hok habs
    rw [hc, hget', full_path]
    exact ⟨hwf', Mut.intro_ok ⟨hne, by rw [hs]; exact hacc, hok, habs⟩⟩
  · have hst : osStat H (full r s) = some .dir := by rw [osStat_full hroot, hs]
    have : copyDir H (full r s) ⟨r ++ d, false⟩ = (H, false) := by
      simp only [copyDir, hst]
      rw [show (HP.dir ⟨r ++ d, false⟩).path = (r ++ d).dropLast from rfl, osMkdirAll_fail hwf _ hok]
    rw [this]
    exact ⟨hwf, Mut.intro_err (fun h => hok h.2.2.1)⟩

/-- the host calls of the three copy methods, by the sources they accept -/
def copyBy : CopyKind → Host → HP → HP → Eff
  | .any => copyAny
  | .dirOnly => copyDir
  | .fileOnly => copyFile

/-- the kind of the source decides which of `CopyFile` / `CopyDirectory` runs, or that the method refuses it -/
theorem copyBy_mut (k : CopyKind) (s d : List Name) (hf : k ≠ .dirOnly → FileCopyPre r H.get s d)
    (hdp : k ≠ .fileOnly → DirCopyPre r H.get s d) :
    (copyBy k H (full r s) (full r d)).1.WF ∧
    Mut (FS.copyOk k H.get (r ++ s) (r ++ d)) (FS.copySt H.get (r ++ s) (r ++ d)) H.get
      (if (copyBy k H (full r s) (full r d)).2 then .ok else .err) (copyBy k H (full r s) (full r d)).1.get := by
  have hst := osStat_full hroot s
  -- what the source is not, neither host call copies and no method accepts
  have refuse : copyBy k H (full r s) (full r d) = (H, false) → ¬ k.accepts (H.get (r ++ s)) →
      (copyBy k H (full r s) (full r d)).1.WF ∧
      Mut (FS.copyOk k H.get (r ++ s) (r ++ d)) (FS.copySt H.get (r ++ s) (r ++ d)) H.get
        (if (copyBy k H (full r s) (full r d)).2 then .ok else .err) (copyBy k H (full r s) (full r d)).1.get :=
    fun hc hno => by rw [hc]; exact ⟨hwf, Mut.intro_err fun h => hno h.2.1⟩
  cases hg : H.get (r ++ s) with
  | none =>
    rw [hg] at hst
    refine refuse ?_ (by rw [hg]; cases k <;> exact id)
    cases k <;> simp [copyBy, copyAny, isDir, copyFile, copyDir, hst]
  | some en =>
    rw [hg] at hst
    cases en with
    | file x =>
      have h1 : isDir H (full r s) = false := by simp [isDir, hst]
      have hp : k ≠ .dirOnly → d = [] ∨ (H.get (r ++ d.dropLast) = some .dir ∧ H.get (r ++ d) = none) :=
        fun hk => by simpa only [FileCopyPre, hg, isFileE, forall_const] using hf hk
      cases k with
      | dirOnly => exact refuse (by simp [copyBy, copyDir, hst]) (by rw [hg]; exact fun h => by cases h)
      | any =>
        simp only [copyBy, copyAny, h1]
        exact fileCopy_mut hwf hroot .any (fun _ => trivial) s d x hg (hp (by simp))
      | fileOnly => exact fileCopy_mut hwf hroot .fileOnly (fun x => ⟨x, rfl⟩) s d x hg (hp (by simp))
    | dir =>
      have h1 : isDir H (full r s) = true := by simp [isDir, hst]
      cases k with
      | fileOnly => exact refuse (by simp [copyBy, copyFile, hst]) (by rw [hg]; exact fun h => by obtain ⟨x, hx⟩ := h; cases hx)
      | any =>
        simp only [copyBy, copyAny, h1]
        exact dirCopy_mut hwf hroot .any trivial s d hg (hdp (by simp) hg)
      | dirOnly => exact dirCopy_mut hwf hroot .dirOnly rfl s d hg (hdp (by simp) hg)

/-- the copy method that accepts the sources of kind `k` -/
def copyOp : CopyKind → Bytes → Bytes → Op
  | .any => .copy
  | .dirOnly => .copyDirectory
  | .fileOnly => .copyFile

theorem step_copyBy (k : CopyKind) (rs rd : Bytes)
    (hf : k ≠ .dirOnly → ∀ s d, norm rs = some s → norm rd = some d → FileCopyPre r H.get s d)
    (hdp : k ≠ .fileOnly → ∀ s d, norm rs = some s → norm rd = some d → DirCopyPre r H.get s d) :
    Refines r H (copyOp k rs rd) (step r H (copyOp k rs rd)) := by
  have key : ∀ s d, norm rs = some s → norm rd = some d →
      Refines r H (copyOp k rs rd) (okErr (copyBy k H (full r s) (full r d))) := by
    intro s d hs hd
    obtain ⟨hwf', hmut⟩ := copyBy_mut hwf hroot k s d (fun h => hf h s d hs hd) (fun h => hdp h s d hs hd)
    apply refines_of hwf'
    cases k <;> simp only [copyOp, Step, hs, hd] <;> exact hmut
  cases k <;> dsimp only [copyOp, step]
  case' any => simp only [copy_eq hwf]
  case' dirOnly => simp only [copyDirectory_eq hwf]
  all_goals
    cases hs : norm rs with
    | none => exact refines_of hwf (by simp [Step, hs])
    | some s =>
      cases hd : norm rd with
      | none => exact refines_of hwf (by simp [Step, hs, hd])
      | some d => exact key s d hs hd

end

theorem step_pre (r : HPath) (H : Host) (hwf : H.WF) (op : Op) (hpre : Pre r H.get op) :
    Refines r H op (step r H op) := by
  obtain ⟨hroot, hp⟩ := hpre
  have hT := Host.wf_treeLike hwf
  cases op
  case copy rs rd =>
    have hboth : ∀ s d, norm rs = some s → norm rd = some d → FileCopyPre r H.get s d ∧ DirCopyPre r H.get s d :=
      fun s d hs hd => by simpa [hs, hd] using hp
    exact step_copyBy hwf hroot .any rs rd (fun _ s d hs hd => (hboth s d hs hd).1)
      (fun _ s d hs hd => (hboth s d hs hd).2)
  case copyDirectory rs rd =>
    exact step_copyBy hwf hroot .dirOnly rs rd (fun h => absurd rfl h) (fun _ s d hs hd => by simpa [hs, hd] using hp)
  case copyFile rs rd =>
    exact step_copyBy hwf hroot .fileOnly rs rd (fun _ s d hs hd => by simpa [hs, hd] using hp) (fun h => absurd rfl h)
  case writeFile raw data =>
    dsimp only [step]
    cases hn : norm raw with
    | none => exact refines_of hwf (by simp [Step, hn])
    | some p =>
      dsimp only
      by_cases hp : p = []
      · subst hp
        obtain ⟨H1, h1, hwf1, hget1⟩ := osMkdirAll_dir hwf r hroot
        rw [full_dir_path, List.dropLast_nil, List.append_nil, h1]
        simp only [full_nil, osOpenTrunc, true_or, if_true]
        apply refines_of hwf1
        simp only [Step, hn, hget1]
        exact Mut.intro_err (not_writeOk_root hroot)
      · rw [full_dir_path r p, full_eq r p hp, ← List.dropLast_append_of_ne_nil hp]
        by_cases hok : FS.mkdirOk H.get (r ++ p).dropLast
        · obtain ⟨H1, h1, hwf1, hget1⟩ := osMkdirAll_ok hwf _ hok
          simp only [h1, ← osAppendAll_single]
          exact write_refines hwf hp hwf1 hok hget1 [data] fun _ _ h => by simpa [Step, hn] using h
        · simp only [osMkdirAll_fail hwf _ hok]
          apply refines_of hwf
          simp only [Step, hn]
          exact Mut.intro_err fun h => hok h.2.1
  -- the other methods have one path: a climbing path is refused by both
  all_goals
    dsimp only [step, isExist, isFile, isDir, osReadDir]
    cases hn : norm ‹Bytes›
    · exact refines_of hwf (by simp [Step, hn])
    simp only [hn] at hp
  case mkdirAll.some raw p =>
    by_cases hok : FS.mkdirOk H.get (r ++ p)
    · obtain ⟨H1, h1, hwf1, hget1⟩ := osMkdirAll_ok hwf _ hok
      simp only [h1]
      apply refines_of hwf1
      simp only [Step, hn, hget1]
      exact Mut.intro_ok hok
    · simp only [osMkdirAll_fail hwf _ hok]
      apply refines_of hwf
      simp only [Step, hn]
      exact Mut.intro_err hok
  case writer.some raw chunks p =>
    dsimp only
    by_cases hp0 : p = []
    · subst hp0
      simp only [full_nil, osOpenTrunc, true_or, if_true]
      apply refines_of hwf
      simp only [Step, hn]
      exact Mut.intro_err (not_writeOk_root hroot)
    · have hpar : H.get (r ++ p).dropLast = some .dir := by
        rw [List.dropLast_append_of_ne_nil hp0]; exact hp.resolve_left hp0
      rw [full_eq r p hp0]
      exact write_refines hwf hp0 hwf (FS.mkdirOk_of_dir hT hpar) (FS.mkdirSt_of_dir hT hpar).symm chunks
        fun _ _ h => by simp only [Step, hn]; exact h
  case remove.some raw p =>
    by_cases hp0 : p = []
    · simp only [hp0, if_true]
      apply refines_of hwf
      simp only [Step, hn]
      exact Mut.intro_err (fun h => h.1 hp0)
    · have hne : r ++ p ≠ [] := List.append_ne_nil_of_right_ne_nil _ hp0
      have hiff : RemoveOk H (full r p) ↔ FS.removeOk H.get (r ++ p) := by
        unfold RemoveOk; rw [osStat_full hroot]; rfl
      simp only [hp0, if_false]
      by_cases hok : FS.removeOk H.get (r ++ p)
      · obtain ⟨h1, hwf'⟩ := (osRemove_spec hwf _).1 (hiff.mpr hok)
        rw [h1]
        apply refines_of hwf'
        have : (H.del (full r p).path).get = FS.removeSt H.get (r ++ p) := by
          funext q; rw [full_path, Host.get_del _ _ hne]; rfl
        simp only [Step, hn, this]
        exact Mut.intro_ok ⟨hp0, hok⟩
      · rw [(osRemove_spec hwf _).2 (fun h => hok (hiff.mp h))]
        apply refines_of hwf
        simp only [Step, hn]
        exact Mut.intro_err (fun h => hok h.2)
  case removeAll.some raw p =>
    by_cases hp0 : p = []
    · simp only [hp0, if_true]
      apply refines_of hwf
      simp only [Step, hn]
      exact Mut.intro_err (fun h => h.1 hp0)
    · have hne : r ++ p ≠ [] := List.append_ne_nil_of_right_ne_nil _ hp0
      have hex : H.get (r ++ p) ≠ none := hp.resolve_left hp0
      obtain ⟨h1, hwf', hget'⟩ := osRemoveAll_ok hwf hne hex
      simp only [hp0, if_false, h1]
      apply refines_of hwf'
      simp only [Step, hn, hget']
      exact Mut.intro_ok ⟨hp0, hne, hex⟩
  -- the queries: the host stays; the answer is the same function of what stands at `r ++ p` as in `Step`
  -- (case tags: method, `norm raw = some _`, what stands at `r ++ p`: `none`, `some.file`, `some.dir`)
  all_goals
    simp only [osStat_full hroot, full_path]
    rcases hg : H.get (r ++ _) with _ | _ | _
  case readDir.some.some.dir => exact refines_of hwf ⟨rfl, by simp only [hn, hg]; exact ⟨_, rfl, isListing_sorted hwf _⟩⟩
  case reader.some.some.file sizes p d =>
    exact ⟨hwf, _, .chunks (FS.readChunks d sizes), rfl, (readLoop_fst d sizes).symm, by simp [Step, hn, hg]⟩
  case reader.some.some.dir => exact absurd hg hp
  case filespace.some.none | filespace.some.some.file => rw [hg] at hp; cases hp
  case lstat.some.some.file | lstat.some.some.dir =>
    exact refines_of hwf (by simp [Step, hn, hg, statName_eq hp])
  all_goals exact refines_of hwf (by simp [Step, hn, hg])

end DiskFS
end Goat
