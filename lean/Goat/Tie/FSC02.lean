/-
Structural tie for property C02 (DESIGN 1.4), filesystem family.

`Goat/Tie/ExtractedFSC02.lean` is regenerated on every run of `./check C02` by `harness/cmd/fsfacts facts C02`
(go/ast) from the Go sources of the repository under test: normal forms of every method of `diskfs.Filespace`,
of `diskfs.FileHandler.Close` and of the helpers in `filesystem/disk` that `Goat/Model/DiskFS.lean` mirrors step
by step.  The theorems below compare them with what that model assumes; each fails BY NAME when the skeleton it
pins moves.  A failing theorem is a broken obligation of the check (DESIGN 1.3).

Normal forms: see the header of `Goat/Tie/FSC01.lean` (receiver `recv`, parameters `p1 …`, locals `v1 …`, error
constructors `error`, `if h => return …`, "path discipline" `Method: p1 p2`); a "tail" table lists, after a line
`Method:`, the body of the method without its reduce statements.

Syntactic check, trusted as such: it sees the text of the named functions, not what they call (the behaviour of
`os.*`, `ioutil.*`, `filepath.*` is the host ASSUMPTION of C02).  Core Lean only.
-/
import Goat.Tie.ExtractedFSC02


namespace Goat.Tie.FSC02
open Goat.Tie.ExtractedFSC02

/-- EVERY method of `diskfs.Filespace` that takes a path (16: the whole interface) starts by reducing EACH
path argument — both arguments of the three copies — with `varutil.ReduceAbsPath` and returns its error
(`false` for the three predicates) before the argument is used.  `DiskFS`: "every method is `ReduceAbsPath`
(= `Path.norm`) followed by the host call(s)". -/
theorem tie_diskfs_reduces_paths :
    diskfsReduce =
      ["Copy: p1 p2", "CopyDirectory: p1 p2", "CopyFile: p1 p2", "Filespace: p1",
       "IsDir: p1", "IsExist: p1", "IsFile: p1", "Lstat: p1", "MkdirAll: p1", "ReadDir: p1", "ReadFile: p1",
       "Reader: p1", "Remove: p1", "RemoveAll: p1", "WriteFile: p1", "Writer: p1"] := rfl

/-- … followed by exactly these host calls on `fs.path + reduced` (the table `DiskFS.step` mirrors).  In
particular `tie_disk_writefile_mkdirs_parent`: `WriteFile` = `MkdirAll(filepath.Dir(full))`, error returned,
THEN `ioutil.WriteFile(full, data, perm)`; `tie_remove_refuses_root`: `Remove`/`RemoveAll` refuse the empty
reduced path before `os.Remove`/`os.RemoveAll`; `Filespace` opens a child only on an existing directory. -/
def expectedDiskfsTail : List String :=
  ["Copy:", "return disk.Copy(recv.path + p1, recv.path + p2)",
   "CopyDirectory:", "return disk.CopyDirectory(recv.path + p1, recv.path + p2)",
   "CopyFile:", "return disk.CopyFile(recv.path + p1, recv.path + p2)",
   "Filespace:", "v1 = recv.path + p1", "if !disk.IsDir(v1) => return nil, error", "return NewFilespace(v1)",
   "IsDir:", "return disk.IsDir(recv.path + p1)",
   "IsExist:", "return disk.IsExist(recv.path + p1)",
   "IsFile:", "return disk.IsFile(recv.path + p1)",
   "Lstat:", "return os.Lstat(recv.path + p1)",
   "MkdirAll:", "return disk.MkdirAll(recv.path + p1, p2)",
   "ReadDir:", "return ioutil.ReadDir(recv.path + p1)",
   "ReadFile:", "return ioutil.ReadFile(recv.path + p1)",
   "Reader:", "return os.OpenFile(recv.path + p1, os.O_RDONLY, filesystem.DefaultUnixFileMode)",
   "Remove:", "if p1 == \"\" => return error", "return os.Remove(recv.path + p1)",
   "RemoveAll:", "if p1 == \"\" => return error", "return os.RemoveAll(recv.path + p1)",
   "WriteFile:", "v1 = recv.path + p1",
   "if err = disk.MkdirAll(filepath.Dir(v1), filesystem.DefaultUnixDirMode); err != nil => return err",
   "return ioutil.WriteFile(v1, p2, p3)",
   "Writer:",
   "if v1, err = os.OpenFile(recv.path + p1, os.O_CREATE | os.O_TRUNC | os.O_WRONLY, filesystem.DefaultUnixFileMode); err != nil => return nil, err",
   "return NewFileHandler(v1), nil"]

theorem tie_diskfs_host_calls : diskfsTail = expectedDiskfsTail := rfl

/-- the header lines of a tail table -/
def headers : List String :=
  ["Copy:", "CopyDirectory:", "CopyFile:", "Filespace:", "IsDir:", "IsExist:", "IsFile:", "Lstat:", "MkdirAll:",
   "ReadDir:", "ReadFile:", "Reader:", "Remove:", "RemoveAll:", "WriteFile:", "Writer:"]

/-- the lines of a tail table that belong to one method -/
def section_ (m : String) : List String → List String
  | [] => []
  | l :: rest => if l == m then rest.takeWhile (fun s => !headers.contains s) else section_ m rest

/-- `diskfs.WriteFile` = `MkdirAll(dir of the full path)` with its error returned, then
`ioutil.WriteFile(full, data, perm)` (create/truncate/write in one host call) — `DiskFS`: "`diskfs.WriteFile` =
`MkdirAll(Dir(full))` then `ioutil.WriteFile`", with the partial effect (parents made, write refused) the model
keeps. -/
theorem tie_disk_writefile_mkdirs_parent :
    section_ "WriteFile:" diskfsTail =
      ["v1 = recv.path + p1",
       "if err = disk.MkdirAll(filepath.Dir(v1), filesystem.DefaultUnixDirMode); err != nil => return err",
       "return ioutil.WriteFile(v1, p2, p3)"] := by decide +kernel

/-- `Remove("")`/`RemoveAll("")` (any spelling of the filespace's own root) are refused before the host is
asked: `DiskFS` answers `err` and changes nothing (`host_confined` needs it: `os.RemoveAll(fs.path)` would
delete the root directory itself). -/
theorem tie_remove_refuses_root :
    section_ "Remove:" diskfsTail = ["if p1 == \"\" => return error", "return os.Remove(recv.path + p1)"]
    ∧ section_ "RemoveAll:" diskfsTail =
      ["if p1 == \"\" => return error", "return os.RemoveAll(recv.path + p1)"] := by decide +kernel

/-- The only two `os.OpenFile` calls of package diskfs: `Writer` opens with exactly
`O_WRONLY|O_CREATE|O_TRUNC` (create if missing, TRUNCATE what is there, no O_APPEND, no O_EXCL), `Reader` with
`O_RDONLY`.  `DiskFS.writer`: "`Writer` = `OpenFile(O_WRONLY|O_CREATE|O_TRUNC)`, one append per `Write`". -/
theorem tie_disk_writer_flags :
    diskOpenFlags = ["Filespace.Reader: O_RDONLY", "Filespace.Writer: O_CREATE|O_TRUNC|O_WRONLY"] := rfl

/-- the disk handle's `Close` is `Sync` (error returned) then `Close` -/
theorem tie_disk_handler_close_syncs :
    diskHandlerClose = ["if err = recv.File.Sync(); err != nil => return", "return recv.File.Close()"] := rfl

/-- a root disk filespace stores the absolute host path + "/" (`fs.path`; a child is `NewFilespace(full)`) -/
theorem tie_disk_root_path :
    diskNewFilespace =
      ["if p1, err = filepath.Abs(p1); err != nil => return nil, err",
       "p1 += \"/\"",
       "return filesystem.Filespace(&Filespace{path: p1}), nil"] := rfl

/-- `disk.Copy` dispatches on `IsDir(src)`: directory ⇒ `CopyDirectory`, anything else ⇒ `CopyFile` -/
theorem tie_disk_copy_dispatch :
    diskCopy = ["if IsDir(p1) => return CopyDirectory(p1, p2)", "return CopyFile(p1, p2)"] := rfl

def expectedCopyDirectory : List String :=
  ["if v1, v2 = os.Stat(p1); v2 != nil",
   "return v2",
   "else",
   "if !v1.IsDir() => return error",
   "end",
   "if v3 = MkdirAll(filepath.Dir(p2), filesystem.DefaultUnixDirMode); v3 != nil => return v3",
   "if v4 = filepath.Walk(p1, func); v4 != nil => return v4",
   "func(a1, a2, a3)",
   "if a3 != nil => return a3",
   "v5, a3 = filepath.Rel(p1, a1)",
   "if a3 != nil => return a3",
   "v6 = append(v6, v7{v5, a2.IsDir()})",
   "return nil",
   "end func",
   "range _, v8 = v6",
   "if v8.isDir",
   "if v9 = MkdirAll(filepath.Join(p2, v8.subPath), filesystem.DefaultUnixDirMode); v9 != nil => return v9",
   "else",
   "if v10 = CopyFile(filepath.Join(p1, v8.subPath), filepath.Join(p2, v8.subPath)); v10 != nil => return v10",
   "end",
   "end",
   "return nil"]

/-- `disk.CopyDirectory`, whole body: type check of the source, `MkdirAll(Dir(dest))`, `filepath.Walk`
collecting `(subPath, isDir)`, then per collected entry `MkdirAll` / `CopyFile`, every error returned at once —
the steps of `DiskFS.copyDirectory`. -/
theorem tie_disk_copydirectory_body : diskCopyDirectory = expectedCopyDirectory := rfl

/-- position of a line -/
def pos (s : String) (l : List String) : Nat := l.idxOf s

/-- the extracted body, under a short name -/
abbrev l : List String := diskCopyDirectory

/-- the two statements of the copying loop that touch the destination -/
def mkdirLine : String :=
  "if v9 = MkdirAll(filepath.Join(p2, v8.subPath), filesystem.DefaultUnixDirMode); v9 != nil => return v9"
def copyLine : String :=
  "if v10 = CopyFile(filepath.Join(p1, v8.subPath), filepath.Join(p2, v8.subPath)); v10 != nil => return v10"

/-- THE REPAIR 5c7294d: the walk over the source only COLLECTS (its callback appends to the slice `v6` and
does nothing else: its whole body is pinned here); the loop that makes directories (`mkdirLine`) and copies
files (`copyLine`) ranges over that slice and starts after the walk has returned.  A copy into the source's own
subtree therefore never sees its own output (`DiskFS`: "`filepath.Walk` collecting … then per entry"; before the
repair the walk never ended). -/
theorem tie_copydirectory_lists_then_copies :
    l.contains "v6 = append(v6, v7{v5, a2.IsDir()})" = true
    ∧ pos "func(a1, a2, a3)" l < pos "end func" l
    ∧ pos "end func" l < pos "range _, v8 = v6" l
    ∧ pos "range _, v8 = v6" l < pos mkdirLine l
    ∧ pos "range _, v8 = v6" l < pos copyLine l
    ∧ pos mkdirLine l < l.length ∧ pos copyLine l < l.length
    ∧ ((l.take (pos "end func" l)).drop (pos "func(a1, a2, a3)" l)) =
        ["func(a1, a2, a3)",
         "if a3 != nil => return a3",
         "v5, a3 = filepath.Rel(p1, a1)",
         "if a3 != nil => return a3",
         "v6 = append(v6, v7{v5, a2.IsDir()})",
         "return nil"] := by decide +kernel

/-- `disk.CopyFile`, whole body: `os.Open(src)`, refuse a directory (`Stat().IsDir()`), `os.Create(dst)`
(create or truncate), `io.Copy`, the destination's `Close` error is the result; no other way to produce the
destination (no link, no rename) — `DiskFS.copyFile`. -/
theorem tie_disk_copyfile_body :
    diskCopyFile =
      ["v1, v2 = os.Open(p1)",
       "if v2 != nil => return v2",
       "defer v1.Close()",
       "if v3, v4 = v1.Stat(); v4 != nil",
       "return v4",
       "else",
       "if v3.IsDir() => return error",
       "end",
       "v5, v2 = os.Create(p2)",
       "if v2 != nil => return v2",
       "if _, v6 = io.Copy(v5, v1); v6 != nil",
       "v5.Close()",
       "return v6",
       "end",
       "return v5.Close()"] := rfl

/-- the three predicates are `os.Stat` (links followed) + `IsDir`; `MkdirAll` is `os.MkdirAll` -/
theorem tie_disk_predicates :
    diskIsExist = ["if _, v1 = os.Stat(p1); v1 == nil => return true", "return false"]
    ∧ diskIsDir = ["v1, v2 = os.Stat(p1)", "if v2 != nil => return false", "return v1.IsDir()"]
    ∧ diskIsFile = ["v1, v2 = os.Stat(p1)", "if v2 != nil => return false", "return !v1.IsDir()"]
    ∧ diskMkdirAll = ["return os.MkdirAll(p1, p2)"] := ⟨rfl, rfl, rfl, rfl⟩

/-- `varutil.ReduceAbsPath` is the loop `Path.norm` mirrors (see `FSC01.tie_reduce_abs_path_body`) -/
theorem tie_reduce_abs_path_body :
    reduceAbsPath =
      ["v1 = strings.Split(p1, \"/\")",
       "v2 = make([]string, len(v1))",
       "v3 = 0",
       "range _, v4 = v1",
       "if v4 == \"\" || v4 == \".\"",
       "continue",
       "end",
       "if v4 == \"..\"",
       "if v3 == 0 => return \"\", error",
       "v3--",
       "continue",
       "end",
       "v2[v3] = v4",
       "v3++",
       "end",
       "v2 = v2[:v3]",
       "return strings.Join(v2, \"/\"), nil"] := rfl

end Goat.Tie.FSC02
