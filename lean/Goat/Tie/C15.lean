/-
Structural tie for property C15 (DESIGN 1.4).  `Goat/Tie/ExtractedC15.lean` is regenerated on every
run of `./check C15` by `harness/cmd/mutex facts` (go/ast) from the Go sources under test; the
theorems below compare it with what the models `Goat/Model/Mutex.lean` and `Goat/Model/MutexTasks.lean` assume.  They fail by name
when the synchronisation skeleton of the code moves.  Syntactic check (trusted as such).
-/
import Goat.Tie.ExtractedC15

namespace Goat.Tie.C15

/-- `SharedMutex.Lock`: rows are sorted by `Name` *before* the acquisition loop; in the loop every
row is acquired with `RLock` when its value is `LockR` and with `Lock` otherwise (one yield point and
one table look-up before each acquisition); nothing else synchronises. -/
def expectedLock : List String := [
  "for range resources",
  "end",
  "call sort.SliceStable(list) by list[i].Name < list[j].Name",
  "for range list",
  "call verifhook.Yield(\"mutex.acquire\")",
  "call sharedMutex.get(row.Name)",
  "if row.Value == commservices.LockR",
  "call mu.RLock",
  "else",
  "call mu.Lock",
  "end",
  "end",
  "return"]

/-- `unlockHandler.Unlock`: the same rows, each released with the operation matching its acquisition -/
def expectedUnlock : List String := [
  "for range hander.list",
  "call hander.sharedMutex.get(row.Name)",
  "if row.Value == commservices.LockR",
  "call mu.RUnlock",
  "else",
  "call mu.Unlock",
  "end",
  "end"]

/-- in `xs`, `a` is immediately followed by `b`, and `c` occurs later -/
def bracketed (a b c : String) : List String → Bool
  | x :: y :: rest => (x == a && y == b && rest.contains c) || bracketed a b c (y :: rest)
  | _ => false

theorem tie_mutex_sorted : ExtractedC15.sharedMutexLock = expectedLock := rfl

theorem tie_mutex_unlock : ExtractedC15.unlockHandlerUnlock = expectedUnlock := rfl

/-- `Runner.runGo` takes the task's lock map, defers the unlock at once, and only then runs the body -/
theorem tie_runner_brackets :
    bracketed "call runner.deps.SharedMutex.Lock(task.LockMap())" "defer unlockHandler.Unlock"
      "call sandbox.Run(childCtx)" ExtractedC15.runnerRunGo = true := by decide +kernel

/-! ### the tasks layer (`Goat/Model/MutexTasks.lean`) -/

/-- `Runner.waitForTasks`: one loop over the wait list; each named task is looked up, awaited
(`Wait` blocks until that task has closed), and the loop returns an error at the first task that
ended with errors; nothing else synchronises. -/
def expectedWaitForTasks : List String := [
  "for range task.WaitList()",
  "call tasksManager.Get(taskName)",
  "if !ok",
  "return",
  "end",
  "call relatedTask.Wait",
  "if err != nil",
  "return",
  "end",
  "call relatedTask.Errors",
  "if len(relatedTask.Errors()) != 0",
  "return",
  "end",
  "end",
  "return"]

def waitCall : String := "call runner.waitForTasks(task, tasksManager)"
def lockCall : String := "call runner.deps.SharedMutex.Lock(task.LockMap())"

/-- in `xs` the call of `waitForTasks` with its error return comes first, the call of
`SharedMutex.Lock` occurs only after it -/
def waitsThenLocks : List String → Bool
  | a :: b :: c :: d :: rest =>
    (a == waitCall && b == "if err != nil" && c == "return" && d == "end" && rest.contains lockCall) ||
      (a != lockCall && waitsThenLocks (b :: c :: d :: rest))
  | _ => false

theorem tie_runner_wait_loop : ExtractedC15.runnerWaitForTasks = expectedWaitForTasks := rfl

/-- `Runner.runGo` goes through `waitForTasks` — returning when it fails — BEFORE it takes the task's
lock map (`MutexTasks.tsys`, not `tsysSwapped`) -/
theorem tie_runner_waits_before_lock : waitsThenLocks ExtractedC15.runnerRunGo = true := by decide +kernel

/-- `task.Close` (the completion latch other tasks wait on) is the first deferred call of `runGo`,
hence runs after the deferred `Unlock`: a task that has ended holds nothing -/
theorem tie_runner_closes_after_unlock :
    ExtractedC15.runnerRunGo.head? = some "defer task.Close" ∧
      ExtractedC15.runnerRunGo.contains "defer unlockHandler.Unlock" = true := by decide +kernel

end Goat.Tie.C15
