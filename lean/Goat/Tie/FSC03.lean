/-
Structural tie for property C03 (DESIGN 1.4), filesystem family.

`Goat/Tie/ExtractedFSC03.lean` is regenerated on every run of `./check C03` by `harness/cmd/fsfacts facts C03`
(go/ast) from the Go sources of the repository under test: what EVERY method of every view kind does with its
path parameters — memory wrapper (memfs/wraper.go), sub-path view (fshelper/subfs.go), read-only mask
(fshelper/rofs.go), encrypted view (encryptfs/filespace.go), cache child (fscache/cache.go `Filespace`), disk
root (diskfs/filespace.go) — and `varutil.ReduceAbsPath` itself.  `Goat/Model/Views.lean` models exactly this
path plumbing as a stack of layers (`Layer.down`, `rebase`, `rebaseNonRoot`, `openView`); the theorems below
compare the extracted normal forms with what that model assumes and fail BY NAME when the skeleton moves.  A
failing theorem is a broken obligation of the check (DESIGN 1.3).

Normal forms: see the header of `Goat/Tie/FSC01.lean`.  "path discipline" `Method: p1 p2` = each listed string
parameter is first mentioned in `if pK, err = varutil.ReduceAbsPath(pK); err != nil { return …, err }` (`return
false` for the predicates) at the top level of the body and never assigned again; `pK->f` = never reduced here,
handed as it is to `f`; `pK-` = never mentioned.  A "tail" table lists, after a line `Method:`, the body of the
method without its reduce statements.

Syntactic check, trusted as such: it sees the text of the named methods, not what they call.  Core Lean only.
-/
import Goat.Tie.ExtractedFSC03


namespace Goat.Tie.FSC03
open Goat.Tie.ExtractedFSC03

/-- the discipline shared by the three rebasing kinds: all 16 methods, every path parameter, both arguments
of the three copies -/
def reduce16 : List String :=
  ["Copy: p1 p2", "CopyDirectory: p1 p2", "CopyFile: p1 p2", "Filespace: p1",
   "IsDir: p1", "IsExist: p1", "IsFile: p1", "Lstat: p1", "MkdirAll: p1", "ReadDir: p1", "ReadFile: p1",
   "Reader: p1", "Remove: p1", "RemoveAll: p1", "WriteFile: p1", "Writer: p1"]

/-- what a rebasing view does after the reduction (all methods but `Filespace`, which differs per kind):
the same method of the wrapped filespace on `basePath + reduced` -/
def rebaseHead : List String :=
  ["Copy:", "return recv.fs.Copy(recv.basePath + p1, recv.basePath + p2)",
   "CopyDirectory:", "return recv.fs.CopyDirectory(recv.basePath + p1, recv.basePath + p2)",
   "CopyFile:", "return recv.fs.CopyFile(recv.basePath + p1, recv.basePath + p2)"]

def rebaseRest : List String :=
  ["IsDir:", "return recv.fs.IsDir(recv.basePath + p1)",
   "IsExist:", "return recv.fs.IsExist(recv.basePath + p1)",
   "IsFile:", "return recv.fs.IsFile(recv.basePath + p1)",
   "Lstat:", "return recv.fs.Lstat(recv.basePath + p1)",
   "MkdirAll:", "return recv.fs.MkdirAll(recv.basePath + p1, p2)",
   "ReadDir:", "return recv.fs.ReadDir(recv.basePath + p1)",
   "ReadFile:", "return recv.fs.ReadFile(recv.basePath + p1)",
   "Reader:", "return recv.fs.Reader(recv.basePath + p1)",
   "Remove:", "if p1 == \"\" => return error", "return recv.fs.Remove(recv.basePath + p1)",
   "RemoveAll:", "if p1 == \"\" => return error", "return recv.fs.RemoveAll(recv.basePath + p1)",
   "WriteFile:", "return recv.fs.WriteFile(recv.basePath + p1, p2, p3)",
   "Writer:", "return recv.fs.Writer(recv.basePath + p1)"]

/-- the header lines of a tail table -/
def headers : List String :=
  ["Copy:", "CopyDirectory:", "CopyFile:", "Filespace:", "IsDir:", "IsExist:", "IsFile:", "Lstat:", "MkdirAll:",
   "ReadDir:", "ReadFile:", "Reader:", "Remove:", "RemoveAll:", "WriteFile:", "Writer:"]

/-- the lines of a tail table that belong to one method -/
def section_ (m : String) : List String → List String
  | [] => []
  | l :: rest => if l == m then rest.takeWhile (fun s => !headers.contains s) else section_ m rest

/-! ### The rebasing kinds (`Views.rebase`, `Views.rebaseNonRoot`) -/

/-- memory wrapper `memfs.FilespaceWrapper`: EVERY method reduces EACH path argument (both arguments of
`Copy`, `CopyDirectory`, `CopyFile`) with `ReduceAbsPath` and returns the error, before anything else mentions
it.  `Views.Layer.down` for kind `memWrapper` starts with `reduceAbsPath` of every raw argument
(`climbing_rejected`). -/
theorem tie_wrapper_reduces_paths : wrapperReduce = reduce16 := rfl

/-- … and then calls the same method of the wrapped filespace on `basePath + reduced` (`rebase`); its
`Filespace` builds a wrapper over the same root with base `basePath + reduced`; the constructor stores
`ReduceAbsPath(base) + "/"` (so a wrapper's base never climbs). -/
theorem tie_wrapper_rebases :
    wrapperTail =
      rebaseHead ++ ["Filespace:", "return NewFilespaceWrapper(recv.fs, recv.basePath + p1)"] ++ rebaseRest
    ∧ newFilespaceWrapper =
      ["if p2, err = varutil.ReduceAbsPath(p2); err != nil => return nil, err",
       "return &FilespaceWrapper{basePath: p2 + \"/\", fs: p1}, nil"] := ⟨rfl, rfl⟩

/-- sub-path view `fshelper.SubFS`: the same discipline, every method, every path argument. -/
theorem tie_subfs_reduces_paths : subfsReduce = reduce16 := rfl

/-- … and the same rebasing; `SubFS.Filespace` stacks the REDUCED argument on its own base
(`basePath + reduced + "/"`, same wrapped filespace: `view_of_stack`). -/
theorem tie_subfs_rebases :
    subfsTail =
      rebaseHead ++ ["Filespace:", "return SubFS{basePath: recv.basePath + p1 + \"/\", fs: recv.fs}, nil"]
        ++ rebaseRest := rfl

/-- `fshelper.NewSubFS` stores `path.Clean(base) + "/"` over the filespace it is GIVEN — no reduction, no
look at what kind of filespace that is (`Views`: "`path.Clean` of it for the sub-path view (which may start with
`..`: such a view is dead, every call through it fails in the filespace below)").  The dead-view argument needs
the filespace below to be the one that was passed in. -/
theorem tie_newsubfs_cleans_over_given_fs :
    newSubFS = ["p2 = path.Clean(p2) + \"/\"", "return SubFS{basePath: p2, fs: p1}"] := rfl

/-- disk root `diskfs.Filespace`: the same discipline (kind `diskRoot`). -/
theorem tie_diskfs_reduces_paths : diskfsReduce = reduce16 := rfl

/-- `Remove`/`RemoveAll` of the view's own root — an argument that reduces to "" — is refused by the view
itself in the memory wrapper, the sub-path view and the disk filespace, BEFORE the wrapped filespace / the host
is asked (`rebaseNonRoot`, `root_removal_refused`). -/
theorem tie_views_refuse_root_removal :
    section_ "Remove:" wrapperTail = ["if p1 == \"\" => return error", "return recv.fs.Remove(recv.basePath + p1)"]
    ∧ section_ "RemoveAll:" wrapperTail =
      ["if p1 == \"\" => return error", "return recv.fs.RemoveAll(recv.basePath + p1)"]
    ∧ section_ "Remove:" subfsTail = ["if p1 == \"\" => return error", "return recv.fs.Remove(recv.basePath + p1)"]
    ∧ section_ "RemoveAll:" subfsTail =
      ["if p1 == \"\" => return error", "return recv.fs.RemoveAll(recv.basePath + p1)"]
    ∧ section_ "Remove:" diskfsTail = ["if p1 == \"\" => return error", "return os.Remove(recv.path + p1)"]
    ∧ section_ "RemoveAll:" diskfsTail =
      ["if p1 == \"\" => return error", "return os.RemoveAll(recv.path + p1)"] := by decide +kernel

/-- every host call of the disk filespace is made on `fs.path + reduced` (nothing else is ever concatenated
to the root path), and `Filespace` opens a child — a new disk root at `fs.path + reduced` — only on an existing
directory (`stack_delegates_under` for kind `diskRoot`). -/
theorem tie_diskfs_rebases :
    diskfsTail =
      ["Copy:", "return disk.Copy(recv.path + p1, recv.path + p2)",
       "CopyDirectory:", "return disk.CopyDirectory(recv.path + p1, recv.path + p2)",
       "CopyFile:", "return disk.CopyFile(recv.path + p1, recv.path + p2)",
       "Filespace:", "v1 = recv.path + p1", "if !disk.IsDir(v1) => return nil, error", "return NewFilespace(v1)",
       "IsDir:", "return disk.IsDir(recv.path + p1)",
       "IsExist:", "return disk.IsExist(recv.path + p1)",
       "IsFile:", "return disk.IsFile(recv.path + p1)",
       "Lstat:", "return os.Lstat(recv.path + p1)",
       "MkdirAll:", "return disk.MkdirAll(recv.path + p1, p2)",
       "ReadDir:", "return ioutil.ReadDir(recv.path + p1)",
       "ReadFile:", "return ioutil.ReadFile(recv.path + p1)",
       "Reader:", "return os.OpenFile(recv.path + p1, os.O_RDONLY, filesystem.DefaultUnixFileMode)",
       "Remove:", "if p1 == \"\" => return error", "return os.Remove(recv.path + p1)",
       "RemoveAll:", "if p1 == \"\" => return error", "return os.RemoveAll(recv.path + p1)",
       "WriteFile:", "v1 = recv.path + p1",
       "if err = disk.MkdirAll(filepath.Dir(v1), filesystem.DefaultUnixDirMode); err != nil => return err",
       "return ioutil.WriteFile(v1, p2, p3)",
       "Writer:",
       "if v1, err = os.OpenFile(recv.path + p1, os.O_CREATE | os.O_TRUNC | os.O_WRONLY, filesystem.DefaultUnixFileMode); err != nil => return nil, err",
       "return NewFileHandler(v1), nil"] := rfl

/-! ### The read-only mask (`Views`: kind `readOnly`) -/

/-- EVERY mutating method of `fshelper.ROFilespace` (the three copies, `MkdirAll`, `WriteFile`, `Writer`,
`Remove`, `RemoveAll`) is `return error` — its arguments are never mentioned, the inner filespace is never
touched (`readonly_never_mutates`); the seven reading methods hand their argument UNCHANGED to the same method of
the inner filespace (the mask has no path of its own). -/
theorem tie_rofs_mutators_refused :
    rofsReduce =
      ["Copy: p1- p2-", "CopyDirectory: p1- p2-", "CopyFile: p1- p2-", "Filespace: p1->NewSubFS",
       "IsDir: p1->recv.fs.IsDir", "IsExist: p1->recv.fs.IsExist", "IsFile: p1->recv.fs.IsFile",
       "Lstat: p1->recv.fs.Lstat", "MkdirAll: p1-", "ReadDir: p1->recv.fs.ReadDir",
       "ReadFile: p1->recv.fs.ReadFile", "Reader: p1->recv.fs.Reader", "Remove: p1-", "RemoveAll: p1-",
       "WriteFile: p1-", "Writer: p1-"]
    ∧ rofsTail =
      ["Copy:", "return error", "CopyDirectory:", "return error", "CopyFile:", "return error",
       "Filespace:", "return NewReadonlyFS(NewSubFS(recv.fs, p1)), nil",
       "IsDir:", "return recv.fs.IsDir(p1)", "IsExist:", "return recv.fs.IsExist(p1)",
       "IsFile:", "return recv.fs.IsFile(p1)", "Lstat:", "return recv.fs.Lstat(p1)",
       "MkdirAll:", "return error", "ReadDir:", "return recv.fs.ReadDir(p1)",
       "ReadFile:", "return recv.fs.ReadFile(p1)", "Reader:", "return recv.fs.Reader(p1)",
       "Remove:", "return error", "RemoveAll:", "return error", "WriteFile:", "return error",
       "Writer:", "return nil, error"] := ⟨rfl, rfl⟩

/-- `ROFilespace.Filespace(p)` = read-only mask over `NewSubFS(inner, p)` and never fails: the child of a
read-only view is a SUB-PATH VIEW of the inner filespace (not the inner filespace's own child view), again
masked (`openView` for kind `readOnly`; a climbing `p` yields a dead view). -/
theorem tie_rofs_child_is_subfs :
    section_ "Filespace:" rofsTail = ["return NewReadonlyFS(NewSubFS(recv.fs, p1)), nil"]
    ∧ newReadonlyFS = ["return ROFilespace{fs: p1}"] := by decide +kernel

/-! ### The cache child (`Views`: kind `cacheChild`) -/

/-- `fscache.Cache.Filespace(p)` = `fshelper.NewSubFS(cache, p)`, never fails: a cache child is a sub-path view
over the cache itself. -/
theorem tie_cache_child_is_subfs :
    cacheFilespace = ["return fshelper.NewSubFS(recv, p1), nil"] := rfl

/-! ### The encrypted view (`Views`: kind `encrypted`) -/

/-- `encryptfs.EncryptFS`: all 16 methods hand every path argument UNCHANGED to the same method of the base
filespace; the 12 name-space methods (three copies, `ReadDir`, the three predicates, `MkdirAll`, `Remove`,
`RemoveAll`, `Lstat`, and `Filespace` up to re-wrapping the child) are that call and nothing else; the 4 content
methods (`ReadFile`, `WriteFile`, `Reader`, `Writer`) only transform the bytes / the stream
(`encrypted_delegates_names`). -/
theorem tie_encryptfs_delegates_names :
    encryptReduce =
      ["Copy: p1->recv.baseFS.Copy p2->recv.baseFS.Copy",
       "CopyDirectory: p1->recv.baseFS.CopyDirectory p2->recv.baseFS.CopyDirectory",
       "CopyFile: p1->recv.baseFS.CopyFile p2->recv.baseFS.CopyFile",
       "Filespace: p1->recv.baseFS.Filespace", "IsDir: p1->recv.baseFS.IsDir", "IsExist: p1->recv.baseFS.IsExist",
       "IsFile: p1->recv.baseFS.IsFile", "Lstat: p1->recv.baseFS.Lstat", "MkdirAll: p1->recv.baseFS.MkdirAll",
       "ReadDir: p1->recv.baseFS.ReadDir", "ReadFile: p1->recv.baseFS.ReadFile", "Reader: p1->recv.baseFS.Reader",
       "Remove: p1->recv.baseFS.Remove", "RemoveAll: p1->recv.baseFS.RemoveAll",
       "WriteFile: p1->recv.baseFS.WriteFile", "Writer: p1->recv.baseFS.Writer"]
    ∧ encryptTail =
      ["Copy:", "return recv.baseFS.Copy(p1, p2)",
       "CopyDirectory:", "return recv.baseFS.CopyDirectory(p1, p2)",
       "CopyFile:", "return recv.baseFS.CopyFile(p1, p2)",
       "Filespace:", "if r1, err = recv.baseFS.Filespace(p1); err != nil => return nil, err",
       "return &EncryptFS{Cipher: recv.Cipher, baseFS: r1, hash: recv.hash}, nil",
       "IsDir:", "return recv.baseFS.IsDir(p1)",
       "IsExist:", "return recv.baseFS.IsExist(p1)",
       "IsFile:", "return recv.baseFS.IsFile(p1)",
       "Lstat:", "return recv.baseFS.Lstat(p1)",
       "MkdirAll:", "return recv.baseFS.MkdirAll(p1, p2)",
       "ReadDir:", "return recv.baseFS.ReadDir(p1)",
       "ReadFile:", "if r1, err = recv.baseFS.ReadFile(p1); err != nil => return nil, err",
       "return recv.Cipher.Decrypt(recv.hash, r1)",
       "Reader:", "if r1, err = recv.baseFS.Reader(p1); err != nil => return nil, err",
       "return recv.Cipher.DecryptReader(recv.hash, r1)",
       "Remove:", "return recv.baseFS.Remove(p1)",
       "RemoveAll:", "return recv.baseFS.RemoveAll(p1)",
       "WriteFile:", "if p2, err = recv.Cipher.Encrypt(recv.hash, p2); err != nil => return err",
       "return recv.baseFS.WriteFile(p1, p2, p3)",
       "Writer:", "if r1, err = recv.baseFS.Writer(p1); err != nil => return nil, err",
       "return recv.Cipher.EncryptWriter(recv.hash, r1)"] := ⟨rfl, rfl⟩

/-! ### The lexical core -/

/-- `varutil.ReduceAbsPath` is the loop `Path.reduceAbsPath` mirrors — the function ALL lexical theorems of
C03 (section (a) of Props/C03) are about: split at "/", skip "" and ".", ".." pops or fails at depth 0 ("break
isolation space"), anything else is pushed, the kept segments are joined with "/".  No other exit, no fast
path. -/
theorem tie_reduce_abs_path_body :
    reduceAbsPath =
      ["v1 = strings.Split(p1, \"/\")",
       "v2 = make([]string, len(v1))",
       "v3 = 0",
       "range _, v4 = v1",
       "if v4 == \"\" || v4 == \".\"",
       "continue",
       "end",
       "if v4 == \"..\"",
       "if v3 == 0 => return \"\", error",
       "v3--",
       "continue",
       "end",
       "v2[v3] = v4",
       "v3++",
       "end",
       "v2 = v2[:v3]",
       "return strings.Join(v2, \"/\"), nil"] := rfl

end Goat.Tie.FSC03
