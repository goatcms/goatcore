/-
Structural tie for property C16 (DESIGN 1.4), pipeline family: `pip:try`.

`Goat/Tie/ExtractedPipeC16.lean` is regenerated on every run of `./check C16` by `harness/cmd/pipefacts facts C16`
(go/ast) from the Go sources of the repository under test: facts about `pipc.Try` (try.go) — the function the
try part of `Goat/Model/Pipeline.lean` mirrors (`TG`, `stepTry`, `submitHandler`, the `.try_` branch of `stepTask`) —
and about what it leans on (`scope.New`, `scope.Scope.Wait` / `AddTasks` / `DoneTask`, `termexec.RunCommand`).  The
theorems below compare them with what the header comments of that model and the hypotheses of `Props/C16.lean`
assume, one theorem per assumption, and fail BY NAME when the skeleton moves.  A failing theorem is a broken
obligation of the check (DESIGN 1.3): it is followed by the check's search for a failing input and ends as
`VIOLATION … no-failing-input-found` when there is none.

Normal forms: see the header of `Goat/Tie/PipeC14.lean` (locals `v1 v2 …` per declaration in the order of first
appearance in the printed lines of THE FACT, parameters `p1 p2 …`, error variables `err err2 …`: in `Try` the named
result is `err` and `catchErr` is `err2`).  Facts about SUBMISSIONS — calls `x.Run(pipservices.Pip{…})` — print per
submission one line (`"name" in <Context.Scope>`, `"name" ns <Namespaces>`; these lines in alphabetical order: which
submission comes first is the subject of `tie_try_handler_order_and_selection`) and then the DEFINITION CLOSURE of
the locals mentioned: every assignment of the function to one of them (or to a mentioned field of one of them), in
source order, recursively.  THE GOROUTINE is the function literal of the `go` statement at the top level of `Try`.  In the
filtered facts `pipservices.Pip` literals are projected onto the fields named in the fact's description: the
output streams, the working directory and the description of a submission are not compared.

Syntactic check, trusted as such.  Core Lean only.
-/
import Goat.Tie.ExtractedPipeC16


namespace Goat.Tie.PipeC16
open Goat.Tie.ExtractedPipeC16

/-- position of a line -/
def pos (s : String) (l : List String) : Nat := l.idxOf s

/-- The body runs in a SEPARATED scope — model: `TaskDef.ctx` of a `tbody` is `y + 1` (`roleOk`), `submitCtxOk …
.tbody => true` ("the separated scope, whose context is fresh"), theorem `body_failure_contained`: before the
goroutine is started there is exactly ONE submission, named "body", into a scope made by `scope.New` from
`parentScope = ctx.Scope()` with the parent as DataScope, EventScope and (only) injector and with NO
`ContextScope` — and `scope.New` gives a scope without one a new `contextscope.New()`: an error of the body, or of
anything the body starts, lands in that private context and not in the parent's. -/
theorem tie_try_separated_scope :
    tryBodyScope =
      ["\"body\" in v1",
       "v2 = p2.Scope()",
       "v1 = scope.New(scope.Params{DataScope: v2, EventScope: v2, Injector: injector.NewMultiInjector([]app.Injector{v2})})"]
    ∧ scopeNew =
      ["if p1.ContextScope == nil",
       "p1.ContextScope = contextscope.New()",
       "end",
       "return &Scope{ContextScope: p1.ContextScope}"] :=
  ⟨rfl, rfl⟩

/-- The try block signs on to the scope of the `pip:try` command — model: the `.try_` branch of `stepTask`
("parentScope.AddTasks(1) refuses when the owner's context is done"), `TG.done` = `parentScope.DoneTask()`,
`cmdChildrenFinished … .try_`: `parentScope.AddTasks(1)` — its refusal is returned — comes BEFORE the body is
submitted; when the body's submission is refused the sign-on is undone (`DoneTask`) and the error returned
(`ret … false`); otherwise the goroutine is started and signs off with a DEFERRED `parentScope.DoneTask()`, i.e.
after the last handler has been submitted or refused; `Try` itself returns nil.  So the command scope (closed by
`RunCommand`) waits for the goroutine, and a handler is submitted into a scope that is still open. -/
theorem tie_try_parent_signed_on :
    tryParentSignOn =
      ["if err = v1.AddTasks(1); err != nil => return err",
       "if err = v2.Runner.Run(pipservices.Pip{Name: \"body\"}); err != nil",
       "v1.DoneTask()",
       "return err",
       "end",
       "go func()",
       "func()",
       "defer v1.DoneTask()",
       "end func",
       "return nil"]
    ∧ scopeAddTasks = ["if recv.IsDone() => return ErrDoned", "recv.wg.Add(p1)", "return nil"]
    ∧ scopeDoneTask = ["recv.wg.Done()"] :=
  ⟨rfl, rfl, rfl⟩

/-- The handlers come after the body and everything it spawned — model: `TG.waitBody` (`stepTry`:
"if s.pc (g.tryd y).body == .finished"), theorems `handlers_after_body_and_spawned`, `handlers_submitted_after_body`:
the first call the goroutine makes is `Wait()` ON THE SCOPE THE BODY WAS SUBMITTED INTO (`v1` in both lines), its result is what the
selection reads (`err2` = `catchErr`), and all three submissions come after it.  `Scope.Wait` waits for the scope's
wait group — the body task and every task signed on below it — and only THEN reads the error. -/
theorem tie_try_handlers_after_body_wait :
    tryAfterBodyWait =
      ["\"body\" in v1",
       "go: err2 = v1.Wait()",
       "go: err = v2.Runner.Run(pipservices.Pip{})",
       "go: err = v2.Runner.Run(pipservices.Pip{})",
       "go: err = v2.Runner.Run(pipservices.Pip{})"]
    ∧ scopeWait = ["recv.wg.Wait()", "return recv.Err()"] :=
  ⟨rfl, rfl⟩

def refused : List String := ["v2.BaseContextScope().AppendError(err)", "return", "end"]

def handlerRun (body name : String) : String :=
  "if err = v1.Runner.Run(pipservices.Pip{Context: pipservices.PipContext{In: gio.NewInput(strings.NewReader(v1." ++ body ++
    "))}, Lock: nil, Name: \"" ++ name ++ "\", Wait: nil}); err != nil"

def expectedHandlers : List String :=
  ["if v1.FinallyBody != \"\"", handlerRun "FinallyBody" "finally"] ++ refused ++ ["end"] ++
  ["if v1.FailBody != \"\" && err2 != nil", handlerRun "FailBody" "fail"] ++ refused ++ ["end"] ++
  ["if v1.SuccessBody != \"\" && err2 == nil", handlerRun "SuccessBody" "success"] ++ refused ++ ["end"]

/-- Which handlers, in which order — model: `TG.subFin → subFail → subSucc → done`, `submitHandler`, theorems
`finally_always`, `finally_submitted_first`, `fail_iff_body_err`, `success_iff_body_ok`: the goroutine makes its
submissions in this order and under exactly these conditions:
  1. "finally", whenever a finally body is defined — UNCONDITIONALLY of the body's outcome, and FIRST;
  2. "fail" iff a fail body is defined and `catchErr != nil`;
  3. "success" iff a success body is defined and `catchErr == nil`;
each handler reads ITS OWN body text, has no wait list and no lock map (`roleOk`: `d.waits.isEmpty` — no handler
queues behind another one: `stall_free`), and a REFUSED submission is recorded with `AppendError` on the parent
scope's base context (`hrej`, `cerr (ctx owner)`) and the goroutine returns: no later handler is submitted
(`tg := .done`). -/
theorem tie_try_handler_order_and_selection : tryHandlers = expectedHandlers := by
  -- Not `decide`: comparing strings, the kernel decodes every literal byte by byte, quadratic in its length (170 here).
  -- Unifying a literal with `String.ofList _` decodes nothing: append the pieces of `handlerRun` as character lists.
  have append5 (a b c d e : List Char) :
      String.ofList a ++ String.ofList b ++ String.ofList c ++ String.ofList d ++ String.ofList e
        = String.ofList (a ++ (b ++ (c ++ (d ++ e)))) := by
    simp only [String.ofList_append, String.append_assoc]
  unfold expectedHandlers handlerRun
  rw [append5, append5, append5]
  simp only [List.cons_append, List.nil_append, String.reduceOfList]
  rfl

/-- Handlers run in the PARENT scope — model: `roleOk … .hsucc / .hfail / .hfin: d.ctx == g.ctx owner`, theorem
`body_failure_contained` ("Only a failing handler … makes the owner fail"): the goroutine makes exactly three
submissions, "finally", "fail", "success", each with `Scope: parentScope` where `parentScope = ctx.Scope()` — the
scope of the `pip:try` command, which shares the owner task's context.  That is why a failing HANDLER (and only a
handler) marks the surrounding scope. -/
theorem tie_try_handlers_in_parent_scope :
    tryHandlerScopes =
      ["\"fail\" in v1",
       "\"finally\" in v1",
       "\"success\" in v1",
       "v1 = p2.Scope()"] := by
  rfl

/-- One namespace for the body and the handlers of a try block — model: the four tasks of a `TryDef` are distinct
tasks of ONE try (`tryOk`), named `<try>:body`, `<try>:finally`, …: all four submissions use the same
`Namespaces` value, the sub-namespace `Task: deps.Name` of the namespaces of the command's scope, so two try blocks
with different names never collide in the manager's table. -/
theorem tie_try_one_namespace :
    tryNamespaces =
      ["\"body\" ns v1",
       "\"fail\" ns v1",
       "\"finally\" ns v1",
       "\"success\" ns v1",
       "v2.Name = strings.Trim(v2.Name, cutset)",
       "v1, err = v2.NamespacesUnit.FromScope(p2.Scope(), defaultNamespace)",
       "v1 = namespaces.NewSubNamespaces(v1, pipservices.NamasepacesParams{Task: v2.Name})"] := by
  rfl

/-- `termexec.RunCommand(rctx, args)`, filtered to the command scope — model: `.afterCmd i` with
`cmdChildrenFinished … .try_` (`tg y == .done`, body and accepted handlers finished), theorem
`accepted_handlers_close_before_owner_leaves`: the `pip:try` callback runs in a context whose scope is a CHILD of
the loop's scope (no context of its own: it shares the owner task's; injectors reset to the application + the
command's arguments), and on BOTH paths that scope is closed before `RunCommand` returns — `Close` waits for the
try goroutine (signed on by `AddTasks(1)`) and for every handler task (signed on by `Create`). -/
theorem tie_runcommand_scope :
    runCommand =
      ["if v2 = p1.commands.Command(v1); v2 == nil => return error",
       "v3 = p1.ctx.Scope()",
       "v5 = scope.NewChild(v3, scope.ChildParams{DataScope: v3.BaseDataScope(), EventScope: v3.BaseEventScope(), Injector: injector.NewMultiInjector([]app.Injector{p1.application, datascope.NewInjector(\"command\", v4)})})",
       "v6 = gio.NewIOContext(v5, p1.ctx.IO())",
       "if err = v2.Callback()(p1.application, v6); err != nil => return goaterr.ToError(goaterr.AppendError([]error{err}, v5.Close()))",
       "return v5.Close()"] := by
  rfl

/-- What the HARNESS of the pipeline checks relies on (not an assumption of the model): the task scope is created
with the label `task:<full name>`; the label goes into the scope's SID, from which `harness/cmd/pipeline`
(drive.go, `taskSID`) reads which task an event belongs to.  If this moves, the recorded traces are attributed
to the wrong tasks and the monitor's verdicts are about the harness, not about the code. -/
theorem tie_task_scope_label : taskScopeLabel = ["Name: fmt.Sprintf(\"task:%s\", v1)"] := by rfl

end Goat.Tie.PipeC16
