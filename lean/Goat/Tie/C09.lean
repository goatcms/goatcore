/-
Tie/C09 — the structural tie of the lock-granular memfs model to the source (DESIGN 1.4).

`Goat/Tie/ExtractedC09.lean` is regenerated on every run of `./check C09` by
`harness/cmd/memfsconc leanfacts <repo>` (go/ast, `skeleton.go`) from the working tree of the repository
under test: for every function of package memfs its synchronisation skeleton — lock operations, accesses
to the guarded fields `nodes`/`index`/`data`/`time`, calls of memfs functions, yield points, each marked
`held(…)` when it sits where the function holds a lock, with the control flow inside held regions.
Receiver and variable names, comments and formatting are not part of it.

`Goat/Model/MemFSConcActs.lean` holds what the model assumes: the table `Act` constructor ↦ critical
section(s) of the Go code with their expected skeletons, and the decomposition of the composite
operations into program counters.  The theorems below compare the two by `rfl`/`decide`; they fail BY NAME
when a critical section is narrowed, dropped, reordered, or a lock is held across a call the model says
is outside.  Syntactic check, trusted as such; the gated replays of the check are the semantic tie.
-/
import Goat.Tie.ExtractedC09
import Goat.Model.MemFSConcActs

namespace Goat.Tie.C09
open Goat.MemFSConc.Acts

/-! ### The table itself -/

/-- every piece the table names is a contiguous part of the expected skeleton of its function -/
theorem table_sections_wellformed : allCS.all (fun c => isInfix c.items c.whole) = true := by decide +kernel

/-- every `Act` constructor except the thread-local `tau` has at least one row -/
theorem table_total : allKinds.all (fun k => k == Kind.tau || !(table k).isEmpty) = true := by decide +kernel

/-- every lock-taking function of the package has a row that names a lock -/
theorem table_covers_lock_takers :
    lockTakers.all (fun n => allCS.any (fun c => c.fn == n && c.lock != "")) = true := by decide +kernel

/-! ### Package-wide facts -/

/-- the functions of memfs that contain a `Lock/RLock/Unlock/RUnlock` are exactly the ones the table
knows: a new lock-taking function (or a lock dropped from one) breaks this -/
theorem tie_lock_takers : ExtractedC09.lockTakers = lockTakers := rfl

/-- the functions from which a lock or a yield point is reachable are the operations the model
decomposes, their helpers and the forwarding sub-path view: a new operation breaks this -/
theorem tie_lock_reachers : ExtractedC09.lockReachers = lockReachers := rfl

/-- THE LOCK GRAPH.  The only things done while a memfs function holds a lock are `getNode`, `addNode`
and the creation yield point under the directory's embedded lock in `WriteFile`/`Writer`.  In particular
no wait for a file's `dataMU` (`setData`, `getData`, `NewFileHandler`, `copyFile`) and no recursive copy
happens under any lock: the model's `Variant.fixed`. -/
theorem tie_lock_graph : ExtractedC09.nestedLocks = nestedLocks := rfl

/-- every access to `nodes`/`index`/`data`/`time` outside a region where the accessing function holds
a lock is one of the listed exemptions (handle-held, fresh object, immutable, or the unsynchronised
metadata getters that the check states as outside the model): a narrowed critical section or a new
unguarded access breaks this -/
theorem tie_unheld_accesses : ExtractedC09.unheldAccesses = unheldAccesses := rfl

/-! ### One theorem per critical section, by the name of the Go function -/

/-- `Act.lookup` -/
theorem tie_Dir_getNode : ExtractedC09.Dir_getNode = Expected.Dir_getNode := rfl
/-- `Act.lookup` (with the kind test) -/
theorem tie_Dir_getDir : ExtractedC09.Dir_getDir = Expected.Dir_getDir := rfl
/-- `Act.lookup` (unused helper of the same shape) -/
theorem tie_Dir_contains : ExtractedC09.Dir_contains = Expected.Dir_contains := rfl
/-- `Act.snapshot`: the listing is copied under `mu.RLock`, nothing aliases `nodes` -/
theorem tie_Dir_getNodes : ExtractedC09.Dir_getNodes = Expected.Dir_getNodes := rfl
/-- `Act.readLen`: `len(nodes)` under `mu.RLock` -/
theorem tie_Dir_Size : ExtractedC09.Dir_Size = Expected.Dir_Size := rfl
/-- `Act.addNode` / the second half of `Act.addNewFile`: look-up, early return, append, index store,
all under `mu.Lock` -/
theorem tie_Dir_addNode : ExtractedC09.Dir_addNode = Expected.Dir_addNode := rfl
/-- `Pc.mk` → yield point → `Act.mkdirLocked`: the optimistic `getDir`, `memfs.mkdir.gap`, then under
`mu.Lock` the RE-CHECK of the index with its early returns before `NewDir`/append/index store
(`create_once` rests on the re-check being inside the lock) -/
theorem tie_Dir_mkdir : ExtractedC09.Dir_mkdir = Expected.Dir_mkdir := rfl
/-- `Act.removeNode` -/
theorem tie_Dir_removeNodeByName : ExtractedC09.Dir_removeNodeByName = Expected.Dir_removeNodeByName := rfl
/-- `Act.getData`: the value is copied under `dataMU.RLock` -/
theorem tie_File_getData : ExtractedC09.File_getData = Expected.File_getData := rfl
/-- `Act.setData`: a fresh slice filled under `dataMU.Lock` -/
theorem tie_File_setData : ExtractedC09.File_setData = Expected.File_setData := rfl
/-- `Act.copyFile`: yield point, then the value copied under `dataMU.RLock` -/
theorem tie_copyFile : ExtractedC09.copyFile = Expected.copyFile := rfl
/-- `Act.openH`: `dataMU.Lock` without unlock -/
theorem tie_NewFileHandler : ExtractedC09.NewFileHandler = Expected.NewFileHandler := rfl
/-- `Act.closeH`: the matching unlock -/
theorem tie_FileHandler_Close : ExtractedC09.FileHandler_Close = Expected.FileHandler_Close := rfl
/-- `Act.hwrite`: no lock operation (runs under the handle's lock) -/
theorem tie_FileHandler_Write : ExtractedC09.FileHandler_Write = Expected.FileHandler_Write := rfl
/-- `Act.hread` -/
theorem tie_FileHandler_Read : ExtractedC09.FileHandler_Read = Expected.FileHandler_Read := rfl
/-- `Act.newDir` (`newDirObj`): the index is built from the node list on a fresh object -/
theorem tie_NewDir : ExtractedC09.NewDir = Expected.NewDir := rfl
/-- the allocation of `Act.addNewFile` / `Act.copyFile` -/
theorem tie_NewFile : ExtractedC09.NewFile = Expected.NewFile := rfl

/-! ### The composite operations: lock order and decomposition -/

/-- `Filespace.WriteFile`, whole skeleton: check-then-create under the embedded directory lock
(`Act.outerLock` … `Act.outerUnlock`), `Unlock()` on both paths, `setData` after the last `Unlock()`
with no `held` mark.  `setData` moved in front of `dir.Unlock()` (the pre-c2706af order,
`Variant.writeFileUnderDir`) breaks this. -/
theorem tie_Filespace_WriteFile : ExtractedC09.Filespace_WriteFile = Expected.Filespace_WriteFile := rfl

/-- `Filespace.Writer`, whole skeleton: the same bracket, three `Unlock()`s, then the yield point,
`NewFileHandler` (`Act.openH`) and the truncation right after it, outside the directory lock
(not `Variant.writerUnderDir`) -/
theorem tie_Filespace_Writer : ExtractedC09.Filespace_Writer = Expected.Filespace_Writer := rfl

/-- the `Pc` order of `WriteFile`: the wait for the file's data lock (`Pc.wSet`) comes after the
directory unlock (`Pc.wUnlockSet`) -/
theorem tie_writeFile_data_lock_after_dir_unlock :
    ExtractedC09.Filespace_WriteFile_order = flatten writeFilePcs := rfl

/-- the `Pc` order of `Writer`: the wait for the file's data lock (`Pc.oOpen`) comes after the
directory unlock (`Pc.oUnlockOpen`) -/
theorem tie_writer_data_lock_after_dir_unlock :
    ExtractedC09.Filespace_Writer_order = flatten writerPcs := rfl

/-- `copyDir` takes no lock itself and holds none while it copies children: the listing is the
snapshot `getNodes` (whose `RLock` is released by its own deferred unlock, `tie_Dir_getNodes`); then
the recursion, `copyFile`, `NewDir` (not `Variant.copyDirHoldsMu`) -/
theorem tie_copyDir_holds_no_dir_lock :
    ExtractedC09.copyDir = Expected.copyDir ∧ ExtractedC09.copyDir_order = flatten copyDirPcs := ⟨rfl, rfl⟩

/-- `mkdir` as `Pc.mk`, yield point, `Pc.mkLocked`; `mkdirAllNodes`/`mkdirAll` loop over it -/
theorem tie_mkdirAll_decomposition :
    ExtractedC09.Dir_mkdir_order = flatten mkdirPcs ∧ ExtractedC09.mkdirAllNodes = Expected.mkdirAllNodes
      ∧ ExtractedC09.mkdirAll = Expected.mkdirAll ∧ ExtractedC09.Filespace_MkdirAll = Expected.Filespace_MkdirAll := ⟨rfl, rfl, rfl, rfl⟩

/-- the path walk (`Pc.walk`): one `getNode` per segment, nothing held between segments -/
theorem tie_walk_decomposition :
    ExtractedC09.getNodeByPathNodes = flatten walkPcs
      ∧ ExtractedC09.getNodeByPath = Expected.getNodeByPath
      ∧ ExtractedC09.getDirByPathNodes = Expected.getDirByPathNodes
      ∧ ExtractedC09.getDirByPath = Expected.getDirByPath
      ∧ ExtractedC09.getFileByPathNodes = Expected.getFileByPathNodes
      ∧ ExtractedC09.getFileByPath = Expected.getFileByPath := ⟨rfl, rfl, rfl, rfl, rfl, rfl⟩

/-- `Remove`/`RemoveAll` (`Pc.rmLook`, `rmLen`, `rmDo`): look-up, `Size()` of the child, removal — three
separate critical sections, nothing held in between -/
theorem tie_remove_decomposition :
    ExtractedC09.removeNodeByNodePath = flatten removePcs
      ∧ ExtractedC09.removeNodeByNodePath = Expected.removeNodeByNodePath
      ∧ ExtractedC09.removeNodeByPath = Expected.removeNodeByPath
      ∧ ExtractedC09.Filespace_Remove = Expected.Filespace_Remove
      ∧ ExtractedC09.Filespace_RemoveAll = Expected.Filespace_RemoveAll := ⟨rfl, rfl, rfl, rfl, rfl⟩

/-- `Copy`/`CopyFile`/`CopyDirectory` (`Pc.walk`, `mk…`, `cFile`/`cEnter`/`cDir`, `cAdd`): the copy is
finished before `addNode` publishes it -/
theorem tie_copy_decomposition :
    ExtractedC09.Filespace_Copy = flatten copyPcs
      ∧ ExtractedC09.Filespace_CopyFile = Expected.Filespace_CopyFile
      ∧ ExtractedC09.Filespace_CopyDirectory = Expected.Filespace_CopyDirectory
      ∧ ExtractedC09.copyNode = Expected.copyNode := ⟨rfl, rfl, rfl, rfl⟩

/-- the reads: walk, then one critical section (`Pc.rData`, `rList`, `rOpen`; the probes are walks) -/
theorem tie_read_decomposition :
    ExtractedC09.Filespace_ReadFile = Expected.Filespace_ReadFile
      ∧ ExtractedC09.Filespace_ReadDir = Expected.Filespace_ReadDir
      ∧ ExtractedC09.Filespace_Reader = Expected.Filespace_Reader
      ∧ ExtractedC09.Filespace_IsExist = Expected.Filespace_IsExist
      ∧ ExtractedC09.Filespace_IsFile = Expected.Filespace_IsFile
      ∧ ExtractedC09.Filespace_IsDir = Expected.Filespace_IsDir
      ∧ ExtractedC09.Filespace_Lstat = Expected.Filespace_Lstat := ⟨rfl, rfl, rfl, rfl, rfl, rfl, rfl⟩

/-- the unsynchronised metadata getters are what the exemption list of `tie_unheld_accesses` says -/
theorem tie_metadata_getters :
    ExtractedC09.File_Size = Expected.File_Size ∧ ExtractedC09.File_ModTime = Expected.File_ModTime
      ∧ ExtractedC09.Dir_ModTime = Expected.Dir_ModTime := ⟨rfl, rfl, rfl⟩

end Goat.Tie.C09
