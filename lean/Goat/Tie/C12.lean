/-
Tie/C12 — the structural tie of the scope-signalling model to the source (DESIGN 1.4).

`Goat/Tie/ExtractedC12.lean` is regenerated on every run of `./check C12` by `harness/cmd/scopesig facts`
(go/ast) from the working tree of the repository under test: for every modelled function the ordered
list of its synchronisation-relevant actions (lock/unlock of errorsMU, reads and writes of the error
list, `Once.Do{ … }`, close/receive of the done channel, wait-group operations, calls to the other
modelled methods; verifhook yield points skipped).  The theorems compare them with what
`Goat/Model/ScopeSignal.lean` assumes under `Variant.fixed`; they fail by name when the code moves.
-/
import Goat.Tie.ExtractedC12

namespace Goat.Tie.C12
open Goat.Tie.ExtractedC12

/-- `Stop` is `doneOnce.Do(func() { close(done) })` in both context types (`Variant.onceStop`;
`PC.stopEnter`, `PC.stopClose`), and no other function closes a channel. -/
theorem tie_stop_once :
    plainStop = ["Once.Do:doneOnce{", "close:done", "}"] ∧ isolatedStop = ["Once.Do:doneOnce{", "close:done", "}"] ∧
    plainClosers = ["Stop"] ∧ isolatedClosers = ["Stop"] := ⟨rfl, rfl, rfl, rfl⟩

/-- `AppendError` reads and extends the slice between `errorsMU.Lock` and `Unlock`, then calls `Stop`
(`Variant.lockAppend`; `PC.appLock`, `appRead`, `appWrite`, `stopEnter`); nothing else assigns the list. -/
theorem tie_append_locked :
    plainAppendError = ["Lock:errorsMU", "read:errors", "write:errors", "Unlock:errorsMU", "call:s.Stop"] ∧
    isolatedAppendError = ["Lock:errorsMU", "read:errors", "write:errors", "Unlock:errorsMU", "call:scp.Stop"] ∧
    plainErrorWriters = ["AppendError"] ∧ isolatedErrorWriters = ["AppendError"] := ⟨rfl, rfl, rfl, rfl⟩

/-- The publication order (`ScopePublish.Order.recordThenClose`; in `ScopeSignal`: `PC.appWrite` before
`PC.stopEnter`): in `AppendError` of both context types the error list is written and `errorsMU` released
before the one call of `Stop`, and `AppendError` does nothing to the done channel on its own.  Stated on
positions so that it names exactly this decision (`tie_append_locked` pins the whole action list). -/
theorem tie_record_then_close :
    plainAppendError.idxOf "write:errors" < plainAppendError.idxOf "Unlock:errorsMU" ∧
    plainAppendError.idxOf "Unlock:errorsMU" < plainAppendError.idxOf "call:s.Stop" ∧
    plainAppendError.count "call:s.Stop" = 1 ∧ plainAppendError.count "write:errors" = 1 ∧
    plainAppendError.count "close:done" = 0 ∧
    isolatedAppendError.idxOf "write:errors" < isolatedAppendError.idxOf "Unlock:errorsMU" ∧
    isolatedAppendError.idxOf "Unlock:errorsMU" < isolatedAppendError.idxOf "call:scp.Stop" ∧
    isolatedAppendError.count "call:scp.Stop" = 1 ∧ isolatedAppendError.count "write:errors" = 1 ∧
    isolatedAppendError.count "close:done" = 0 := by decide +kernel

/-- the accessors read the list holding `errorsMU` (`Variant.lockRead`; `PC.errLock`, `errRead`), `Err`
goes through `Errors`, `Kill` is `AppendError(context.Canceled)`, `IsDone` is a receive on `done`. -/
theorem tie_accessors_locked :
    plainErrors = ["Lock:errorsMU", "defer Unlock:errorsMU", "read:errors", "read:errors", "read:errors"] ∧
    isolatedErrors = ["Lock:errorsMU", "defer Unlock:errorsMU", "read:errors", "read:errors", "read:errors"] ∧
    plainErr = ["call:s.Errors"] ∧ isolatedErr = ["call:scp.Errors"] ∧
    plainKill = ["call:s.AppendError"] ∧ isolatedKill = ["call:scp.AppendError"] ∧
    plainIsDone = ["recv:done"] ∧ isolatedIsDone = ["recv:done"] ∧ plainDone = [] ∧ isolatedDone = [] := ⟨rfl, rfl, rfl, rfl, rfl, rfl, rfl, rfl, rfl, rfl⟩

/-- the propagation goroutine: a `select` on the parent's `Done()` and the own `done`; on the parent's
end `parent.Errors()`, then `isolated.Kill()` or `isolated.Stop()` — on the isolated context, never on the
parent (`Variant.propParent = false`; `PC.propWait`, `PC.propCheck`). -/
theorem tie_propagation :
    newIsolated = ["go{", "recv:Done()", "call:parent.Errors", "call:isolated.Kill", "call:isolated.Stop",
                   "recv:done", "}"] := rfl

/-- `AddTasks` tests `IsDone` and then adds; `DoneTask` is `wg.Done`; `Close` signs off with
`parent.DoneTask`; `NewChild` looks at the answer of `AddTasks` and builds the child with `parent: nil`
on the refused path (`Variant.childChecks`; `PC.ncCheck`, `ncAdd`, `ncMk`, `closing`). -/
theorem tie_child_registration :
    scopeAddTasks = ["call:scp.IsDone", "wg.Add"] ∧ scopeDoneTask = ["wg.Done"] ∧
    scopeClose = ["call:parent.DoneTask"] ∧ scopeWait = ["wg.Wait"] ∧
    newChildChecksAddTasks = true ∧ newChildParentFields = ["nil", "parent"] := ⟨rfl, rfl, rfl, rfl, rfl, rfl⟩

end Goat.Tie.C12
