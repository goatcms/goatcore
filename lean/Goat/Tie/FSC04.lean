/-
Structural tie for property C04 (DESIGN 1.4), filesystem family.

`Goat/Tie/ExtractedFSC04.lean` is regenerated on every run of `./check C04` by `harness/cmd/fsfacts facts C04`
(go/ast) from the Go sources of the repository under test: the whole canonical bodies of the stream helpers
(`fshelper.StreamCopy`, `Copy` with its two callbacks, `Copier.Do` / `copyFile` / `copyDirectory`) and the
statements of the memory and disk stream handles that `Goat/Model/Stream.lean` mirrors branch by branch
(`streamCopy2`, `onItem`, `treeCopy`, `copierDo`, `WHandle`, `RHandle`).  The theorems below compare them with what
that model assumes and fail BY NAME when the skeleton moves.  A failing theorem is a broken obligation of the
check (DESIGN 1.3).

Normal forms: see the header of `Goat/Tie/FSC01.lean` (receiver `recv`, parameters `p1 …`, named error result
`err`, locals `v1 …`, `if h => return …`, `func KEY(a1, a2 …)` … `end func` = the body of a function literal given
as field KEY of a composite literal, its parameters by position; fields of a keyed literal in alphabetical order).

Syntactic check, trusted as such: it sees the text of the named functions, not what they call (`io.Copy` is
modelled, the fsloop walk is C08's subject).  Core Lean only.
-/
import Goat.Tie.ExtractedFSC04


namespace Goat.Tie.FSC04
open Goat.Tie.ExtractedFSC04

/-- position of a line -/
def pos (s : String) (l : List String) : Nat := l.idxOf s

/-- `fshelper.StreamCopy(src, dst, p)`, whole body = `Stream.streamCopy2`, branch by branch:
  1. `src.Reader(p)`; its error is returned (nothing to close);
  2. `dst.Writer(p)`; on error the reader is closed and the error returned;
  3. `io.Copy(writer, reader)`; on error BOTH are closed (writer first) and the io.Copy error returned;
  4. `writer.Close()`; its error is RETURNED (after closing the reader) — a writer that delivers its last bytes
     on Close and fails makes the copy fail;
  5. `reader.Close()`; its error is returned;
  6. only then `nil`.
No path returns `nil` after a failed stage, no stage is skipped, both streams are closed on every path after
they were opened. -/
def expectedStreamCopy (reader writer : String) : List String :=
  [reader,
   writer,
   "v1.Close()",
   "return err",
   "end",
   "if _, err = io.Copy(v2, v1); err != nil",
   "v2.Close()",
   "v1.Close()",
   "return err",
   "end",
   "if err = v2.Close(); err != nil",
   "v1.Close()",
   "return err",
   "end",
   "if err = v1.Close(); err != nil => return err",
   "return nil"]

theorem tie_streamcopy_order_and_errors :
    streamCopy =
      expectedStreamCopy "if v1, err = p1.Reader(p3); err != nil => return err"
        "if v2, err = p2.Writer(p3); err != nil" := rfl

/-- the three error results that must reach the caller, as separate statements about the extracted body:
the io.Copy branch, the writer-Close branch and the reader-Close guard all end in `return err`, in this order,
and the only `return nil` is the last line -/
theorem tie_streamcopy_close_errors_returned :
    pos "if _, err = io.Copy(v2, v1); err != nil" streamCopy < pos "if err = v2.Close(); err != nil" streamCopy
    ∧ pos "if err = v2.Close(); err != nil" streamCopy < pos "if err = v1.Close(); err != nil => return err" streamCopy
    ∧ pos "if err = v1.Close(); err != nil => return err" streamCopy < pos "return nil" streamCopy
    ∧ pos "return nil" streamCopy + 1 = streamCopy.length
    ∧ (streamCopy.drop (pos "if err = v2.Close(); err != nil" streamCopy)).take 4 =
        ["if err = v2.Close(); err != nil", "v1.Close()", "return err", "end"]
    ∧ (streamCopy.filter (· == "return err")).length = 3 := by decide +kernel

/-- `Copier.copyFile` is the SAME function with (SrcFS, SrcPath) and (DestFS, DestPath) in place of
(src, p), (dst, p) — `Stream`: "`streamCopy2` (source and destination path may differ: the same function is
`Copier.copyFile`)". -/
theorem tie_copier_copyfile_is_streamcopy :
    copierCopyFile =
      expectedStreamCopy "if v1, err = recv.SrcFS.Reader(recv.SrcPath); err != nil => return err"
        "if v2, err = recv.DestFS.Writer(recv.DestPath); err != nil" := rfl

def expectedTreeCopy : List String :=
  ["v1 = fsloop.NewLoop(&fsloop.LoopData{Consumers: 1, DirFilter: p3, Filespace: p1, OnDir: func, OnFile: func, Producents: 1}, nil)",
   "func OnDir(a1, a2)",
   "return p2.MkdirAll(a2, filesystem.DefaultUnixDirMode)",
   "end func",
   "func OnFile(a1, a2)",
   "if err = p2.MkdirAll(path.Dir(a2), filesystem.DefaultUnixDirMode); err != nil => return err",
   "if err = StreamCopy(p1, p2, a2); err != nil => return err",
   "return nil",
   "end func",
   "v1.Run(\"\")",
   "v1.Wait()",
   "return goaterr.ToError(v1.Errors())"]

/-- `fshelper.Copy(src, dst, filter)`, whole body = `Stream.treeCopy` / `onItem`: one fsloop walk over `src`
from "" with ONE consumer (callbacks run one at a time) and one producer; `OnDir` = `dst.MkdirAll(subPath)`;
`OnFile` = `dst.MkdirAll(path.Dir(subPath))`, error returned, then `StreamCopy(src, dst, subPath)`, error
returned — EVERY file the walk hands over is stream-copied, there is no skipping branch; `Run`, `Wait`. -/
theorem tie_copy_callbacks : treeCopy = expectedTreeCopy := rfl

/-- … and the result is `goaterr.ToError(loop.Errors())` taken AFTER `Wait`: an error as soon as the walk's
error list is non-empty (`treeCopy`: "errors collected, result = error iff any was collected").  There is no
other return statement outside the callbacks. -/
theorem tie_copy_collects_errors :
    pos "v1.Run(\"\")" treeCopy < pos "v1.Wait()" treeCopy
    ∧ pos "v1.Wait()" treeCopy < pos "return goaterr.ToError(v1.Errors())" treeCopy
    ∧ pos "return goaterr.ToError(v1.Errors())" treeCopy + 1 = treeCopy.length
    ∧ pos "end func" (treeCopy.drop (pos "func OnFile(a1, a2)" treeCopy)) + pos "func OnFile(a1, a2)" treeCopy
        < pos "v1.Run(\"\")" treeCopy := by decide +kernel

/-- `Copier.Do`: `SrcFS.IsFile(SrcPath)` ⇒ `copyFile`; otherwise `copyDirectory`, which refuses a source that is
not a directory, opens the source view, `DestFS.MkdirAll(DestPath)`, opens the destination view (every error
returned) and runs `Copy(srcView, dstView, nil)` — `Stream.copierDo`. -/
theorem tie_copier_dispatch :
    copierDo = ["if recv.SrcFS.IsFile(recv.SrcPath) => return recv.copyFile()", "return recv.copyDirectory()"]
    ∧ copierCopyDirectory =
      ["if !recv.SrcFS.IsDir(recv.SrcPath) => return error",
       "if v1, err = recv.SrcFS.Filespace(recv.SrcPath); err != nil => return err",
       "if err = recv.DestFS.MkdirAll(recv.DestPath, filesystem.DefaultUnixDirMode); err != nil => return err",
       "if v2, err = recv.DestFS.Filespace(recv.DestPath); err != nil => return err",
       "return Copy(v1, v2, nil)"] := ⟨rfl, rfl⟩

/-! ### The stream handles (`WHandle` kinds `mem` / `disk`, `RHandle` styles `eager` / `lazy`) -/

/-- memory `Writer` (open): a new file starts with `[]byte{}`, an existing file's data is REPLACED by a fresh
`[]byte{}` at open — "`Writer` truncates the file when it opens it" (`writer_replaces`); nothing else in
`Writer` touches a slice. -/
theorem tie_memfs_writer_truncates :
    memWriterFlow =
      ["v2 = NewFile(v1, filesystem.DefaultUnixFileMode, time.Now(), []byte{})",
       "v2.data = []byte{}"] := rfl

/-- memory handle `Write(p)` = `data = append(data, p...)`, all of `p`, `len(p)` reported, no error: "`Write`
appends" — the chunk is copied into the file, the caller's buffer (io.Copy reuses ONE buffer) is never kept.
`Close` reports no error. -/
theorem tie_memfs_write_appends :
    handlerWrite = ["recv.file.data = append(recv.file.data, p1...)", "return len(p1), nil"]
    ∧ handlerClose = ["return nil"] := ⟨rfl, rfl⟩

/-- memory handle `Read(p)`: copy from the pointer, advance by what was copied, `io.EOF` TOGETHER with the
last bytes and again on every later read (`RHandle` style `eager`). -/
theorem tie_memfs_read_eager :
    handlerRead =
      ["v1 = copy(p1, recv.file.data[recv.pointer:])",
       "recv.pointer += v1",
       "if recv.pointer == len(recv.file.data) => return v1, io.EOF",
       "return v1, nil"] := rfl

/-- disk `Writer` opens with exactly `O_WRONLY|O_CREATE|O_TRUNC` (old content is gone at open, no append
mode), `Reader` with `O_RDONLY` (an `*os.File`: `RHandle` style `lazy`); the disk handle's `Close` is `Sync` then
`Close`, either error returned (`WHandle` kind `disk`). -/
theorem tie_disk_writer_flags :
    diskOpenFlags = ["Filespace.Reader: O_RDONLY", "Filespace.Writer: O_CREATE|O_TRUNC|O_WRONLY"]
    ∧ diskHandlerClose = ["if err = recv.File.Sync(); err != nil => return", "return recv.File.Close()"] := ⟨rfl, rfl⟩

end Goat.Tie.FSC04
