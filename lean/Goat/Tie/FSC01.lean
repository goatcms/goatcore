/-
Structural tie for property C01 (DESIGN 1.4), filesystem family.

`Goat/Tie/ExtractedFSC01.lean` is regenerated on every run of `./check C01` by `harness/cmd/fsfacts facts C01`
(go/ast) from the Go sources of the repository under test.  It holds normal forms of the functions that
`Goat/Model/MemFSHeap.lean` (the heap-level model behind the snapshot clause, Props/C01 section 5) and
`Goat/Model/MemFS.lean` mirror.  The theorems below compare them with what those models assume; each fails BY
NAME when the skeleton it pins moves.  A failing theorem is a broken obligation of the check (DESIGN 1.3): the
check then searches for a concrete failing input and reports `no-failing-input-found` when there is none.

Normal forms (harness/cmd/fsfacts/canon.go, analyses.go): receiver `recv`, parameters `p1 p2 …` by position,
named results `err` / `r1 …`, parameters of a function literal `a1 a2 …`, other locals `v1 v2 …` in order of first
appearance (per declaration: the parser's scope analysis, not the name); `:=` printed `=`; operands of `a | b`
and fields of keyed literals in alphabetical order; comments,
`var x T`, verifhook.Yield, Lock/Unlock calls, assignments to a `time` field are dropped; error constructors are
printed `error`; `if h => return …` is an `if` whose whole body is that return.  "slice events" keeps only the
statements that mention a slice (slice parameters, `.data`, `.nodes`, make/append/copy, getData/getNodes/setData,
slice literals, locals assigned from those).  "path discipline": `Method: p1` = the method's first mention of its
string parameter p1 is `if p1, err = varutil.ReduceAbsPath(p1); err != nil { return …, err }` (or `return false`
for the three predicates) at the top level of its body, and p1 is never assigned again.

Syntactic check, trusted as such: it sees the text of the named functions, not what they call.  Core Lean only.
-/
import Goat.Tie.ExtractedFSC01


namespace Goat.Tie.FSC01
open Goat.Tie.ExtractedFSC01

/-! ### Where memfs copies (the table in the header of `Model/MemFSHeap.lean`) -/

/-- `MemFSHeap.takeIn` (repaired code, `Cfg.old = false`): `Filespace.WriteFile` reads its data argument
`p2` only through `make([]byte, len(p2))` + `copy(fresh, p2)` (new file: the fresh slice goes into `NewFile`) or
hands it to `File.setData` (existing file), and `setData` stores `make` + `copy`, never the caller's slice.
`handed_in_stable` rests on this. -/
theorem tie_writefile_copies_in :
    writeFileFlow =
      ["v1 = make([]byte, len(p2))",
       "copy(v1, p2)",
       "v3 = NewFile(v2, filesystem.DefaultUnixFileMode, time.Now(), v1)",
       "v3.setData(p2)"]
    ∧ setData = ["recv.data = make([]byte, len(p1))", "copy(recv.data, p1)"] := ⟨rfl, rfl⟩

/-- `MemFSHeap.handOut`: `Filespace.ReadFile` answers `file.getData()`, and `getData` returns a fresh
`make` + `copy` of `f.data`, never `f.data` itself.  `handed_out_stable` (bytes) rests on this. -/
theorem tie_readfile_copies_out :
    readFileFlow = ["return v1.getData(), nil"]
    ∧ getData = ["v1 = make([]byte, len(recv.data))", "copy(v1, recv.data)", "return v1"] := ⟨rfl, rfl⟩

/-- `MemFSHeap.readDir`: `Filespace.ReadDir` answers `dir.getNodes()`, and `getNodes` returns a fresh
`make` + `copy` of `d.nodes`, never the directory's own array.  `handed_out_stable` (listings) rests on this. -/
theorem tie_readdir_copies_out :
    readDirFlow = ["return v1.getNodes(), nil"]
    ∧ getNodes = ["v1 = make([]os.FileInfo, len(recv.nodes))", "copy(v1, recv.nodes)", "return v1"] := ⟨rfl, rfl⟩

/-- `MemFSHeap.copyNode` (file): `copyFile` builds the new file from a fresh `make` + `copy` of the source's
data.  `copy_shares_nothing` rests on this. -/
theorem tie_copyfile_copies :
    copyFile =
      ["v1 = make([]byte, len(p1.data))",
       "copy(v1[:], p1.data)",
       "return NewFile(p2, p1.filemode, p1.time, v1), nil"] := rfl

/-- `MemFSHeap.copyNode` (directory): `copyDir` lists the source through `getNodes()` (a copy), fills a
fresh `make([]os.FileInfo, …)` with recursively copied children and hands that array to `NewDir`: the new
directory's listing object is fresh and every child is a copy. -/
theorem tie_copydir_fresh_listing :
    copyDir =
      ["v1 = p1.getNodes()",
       "v2 = make([]os.FileInfo, len(v1))",
       "for v3 = 0; v3 < len(v1); v3++",
       "if v1[v3].IsDir()",
       "v4 = v1[v3].(*Dir)",
       "if v2[v3], err = copyDir(v4, v4.Name()); err != nil => return nil, err",
       "else",
       "v5 = v1[v3].(*File)",
       "if v2[v3], err = copyFile(v5, v5.Name()); err != nil => return nil, err",
       "end",
       "end",
       "return NewDir(p2, p1.filemode, p1.time, v2), nil"] := rfl

/-- `MemFSHeap.appendBytes`: `FileHandler.Write(p)` is `data = append(data, p...)` — `p` is only read, the
file never stores the caller's chunk (in place or a new array: the policy `Cfg.realloc` the theorems
quantify over). -/
theorem tie_handler_write_appends :
    handlerWrite = ["recv.file.data = append(recv.file.data, p1...)", "return len(p1), nil"] := rfl

/-- Handle `Read(p)` copies from the file into the CALLER's buffer (`copy(p, data[pointer:])`), advances the
pointer by what was copied and reports `io.EOF` together with the last bytes; the file's array is not handed
out.  (`MemFS.readLoop`; the heap model treats the delivered bytes as a fresh caller buffer.) -/
theorem tie_reader_copies_into_buf :
    handlerRead =
      ["v1 = copy(p1, recv.file.data[recv.pointer:])",
       "recv.pointer += v1",
       "if recv.pointer == len(recv.file.data) => return v1, io.EOF",
       "return v1, nil"] := rfl

/-- `Writer` (open): a new file starts with the fresh slice literal `[]byte{}`, an existing file's data is
REPLACED by a fresh `[]byte{}` (truncate at open); nothing else in `Writer` touches a slice. -/
theorem tie_writer_installs_fresh :
    memWriterFlow =
      ["v2 = NewFile(v1, filesystem.DefaultUnixFileMode, time.Now(), []byte{})",
       "v2.data = []byte{}"] := rfl

/-- `MemFSHeap.appendEntry` / `shiftOut`: `addNode` and `mkdir` grow the node array by `append(d.nodes, n)`
(policy-dependent, like bytes); `removeNodeByName` is `append(d.nodes[:i], d.nodes[i+1:]...)` at the first
index whose name matches — ALWAYS in place, the tail shifted down inside the same array. -/
theorem tie_dir_append_and_shift :
    addNodeFlow = ["recv.nodes = append(recv.nodes, p1)"]
    ∧ mkdirFlow =
      ["r1 = NewDir(p1, p2, time.Now(), []os.FileInfo{})",
       "recv.nodes = append(recv.nodes, r1)"]
    ∧ removeNodeByName =
      ["for v1 = 0; v1 < len(recv.nodes); v1++",
       "if recv.nodes[v1].Name() == p1",
       "recv.nodes = append(recv.nodes[:v1], recv.nodes[v1 + 1:]...)",
       "delete(recv.index, p1)",
       "return nil",
       "end",
       "end",
       "return error"] := ⟨rfl, rfl, rfl⟩

/-- The constructors store the slice they are given AS IS (`data: p4`, `nodes: p4`): copying is the callers'
duty, which is why the copy points above are where they are. -/
theorem tie_constructors_store_argument :
    newFile = ["return &File{data: p4, filemode: p2, name: p1, time: p3}"]
    ∧ newDir =
      ["v1 = &Dir{filemode: p2, index: map[string]os.FileInfo{}, name: p1, nodes: p4, time: p3}",
       "range _, v2 = v1.nodes",
       "v1.index[v2.Name()] = v2",
       "end",
       "return v1"] := ⟨rfl, rfl⟩

/-- Census: in package memfs the field `File.data` is mentioned by these functions ONLY (all pinned above,
plus `File.Size` which takes its length).  A new function that reads or writes `.data` is a copy/share
point the heap model does not have. -/
theorem tie_data_field_census :
    dataTouchers =
      ["File.Size", "File.getData", "File.setData", "FileHandler.Read", "FileHandler.Write",
       "Filespace.Writer", "NewFile", "copyFile"] := rfl

/-- Census: the field `Dir.nodes` is mentioned by these functions ONLY (`Dir.Size` takes its length). -/
theorem tie_nodes_field_census :
    nodesTouchers =
      ["Dir.Size", "Dir.addNode", "Dir.getNodes", "Dir.mkdir", "Dir.removeNodeByName", "NewDir"] := rfl

/-! ### Path plumbing (`Model/MemFS.lean`: every method starts with `norm`) -/

/-- EVERY method of the root `memfs.Filespace` that takes a path (16: the whole interface) reduces EACH path
argument with `varutil.ReduceAbsPath` and returns its error before the argument is used for anything; the one
exception `Filespace(p)` hands `p` untouched to `NewFilespaceWrapper`, which reduces it
(`tie_wrapper_rebases`).  `MemFS.step` applies `Path.norm` to every raw argument first. -/
theorem tie_root_reduces_paths :
    rootReduce =
      ["Copy: p1 p2", "CopyDirectory: p1 p2", "CopyFile: p1 p2", "Filespace: p1->NewFilespaceWrapper",
       "IsDir: p1", "IsExist: p1", "IsFile: p1", "Lstat: p1", "MkdirAll: p1", "ReadDir: p1", "ReadFile: p1",
       "Reader: p1", "Remove: p1", "RemoveAll: p1", "WriteFile: p1", "Writer: p1"] := rfl

/-- The same for EVERY method of the child view `memfs.FilespaceWrapper`, both arguments of the three copies
included (`view_refines`, `view_of_view`). -/
theorem tie_wrapper_reduces_paths :
    wrapperReduce =
      ["Copy: p1 p2", "CopyDirectory: p1 p2", "CopyFile: p1 p2", "Filespace: p1",
       "IsDir: p1", "IsExist: p1", "IsFile: p1", "Lstat: p1", "MkdirAll: p1", "ReadDir: p1", "ReadFile: p1",
       "Reader: p1", "Remove: p1", "RemoveAll: p1", "WriteFile: p1", "Writer: p1"] := rfl

/-- After the reduction a wrapper method is the SAME method of the wrapped filespace on `basePath + reduced`
(`MemFS.realPath`); `Remove`/`RemoveAll` refuse the empty reduced path; `Filespace` builds a wrapper over the
same root with base `basePath + reduced`; the constructor stores `ReduceAbsPath(base) + "/"`. -/
theorem tie_wrapper_rebases :
    wrapperTail =
      ["Copy:", "return recv.fs.Copy(recv.basePath + p1, recv.basePath + p2)",
       "CopyDirectory:", "return recv.fs.CopyDirectory(recv.basePath + p1, recv.basePath + p2)",
       "CopyFile:", "return recv.fs.CopyFile(recv.basePath + p1, recv.basePath + p2)",
       "Filespace:", "return NewFilespaceWrapper(recv.fs, recv.basePath + p1)",
       "IsDir:", "return recv.fs.IsDir(recv.basePath + p1)",
       "IsExist:", "return recv.fs.IsExist(recv.basePath + p1)",
       "IsFile:", "return recv.fs.IsFile(recv.basePath + p1)",
       "Lstat:", "return recv.fs.Lstat(recv.basePath + p1)",
       "MkdirAll:", "return recv.fs.MkdirAll(recv.basePath + p1, p2)",
       "ReadDir:", "return recv.fs.ReadDir(recv.basePath + p1)",
       "ReadFile:", "return recv.fs.ReadFile(recv.basePath + p1)",
       "Reader:", "return recv.fs.Reader(recv.basePath + p1)",
       "Remove:", "if p1 == \"\" => return error", "return recv.fs.Remove(recv.basePath + p1)",
       "RemoveAll:", "if p1 == \"\" => return error", "return recv.fs.RemoveAll(recv.basePath + p1)",
       "WriteFile:", "return recv.fs.WriteFile(recv.basePath + p1, p2, p3)",
       "Writer:", "return recv.fs.Writer(recv.basePath + p1)"]
    ∧ newFilespaceWrapper =
      ["if p2, err = varutil.ReduceAbsPath(p2); err != nil => return nil, err",
       "return &FilespaceWrapper{basePath: p2 + \"/\", fs: p1}, nil"] := ⟨rfl, rfl⟩

/-- `varutil.ReduceAbsPath` is the loop `Path.reduceAbsPath` mirrors: split at "/", skip "" and ".", ".." pops
or fails at depth 0 ("break isolation space"), anything else is pushed, the kept segments are joined with "/".
No other exit, no fast path. -/
theorem tie_reduce_abs_path_body :
    reduceAbsPath =
      ["v1 = strings.Split(p1, \"/\")",
       "v2 = make([]string, len(v1))",
       "v3 = 0",
       "range _, v4 = v1",
       "if v4 == \"\" || v4 == \".\"",
       "continue",
       "end",
       "if v4 == \"..\"",
       "if v3 == 0 => return \"\", error",
       "v3--",
       "continue",
       "end",
       "v2[v3] = v4",
       "v3++",
       "end",
       "v2 = v2[:v3]",
       "return strings.Join(v2, \"/\"), nil"] := rfl

end Goat.Tie.FSC01
