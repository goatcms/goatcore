/-
Structural tie for property C14 (DESIGN 1.4), pipeline family.

`Goat/Tie/ExtractedPipeC14.lean` is regenerated on every run of `./check C14` by `harness/cmd/pipefacts facts C14`
(go/ast) from the Go sources of the repository under test: normal forms of the functions that
`Goat/Model/Pipeline.lean` mirrors step by step (`Runner.Run` / `runGo` / `waitForTasks`, `TaskManager.Create` /
`validWaitList` / `doneTask` / `Wait` / `Get`, `Task.Close` / `Wait` / `Errors`, `termexec.RunLoop` / `RunCommand`,
`pipc.Run`, `scope.Scope.Wait` / `AddTasks` / `DoneTask`, `scope.NewChild`).  The theorems below compare them with
what the header comments of that model (and the hypotheses of `Props/C14.lean`) assume, and fail BY NAME when the
skeleton moves.  A failing theorem is a broken obligation of the check (DESIGN 1.3): it is followed by the
check's search for a failing input and ends as `VIOLATION … no-failing-input-found` when there is none.

Normal forms (harness/cmd/pipefacts/canon.go, queries.go): a body is a list of lines in source order; receiver
`recv`, parameters `p1 p2 …` by position, variables of type `error` `err err2 …` (named results first), other named
results `r1 …`, parameters of a function literal `a1 …`, every other local `v1 v2 …` in the order of first
appearance in the printed lines (so a renamed local prints the same); `:=` and `=` both print `=`; comments, status
texts (`SetStatus`), progress output (`Printf`), yield points and `var x T` are dropped, and so is an `if` left
with nothing but such statements; error constructors print `error`, `fmt.Sprintf(...)` prints `fmt.Sprintf(…)`
(message texts are not compared); `if h => return …` is an `if` whose body is one return; `func(…)` … `end func` is
the body of a function literal, after the line it occurs in; fields of keyed literals in alphabetical order.
WHOLE-BODY facts print every remaining statement.  FILTERED facts (`create`, `runCommand`, `scopeNewChild`) print
the statements that mention one of the fact's names of interest, the compound statements around them with
their headers, and the returns inside those: statements about other things may come, go and move.

Syntactic check, trusted as such: it sees the text of the named functions, not what they call.  Core Lean only.
-/
import Goat.Tie.ExtractedPipeC14


namespace Goat.Tie.PipeC14
open Goat.Tie.ExtractedPipeC14

/-- position of a line -/
def pos (s : String) (l : List String) : Nat := l.idxOf s

/-! ### The runner goroutine (`PC`, `stepTask`) -/

/-- `Runner.Run(pip)` — model: `stepMain … .create` / `canCreate`, events `acc` / `rej`: the manager of the
scope the task is submitted into decides (`TasksUnit.FromScope(pip.Context.Scope)` then `Create`); a refusal is
RETURNED and no goroutine is started; only an accepted task gets its runner goroutine (`go runGo`), and `Run`
returns nil at once (the submitter does not wait for the body). -/
theorem tie_run_creates_then_spawns :
    runnerRun =
      ["if v1, err = recv.deps.SandboxesManager.Get(p1.Sandbox); err != nil => return err",
       "if v2, err = recv.deps.TasksUnit.FromScope(p1.Context.Scope); err != nil => return err",
       "if v3, err = v2.Create(p1); err != nil => return err",
       "go recv.runGo(v2, v1, v3)",
       "return nil"] := by
  rfl

def expectedRunGo : List String :=
  ["defer p3.Close()",
   "v1 = gio.NewChildIOContext(p3.IOContext(), gio.ChildIOContextParams{})",
   "defer v1.Close()",
   "if err = recv.waitForTasks(p3, p1); err != nil",
   "v1.Scope().AppendError(err)",
   "return",
   "end",
   "v2 = recv.deps.SharedMutex.Lock(p3.LockMap())",
   "defer v2.Unlock()",
   "if err = p2.Run(v1); err != nil",
   "v1.Scope().AppendError(err)",
   "return",
   "end",
   "if err = v1.Scope().Wait(); err != nil",
   "v1.Scope().AppendError(err)",
   "return",
   "end"]

/-- `Runner.runGo(tasksManager, sandbox, task)`, whole body — model: `PC.waiting → run → … → closing → finished`,
hypotheses of `body_after_waits` / `no_body_after_failed_prereq`:
  1. `defer task.Close()` is the FIRST statement: the completion latch is released on every path, after
     everything else (`PC.closing → finished`, event `done`);
  2. the body runs in a CHILD IO context of the task's (`gio.NewChildIOContext`), closed on every path;
  3. `waitForTasks` comes first, and its error is appended to that context's scope and the goroutine RETURNS:
     no command of the body runs after a failed prerequisite, and the task ends failed
     (`.waiting k → .closing false` with `cerr` set);
  4. only then `SharedMutex.Lock(task.LockMap())` with the `Unlock` deferred at once (waiting BEFORE locking is
     what C15's `tasks_deadlock_free` needs; here the lock maps are empty);
  5. `sandbox.Run(childCtx)` — the body (`RunLoop`); its error is appended (`ret … false` + `cerr`);
  6. then `childCtx.Scope().Wait()`: everything the body started below its context has finished before the
     task closes; an error is appended.
Status texts and progress output are not compared. -/
theorem tie_rungo_order : runGo = expectedRunGo := by rfl

/-- the same as separate order statements about the extracted body (what `body_after_waits` and C15 use) -/
theorem tie_rungo_waits_before_lock_before_body :
    runGo.head? = some "defer p3.Close()"
    ∧ pos "if err = recv.waitForTasks(p3, p1); err != nil" runGo < pos "v2 = recv.deps.SharedMutex.Lock(p3.LockMap())" runGo
    ∧ (runGo.drop (pos "if err = recv.waitForTasks(p3, p1); err != nil" runGo)).take 4 =
        ["if err = recv.waitForTasks(p3, p1); err != nil", "v1.Scope().AppendError(err)", "return", "end"]
    ∧ pos "v2 = recv.deps.SharedMutex.Lock(p3.LockMap())" runGo + 1 = pos "defer v2.Unlock()" runGo
    ∧ pos "defer v2.Unlock()" runGo < pos "if err = p2.Run(v1); err != nil" runGo
    ∧ pos "if err = p2.Run(v1); err != nil" runGo < pos "if err = v1.Scope().Wait(); err != nil" runGo
    ∧ (runGo.filter (· == "v1.Scope().AppendError(err)")).length = 3 := by decide +kernel

/-- `Runner.waitForTasks(task, tasksManager)`, whole body — model: `stepTask … .waiting k`: ONE loop over
`task.WaitList()` IN ORDER; each name is looked up in the manager's table (`Get`; an unknown name is an error),
the task found is awaited (`Wait` blocks until its latch is released: "`s.pc w == .finished` else none"), an
error of the wait is returned, and a prerequisite that ended with errors (`len(Errors()) != 0` = `cerr (ctx w)`)
makes the loop RETURN an error ("prerequisite failed"); nil only after the whole list.  No entry is skipped.
`Get` reads the table under the read lock; `Task.Errors` is the error list of the task's scope. -/
theorem tie_waitfortasks_loop :
    waitForTasks =
      ["range _, v1 = p1.WaitList()",
       "if v2, v3 = p2.Get(v1); !v3 => return error",
       "if err = v2.Wait(); err != nil => return err",
       "if len(v2.Errors()) != 0 => return error",
       "end",
       "return nil"]
    ∧ managerGet =
      ["recv.tasksMU.RLock()", "defer recv.tasksMU.RUnlock()", "r1, r2 = recv.tasks[p1]", "return"]
    ∧ taskErrors = ["return recv.ctx.Scope().Errors()"] :=
  ⟨rfl, rfl, rfl⟩

/-! ### `TaskManager.Create` (`canCreate`, `validWL`, `PC.rejected`) -/

def expectedCreate : List String :=
  ["v1 = p1.Context.Scope",
   "if err = v1.AddTasks(1); err != nil => return nil, error",
   "defer func()",
   "func()",
   "if err != nil",
   "v1.DoneTask()",
   "end",
   "end func",
   "recv.tasksMU.Lock()",
   "defer recv.tasksMU.Unlock()",
   "if _, v3 = recv.tasks[v2]; v3 => return nil, error",
   "v4 = scope.NewChild(v1, scope.ChildParams{})",
   "if err = recv.deps.NamespacesUnit.Define(v4, v5); err != nil",
   "v4.Close()",
   "return nil, err",
   "end",
   "v7 = NewTask(v6, p1, recv.statusBroadcast, recv.doneTask)",
   "v7.afterCloseCB = v1.DoneTask",
   "if err = v7.OBroadcast().Add(v8); err != nil",
   "v4.Close()",
   "return nil, err",
   "end",
   "recv.tasks[v2] = v7",
   "if err = recv.validWaitList([]string{v2}, v7, 100); err != nil",
   "delete(recv.tasks, v2)",
   "v4.Close()",
   "return nil, err",
   "end",
   "if err = recv.rootScope.AddTasks(1); err != nil",
   "delete(recv.tasks, v2)",
   "v4.Close()",
   "return nil, err",
   "end",
   "recv.wg.Add(1)",
   "return v7, nil"]

/-- `TaskManager.Create(pip)`, filtered to the scope sign-on, the table, the task scope, the latch — model:
`canCreate` = `validWL (inTable …) … && !cerr 0 && submitCtxOk`, and `PC.rejected` ("Create refused the submission
and forgot it"):
  1. the task SIGNS ON to the scope it is submitted into FIRST (`parentScope = pip.Context.Scope`,
     `parentScope.AddTasks(1)`; a done scope refuses: `submitCtxOk`; fix f3af5ac), and signs off again when
     `Create` returns an error (the deferred function) — otherwise after the task scope has closed
     (`task.afterCloseCB = parentScope.DoneTask`);
  2. under the table lock: a DUPLICATE name is refused before anything is inserted;
  3. the task scope is a child of that scope with no context of its own (`scope.ChildParams{}` apart from the
     label: `TaskDef.ctx` = the parent's context), closed again on every error path;
  4. the task is created with `manager.doneTask` as its close callback, inserted, and THEN the wait list is
     validated against the table (`validWaitList([name], task, 100)`: existing tasks only, `validWL` with fuel 101);
  5. on BOTH error paths after the insertion the entry is deleted again and the task scope closed (fix a91657e:
     `reject_leaves_latch` is the model of the code without the `delete`);
  6. the root scope must take the task too (`rootScope.AddTasks(1)`: `!cerr 0`);
  7. the manager's wait group is armed exactly ONCE, after the last refusal, right before `return task, nil`
     (`allFinished` counts accepted tasks only).
`validWaitList(path, task, counter)`: depth bound, empty list accepted, and for each name IN ORDER: the name of
the submitted task itself is a circle, a name that is not in the table is refused, the named task's own list is
checked recursively with the counter decremented.  `doneTask` releases the manager's wait group and signs off
from the root scope. -/
theorem tie_create_validates_then_registers :
    create = expectedCreate
    ∧ validWaitList =
      ["if p3 < 0 => return error",
       "if len(p2.WaitList()) == 0 => return nil",
       "range _, v1 = p2.WaitList()",
       "if v1 == p1[0] => return error",
       "if v2 = recv.tasks[v1]; v2 == nil => return error",
       "if err = recv.validWaitList(append(p1, v1), v2, p3 - 1); err != nil => return err",
       "end",
       "return nil"]
    ∧ managerDoneTask = ["recv.wg.Done()", "recv.rootScope.DoneTask()"] :=
  ⟨rfl, rfl, rfl⟩

/-- the clauses of `tie_create_validates_then_registers` about ORDER and about the error paths, as separate
statements on the extracted skeleton: sign-on before the table lock; duplicate test before the insertion;
insertion before validation; exactly two `delete`s, one in each `if` after the insertion; exactly one
`wg.Add(1)`, and it is the last statement before the successful return. -/
theorem tie_create_error_paths_forget :
    pos "if err = v1.AddTasks(1); err != nil => return nil, error" create < pos "recv.tasksMU.Lock()" create
    ∧ pos "if _, v3 = recv.tasks[v2]; v3 => return nil, error" create < pos "recv.tasks[v2] = v7" create
    ∧ pos "recv.tasks[v2] = v7" create + 1 = pos "if err = recv.validWaitList([]string{v2}, v7, 100); err != nil" create
    ∧ (create.drop (pos "recv.tasks[v2] = v7" create + 1)).take 10 =
        ["if err = recv.validWaitList([]string{v2}, v7, 100); err != nil",
         "delete(recv.tasks, v2)", "v4.Close()", "return nil, err", "end",
         "if err = recv.rootScope.AddTasks(1); err != nil",
         "delete(recv.tasks, v2)", "v4.Close()", "return nil, err", "end"]
    ∧ (create.filter (· == "delete(recv.tasks, v2)")).length = 2
    ∧ (create.filter (· == "recv.wg.Add(1)")).length = 1
    ∧ create.drop (pos "recv.wg.Add(1)" create) = ["recv.wg.Add(1)", "return v7, nil"] := by decide +kernel

/-- A task scope shares its parent's context — model: `TaskDef.ctx` ("context (error list) the task's scope
shares"), `roleOk … .child: d.ctx == g.ctx p`: `scope.NewChild` signs the child on to the parent
(`parent.AddTasks(1)`; unregistered when refused, and then without a parent to sign off from) and a child created
without a `ContextScope` gets `parent.BaseContextScope()`.  `Scope.AddTasks` refuses when the scope is done and arms
the scope's wait group otherwise; `DoneTask` releases it; `Scope.Wait` waits for it and THEN reads the error. -/
theorem tie_task_scope_shares_context :
    scopeNewChild =
      ["if v1 = p1.AddTasks(1); v1 != nil",
       "end",
       "if p2.ContextScope == nil",
       "p2.ContextScope = p1.BaseContextScope()",
       "end",
       "if !v2 => return &Scope{ContextScope: p2.ContextScope, parent: nil}",
       "return &Scope{ContextScope: p2.ContextScope, parent: p1}"]
    ∧ scopeAddTasks = ["if recv.IsDone() => return ErrDoned", "recv.wg.Add(p1)", "return nil"]
    ∧ scopeDoneTask = ["recv.wg.Done()"]
    ∧ scopeWait = ["recv.wg.Wait()", "return recv.Err()"] :=
  ⟨rfl, rfl, rfl, rfl⟩

/-! ### The manager's `Wait` and the completion latch (`allFinished`, `tableOk`, `PC.finished`) -/

/-- `TaskManager.Wait()`, whole body — model: `stepMain … .wait` (`mwait (tableOk g s)` once `allFinished`), theorem
`manager_error_iff_some_failed`: FIRST the manager's wait group (every accepted task has released its latch),
and only then — under the table's read lock, so `Create` is never blocked by a waiting `Wait` — every task of the
table is asked (`task.Wait()` = its scope's error) and the errors are collected: the result is an error iff some
task of the table has errors (`goaterr.ToError` of the collected list). -/
theorem tie_manager_wait :
    managerWait =
      ["recv.wg.Wait()",
       "recv.tasksMU.RLock()",
       "defer recv.tasksMU.RUnlock()",
       "range _, v1 = recv.tasks",
       "v2 = goaterr.AppendError(v2, v1.Wait())",
       "end",
       "return goaterr.ToError(v2)"] := by
  rfl

/-- `Task.Close()` / `Task.Wait()` and the latches of package `tasks` — model: "releasing the completion latch,
closing the task scope and the `done` event are one step" (`.closing → .finished`), `waiting k` reads
`s.pc w == .finished`:
  * `Close`: the task's OWN wait group is released first, then the close callback (the manager's `doneTask`),
    then the task scope is closed (its error is the result), and AFTER that the task signs off from the scope it
    was started in (`afterCloseCB`);
  * `Wait`: waits for that wait group, then returns the scope's error;
  * in the whole package the task latch is armed once (`NewTask`), released once (`Task.Close`), awaited in
    `Task.Wait`; the manager's is armed once (`Create`), released once (`doneTask`), awaited in `TaskManager.Wait`;
  * `NewTask` stores its fourth parameter as the close callback; `Create` sets the after-close callback. -/
theorem tie_task_wait_close :
    taskClose =
      ["recv.wg.Done()",
       "if recv.closeCB != nil",
       "recv.closeCB()",
       "end",
       "err = recv.ctx.Scope().Close()",
       "if recv.afterCloseCB != nil",
       "recv.afterCloseCB()",
       "end",
       "return err"]
    ∧ taskWait = ["recv.wg.Wait()", "return recv.ctx.Scope().Err()"]
    ∧ latchCalls =
      ["NewTask: v1.wg.Add(1)",
       "Task.Close: recv.wg.Done()",
       "Task.Wait: recv.wg.Wait()",
       "TaskManager.Create: recv.wg.Add(1)",
       "TaskManager.Wait: recv.wg.Wait()",
       "TaskManager.doneTask: recv.wg.Done()"]
    ∧ closeCallbacks =
      ["NewTask: v1 = &Task{closeCB: p4}",
       "Task.Close: if recv.closeCB != nil",
       "Task.Close: recv.closeCB()",
       "Task.Close: end",
       "Task.Close: if recv.afterCloseCB != nil",
       "Task.Close: recv.afterCloseCB()",
       "Task.Close: end",
       "TaskManager.Create: v2.afterCloseCB = v1.DoneTask"] :=
  ⟨rfl, rfl, rfl, rfl⟩

/-! ### The body: `RunLoop`, `RunCommand`, `pip:run` (`PC.run / inCmd / afterCmd`, `stepStop`) -/

def expectedRunLoop : List String :=
  ["v1 = p1.ctx.IO().In()",
   "v2 = p1.ctx.IO().Out()",
   "v3 = make(chan []string, 1)",
   "v4 = make(chan error, 1)",
   "v5 = make(chan struct{}, 1)",
   "go func()",
   "func()",
   "for",
   "select",
   "case <-p1.ctx.Scope().Done()",
   "return",
   "case _, v6 = <-v5",
   "if !v6 => return",
   "for",
   "if v7, v8, err2 = varutil.ReadArguments(v1); err2 != nil",
   "v4 <- err2",
   "return",
   "end",
   "if len(v7) != 0",
   "break",
   "end",
   "if v8",
   "close(v3)",
   "return",
   "end",
   "end",
   "v3 <- v7",
   "if v8",
   "close(v3)",
   "return",
   "end",
   "end",
   "end",
   "end func",
   "defer func()",
   "func()",
   "close(v5)",
   "end func",
   "for",
   "v5 <- struct{}{}",
   "select",
   "case <-p1.ctx.Scope().Done()",
   "return",
   "case err = <-v4",
   "p1.ctx.Scope().AppendError(err)",
   "return",
   "case v9, v10 = <-v3",
   "if !v10 => return",
   "if err = RunCommand(p1, v9); err != nil",
   "p1.ctx.Scope().AppendError(err)",
   "return",
   "end",
   "end",
   "end"]

/-- `termexec.RunLoop(rctx, prompt)`, whole body — model: `.run i → .inCmd i → .afterCmd i → .run (i+1)`, `stepStop`,
theorem `commands_in_order_stop_at_first_failure`:
  * the READER goroutine hands over ONE command per token on `next`, read from the one input stream in order
    (`argChan` has capacity 1; it is closed at end of input), and stops when the scope is done; a READ error (the
    text ends inside a quoted argument …) is handed to the main loop (`errChan`), which appends it to the scope and
    returns — the reader itself never touches the scope, which may be closed by then (`Cmd.fail`);
  * the MAIN loop: one token, then a `select` between the scope's `Done()` (→ return: `Label.stop`, a free choice
    once the context has failed) and the next command; end of input → return (`.closing true`);
    `RunCommand(rctx, args)` runs the command to its end BEFORE the next token is given, and a FAILING command's
    error is appended to the scope and the loop RETURNS — no later command is fetched (`.closing false`).
The prompt output is not compared. -/
theorem tie_runloop_stops_at_first_failure : runLoop = expectedRunLoop := by rfl

/-- the main loop's failing branch, as a separate statement: the `RunCommand` line is followed by
`AppendError`, `return`; both loops test `Done()`; there is exactly one call of `RunCommand`. -/
theorem tie_runloop_failure_branch :
    (runLoop.drop (pos "if err = RunCommand(p1, v9); err != nil" runLoop)).take 4 =
      ["if err = RunCommand(p1, v9); err != nil", "p1.ctx.Scope().AppendError(err)", "return", "end"]
    ∧ (runLoop.filter (· == "case <-p1.ctx.Scope().Done()")).length = 2
    ∧ (runLoop.filter (· == "if err = RunCommand(p1, v9); err != nil")).length = 1
    ∧ pos "v5 <- struct{}{}" runLoop < pos "case v9, v10 = <-v3" runLoop := by decide +kernel

/-- `termexec.RunCommand(rctx, args)`, filtered to the command scope — model: `.afterCmd i` ("RunCommand closes
the command scope (waits for its children)", `cmdChildrenFinished`): the callback runs in a context whose scope
is a CHILD of the loop's scope (no context of its own; data and events of the parent; injectors reset to the
application + the command's arguments), and on BOTH paths the command scope is closed before `RunCommand`
returns — `Close` waits for everything that signed on to it (a nested `pip:run` task, a try goroutine). -/
theorem tie_runcommand_scope :
    runCommand =
      ["if v2 = p1.commands.Command(v1); v2 == nil => return error",
       "v3 = p1.ctx.Scope()",
       "v5 = scope.NewChild(v3, scope.ChildParams{DataScope: v3.BaseDataScope(), EventScope: v3.BaseEventScope(), Injector: injector.NewMultiInjector([]app.Injector{p1.application, datascope.NewInjector(\"command\", v4)})})",
       "v6 = gio.NewIOContext(v5, p1.ctx.IO())",
       "if err = v2.Callback()(p1.application, v6); err != nil => return goaterr.ToError(goaterr.AppendError([]error{err}, v5.Close()))",
       "return v5.Close()"] := by
  rfl

/-- `pipc.Run` (`pip:run`), its submission — model: `Cmd.spawn c`, `Role.child p i`, `waitOk`: the nested task is
submitted (`Runner.Run`, whose result is the command's result: `ret … ok`) INTO THE SCOPE OF THE COMMAND
(`Scope: ctx.Scope()`: it hangs below command `i` of its parent), under the name given, with the body text as its
input, and its wait list is the given names prefixed with the task prefix of the scope's namespaces (siblings
only). -/
theorem tie_piprun_submission :
    pipRun =
      ["submit v1.Runner.Run(pipservices.Pip{Context: pipservices.PipContext{In: gio.NewInput(strings.NewReader(v1.Body)), Scope: p2.Scope()}, Lock: v2, Name: v1.Name, Wait: v3})",
       "v2 = commservices.LockMap{}",
       "v1.Name = strings.Trim(v1.Name, cutset)",
       "v1.Body = strings.Trim(v1.Body, cutset)",
       "v4, err = v1.NamespacesUnit.FromScope(p2.Scope(), defaultNamespace)",
       "v5 = v4.Task()",
       "v5 = v5 + \":\"",
       "v3, err = splitWaitNames(v5, v1.Wait)"] := by
  rfl

/-- What the HARNESS of the pipeline checks relies on (not an assumption of the model): the task scope is created
with the label `task:<full name>`; the label goes into the scope's SID, from which `harness/cmd/pipeline`
(drive.go, `taskSID`) reads which task an event belongs to.  If this moves, the recorded traces are attributed
to the wrong tasks and the monitor's verdicts are about the harness, not about the code. -/
theorem tie_task_scope_label : taskScopeLabel = ["Name: fmt.Sprintf(\"task:%s\", v1)"] := by rfl

end Goat.Tie.PipeC14
